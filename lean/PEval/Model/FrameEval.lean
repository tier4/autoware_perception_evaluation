import PEval.Model.FrameChange
import PEval.Model.Pipeline
import PEval.Model.Clear
/-!
# C07, joining layer: one whole frame (and a history of frames) evaluated in a given rendering

`Model/FrameChange.lean` models what the code reads from ONE object / ONE pair in the two renderings
(`filterViewEgo` / `filterViewMap`, `scoreRowEgo` / `scoreRowMap`, `Obj.samePose`).  This file joins those
readings with the stage models of the evaluation itself, INSTANTIATED, in the order of
`PerceptionEvaluationManager.add_frame_result` / `PerceptionFrameResult.evaluate_frame`:

1. manager filter (`_filter_objects`: `filter_objects(estimates, is_gt=False)`, `filter_objects(ground truths,
   is_gt=True)`) = `Filter.filterE` over `Filter.isTarget` on what the rendering shows of each object;
2. the score table of the kept estimates × kept ground truths (`tableOf`: all six per-pair scores);
3. `Matching.getObjectResults` on the `Matching.Scene` whose `val i j` is the table's entry for the matcher's mode;
4. critical-object filter verdicts of every kept object (`Filter.estParams` / `Filter.gtParams`, as
   `filter_object_results` calls `_is_target_object`), the `__eq__` table of the kept ground truths
   (time stamp, label, `samePose`) and its classes (`eqKeys`);
5. `Pipeline.detectFrame` (critical filter on the object results, per-label `Map`s = `AP.frameMap`
   with AP / APH / mAP / mAPH, `PassFail.evaluateFrame` with TP / FP / TN / FN) on the `Pipeline.Frame`
   built from 1–4 (`mkFrame`): every score the later stages read (`pfScore` = plane distance, `apScore`
   = the value of the `Map`'s mode, `hw` = heading weight) is looked up in the SAME table;
6. the frame's object results as CLEAR reads them (`trackRes`), and over a history of frames the CLEAR
   fold `Clear.clear` / the per-label tracking score `Clear.trackingScore` (MOTA, MOTP, ID switches).

How a frame is read is a `Reader` (the three per-object / per-pair readings + the frame id handed to the
matcher).  The code dispatches on the objects' `frame_id`: `SFrame.reader` picks `readerEgo` for a
`BASE_LINK` frame and `readerMap pose` (pose = the registered `base_link → map` transform) for a `MAP`
frame; `evalFrame` is the evaluation of a frame as given.  Defective readers (`readerMapJ`: 3-D norm for
the distance ring in the map branch only; `readerMapG`: point-count criterion skipped in the map branch
when no distance bound is configured — the two stored seeds C07_J / C07_G; `readerMapE`: `__eq__` with a relative
tolerance) are kept next to the real ones:
the end-to-end theorem `C07.evalFrame_toMap` is false for them (examples in `Properties/C07.lean`).

Declared: distances are carried squared; `EvalCfg.dist` turns a squared distance into the value the code
compares / averages (`sqrt` then `round(·, 10)`; DESIGN §4.1) — the theorems hold for every such function.
Ground-truth confidence: `Pipeline` has one critical flag per ground truth (`Filter.gtParams`, confidence
list not applied), as in property C03.  `uuid_matching_first`, `target_uuids` post-filter of the manager: not
modelled (frame-free by inspection: they read uuids only).
-/
namespace PEval.FrameChange
open PEval.Geometry PEval.Heading

/-! ## scene objects, frames -/

/-- the frame-free attributes of an object: what the filter criteria read (`tag`), the label as the
matcher reads it (`semantic_label.label.value`), as AP / CLEAR encode it, the uuid as a number (only
compared), the time stamp (`__eq__`) -/
structure Attr where
  tag : Tag
  mlabel : String
  alabel : AP.Label
  uid : Nat
  stamp : Nat
deriving Repr

/-- an object of a scene: attributes + 3-D box and yaw in the frame's coordinates -/
structure SObj where
  attr : Attr
  obj : Obj
deriving Repr

def SObj.tagged (o : SObj) : Tagged := ⟨o.attr.tag, o.obj⟩

/-- the map-frame rendering of an ego-frame object: attributes untouched -/
def SObj.toMap (e : Pose) (o : SObj) : SObj := ⟨o.attr, o.obj.toMap e⟩

inductive FrameId where
  | baseLink | map
deriving DecidableEq, Repr

def FrameId.name : FrameId → String
  | .baseLink => "base_link"
  | .map => "map"

/-- one frame as the manager receives it: the objects' frame id, the `base_link → map` transform
registered in the frame's `TransformDict` (yaw + translation incl. height), estimates, ground truths -/
structure SFrame where
  frameId : FrameId
  pose : Pose
  ests : List SObj
  gts : List SObj

/-- the same physical frame with every object expressed in the map frame, ego pose `e` supplied -/
def SFrame.toMap (e : Pose) (f : SFrame) : SFrame :=
  { frameId := .map, pose := e, ests := f.ests.map (SObj.toMap e), gts := f.gts.map (SObj.toMap e) }

/-! ## readers: what the code reads from a frame of a given rendering -/

structure Reader where
  /-- `frame_id.value` of the objects (the matcher's score table is NaN for pairs of different frames) -/
  frame : String
  /-- `_is_target_object(obj, **params, transforms=…)` -/
  verdict : Filter.Params → Tagged → Except Err Bool
  /-- the six scores of an estimate / ground-truth pair -/
  row : Obj → Obj → ScoreRow
  /-- the frame-dependent part of `DynamicObject.__eq__` -/
  same : Obj → Obj → Bool

def readerEgo : Reader :=
  { frame := FrameId.baseLink.name
    verdict := fun P t => Filter.isTarget { P with hasTransforms := true } (filterViewEgo t)
    row := scoreRowEgo
    same := Obj.samePose }

def readerMap (e : Pose) : Reader :=
  { frame := FrameId.map.name
    verdict := fun P t => Filter.isTarget { P with hasTransforms := true } (filterViewMap e t)
    row := scoreRowMap e
    same := Obj.samePose }

/-- the dispatch on `frame_id` -/
def SFrame.reader (f : SFrame) : Reader :=
  match f.frameId with
  | .baseLink => readerEgo
  | .map => readerMap f.pose

/-! ## configuration -/

structure EvalCfg where
  /-- `PerceptionEvaluationConfig.filtering_params` (the manager filter; `isGt` is set per list) -/
  mgr : Filter.Params
  /-- `CriticalObjectFilterConfig.filtering_params` -/
  crit : Filter.Params
  /-- label policy, matcher mode (CENTERDISTANCE in the manager), target labels + `max_matchable_radii`, task -/
  matcher : Matching.Cfg
  /-- squared distance ↦ the distance value (`sqrt`, `round`); any function -/
  dist : Rat → Rat
  pfTargets : List AP.Label
  pfThrs : Option (List Rat)
  critTargets : List AP.Label
  mapTargets : List AP.Label
  maps : List Pipeline.MapCfg
  /-- matching mode of the tracking metrics and the zipped target labels / thresholds of CLEAR -/
  trackMode : AP.Mode
  trackTargets : List (Nat × Rat)

def EvalCfg.clearCfg (C : EvalCfg) : Clear.Cfg := ⟨!C.trackMode.isDistance, C.trackTargets⟩

/-! ## pieces -/

/-- `[f(x) for x in xs]` where `f` may raise -/
def flagsE {α} (f : α → Except Err Bool) : List α → Except Err (List Bool)
  | [] => .ok []
  | a :: as =>
    match f a with
    | .error e => .error e
    | .ok b =>
      match flagsE f as with
      | .error e => .error e
      | .ok bs => .ok (b :: bs)

/-- a score row without the SIGN of the yaw error (no decision reads it; at exactly opposite headings the
two renderings may report `+π` and `−π`, `C07.headingError_toMap`) -/
def ScoreRow.unsigned (r : ScoreRow) : ScoreRow := { r with yawErr := rabs r.yawErr }

/-- the score table of a scene as the reader computes it -/
def tableOf (R : Reader) (es gs : List SObj) : List (List ScoreRow) :=
  es.map (fun a => gs.map (fun g => (R.row a.obj g.obj).unsigned))

def rowAt (T : List (List ScoreRow)) (i j : Nat) : Option ScoreRow :=
  match T[i]? with
  | some row => row[j]?
  | none => none

/-- `MatchingMethod.value` per mode of the matcher … -/
def mValue (dist : Rat → Rat) : Matching.Mode → ScoreRow → Rat
  | .centerDistance, r => dist r.center2
  | .planeDistance, r => dist r.plane2
  | .iou2d, r => r.iou2d
  | .iou3d, r => r.iou3d

/-- … and per mode of the metrics -/
def apValue (dist : Rat → Rat) : AP.Mode → ScoreRow → Rat
  | .centerDistance, r => dist r.center2
  | .planeDistance, r => dist r.plane2
  | .iou2d, r => r.iou2d
  | .iou3d, r => r.iou3d

/-- `DynamicObject.__eq__`: time stamp, label, position and orientation -/
def SObj.sameAs (same : Obj → Obj → Bool) (a b : SObj) : Bool :=
  a.attr.stamp == b.attr.stamp && a.attr.mlabel == b.attr.mlabel && same a.obj b.obj

/-- who `==` whom among the ground truths handed to the frame result -/
def eqTable (same : Obj → Obj → Bool) (gs : List SObj) : List (List Bool) :=
  gs.map (fun a => gs.map (fun b => a.sameAs same b))

/-- class of `__eq__`: position of the first equal object -/
def eqKeys (tbl : List (List Bool)) : List Nat := tbl.map (fun row => row.idxOf true)

/-- the `Pipeline.Frame` of property C03's composed model, built from the attributes of the kept
objects, their critical verdicts, the score table and the `__eq__` classes -/
def mkFrame (C : EvalCfg) (fr : String) (aE aG : List Attr) (cE cG : List Bool)
    (T : List (List ScoreRow)) (keys : List Nat) : Pipeline.Frame :=
  { cfg := C.matcher
    scene :=
      { ests := aE.map (fun a => ⟨a.mlabel, fr⟩)
        gts := aG.map (fun a => ⟨a.mlabel, fr⟩)
        val := fun i j =>
          match rowAt T i j with
          | some r => mValue C.dist C.matcher.mode r
          | none => 0 }
    est := fun i =>
      match aE[i]? with
      | some a => { id := a.tag.id, label := a.alabel, conf := a.tag.score, crit := cE.getD i false }
      | none => { id := 0, label := 0, conf := 0, crit := false }
    gt := fun j =>
      match aG[j]? with
      | some a => { id := a.tag.id, label := a.alabel, crit := cG.getD j false, eqKey := keys.getD j 0 }
      | none => { id := 0, label := 0, crit := false, eqKey := 0 }
    pfTargets := C.pfTargets
    pfThrs := C.pfThrs
    pfScore := fun i j => (rowAt T i j).map (fun r => C.dist r.plane2)
    apScore := fun m i j => (rowAt T i j).map (apValue C.dist m)
    hw := fun i j =>
      match rowAt T i j with
      | some r => r.aph
      | none => 0
    critTargets := C.critTargets
    mapTargets := C.mapTargets
    maps := C.maps }

/-- one object result as CLEAR reads it (`TPMetricsAp`: weight 1) -/
def trackRes (C : EvalCfg) (aE aG : List Attr) (pf : Pipeline.Frame) (r : Matching.Res) : Clear.Res :=
  { est := match aE[r.1]? with
      | some a => a.uid
      | none => 0
    estLabel := (pf.est r.1).label
    gt := r.2.map (fun j =>
      { id := match aG[j]? with
          | some a => a.uid
          | none => 0
        label := (pf.gt j).label
        isFp := (pf.gt j).label == AP.fpLabel })
    value := match r.2 with
      | some j => (pf.apScore C.trackMode r.1 j).getD 0
      | none => 0
    labelOk := match r.2 with
      | some j => Pipeline.labelOk pf r.1 j
      | none => false
    w := 1 }

/-- everything observable of one evaluated frame -/
structure FrameOut where
  /-- ids surviving the manager filter -/
  keptEst : List Nat
  keptGt : List Nat
  /-- critical-filter verdicts of the kept objects -/
  critEst : List Bool
  critGt : List Bool
  /-- the score table handed to the matcher and to every later stage (yaw error unsigned) -/
  table : List (List ScoreRow)
  /-- `__eq__` among the kept ground truths -/
  same : List (List Bool)
  /-- matcher result, pass/fail result (TP / FP / TN / FN), the `Map`s (AP, APH, mAP, mAPH) -/
  out : Pipeline.Out
  /-- the critical object results as CLEAR reads them, labels of the critical ground truths -/
  tracks : List Clear.Res
  gtLabels : List AP.Label

/-- a digest of a `FrameOut` with decidable equality: kept ids of the manager filter, matcher result, the
ids in the TP / FP lists (estimates) and TN / FN lists (ground truths), mAP and mAPH of every `Map` -/
structure Summary where
  keptEst : List Nat
  keptGt : List Nat
  matched : List Matching.Res
  tp : List Nat
  fp : List Nat
  tn : List Nat
  fn : List Nat
  maps : List (Option Rat × Option Rat)
deriving DecidableEq, Repr

def FrameOut.summary (o : FrameOut) : Summary :=
  { keptEst := o.keptEst, keptGt := o.keptGt, matched := o.out.matched,
    tp := o.out.pf.tp.map (·.est), fp := o.out.pf.fp.map (·.est),
    tn := o.out.pf.tn.map (·.id), fn := o.out.pf.fn.map (·.id),
    maps := o.out.maps.map (fun m => (m.map, m.maph)) }

/-- steps 3–6 on the data of steps 1, 2 and 4: nothing here sees a coordinate -/
def finish (C : EvalCfg) (fr : String) (aE aG : List Attr) (cE cG : List Bool)
    (T : List (List ScoreRow)) (tbl : List (List Bool)) : Except Err FrameOut :=
  let pf := mkFrame C fr aE aG cE cG T (eqKeys tbl)
  match Pipeline.detectFrame pf with
  | .error e => .error e
  | .ok out =>
    .ok { keptEst := aE.map (·.tag.id), keptGt := aG.map (·.tag.id), critEst := cE, critGt := cG,
          table := T, same := tbl, out := out,
          tracks := (Pipeline.critResults pf out.matched).map (trackRes C aE aG pf),
          gtLabels := (Pipeline.apGts pf).map (·.label) }

/-- steps 2–6 on the objects kept by the manager filter -/
def evalKept (R : Reader) (C : EvalCfg) (kE kG : List SObj) : Except Err FrameOut :=
  match flagsE (fun o => R.verdict (Filter.estParams C.crit) o.tagged) kE with
  | .error e => .error e
  | .ok cE =>
    match flagsE (fun o => R.verdict (Filter.gtParams C.crit) o.tagged) kG with
    | .error e => .error e
    | .ok cG =>
      finish C R.frame (kE.map (·.attr)) (kG.map (·.attr)) cE cG (tableOf R kE kG) (eqTable R.same kG)

/-- the whole frame under a reader -/
def evalWith (R : Reader) (C : EvalCfg) (ests gts : List SObj) : Except Err FrameOut :=
  match Filter.filterE (fun o => R.verdict { C.mgr with isGt := false } o.tagged) ests with
  | .error e => .error e
  | .ok kE =>
    match Filter.filterE (fun o => R.verdict { C.mgr with isGt := true } o.tagged) gts with
    | .error e => .error e
    | .ok kG => evalKept R C kE kG

/-- `add_frame_result` + `evaluate_frame` on a frame as given (ego frame, or map frame with its transform) -/
def evalFrame (C : EvalCfg) (f : SFrame) : Except Err FrameOut := evalWith f.reader C f.ests f.gts

/-! ## histories -/

/-- `[g(x) for x in xs]` where `g` may raise: the first exception aborts -/
def mapE {α β} (g : α → Except Err β) : List α → Except Err (List β)
  | [] => .ok []
  | a :: as =>
    match g a with
    | .error e => .error e
    | .ok b =>
      match mapE g as with
      | .error e => .error e
      | .ok bs => .ok (b :: bs)

/-- every frame of a history evaluated on its own -/
def evalHistory (C : EvalCfg) (fs : List SFrame) : Except Err (List FrameOut) := mapE (evalFrame C) fs

/-- the CLEAR fold over the history (`[[], f1, …, fn]`): TP weight, FP, ID switches, score sum -/
def clearOf (C : EvalCfg) (fs : List SFrame) : Except Err Clear.Acc :=
  (evalHistory C fs).map (fun outs => Clear.clear C.clearCfg ([] :: outs.map (·.tracks)))

/-- number of critical ground truths per tracking target label of one frame -/
def gtNums (C : EvalCfg) (o : FrameOut) : List Nat :=
  C.trackTargets.map (fun lt => o.gtLabels.countP (· == lt.1))

/-- `get_scene_result` of a tracking run: one CLEAR per target label (MOTA, MOTP, ID switches) and their sum -/
def trackingOf (C : EvalCfg) (fs : List SFrame) :
    Except Err (List Clear.Out × (Option Rat × Option Rat × Nat)) :=
  (evalHistory C fs).map (fun outs =>
    Clear.trackingScore (!C.trackMode.isDistance)
      (Clear.sceneInputs C.trackTargets (outs.map (·.tracks)) (outs.map (gtNums C))))

/-- a history as recorded: every frame in `BASE_LINK` together with the ego pose at its time stamp;
`histEgo` evaluates it as it is, `histToMap` after expressing every frame in the map frame with its own pose -/
def histEgo (hist : List (Pose × SFrame)) : List SFrame := hist.map (·.2)
def histToMap (hist : List (Pose × SFrame)) : List SFrame := hist.map (fun p => p.2.toMap p.1)

/-! ## defective readers (for the "the theorem says something" examples)

`readerMapJ`: `get_distance_bev(transforms)` returns the 3-D norm of the ego-relative position (seed C07_J:
`math.hypot(*transform(...))` without the `[:2]` slice) — map branch only.
`readerMapG`: the map branch computes the BEV distance only when a distance bound is configured; the
point-count criterion, nested under `if bev_distance_ is not None`, is then skipped (seed C07_G).
`readerMapE`: `__eq__` with a relative tolerance, which only bites at map-sized coordinates. -/

/-- `stageRange` with the distance tests on `d2 + z²` -/
def stageRangeJ (z : Rat) (P : Filter.Params) (u : Bool) (o : Filter.Obj) (pos : Option Filter.Pos) (ok : Bool) :
    Except Err Bool :=
  match pos with
  | none => .ok ok
  | some p =>
    match Filter.stage P u o ok P.maxX Filter.mean (fun t => decide (Filter.absR p.x < t)) with
    | .error e => .error e
    | .ok ok1 =>
    match Filter.stage P u o ok1 P.maxY Filter.mean (fun t => decide (Filter.absR p.y < t)) with
    | .error e => .error e
    | .ok ok2 =>
    match Filter.stage P u o ok2 P.maxDist Filter.mean (fun t => Filter.distLt (p.d2 + z * z) t) with
    | .error e => .error e
    | .ok ok3 =>
    match Filter.stage P u o ok3 P.minDist Filter.mean (fun t => Filter.distGt (p.d2 + z * z) t) with
    | .error e => .error e
    | .ok ok4 => Filter.stagePts P u o ok4

/-- `stageRange` whose point-count stage is skipped for non-`BASE_LINK` objects when no distance bound is given -/
def stageRangeG (P : Filter.Params) (u : Bool) (o : Filter.Obj) (pos : Option Filter.Pos) (ok : Bool) :
    Except Err Bool :=
  match pos with
  | none => .ok ok
  | some p =>
    match Filter.stage P u o ok P.maxX Filter.mean (fun t => decide (Filter.absR p.x < t)) with
    | .error e => .error e
    | .ok ok1 =>
    match Filter.stage P u o ok1 P.maxY Filter.mean (fun t => decide (Filter.absR p.y < t)) with
    | .error e => .error e
    | .ok ok2 =>
    match Filter.stage P u o ok2 P.maxDist Filter.mean (fun t => Filter.distLt p.d2 t) with
    | .error e => .error e
    | .ok ok3 =>
    match Filter.stage P u o ok3 P.minDist Filter.mean (fun t => Filter.distGt p.d2 t) with
    | .error e => .error e
    | .ok ok4 =>
      if o.frame != "base_link" && P.maxDist.isNone && P.minDist.isNone then .ok ok4
      else Filter.stagePts P u o ok4

/-- `_is_target_object` with a replaced range stage -/
def isTargetWith (range : Filter.Params → Bool → Filter.Obj → Option Filter.Pos → Bool → Except Err Bool)
    (P : Filter.Params) (o : Filter.Obj) : Except Err Bool :=
  if Filter.isFP o.label then .ok true
  else
    let u := Filter.useUnknown P o
    let ok1 := Filter.stageAttr P u o (Filter.stageLabel P u o)
    match Filter.stage P u o ok1 P.conf (fun _ => some 0) (fun t => decide (t < o.score)) with
    | .error e => .error e
    | .ok ok2 =>
    match Filter.position P o with
    | .error e => .error e
    | .ok pos =>
    match range P u o pos ok2 with
    | .error e => .error e
    | .ok ok3 => .ok (Filter.stageUuid P o ok3)

def readerMapJ (e : Pose) : Reader :=
  { readerMap e with
    verdict := fun P t =>
      isTargetWith (stageRangeJ (toEgo3 e t.obj.box.center).z) { P with hasTransforms := true } (filterViewMap e t) }

def readerMapG (e : Pose) : Reader :=
  { readerMap e with
    verdict := fun P t => isTargetWith stageRangeG { P with hasTransforms := true } (filterViewMap e t) }

/-- `np.allclose`-style comparison (`|a − b| ≤ atol + rtol·|b|`, numpy's defaults) -/
def closeR (a b : Rat) : Bool := decide (rabs (a - b) ≤ 1 / 100000000 + (1 / 100000) * rabs b)

/-- `__eq__` on positions and orientations with a relative tolerance (cf. seed C07_E): at map coordinates of
10⁶ m two objects a millimetre — or a metre — apart compare equal -/
def Obj.closePose (a b : Obj) : Bool :=
  closeR a.box.center.x b.box.center.x && closeR a.box.center.y b.box.center.y && closeR a.box.center.z b.box.center.z &&
    closeR a.box.rot.c b.box.rot.c && closeR a.box.rot.s b.box.rot.s

/-- map branch with the tolerant `__eq__`; the ego branch (coordinates of some ten metres) is left exact -/
def readerMapE (e : Pose) : Reader := { readerMap e with same := Obj.closePose }

/-- the evaluation with the map branch of the dispatch replaced -/
def evalFrameV (mapReader : Pose → Reader) (C : EvalCfg) (f : SFrame) : Except Err FrameOut :=
  evalWith (match f.frameId with
    | .baseLink => readerEgo
    | .map => mapReader f.pose) C f.ests f.gts

end PEval.FrameChange
