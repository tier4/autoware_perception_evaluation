import PEval.Model.Heading
import PEval.Model.Transform
/-!
# Headings at the quaternion level (C09, clause "not on the sign convention of the quaternion")

`PEval.Model.Heading` takes the yaw `τ` (half-turns) as its input, so it cannot say anything about the two
representatives `q` and `−q` of one orientation.  This file adds the layer below it.

The repaired code reads an orientation only through `pyquaternion.Quaternion.yaw_pitch_roll[0]`:
```
self._normalise()
yaw = np.arctan2(2 * (q[0]*q[3] - q[1]*q[2]),  1 - 2 * (q[2]**2 + q[3]**2))
```
Both arguments of `arctan2` are *polynomials* in the components: `yawDir q` is that pair, written as
`(c, s) = (second argument, first argument)`; for a unit quaternion it is `cos(pitch) · (cos yaw, sin yaw)`, and for a
pure-yaw unit quaternion `(w, 0, 0, z)` it is the double-angle pair `(w² − z², 2wz) = (cos yaw, sin yaw)`: no `atan2`
is needed to speak about the heading *direction*.

`arctan2` itself (a float function of numpy) is a parameter `at2 : Rat → Rat → Rat` of the quaternion-level
functions (`yawVia`, `aphWeightQ`, `headingErrorQ`, `analyzerYawErrorQ`): every statement proved for all `at2` holds
for whatever `arctan2` computes.

The pre-fix behaviour F3 (`orientation.radians`, seeded again as C09_G) is `radiansDir` / `radiansVia`:
`angle = wrap(2·atan2(‖v‖, w))`, whose direction is `(w² − ‖v‖², 2·w·‖v‖)`; for a pure-yaw quaternion `‖v‖ = |z|`.
-/
namespace PEval.Heading
open PEval.Transform

/-- a heading direction: `(cos, sin)` of an angle, possibly scaled (`c² + s² = cos² pitch` for `yawDir`) -/
structure Dir where
  c : Rat
  s : Rat
deriving Repr, DecidableEq

/-- the two arguments of `np.arctan2` in `Quaternion.yaw_pitch_roll[0]` (`c` = second argument, `s` = first) -/
def yawDir (q : Quat) : Dir := ⟨1 - 2 * (q.y * q.y + q.z * q.z), 2 * (q.w * q.z - q.x * q.y)⟩

/-- pure-yaw unit quaternion `(cos(yaw/2), 0, 0, sin(yaw/2))` or its negative -/
def YawOnly (q : Quat) : Prop := q.x = 0 ∧ q.y = 0 ∧ q.normSq = 1

instance (q : Quat) : Decidable (YawOnly q) := by unfold YawOnly; infer_instance

def Dir.OnCircle (d : Dir) : Prop := d.c * d.c + d.s * d.s = 1

instance (d : Dir) : Decidable d.OnCircle := by unfold Dir.OnCircle; infer_instance

/-- composing planar rotations = multiplying unit complex numbers -/
def Dir.mul (a b : Dir) : Dir := ⟨a.c * b.c - a.s * b.s, a.c * b.s + a.s * b.c⟩

/-- the opposite direction (a half turn away) -/
def Dir.opp (a : Dir) : Dir := ⟨-a.c, -a.s⟩

/-- `cos` of the angle between two directions on the circle (dot product) -/
def cosDiff (a b : Dir) : Rat := a.c * b.c + a.s * b.s

/-- `sin` of the angle from `a` to `b` (cross product); its sign is the sign of the signed minimal yaw difference -/
def sinDiff (a b : Dir) : Rat := a.c * b.s - a.s * b.c

/-! ## the code's yaw, with numpy's `arctan2` as a parameter -/

/-- `yaw_pitch_roll[0] / π` of a unit quaternion, `at2 y x` standing for `np.arctan2(y, x) / π` -/
def yawVia (at2 : Rat → Rat → Rat) (q : Quat) : Rat := at2 (yawDir q).s (yawDir q).c

/-- `TPMetricsAph.get_value` for a pair given by its quaternions (both objects in `BASE_LINK`) -/
def aphWeightQ (at2 : Rat → Rat → Rat) (qe qg : Quat) : Rat := aphWeight (yawVia at2 qe) (yawVia at2 qg)

/-- `heading_error[2] / π` for a pair given by its quaternions -/
def headingErrorQ (at2 : Rat → Rat → Rat) (qe qg : Quat) : Rat := headingError (yawVia at2 qe) (yawVia at2 qg)

/-- the analyzer's yaw error column for a pair given by its quaternions -/
def analyzerYawErrorQ (at2 : Rat → Rat → Rat) (qe qg : Quat) : Rat :=
  analyzerYawError (yawVia at2 qe) (yawVia at2 qg)

/-- the pair rendered in the map frame: both orientations left-multiplied by the ego rotation `q0` (what
`TransformDict.transform` does with the orientation), then read through `yaw_pitch_roll` -/
def aphWeightQMap (at2 : Rat → Rat → Rat) (q0 qe qg : Quat) : Rat := aphWeightQ at2 (q0 * qe) (q0 * qg)

/-! ## the pre-fix behaviour (F3, seed C09_G): `orientation.radians` -/

/-- direction `(cos, sin)` of `Quaternion.angle = wrap(2·atan2(‖v‖, w))` for a pure-yaw unit quaternion
(`‖v‖ = |z|`; double-angle formulas with `cos φ = w`, `sin φ = |z|`) -/
def radiansDir (q : Quat) : Dir := ⟨q.w * q.w - q.z * q.z, 2 * q.w * absR q.z⟩

/-- `orientation.radians / π` for a pure-yaw unit quaternion: `wrap(2 · atan2(|z|, w))`, pyquaternion's `_wrap_angle`
sending odd multiples of π to `+π`; the argument `2·atan2 ∈ [0, 2]` -/
def radiansVia (at2 : Rat → Rat → Rat) (q : Quat) : Rat :=
  let θ := 2 * at2 (absR q.z) q.w
  if θ > 1 then θ - 2 else θ

/-- the APH weight of the ego-frame branch before the repair -/
def aphWeightQF3 (at2 : Rat → Rat → Rat) (qe qg : Quat) : Rat := aphWeight (radiansVia at2 qe) (radiansVia at2 qg)

/-! ## the bridge between directions and half-turn angles

The τ-model computes with angles, the quaternion layer with directions.  What links them is the angle function
`arg (c, s) = atan2(s, c) / π` together with `arccos`.  Over `ℚ` the angle function cannot be defined on the whole
circle (a rational point of the circle has a rational angle in half-turns only on the axes: Niven), so the link is a
hypothesis about the function `at2` the code uses, restricted to the set `pts` of directions a statement is about.  It is
the ONE assumption of this layer and collects exactly the facts about `arctan2`/`cos`/`sin` that are not polynomial:

* `on_circle`: (no assumption, a restriction of `pts`) the directions in play are unit vectors;
* `dom`: `atan2(s, c)/π ∈ (−1, 1]`;
* `dist`: the minimal yaw difference `d/π ∈ [0, 1]` of two directions is `ac (a · b)`, a function of the cosine of the
  angle between them (`ac x = arccos x / π`) …
* `ac_anti`, `ac_one`, `ac_neg_one`: … which is strictly decreasing on `[−1, 1]` from `ac 1 = 0` to `ac (−1) = 1`;
* `sin_sign`: the wrapped difference `angle b − angle a` lies strictly between `0` and `π` exactly when the cross product
  is positive (`sin e > 0 ⇔ 0 < e < π`).

`PEval.C09.yawBridge_axes` instantiates it (the four axis directions with their exact angles); over `ℝ` the facts are
`Complex.arg_cos_add_sin_mul_I`, `Real.strictAntiOn_arccos`, `Real.sin_pos_of_pos_of_lt_pi` of Mathlib. -/
structure YawBridge (at2 : Rat → Rat → Rat) (ac : Rat → Rat) (pts : Dir → Prop) : Prop where
  on_circle : ∀ a, pts a → a.OnCircle
  dom : ∀ a, pts a → InDom (at2 a.s a.c)
  dist : ∀ a b, pts a → pts b → circDist (at2 a.s a.c) (at2 b.s b.c) = ac (cosDiff a b)
  ac_anti : ∀ x y, -1 ≤ x → x < y → y ≤ 1 → ac y < ac x
  ac_one : ac 1 = 0
  ac_neg_one : ac (-1) = 1
  sin_sign : ∀ a b, pts a → pts b →
    ((0 < clip (at2 b.s b.c - at2 a.s a.c) ∧ clip (at2 b.s b.c - at2 a.s a.c) < 1) ↔ 0 < sinDiff a b)

/-- `arctan2(y, x)/π`, exact on the four half-axes (`0`, `1/2`, `1`, `−1/2`); off the axes the value of the vertical
half-axis of the point's half-plane, `±1/2` (any value would do there: the instance `yawBridge_axes` only speaks about the axes) -/
def at2Axes (y x : Rat) : Rat :=
  if y = 0 then (if x < 0 then 1 else 0) else if y > 0 then 1/2 else -1/2

/-- the four axis directions -/
def axisPts : List Dir := [⟨1, 0⟩, ⟨0, 1⟩, ⟨-1, 0⟩, ⟨0, -1⟩]

/-- `arccos x / π` is `(1 − x)/2` at `x ∈ {1, 0, −1}` -/
def acAxes (x : Rat) : Rat := (1 - x) / 2

/-- the representative of an orientation: `q` or `−q` -/
def withSign (neg : Bool) (q : Quat) : Quat := if neg then -q else q

end PEval.Heading
