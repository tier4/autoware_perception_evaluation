/-!
# Decision trees over abstract atoms (the target of the decision-table translator)

`harness/dtable.py` runs a real Python function on symbolic inputs that expose only *atoms* — Boolean facts and
three-way order comparisons of named numeric terms — on every assignment of the atoms it actually queries, and emits
the resulting decision tree as Lean data (`PEval/Gen/*.lean`, hash-consed into a chain of `def`s). This file has the
generic part: the tree type, its evaluation under a valuation, and a checker `agree` deciding that a generated tree
and a hand-written model tree compute the same result under EVERY valuation that avoids a list of forbidden
conjunctions — complete for the finite decision space, and proved sound below once and for all
(`agree_sound`). The per-run proof obligation is then `agree forb sticky Gen.tree modelTree PA.empty = true` by kernel
evaluation.

Atoms are numbered (`Nat`); the numbering is shared by the Python registry and the model file of the function.
Order atoms of different pairs of terms are treated as independent (an over-approximation of the input space,
which is sound for "table = model").
-/
namespace PEval.DT

/-- what a run ends with: a returned Boolean, a raised exception (numbered kind), anything else, or the marker of a
branch the explorer cut because its decisions are jointly unrealisable -/
inductive Res
  | ret (b : Bool)
  | raise (e : Nat)
  | other (k : Nat)
  | unreachable
deriving DecidableEq, Repr

inductive DTree
  | leaf (r : Res)
  | bnode (a : Nat) (no yes : DTree)
  | cnode (a : Nat) (lt eq gt : DTree)
deriving Repr

/-- a valuation of the atoms -/
structure Val where
  b : Nat → Bool
  c : Nat → Ordering

def eval : DTree → Val → Res
  | .leaf r, _ => r
  | .bnode a n y, v => match v.b a with
    | true => eval y v
    | false => eval n v
  | .cnode a l e g, v => match v.c a with
    | .lt => eval l v
    | .eq => eval e v
    | .gt => eval g v

/-- continuation-passing constructors for hand-written model trees -/
def askB (a : Nat) (k : Bool → DTree) : DTree := .bnode a (k false) (k true)
def askC (a : Nat) (k : Ordering → DTree) : DTree := .cnode a (k .lt) (k .eq) (k .gt)

theorem eval_askB (a : Nat) (k : Bool → DTree) (v : Val) : eval (askB a k) v = eval (k (v.b a)) v := by
  unfold askB; rw [eval]; cases v.b a <;> rfl

theorem eval_askC (a : Nat) (k : Ordering → DTree) (v : Val) : eval (askC a k) v = eval (k (v.c a)) v := by
  unfold askC; rw [eval]; cases v.c a <;> rfl

theorem eval_ite (c : Prop) [Decidable c] (a b : DTree) (v : Val) :
    eval (if c then a else b) v = if c then eval a v else eval b v := by
  split <;> rfl

def mapT (f : Res → Res) : DTree → DTree
  | .leaf r => .leaf (f r)
  | .bnode a n y => .bnode a (mapT f n) (mapT f y)
  | .cnode a l e g => .cnode a (mapT f l) (mapT f e) (mapT f g)

/-- substitute trees for the leaves of a tree -/
def bindT (k : Res → DTree) : DTree → DTree
  | .leaf r => k r
  | .bnode a n y => .bnode a (bindT k n) (bindT k y)
  | .cnode a l e g => .cnode a (bindT k l) (bindT k e) (bindT k g)

theorem eval_mapT (f : Res → Res) (v : Val) (t : DTree) : eval (mapT f t) v = f (eval t v) := by
  induction t with
  | leaf r => rfl
  | bnode a n y ihn ihy => simp only [mapT, eval]; split <;> assumption
  | cnode a l e g ihl ihe ihg => simp only [mapT, eval]; split <;> assumption

theorem eval_bindT (k : Res → DTree) (v : Val) (t : DTree) : eval (bindT k t) v = eval (k (eval t v)) v := by
  induction t with
  | leaf r => rfl
  | bnode a n y ihn ihy => simp only [bindT, eval]; split <;> assumption
  | cnode a l e g ihl ihe ihg => simp only [bindT, eval]; split <;> assumption

/-! ## forbidden conjunctions -/

inductive Lit
  | b (a : Nat) (x : Bool)
  | c (a : Nat) (o : Ordering)
deriving DecidableEq, Repr

def Lit.holds (v : Val) : Lit → Bool
  | .b a x => v.b a == x
  | .c a o => v.c a == o

/-- `v` satisfies none of the forbidden conjunctions -/
def consistent (forb : List (List Lit)) (v : Val) : Bool := forb.all fun cl => !(cl.all (Lit.holds v))

/-! ## partial assignments (the decisions taken so far on a path) -/

structure PA where
  b : List (Nat × Bool)
  c : List (Nat × Ordering)

def PA.empty : PA := ⟨[], []⟩
def PA.setB (p : PA) (a : Nat) (x : Bool) : PA := { p with b := (a, x) :: p.b }
def PA.setC (p : PA) (a : Nat) (o : Ordering) : PA := { p with c := (a, o) :: p.c }

def Lit.inPA (p : PA) : Lit → Bool
  | .b a x => p.b.lookup a == some x
  | .c a o => p.c.lookup a == some o

/-- the decisions of `p` already contain a forbidden conjunction -/
def violates (forb : List (List Lit)) (p : PA) : Bool := forb.any fun cl => cl.all (Lit.inPA p)

/-- `v` extends `p` -/
def ext (v : Val) (p : PA) : Prop := (∀ a x, p.b.lookup a = some x → v.b a = x) ∧ (∀ a o, p.c.lookup a = some o → v.c a = o)

/-! ## the checker -/

/-- every leaf of `m` that is reachable under `p` (atoms not decided by `p` branch) carries `r`, or sits under
decisions containing a forbidden conjunction -/
def allLeaves (forb : List (List Lit)) (r : Res) : DTree → PA → Bool
  | .leaf r', p => r' == r || violates forb p
  | .bnode a n y, p =>
    match p.b.lookup a with
    | some true => allLeaves forb r y p
    | some false => allLeaves forb r n p
    | none => allLeaves forb r n (p.setB a false) && allLeaves forb r y (p.setB a true)
  | .cnode a l e g, p =>
    match p.c.lookup a with
    | some .lt => allLeaves forb r l p
    | some .eq => allLeaves forb r e p
    | some .gt => allLeaves forb r g p
    | none => allLeaves forb r l (p.setC a .lt) && allLeaves forb r e (p.setC a .eq) && allLeaves forb r g (p.setC a .gt)

/-- follow `m` as far as `p` decides its root atom -/
def adv : DTree → PA → DTree
  | .leaf r, _ => .leaf r
  | .bnode a n y, p =>
    match p.b.lookup a with
    | some true => adv y p
    | some false => adv n p
    | none => .bnode a n y
  | .cnode a l e g, p =>
    match p.c.lookup a with
    | some .lt => adv l p
    | some .eq => adv e p
    | some .gt => adv g p
    | none => .cnode a l e g

/-- record a decision only when asked to -/
def PA.recB (p : PA) (st : Bool) (a : Nat) (x : Bool) : PA := match st with | true => p.setB a x | false => p
def PA.recC (p : PA) (st : Bool) (a : Nat) (o : Ordering) : PA := match st with | true => p.setC a o | false => p

/-- `code` and `m` give the same result under every valuation extending `p` and avoiding `forb`.
Both trees are descended together. When both ask the same atom, the model's sub-tree is passed down and the decision
is recorded in `p` only for the atoms listed in `sticky` (atoms that a tree may ask again further down: recording
is always sound, NOT recording keeps the arguments of the recursive calls equal across paths that share a sub-tree,
which is what makes kernel evaluation fast). When the model's root asks another atom, the decision is recorded and
the model waits (its root atom is decided later, or branched on at the leaf). -/
def agree (forb : List (List Lit)) (sticky : List Nat) : DTree → DTree → PA → Bool
  | .leaf r, m, p => violates forb p || allLeaves forb r m p
  | .bnode a n y, m, p =>
    match p.b.lookup a with
    | some true => agree forb sticky y m p
    | some false => agree forb sticky n m p
    | none =>
      match adv m p with
      | .bnode a' n' y' =>
        if a' = a then
          agree forb sticky n n' (p.recB (sticky.contains a) a false) && agree forb sticky y y' (p.recB (sticky.contains a) a true)
        else agree forb sticky n (.bnode a' n' y') (p.setB a false) && agree forb sticky y (.bnode a' n' y') (p.setB a true)
      | m' => agree forb sticky n m' (p.setB a false) && agree forb sticky y m' (p.setB a true)
  | .cnode a l e g, m, p =>
    match p.c.lookup a with
    | some .lt => agree forb sticky l m p
    | some .eq => agree forb sticky e m p
    | some .gt => agree forb sticky g m p
    | none =>
      match adv m p with
      | .cnode a' l' e' g' =>
        if a' = a then
          agree forb sticky l l' (p.recC (sticky.contains a) a .lt) && agree forb sticky e e' (p.recC (sticky.contains a) a .eq) &&
            agree forb sticky g g' (p.recC (sticky.contains a) a .gt)
        else agree forb sticky l (.cnode a' l' e' g') (p.setC a .lt) && agree forb sticky e (.cnode a' l' e' g') (p.setC a .eq) &&
          agree forb sticky g (.cnode a' l' e' g') (p.setC a .gt)
      | m' => agree forb sticky l m' (p.setC a .lt) && agree forb sticky e m' (p.setC a .eq) && agree forb sticky g m' (p.setC a .gt)

/-! ## soundness -/

/-- decisions that `f` agrees with stay so when `f`'s own value at `a` is put in front -/
theorem lookup_cons_agrees {β : Type} {f : Nat → β} {l : List (Nat × β)} (h : ∀ a x, l.lookup a = some x → f a = x)
    (a a' : Nat) (x : β) (hx : ((a, f a) :: l).lookup a' = some x) : f a' = x := by
  rw [List.lookup_cons] at hx
  split at hx
  next e => exact eq_of_beq e ▸ Option.some.inj hx
  · exact h a' x hx

/-- recording `v`'s own decision keeps `v` an extension (`recB true` is `setB`) -/
theorem ext_recB {v : Val} {p : PA} (h : ext v p) (st : Bool) {a : Nat} {x : Bool} (hx : v.b a = x) :
    ext v (p.recB st a x) := by
  subst hx
  cases st
  · exact h
  · exact ⟨lookup_cons_agrees h.1 a, h.2⟩

theorem ext_recC {v : Val} {p : PA} (h : ext v p) (st : Bool) {a : Nat} {x : Ordering} (hx : v.c a = x) :
    ext v (p.recC st a x) := by
  subst hx
  cases st
  · exact h
  · exact ⟨h.1, lookup_cons_agrees h.2 a⟩

theorem lit_inPA {v : Val} {p : PA} (h : ext v p) {l : Lit} (hl : l.inPA p = true) : l.holds v = true := by
  cases l with
  | b a x => exact beq_iff_eq.2 (h.1 a x (eq_of_beq hl))
  | c a o => exact beq_iff_eq.2 (h.2 a o (eq_of_beq hl))

theorem violates_inconsistent {forb : List (List Lit)} {v : Val} {p : PA} (h : ext v p)
    (hv : violates forb p = true) : consistent forb v = false := by
  obtain ⟨cl, hcl, hall⟩ := List.any_eq_true.1 hv
  refine List.all_eq_false.2 ⟨cl, hcl, ?_⟩
  rw [Bool.not_eq_true, Bool.not_eq_false', List.all_eq_true]
  exact fun l hl => lit_inPA h (List.all_eq_true.1 hall l hl)

theorem allLeaves_sound {forb : List (List Lit)} {r : Res} {v : Val} (hc : consistent forb v = true) (m : DTree) (p : PA) :
    ext v p → allLeaves forb r m p = true → eval m v = r := by
  -- one case per arm of `allLeaves`, in the order of its definition
  fun_induction allLeaves forb r m p with
  | case1 r' p =>
    intro hp h
    rcases Bool.or_eq_true _ _ ▸ h with h | h
    · exact eq_of_beq h
    · rw [violates_inconsistent hp h] at hc; cases hc
  | case2 a n y p hl ih | case3 a n y p hl ih => exact fun hp h => by rw [eval, hp.1 _ _ hl]; exact ih hp h
  | case4 a n y p _ ihn ihy =>
    intro hp h
    rw [Bool.and_eq_true] at h
    rw [eval]
    cases hb : v.b a
    · exact ihn (ext_recB hp true hb) h.1
    · exact ihy (ext_recB hp true hb) h.2
  | case5 a l e g p hl ih | case6 a l e g p hl ih | case7 a l e g p hl ih =>
    exact fun hp h => by rw [eval, hp.2 _ _ hl]; exact ih hp h
  | case8 a l e g p _ ihl ihe ihg =>
    intro hp h
    rw [Bool.and_eq_true, Bool.and_eq_true] at h
    rw [eval]
    cases hb : v.c a
    · exact ihl (ext_recC hp true hb) h.1.1
    · exact ihe (ext_recC hp true hb) h.1.2
    · exact ihg (ext_recC hp true hb) h.2

theorem eval_adv {v : Val} (m : DTree) (p : PA) (hp : ext v p) : eval (adv m p) v = eval m v := by
  fun_induction adv m p with
  | case1 | case4 | case8 => rfl
  | case2 a n y p hl ih | case3 a n y p hl ih => rw [ih hp, eval.eq_2, hp.1 _ _ hl]
  | case5 a l e g p hl ih | case6 a l e g p hl ih | case7 a l e g p hl ih => rw [ih hp, eval.eq_3, hp.2 _ _ hl]

theorem agree_sound_aux {forb : List (List Lit)} {sticky : List Nat} {v : Val} (hc : consistent forb v = true)
    (code m : DTree) (p : PA) : ext v p → agree forb sticky code m p = true → eval code v = eval m v := by
  fun_induction agree forb sticky code m p with
  | case1 r m p =>
    intro hp h
    rcases Bool.or_eq_true _ _ ▸ h with h | h
    · rw [violates_inconsistent hp h] at hc; cases hc
    · exact (allLeaves_sound hc m p hp h).symm
  | case2 a n y m p hl ih | case3 a n y m p hl ih => exact fun hp h => by rw [eval, hp.1 _ _ hl]; exact ih hp h
  | case4 n y m p a n' y' hm _ ihn ihy =>
    -- the model, advanced, asks the same atom: both trees take `v`'s branch
    intro hp h
    rw [Bool.and_eq_true] at h
    rw [← eval_adv m p hp, hm, eval, eval]
    cases hb : v.b a
    · exact ihn (ext_recB hp _ hb) h.1
    · exact ihy (ext_recB hp _ hb) h.2
  | case5 a n y m p _ a' n' y' hm _ ihn ihy =>
    -- it asks another atom, or (next case) none of this kind: the model waits
    intro hp h
    rw [Bool.and_eq_true] at h
    rw [← eval_adv m p hp, hm, eval]
    cases hb : v.b a
    · exact ihn (ext_recB hp true hb) h.1
    · exact ihy (ext_recB hp true hb) h.2
  | case6 a n y m p _ _ ihn ihy =>
    intro hp h
    rw [Bool.and_eq_true] at h
    rw [← eval_adv m p hp, eval]
    cases hb : v.b a
    · exact ihn (ext_recB hp true hb) h.1
    · exact ihy (ext_recB hp true hb) h.2
  | case7 a l e g m p hl ih | case8 a l e g m p hl ih | case9 a l e g m p hl ih =>
    exact fun hp h => by rw [eval, hp.2 _ _ hl]; exact ih hp h
  | case10 l e g m p a l' e' g' hm _ ihl ihe ihg =>
    intro hp h
    rw [Bool.and_eq_true, Bool.and_eq_true] at h
    rw [← eval_adv m p hp, hm, eval, eval]
    cases hb : v.c a
    · exact ihl (ext_recC hp _ hb) h.1.1
    · exact ihe (ext_recC hp _ hb) h.1.2
    · exact ihg (ext_recC hp _ hb) h.2
  | case11 a l e g m p _ a' l' e' g' hm _ ihl ihe ihg =>
    intro hp h
    rw [Bool.and_eq_true, Bool.and_eq_true] at h
    rw [← eval_adv m p hp, hm, eval]
    cases hb : v.c a
    · exact ihl (ext_recC hp true hb) h.1.1
    · exact ihe (ext_recC hp true hb) h.1.2
    · exact ihg (ext_recC hp true hb) h.2
  | case12 a l e g m p _ _ ihl ihe ihg =>
    intro hp h
    rw [Bool.and_eq_true, Bool.and_eq_true] at h
    rw [← eval_adv m p hp, eval]
    cases hb : v.c a
    · exact ihl (ext_recC hp true hb) h.1.1
    · exact ihe (ext_recC hp true hb) h.1.2
    · exact ihg (ext_recC hp true hb) h.2

theorem ext_empty (v : Val) : ext v PA.empty := ⟨fun _ _ => nofun, fun _ _ => nofun⟩

/-- the checker is sound: if it accepts, the two trees agree under every consistent valuation -/
theorem agree_sound {forb : List (List Lit)} {sticky : List Nat} {code m : DTree}
    (h : agree forb sticky code m PA.empty = true) :
    ∀ v : Val, consistent forb v = true → eval code v = eval m v :=
  fun v hc => agree_sound_aux hc code m PA.empty (ext_empty v) h

end PEval.DT
