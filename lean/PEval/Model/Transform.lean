import PEval.Model.Basic
import PEval.Model.Enums
/-!
Model of `perception_eval/common/transform.py`: `HomogeneousMatrix` (`__init__`, `transform` with a
position / a position and a rotation / another matrix, `dot`, `inv`) and `TransformDict.transform`
(identity for X-to-X, direct entry, inverse of the reverse entry, `KeyError`), with the key
normalisation of `TransformKey` taken from `PEval.Enums` (`frameOfArg`, `transformKey`).

Numbers are exact rationals.  A rotation is a quaternion `(w, x, y, z)` over `Rat`; it acts on points
through the *homogeneous* rotation-matrix formula (diagonal `w²+x²-y²-z²` …, the product
`Q(q)·Q̄(q)ᵀ` that pyquaternion's `rotation_matrix` evaluates), so the group laws are polynomial
identities and unit length enters only as the hypothesis `normSq q = 1`.  The real code keeps a 4×4
float matrix next to the quaternion and goes through `Quaternion(matrix=…)` after every product
(sign of the quaternion unspecified); the model keeps `(pos, rot)` and offers the 4×4 view `toMat`;
`PEval.C18.transform_eq_matmul`, `dot_eq_matmul`, `inv_matmul` state that both views agree.
Frames are `FrameID` member names (strings), as in `PEval.Enums`.
-/
namespace PEval.Transform
open PEval.Enums

/-! ## vectors, quaternions, matrices -/

@[ext] structure V3 where
  x : Rat
  y : Rat
  z : Rat
deriving Repr, DecidableEq

namespace V3
def add (a b : V3) : V3 := ⟨a.x + b.x, a.y + b.y, a.z + b.z⟩
def neg (a : V3) : V3 := ⟨-a.x, -a.y, -a.z⟩
def dot (a b : V3) : Rat := a.x * b.x + a.y * b.y + a.z * b.z
def zero : V3 := ⟨0, 0, 0⟩
instance : Add V3 := ⟨add⟩
instance : Neg V3 := ⟨neg⟩
@[simp] theorem add_x (a b : V3) : (a + b).x = a.x + b.x := rfl
@[simp] theorem add_y (a b : V3) : (a + b).y = a.y + b.y := rfl
@[simp] theorem add_z (a b : V3) : (a + b).z = a.z + b.z := rfl
@[simp] theorem neg_x (a : V3) : (-a).x = -a.x := rfl
@[simp] theorem neg_y (a : V3) : (-a).y = -a.y := rfl
@[simp] theorem neg_z (a : V3) : (-a).z = -a.z := rfl
end V3

/-- quaternion, ordering `(w, x, y, z)` as in pyquaternion -/
@[ext] structure Quat where
  w : Rat
  x : Rat
  y : Rat
  z : Rat
deriving Repr, DecidableEq

namespace Quat
/-- Hamilton product -/
def mul (p q : Quat) : Quat :=
  ⟨p.w * q.w - p.x * q.x - p.y * q.y - p.z * q.z,
   p.w * q.x + p.x * q.w + p.y * q.z - p.z * q.y,
   p.w * q.y - p.x * q.z + p.y * q.w + p.z * q.x,
   p.w * q.z + p.x * q.y - p.y * q.x + p.z * q.w⟩
def conj (q : Quat) : Quat := ⟨q.w, -q.x, -q.y, -q.z⟩
def neg (q : Quat) : Quat := ⟨-q.w, -q.x, -q.y, -q.z⟩
def normSq (q : Quat) : Rat := q.w * q.w + q.x * q.x + q.y * q.y + q.z * q.z
def one : Quat := ⟨1, 0, 0, 0⟩
instance : Mul Quat := ⟨mul⟩
instance : Neg Quat := ⟨neg⟩
@[simp] theorem mul_w (p q : Quat) : (p * q).w = p.w * q.w - p.x * q.x - p.y * q.y - p.z * q.z := rfl
@[simp] theorem mul_x (p q : Quat) : (p * q).x = p.w * q.x + p.x * q.w + p.y * q.z - p.z * q.y := rfl
@[simp] theorem mul_y (p q : Quat) : (p * q).y = p.w * q.y - p.x * q.z + p.y * q.w + p.z * q.x := rfl
@[simp] theorem mul_z (p q : Quat) : (p * q).z = p.w * q.z + p.x * q.y - p.y * q.x + p.z * q.w := rfl
@[simp] theorem neg_w (q : Quat) : (-q).w = -q.w := rfl
@[simp] theorem neg_x (q : Quat) : (-q).x = -q.x := rfl
@[simp] theorem neg_y (q : Quat) : (-q).y = -q.y := rfl
@[simp] theorem neg_z (q : Quat) : (-q).z = -q.z := rfl
end Quat

/-- 3×3 matrix, by rows -/
@[ext] structure Mat3 where
  r0 : V3
  r1 : V3
  r2 : V3
deriving Repr, DecidableEq

def Mat3.mulVec (m : Mat3) (v : V3) : V3 := ⟨m.r0.dot v, m.r1.dot v, m.r2.dot v⟩

/-- homogeneous rotation matrix of a quaternion (= the rotation matrix when `normSq q = 1`;
`normSq q` times a rotation matrix in general) -/
def rotMat (q : Quat) : Mat3 :=
  ⟨⟨q.w * q.w + q.x * q.x - q.y * q.y - q.z * q.z, 2 * (q.x * q.y - q.w * q.z), 2 * (q.x * q.z + q.w * q.y)⟩,
   ⟨2 * (q.x * q.y + q.w * q.z), q.w * q.w - q.x * q.x + q.y * q.y - q.z * q.z, 2 * (q.y * q.z - q.w * q.x)⟩,
   ⟨2 * (q.x * q.z - q.w * q.y), 2 * (q.y * q.z + q.w * q.x), q.w * q.w - q.x * q.x - q.y * q.y + q.z * q.z⟩⟩

/-- action of a quaternion on a point -/
def rotate (q : Quat) (v : V3) : V3 := (rotMat q).mulVec v

/-- row of a 4×4 matrix -/
@[ext] structure V4 where
  a : Rat
  b : Rat
  c : Rat
  d : Rat
deriving Repr, DecidableEq

/-- 4×4 matrix, by rows -/
@[ext] structure Mat4 where
  r0 : V4
  r1 : V4
  r2 : V4
  r3 : V4
deriving Repr, DecidableEq

/-- row vector times matrix -/
def rowMul (r : V4) (m : Mat4) : V4 :=
  ⟨r.a * m.r0.a + r.b * m.r1.a + r.c * m.r2.a + r.d * m.r3.a,
   r.a * m.r0.b + r.b * m.r1.b + r.c * m.r2.b + r.d * m.r3.b,
   r.a * m.r0.c + r.b * m.r1.c + r.c * m.r2.c + r.d * m.r3.c,
   r.a * m.r0.d + r.b * m.r1.d + r.c * m.r2.d + r.d * m.r3.d⟩

/-- ordinary matrix product (`numpy.dot` of two 4×4 arrays) -/
def matMul (m n : Mat4) : Mat4 := ⟨rowMul m.r0 n, rowMul m.r1 n, rowMul m.r2 n, rowMul m.r3 n⟩

def Mat4.one : Mat4 := ⟨⟨1, 0, 0, 0⟩, ⟨0, 1, 0, 0⟩, ⟨0, 0, 1, 0⟩, ⟨0, 0, 0, 1⟩⟩

/-- `__generate_homogeneous_matrix(position, rotation)`: `eye(4)` with the rotation block and the
translation column filled in -/
def matOf (pos : V3) (rot : Quat) : Mat4 :=
  let r := rotMat rot
  ⟨⟨r.r0.x, r.r0.y, r.r0.z, pos.x⟩,
   ⟨r.r1.x, r.r1.y, r.r1.z, pos.y⟩,
   ⟨r.r2.x, r.r2.y, r.r2.z, pos.z⟩,
   ⟨0, 0, 0, 1⟩⟩

/-! ## HomogeneousMatrix -/

/-- `HomogeneousMatrix`: translation, rotation, source and destination frame (member names) -/
structure HM where
  pos : V3
  rot : Quat
  src : String
  dst : String
deriving Repr, DecidableEq

/-- `HomogeneousMatrix(position, rotation, src, dst)`: a frame given as a string goes through
`FrameID.from_value` (`ValueError` for an unknown name), `src` first -/
def HM.mk' (pos : V3) (rot : Quat) (src dst : Arg) : Except String HM := do
  let s ← frameOfArg src
  let d ← frameOfArg dst
  pure ⟨pos, rot, s, d⟩

/-- the attribute `.matrix` -/
def toMat (a : HM) : Mat4 := matOf a.pos a.rot

/-- `__transform_position`: translation column of `self.matrix · [[I, p], [0, 1]]` -/
def transformPos (a : HM) (p : V3) : V3 := rotate a.rot p + a.pos

/-- `__transform_position_and_rotation`: position and rotation of `self.matrix · [[R(r), p], [0, 1]]` -/
def transformPose (a : HM) (pr : V3 × Quat) : V3 × Quat := (transformPos a pr.1, a.rot * pr.2)

/-- `self.dot(other)`: `ValueError` unless `self.src == other.dst`; the matrix product, labelled
`other.src → self.dst` -/
def dot (self other : HM) : Except String HM :=
  if self.src ≠ other.dst then .error "ValueError"
  else .ok ⟨rotate self.rot other.pos + self.pos, self.rot * other.rot, other.src, self.dst⟩

/-- `self.inv()`: inverse rigid motion (for a unit rotation: conjugate quaternion, translation
`-R⁻¹ t`), labels swapped -/
def inv (a : HM) : HM := ⟨-(rotate a.rot.conj a.pos), a.rot.conj, a.dst, a.src⟩

/-- `__transform_matrix(matrix)`: `matrix.dot(self)` -/
def transformHM (a m : HM) : Except String HM := dot m a

/-- what `transform(*args, **kwargs)` was called with.  The last four are the malformed calls the
code rejects (no argument at all; more than two positional arguments; keyword arguments naming
neither `position` nor `matrix`; `position=` together with `matrix=`). -/
inductive TArg where
  | pos (p : V3)
  | pose (p : V3) (r : Quat)
  | mat (m : HM)
  | noArgs
  | tooMany
  | unknownKw
  | posAndMat
deriving Repr, DecidableEq

/-- the exception a malformed call raises (the same in `HomogeneousMatrix.transform` and in the
same-frame branch of `TransformDict.transform`) -/
def TArg.malformed : TArg → Option String
  | .noArgs => some "ValueError"
  | .tooMany => some "ValueError"
  | .unknownKw => some "KeyError"
  | .posAndMat => some "ValueError"
  | _ => none

/-- `HomogeneousMatrix.transform` -/
def HM.transform (a : HM) : TArg → Except String TArg
  | .pos p => .ok (.pos (transformPos a p))
  | .pose p r => let pr := transformPose a (p, r); .ok (.pose pr.1 pr.2)
  | .mat m => (transformHM a m).map .mat
  | .noArgs => .error "ValueError"
  | .tooMany => .error "ValueError"
  | .unknownKw => .error "KeyError"
  | .posAndMat => .error "ValueError"

/-! ## TransformDict -/

/-- the dictionary key of a registered matrix: `TransformKey(mat.src, mat.dst)` -/
def HM.key (m : HM) : String × String := (m.src, m.dst)

/-- `self.__data.get(key)` for `self.__data = {TransformKey(m.src, m.dst): m for m in matrices}`:
a later matrix with the same key overwrites an earlier one, so the *last* match is found -/
def lookup : List HM → String × String → Option HM
  | [], _ => none
  | m :: ms, k =>
    match lookup ms k with
    | some r => some r
    | none => if m.key = k then some m else none

/-- `TransformDict(matrices).transform(key, *args, **kwargs)`; the key is a `TransformKey` or a
pair, each component a `FrameID` member or its name in any case (`ValueError` for an unknown name) -/
def dictTransform (d : List HM) (ksrc kdst : Arg) (x : TArg) : Except String TArg := do
  let k ← transformKey ksrc kdst
  if k.1 = k.2 then
    match x.malformed with
    | some e => .error e
    | none => pure x
  else
    match lookup d (k.1, k.2) with
    | some m => m.transform x
    | none =>
      match lookup d (k.2, k.1) with
      | some m => (inv m).transform x
      | none => .error "KeyError"

/-! ## the other access paths of the registry

`get` and `__getitem__` read their key exactly like `transform`: a `TransformKey`, or a pair whose
components go through `FrameID.from_value` when they are strings (`ValueError` for an unknown name); then
the plain dictionary is asked.  `dictContains` is what a `__contains__` written the same way would answer;
`TransformDict` defines none, so Python's `key in reg` iterates over the keys and compares with
`TransformKey.__eq__`, which does not normalise a tuple of strings. -/

/-- `reg.get(key)`: the registered matrix or `None` -/
def dictGet (d : List HM) (ksrc kdst : Arg) : Except String (Option HM) := do
  let k ← transformKey ksrc kdst
  pure (lookup d k)

/-- `reg[key]`: the registered matrix or `KeyError` -/
def dictGetItem (d : List HM) (ksrc kdst : Arg) : Except String HM := do
  let k ← transformKey ksrc kdst
  match lookup d k with
  | some m => pure m
  | none => .error "KeyError"

/-- `key in reg`, were the key read as `get` reads it (see above) -/
def dictContains (d : List HM) (ksrc kdst : Arg) : Except String Bool := do
  let k ← transformKey ksrc kdst
  pure (lookup d k).isSome

/-! ## modifying a registry

The registry is a plain dictionary: every query is answered from the contents at the time of the
query.  `reg[TransformKey(m.src, m.dst)] = m` is modelled by appending (`lookup` finds the last
match, so appending overwrites), `del reg[k]` by removing every entry with that key, and
`copy.deepcopy(reg)` by the same list. -/

/-- `reg[(m.src, m.dst)] = m` -/
def dictSet (d : List HM) (m : HM) : List HM := d ++ [m]

/-- the contents after `del reg[k]` -/
def dictErase (d : List HM) (k : String × String) : List HM := d.filter (fun m => decide (m.key ≠ k))

/-- `del reg[k]`: `KeyError` when the key is not registered -/
def dictDel (d : List HM) (k : String × String) : Except String (List HM) :=
  match lookup d k with
  | none => .error "KeyError"
  | some _ => .ok (dictErase d k)

end PEval.Transform
