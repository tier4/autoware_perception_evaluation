import PEval.Model.Manager
/-!
C13 — a HEAP model of `PerceptionEvaluationManager.add_frame_result`

`PEval/Model/Manager.lean` hands a ground-truth frame to `addFrameResult` as a VALUE and evaluates it
with a state-free function; there the clauses "does not modify the caller's estimate list or the loaded
dataset" and "same result whatever was evaluated earlier on the same manager" are true by the type of
the model (audit item 1).  Here Python's objects are cells of a store and are passed BY REFERENCE, the
assignments of the code are explicit writes, so those clauses can fail — and do fail for the
defective variants defined next to the repaired one (`Variant.f5`: defect F5 of DESIGN §7, repaired by
`ccf10e1`; `Variant.estInPlace`: the estimate filter written back into the caller's list).

Anchors (line numbers of /repo at the time of writing)
* `manager/perception_evaluation_manager.py`
  - `add_frame_result` l.80-128: `_filter_objects(estimated_objects, ground_truth_now_frame)`;
    `PerceptionFrameResult(object_results, frame_ground_truth=…)`; `evaluate_frame(previous_result=
    self.frame_results[-1])` when there is a stored result; `self.frame_results.append(result)`.
  - `_filter_objects` l.130-183: `estimated_objects = filter_objects(estimated_objects, …)` (a NEW list
    bound to the local name); `frame_ground_truth = copy(frame_ground_truth)` (the repair of F5: a
    shallow copy, i.e. a NEW `FrameGroundTruth` cell sharing the object list);
    `frame_ground_truth.objects = filter_objects(frame_ground_truth.objects, …)` (a WRITE through the
    reference); `get_object_results(...)`; optional `filter_object_results(target_uuids)`.
  - `get_scene_result` l.185-218: per stored result `divide_objects(frame.object_results, target_labels)`
    and `divide_objects_to_num(frame.frame_ground_truth.objects, target_labels)` — the ground-truth
    frame OF THE RESULT is dereferenced at query time.
* `evaluation/result/perception_frame_result.py`
  - `__init__` l.60-90: keeps the reference `self.frame_ground_truth = frame_ground_truth`, copies the
    string `self.frame_name`.
  - `evaluate_frame` l.92-147: `self.object_results = filter_object_results(…critical filter…)`;
    `self.frame_ground_truth.objects = filter_objects(self.frame_ground_truth.objects, …critical
    filter…)` (a second WRITE through the same reference); `divide_objects`, `divide_objects_to_num`
    with the critical filter's target labels; detection scores; tracking scores from
    `previous_result.object_results`.

What is a cell: every `FrameGroundTruth` instance (`Heap.frames`; a reference is its index; `copy`
allocates a new cell at the end) and every list object holding estimates (`Heap.ests`).  The
`DynamicObject`s themselves are immutable here (harness ids, as in `Manager.Frame.objects`): the code
under the anchors never assigns to an attribute of an object, only to `.objects` of a frame.

What stays abstract (`HSem`): the PURE parts — the two filters, the matcher, the bucketing and the
scores — as functions of their explicit arguments.  Of a frame they may read only `FMeta` (time stamp,
frame name, standing for `transforms`/`frame_name`, never its object list), so everything they learn
about the ground-truth objects flows through the list that was read from the store at that step.
-/

namespace PEval.ManagerHeap
open PEval.Manager PEval

/-- a reference: index of a cell -/
abbrev Ref := Nat

/-- what filters and matcher read of a `FrameGroundTruth` besides its objects (`unix_time`,
`frame_name`; `transforms` is a function of these in a loaded dataset) -/
structure FMeta where
  time : Int
  name : Nat
deriving DecidableEq, Repr

def metaOf (f : Frame) : FMeta := ⟨f.time, f.name⟩

/-- the store: `FrameGroundTruth` cells and estimate-list cells -/
structure Heap (Est : Type) where
  frames : List Frame
  ests : List (List Est)
deriving DecidableEq, Repr

variable {Est OR C T : Type}

/-- dereference a frame reference (a dangling reference reads an empty frame; the operations check
validity first) -/
def Heap.frame (h : Heap Est) (r : Ref) : Frame := h.frames.getD r ⟨0, 0, []⟩
/-- dereference an estimate-list reference -/
def Heap.est (h : Heap Est) (r : Ref) : List Est := h.ests.getD r []

/-- `copy(frame_ground_truth)`: a new cell with the same field values; the new reference -/
def Heap.allocFrame (h : Heap Est) (f : Frame) : Heap Est × Ref :=
  ({ h with frames := h.frames ++ [f] }, h.frames.length)

/-- `frame.objects = objs` through the reference `r` -/
def Heap.setObjects (h : Heap Est) (r : Ref) (objs : List Nat) : Heap Est :=
  { h with frames := h.frames.set r { h.frame r with objects := objs } }

/-- `lst[:] = es` through the reference `r` (only the defective variant `estInPlace` does this) -/
def Heap.setEst (h : Heap Est) (r : Ref) (es : List Est) : Heap Est :=
  { h with ests := h.ests.set r es }

/-- `PerceptionFrameResult` as stored in `frame_results`: the frame name (a copied string), the
REFERENCE `frame_ground_truth`, the filtered object results, the detection view of the frame-level
scores (`Manager.Det`) and the tracking scores. -/
structure HResult (OR T : Type) where
  frameName : Nat
  frame : Ref
  objectResults : List OR
  det : Det
  track : T
deriving DecidableEq, Repr

/-- the manager: the store it shares with its caller, `ground_truth_frames` (references) and
`frame_results` -/
structure HState (Est OR T : Type) where
  heap : Heap Est
  dataset : List Ref
  frameResults : List (HResult OR T)
deriving DecidableEq, Repr

/-- a manager right after construction over dataset references `ds` in store `h` -/
def hfresh (h : Heap Est) (ds : List Ref) : HState Est OR T :=
  { heap := h, dataset := ds, frameResults := [] }

/-- The pure parts of one frame evaluation.
* `filterEst`, `filterGt`: `filter_objects(…, **self.filtering_params)` on estimates / ground truths;
* `matchObjs`: `get_object_results` (+ `filter_object_results(target_uuids)`);
* `critRes`, `critGt`: the critical-object filter of the call (`c`) on object results / ground truths;
* `detOf c ors gts`: frame level — `divide_objects(ors, c.target_labels)`,
  `divide_objects_to_num(gts, c.target_labels)` and the TP columns of `evaluate_detection`;
* `bucketsOf`, `numGtOf`: scene level — the same divisions with the MANAGER's `target_labels`;
* `trackOf c ors gts prev`: `evaluate_tracking` on `[divide_objects(prev), current]`, `prev` =
  `previous_result.object_results`. -/
structure HSem (Est OR C T : Type) where
  nLabels : Nat
  filterEst : FMeta → List Est → List Est
  filterGt : FMeta → List Nat → List Nat
  matchObjs : FMeta → List Est → List Nat → List OR
  critRes : C → FMeta → List OR → List OR
  critGt : C → FMeta → List Nat → List Nat
  detOf : C → List OR → List Nat → Det
  bucketsOf : List OR → List (List Res)
  numGtOf : List Nat → List Nat
  trackOf : C → List OR → List Nat → Option (List OR) → T

/-- the repaired code and two defective variants of `_filter_objects` -/
inductive Variant where
  /-- /repo: `frame_ground_truth = copy(frame_ground_truth)` before the filtered list is assigned -/
  | fixed
  /-- defect F5 (before `ccf10e1`): no copy — both assignments go into the frame that was handed in,
  which is the one stored in `ground_truth_frames` -/
  | f5
  /-- the filtered estimates written back into the caller's list object -/
  | estInPlace
deriving DecidableEq, Repr

/-- `add_frame_result(unix_time, ground_truth_now_frame = <fr>, estimated_objects = <er>, c, …)`,
step by step.  `none`: a reference that names no cell (cannot be written down in Python). -/
def haddV (v : Variant) (sem : HSem Est OR C T) (s : HState Est OR T) (fr er : Ref) (c : C) :
    Option (HState Est OR T × HResult OR T) :=
  if fr < s.heap.frames.length ∧ er < s.heap.ests.length then
    let h0 := s.heap
    -- the arguments are looked up BY REFERENCE
    let m := metaOf (h0.frame fr)
    -- `_filter_objects`: `estimated_objects = filter_objects(estimated_objects, …)`
    let es' := sem.filterEst m (h0.est er)
    let h0 := if v = .estInPlace then h0.setEst er es' else h0
    -- `frame_ground_truth = copy(frame_ground_truth)` (absent in the F5 variant)
    let hg := if v = .f5 then (h0, fr) else h0.allocFrame (h0.frame fr)
    let g := hg.2
    -- `frame_ground_truth.objects = filter_objects(frame_ground_truth.objects, …)`
    let h2 := hg.1.setObjects g (sem.filterGt m (hg.1.frame g).objects)
    -- `get_object_results(estimated_objects, frame_ground_truth.objects, …)`
    let ors := sem.matchObjs m es' (h2.frame g).objects
    -- `PerceptionFrameResult(…)`; `evaluate_frame`: `self.object_results = filter_object_results(…)`
    let ors' := sem.critRes c m ors
    -- `self.frame_ground_truth.objects = filter_objects(self.frame_ground_truth.objects, …)`
    let h3 := h2.setObjects g (sem.critGt c m (h2.frame g).objects)
    let gts := (h3.frame g).objects
    -- `previous_result = self.frame_results[-1]` if any; the scores
    let prev := s.frameResults.getLast?
    let r : HResult OR T :=
      { frameName := (h3.frame g).name, frame := g, objectResults := ors'
        det := sem.detOf c ors' gts
        track := sem.trackOf c ors' gts (prev.map (·.objectResults)) }
    -- `self.frame_results.append(result)`
    some ({ heap := h3, dataset := s.dataset, frameResults := s.frameResults ++ [r] }, r)
  else none

/-- `get_now_frame` over the dataset's references: the REFERENCE of the first frame with the smallest
time difference -/
def hgetGT (s : HState Est OR T) (t thr : Int) : Except Err (Option Ref) :=
  if t > 10 ^ 17 then .error "DatasetLoadingError"
  else match s.dataset with
    | [] => .error "IndexError"
    | r0 :: _ =>
      let best := s.dataset.foldl
        (fun (b : Ref × Nat) r =>
          if (t - (s.heap.frame r).time).natAbs < b.2 then (r, (t - (s.heap.frame r).time).natAbs) else b)
        (r0, (t - (s.heap.frame r0).time).natAbs)
      if (best.2 : Int) > thr then .ok none else .ok (some best.1)

/-- one pass of `for frame in self.frame_results` in `get_scene_result`: both divisions are
recomputed, the result's ground-truth frame is dereferenced NOW -/
def hsceneAdd (sem : HSem Est OR C T) (h : Heap Est) (sc : Scene) (r : HResult OR T) : Scene :=
  let b := sem.bucketsOf r.objectResults
  let n := sem.numGtOf (h.frame r.frame).objects
  { results := sc.results.mapIdx (fun l x => x ++ [b.getD l []])
    numGt := sc.numGt.mapIdx (fun l k => k + n.getD l 0)
    usedFrame := sc.usedFrame ++ [r.frameName] }

def hgetSceneResult (sem : HSem Est OR C T) (s : HState Est OR T) : Scene :=
  s.frameResults.foldl (hsceneAdd sem s.heap) (sceneInit sem.nLabels)

/-! ### operations and runs -/

inductive HOp (C : Type) where
  | add (fr er : Ref) (c : C)
  | scene
  | lookup (t thr : Int)

inductive HOut (OR T : Type) where
  | added (r : HResult OR T)
  | rejected
  | scene (sc : Scene)
  | frame (f : Except Err (Option Ref))

def hstepV (v : Variant) (sem : HSem Est OR C T) (s : HState Est OR T) : HOp C → HState Est OR T × HOut OR T
  | .add fr er c =>
    match haddV v sem s fr er c with
    | some (s', r) => (s', .added r)
    | none => (s, .rejected)
  | .scene => (s, .scene (hgetSceneResult sem s))
  | .lookup t thr => (s, .frame (hgetGT s t thr))

def hrunV (v : Variant) (sem : HSem Est OR C T) : HState Est OR T → List (HOp C) → HState Est OR T × List (HOut OR T)
  | s, [] => (s, [])
  | s, op :: ops =>
    let r := hstepV v sem s op
    let rest := hrunV v sem r.1 ops
    (rest.1, r.2 :: rest.2)

/-- the code of /repo -/
abbrev hadd (sem : HSem Est OR C T) := haddV Variant.fixed sem
abbrev hstep (sem : HSem Est OR C T) := hstepV Variant.fixed sem
abbrev hrun (sem : HSem Est OR C T) := hrunV Variant.fixed sem

def HOut.added? : HOut OR T → Option (HResult OR T)
  | .added r => some r
  | _ => none

def HOut.det? (o : HOut OR T) : Option Det := o.added?.map (·.det)
def HOut.ors? (o : HOut OR T) : Option (List OR) := o.added?.map (·.objectResults)
def HOut.track? (o : HOut OR T) : Option T := o.added?.map (·.track)

def hlastOutV (v : Variant) (sem : HSem Est OR C T) (s : HState Est OR T) (ops : List (HOp C)) : Option (HOut OR T) :=
  (hrunV v sem s ops).2.getLast?

abbrev hlastOut (sem : HSem Est OR C T) := hlastOutV Variant.fixed sem

def HOp.isQuery : HOp C → Bool
  | .add .. => false
  | _ => true

/-- the references an operation names exist in store `h` -/
def HOp.validIn (h : Heap Est) : HOp C → Prop
  | .add fr er _ => fr < h.frames.length ∧ er < h.ests.length
  | _ => True

/-- every dataset reference names a cell -/
def DatasetValid (h : Heap Est) (ds : List Ref) : Prop := ∀ r ∈ ds, r < h.frames.length

/-! ### the value-level reading: what the state-free machine `PEval.Manager` is told

`pureORs` / `pureGts`: the filtered object results and ground truths as a function of the VALUES of the
frame and of the estimate list (no store). -/

def pureGts (sem : HSem Est OR C T) (c : C) (f : Frame) : List Nat :=
  sem.critGt c (metaOf f) (sem.filterGt (metaOf f) f.objects)

def pureORs (sem : HSem Est OR C T) (c : C) (f : Frame) (es : List Est) : List OR :=
  sem.critRes c (metaOf f)
    (sem.matchObjs (metaOf f) (sem.filterEst (metaOf f) es) (sem.filterGt (metaOf f) f.objects))

def pureDet (sem : HSem Est OR C T) (c : C) (f : Frame) (es : List Est) : Det :=
  sem.detOf c (pureORs sem c f es) (pureGts sem c f)

/-- the abstract single-frame evaluation of `PEval.Manager` this heap model induces (tracking part
forgotten: `Manager.Sem.evalTrack` reads the predecessor's `Det`, the code its `object_results`) -/
def toSem (sem : HSem Est OR C T) : Sem (List Est) C Unit :=
  { nLabels := sem.nLabels
    evalDet := fun f es c => pureDet sem c f es
    evalTrack := fun _ _ _ _ => () }

def absRes (r : HResult OR T) : FrameResult Unit := ⟨r.frameName, r.det, ()⟩

/-- the state of `PEval.Manager` a heap state stands for: the dataset DEREFERENCED -/
def absState (s : HState Est OR T) : State Unit :=
  { dataset := s.dataset.map s.heap.frame, frameResults := s.frameResults.map absRes }

/-- an operation with its references replaced by the values store `h` holds for them -/
def absOp (h : Heap Est) : HOp C → Op (List Est) C
  | .add fr er c => .add (h.frame fr) (h.est er) c
  | .scene => .scene
  | .lookup t thr => .lookup t thr

def absOut (h : Heap Est) : HOut OR T → Out Unit
  | .added r => .added (absRes r)
  | .rejected => .frame (.error "invalid reference")
  | .scene sc => .scene sc
  | .frame f => .frame (f.map (Option.map h.frame))

/-- frame-level and scene-level divisions agree: the critical filter's target labels are the manager's
(the assumption of `ManagerTracking.lean` and `harness/props/c13.py`, here an explicit hypothesis of the
refinement theorem only).

NOT guaranteed by the code: `evaluate_frame` divides by `critical_object_filter_config.target_labels` (an argument
of every `add_frame_result` call, `perception_frame_config.py: CriticalObjectFilterConfig`), `get_scene_result` and
the metrics iterate over the manager's `target_labels`.  What the code does when the two lists differ (run against
/repo; model statements in `Properties/C13Labels.lean`):
* critical labels a permutation of the manager's: nothing — the dicts are read by key, the buckets of every manager
  label coincide at both levels (the hypothesis holds after re-indexing `Det` by the manager's order); a superset likewise
  as long as no estimate carrying one of the EXTRA labels is paired with a ground truth of a manager label —
  `divide_objects` files a result under its estimate's label if that is a target, else under its ground truth's, so an
  `unknown` estimate on a car ground truth (`ALLOW_UNKNOWN`) lies in the car bucket for labels `[car]` and in the
  unknown bucket for `[car, unknown]`: there the frame-level and the scene-level car buckets differ;
* critical labels not covering a manager label `l`: `KeyError(l)` in `Map.__init__` / `TrackingMetricsScore.__init__` /
  `ClassificationMetricsScore.__init__` (`object_results_dict[target_label]`), raised inside `evaluate_frame`, i.e. inside
  `add_frame_result` BEFORE `self.frame_results.append(result)`: the call raises, no result is stored, dataset and
  estimate list untouched (DESIGN §7 O2; `C13.detectFrame_error_of_uncovered_label`, `C13.frameMap2_keyError_first`).
So the theorems that assume `LabelsAgree` are about `add_frame_result` calls that RETURN with a critical filter over
the manager's labels; for any other returning call the scores agree by key, for a non-covering one there is no result. -/
def LabelsAgree (sem : HSem Est OR C T) : Prop :=
  ∀ c ors gts, sem.detOf c ors gts = ⟨sem.bucketsOf ors, sem.numGtOf gts⟩

/-- a stored result whose ground-truth cell exists and still holds the objects it was scored with -/
def ResOK (sem : HSem Est OR C T) (h : Heap Est) (r : HResult OR T) : Prop :=
  r.frame < h.frames.length ∧
  r.det = ⟨sem.bucketsOf r.objectResults, sem.numGtOf (h.frame r.frame).objects⟩

def Good (sem : HSem Est OR C T) (s : HState Est OR T) : Prop :=
  ∀ r ∈ s.frameResults, ResOK sem s.heap r

/-- store `h'` extends `h`: every cell of `h` is still there with the same content -/
def Ext (h h' : Heap Est) : Prop := h.frames <+: h'.frames ∧ h'.ests = h.ests

end PEval.ManagerHeap
