import PEval.Model.Basic
import PEval.Model.FrameChange
/-!
# C19 — model of the analysis tables (`tool/perception_analyzer_base.py`, `tool/perception_analyzer3d.py`,
`tool/utils.py`, `evaluation/result/perception_frame_result.py:get_object_status`, `common/status.py`)

A frame result is modelled by its four pass/fail lists (`PassFailResult`): TP results, FP results
(with optional ground truth), TN objects, FN objects, plus the list of critical ground-truth objects
(`frame_ground_truth.objects`).  Objects carry the columns of the table that are rational: uuid,
label, ego-frame `x`,`y`, yaw as half-turns `τ` (angle = τ·π, DESIGN §4.2), width, length, velocity.

The pandas `DataFrame` with `MultiIndex (i, side)` is a list of `RowPair`s: index `i`, the
`ground_truth` row and the `estimation` row (`none` = the all-NaN row `format2dict` writes for a missing
partner).  `Table.rows` is the flat view in DataFrame order.

The model follows the code, including finding F11: an ordinary ground truth paired with an estimate
that fails the threshold sits in the FP row pair *and* in an FN row, so `numGroundTruth` and
`getObjectStatus` see it twice.
-/

namespace PEval.Analyzer

/-! ## objects, results, frames -/

inductive Status where
  | TP | FP | TN | FN
  deriving DecidableEq, Repr, Inhabited

def Status.toString : Status → String
  | .TP => "TP" | .FP => "FP" | .TN => "TN" | .FN => "FN"

/-- the columns of a `DynamicObject` that the tables use (ego frame) -/
structure Obj where
  uuid : String
  label : String
  x : Rat
  y : Rat
  /-- yaw in half-turns, in [-1, 1] (`yaw_pitch_roll[0] / π`) -/
  yaw : Rat
  width : Rat
  length : Rat
  vx : Option Rat
  vy : Option Rat
  deriving DecidableEq, Repr

/-- `str(AutowareLabel.FP)` -/
def fpLabel : String := "false_positive"

/-- `semantic_label.is_fp()` -/
def Obj.isFp (o : Obj) : Bool := o.label == fpLabel

/-- `DynamicObjectWithPerceptionResult`: an estimate and its (optional) ground truth -/
structure Pair where
  est : Obj
  gt : Option Obj
  deriving DecidableEq, Repr

/-- the pass/fail lists of one `PerceptionFrameResult` and its critical ground truth -/
structure Frame where
  /-- `int(frame.frame_name)` -/
  frameNum : Nat
  tp : List Pair
  fp : List Pair
  tn : List Obj
  fn : List Obj
  /-- `frame.frame_ground_truth.objects` (after the critical-object filter) -/
  critical : List Obj
  deriving Repr

/-! ## `PassFailResult.evaluate` (`get_positive_objects`, `get_negative_objects`) -/

/-- `DynamicObjectWithPerceptionResult.get_status`, given the outcome of `is_result_correct` -/
def getStatus (p : Pair) (correct : Bool) : Status × Option Status :=
  match p.gt with
  | none => (.FP, none)
  | some g =>
    if correct then (if g.isFp then (.FP, some .TN) else (.TP, some .TP))
    else (if g.isFp then (.FP, some .FP) else (.FP, some .FN))

/-- `get_positive_objects`: (TP results, FP results), in the order of the loop -/
def getPositive : List (Pair × Bool) → List Pair × List Pair
  | [] => ([], [])
  | (p, c) :: rest =>
    let r := getPositive rest
    match p.gt with
    | none => (r.1, p :: r.2)
    | some _ =>
      match getStatus p c with
      | (.FP, some .TN) => (r.1, ⟨p.est, none⟩ :: r.2)
      | (.FP, _) => (r.1, p :: r.2)
      | (.TP, some .TP) => (p :: r.1, r.2)
      | _ => r

/-- ground truths of the results whose GT status satisfies `q` (first loop of `get_negative_objects`) -/
def gtsWith (q : Option Status → Bool) (results : List (Pair × Bool)) : List Obj :=
  results.filterMap fun (p, c) => if q (getStatus p c).2 then p.gt else none

/-- `get_negative_objects`: (TN objects, FN objects). `in non_candidates` is `DynamicObject.__eq__`,
modelled by equality of the record (hypothesis: distinct ground truths differ under `__eq__`). -/
def getNegative (critical : List Obj) (results : List (Pair × Bool)) : List Obj × List Obj :=
  let tn1 := gtsWith (· == some .TN) results
  let fn1 := gtsWith (· == some .FN) results
  let nonCand := gtsWith (·.isSome) results
  let rest := critical.filter fun g => !(nonCand.contains g)
  (tn1 ++ rest.filter (·.isFp), fn1 ++ rest.filter (fun g => !g.isFp))

/-- `PassFailResult.evaluate` as a frame -/
def passFail (frameNum : Nat) (critical : List Obj) (results : List (Pair × Bool)) : Frame :=
  let pos := getPositive results
  let neg := getNegative critical results
  { frameNum := frameNum, tp := pos.1, fp := pos.2, tn := neg.1, fn := neg.2, critical := critical }

/-! ## areas (`generate_area_points`, `get_area_idx`) -/

structure Areas where
  upperRights : List (Rat × Rat)
  bottomLefts : List (Rat × Rat)
  deriving Repr

/-- `generate_area_points` for `max_x, max_y ≠ 0`: `np.arange(m, -m, -2m/3) = [m, m/3, -m/3]`,
`np.arange(-m, m, 2m/3)[::-1] = [m/3, -m/3, -m]`; the 9-division is the row-major meshgrid. -/
def generateAreaPoints (n : Nat) (maxX maxY : Rat) : Except Err Areas :=
  let rightX := [maxX, maxX / 3, -maxX / 3]
  let leftX := [maxX / 3, -maxX / 3, -maxX]
  if n = 1 then .ok ⟨[(maxX, -maxY)], [(-maxX, maxY)]⟩
  else if n = 3 then
    .ok ⟨rightX.map (fun x => (x, -maxY)), leftX.map (fun x => (x, maxY))⟩
  else if n = 9 then
    let rightY := [maxY / 3, -maxY / 3, -maxY]
    let leftY := [maxY, maxY / 3, -maxY / 3]
    .ok ⟨rightY.flatMap (fun y => rightX.map (fun x => (x, y))),
         leftY.flatMap (fun y => leftX.map (fun x => (x, y)))⟩
  else .error "ValueError"

def insideArea (ur bl : Rat × Rat) (x y : Rat) : Bool :=
  (x < ur.1 && x > bl.1) && (y > ur.2 && y < bl.2)

/-- the indices `np.where(is_x_inside * is_y_inside)[0]` -/
def areaHits (a : Areas) (x y : Rat) : List Nat :=
  (((a.upperRights.zip a.bottomLefts).map fun (ur, bl) => insideArea ur bl x y).zipIdx.filter (·.1)).map (·.2)

/-- `get_area_idx` on the ego-frame position: `None` outside every area; `.item()` raises
`ValueError` when more than one area matches -/
def getAreaIdx (a : Areas) (x y : Rat) : Except Err (Option Nat) :=
  match areaHits a x y with
  | [] => .ok none
  | [i] => .ok (some i)
  | _ => .error "ValueError"

/-- the area function used by the table (`none` also on the error path, which the driver reports
separately and `Lemmas/AnalyzerAreas` shows unreachable for generated areas) -/
def areaOf (a : Areas) (x y : Rat) : Option Nat :=
  match getAreaIdx a x y with
  | .ok r => r
  | .error _ => none

/-! ## the table (`format2dict`, `format2df`, `add_frame`, `add`) -/

/-- one non-NaN row of the DataFrame -/
structure Cell where
  status : Status
  obj : Obj
  area : Option Nat
  frame : Nat
  scene : Nat
  deriving DecidableEq, Repr

/-- the two rows `(index, "ground_truth")`, `(index, "estimation")` -/
structure RowPair where
  index : Nat
  gt : Option Cell
  est : Option Cell
  deriving DecidableEq, Repr

abbrev Table := List RowPair

inductive Side where
  | groundTruth | estimation
  deriving DecidableEq, Repr

/-- the DataFrame rows in order -/
def Table.rows (t : Table) : List (Nat × Side × Option Cell) :=
  t.flatMap fun r => [(r.index, .groundTruth, r.gt), (r.index, .estimation, r.est)]

/-- `format2dict` for a `DynamicObjectWithPerceptionResult` (the area is that of the estimate) -/
def resultCells (area : Rat → Rat → Option Nat) (scene frame : Nat) (st : Status) (p : Pair) :
    Option Cell × Option Cell :=
  let a := area p.est.x p.est.y
  (p.gt.map fun g => ⟨st, g, a, frame, scene⟩, some ⟨st, p.est, a, frame, scene⟩)

/-- `format2dict` for a `DynamicObject` with status TN / FN (ground-truth side only) -/
def objectCells (area : Rat → Rat → Option Nat) (scene frame : Nat) (st : Status) (o : Obj) :
    Option Cell × Option Cell :=
  (some ⟨st, o, area o.x o.y, frame, scene⟩, none)

/-- `format2df`: `enumerate(object_results, start=start)` -/
def format2df {α : Type} (mk : α → Option Cell × Option Cell) : List α → Nat → Table
  | [], _ => []
  | a :: l, i => ⟨i, (mk a).1, (mk a).2⟩ :: format2df mk l (i + 1)

/-- `add_frame` (scene = `self.num_scene` while `add` runs) -/
def addFrame (area : Rat → Rat → Option Nat) (scene : Nat) (t : Table) (f : Frame) : Table :=
  let start := t.length
  let tpDf := format2df (resultCells area scene f.frameNum .TP) f.tp start
  let start := start + tpDf.length
  let fpDf := format2df (resultCells area scene f.frameNum .FP) f.fp start
  let start := start + fpDf.length
  let tnDf := format2df (objectCells area scene f.frameNum .TN) f.tn start
  let start := start + tnDf.length
  let fnDf := format2df (objectCells area scene f.frameNum .FN) f.fn start
  t ++ tpDf ++ fpDf ++ tnDf ++ fnDf

structure Analyzer where
  numScene : Nat := 0
  numFrame : Nat := 0
  table : Table := []
  deriving Repr

/-- `add(frame_results)` -/
def Analyzer.add (area : Rat → Rat → Option Nat) (a : Analyzer) (frames : List Frame) : Analyzer :=
  { numScene := a.numScene + 1
    numFrame := a.numFrame + frames.length
    table := frames.foldl (addFrame area a.numScene) a.table }

/-- one `add` per scene on a fresh analyzer -/
def addAll (area : Rat → Rat → Option Nat) (scenes : List (List Frame)) : Analyzer :=
  scenes.foldl (Analyzer.add area) {}

/-! ## selections (`filter`/`get`, `get_ground_truth`, `get_estimation`, `filter_by_distance`) -/

/-- keyword selections; a scalar `item` is a singleton list -/
structure Sel where
  labels : Option (List String) := none
  scenes : Option (List Nat) := none
  frames : Option (List Nat) := none
  areas : Option (List Nat) := none
  statuses : Option (List Status) := none
  uuids : Option (List String) := none
  deriving Repr

def keyMatch {β : Type} [BEq β] (sel : Option (List β)) (v : Option β) : Bool :=
  match sel with
  | none => true
  | some l => match v with
    | some b => l.contains b
    | none => false

/-- row-wise selection (`get_ground_truth(df, **kwargs)`): every key must match on this row -/
def Cell.matches (s : Sel) (c : Cell) : Bool :=
  keyMatch s.labels (some c.obj.label) && keyMatch s.scenes (some c.scene) &&
  keyMatch s.frames (some c.frame) && keyMatch s.areas c.area &&
  keyMatch s.statuses (some c.status) && keyMatch s.uuids (some c.obj.uuid)

def RowPair.anySide (r : RowPair) (p : Cell → Bool) : Bool := r.gt.any p || r.est.any p

/-- one keyword of `filter`: absent (`item is None`) imposes nothing; otherwise some row of the
pair must match it (`cur_mask.groupby(level=0).any()`) -/
def RowPair.keyKeep {β : Type} [BEq β] (sel : Option (List β)) (get : Cell → Option β) (r : RowPair) : Bool :=
  sel.isNone || r.anySide (fun c => keyMatch sel (get c))

/-- group-wise selection (`filter`): the masks of the keywords are multiplied -/
def RowPair.keep (s : Sel) (r : RowPair) : Bool :=
  r.keyKeep s.labels (fun c => some c.obj.label) &&
  r.keyKeep s.scenes (fun c => some c.scene) &&
  r.keyKeep s.frames (fun c => some c.frame) &&
  r.keyKeep s.areas (fun c => c.area) &&
  r.keyKeep s.statuses (fun c => some c.status) &&
  r.keyKeep s.uuids (fun c => some c.obj.uuid)

/-- `filter(**kwargs)` / `get(**kwargs)` -/
def Table.select (s : Sel) (t : Table) : Table := t.filter (·.keep s)

/-- `d0 ≤ ‖(x,y)‖ < d1` without square roots -/
def inDistance (d : Rat × Rat) (c : Cell) : Bool :=
  let r2 := c.obj.x * c.obj.x + c.obj.y * c.obj.y
  (d.1 ≤ 0 || d.1 * d.1 ≤ r2) && (0 < d.2 && r2 < d.2 * d.2)

/-- `filter_by_distance` -/
def filterByDistance (d : Rat × Rat) (t : Table) : Except Err Table :=
  if d.1 < d.2 then .ok (t.filter fun r => r.anySide (inDistance d)) else .error "AssertionError"

/-- the sub-table every public selection entry point works on — `analyze(**kwargs, distance=d)`,
`filter_by_distance(d, get(**kwargs))`: the keyword selection (`get` / `filter`), then the distance
selection.  A row PAIR is kept or dropped as a whole (`analyze_eq_selectTable`: `analyze` computes on
exactly this table). -/
def selectTable (full : Table) (s : Sel) (distance : Option (Rat × Rat)) : Except Err Table :=
  match distance with
  | none => .ok (full.select s)
  | some d => filterByDistance d (full.select s)

/-- the pair predicate of a selection: every given keyword is matched by SOME row of the pair, and (if a
distance range is given) SOME row of the pair lies in `[d0, d1)` — the two rows may be different ones -/
def RowPair.selected (s : Sel) (distance : Option (Rat × Rat)) (r : RowPair) : Bool :=
  r.keep s && (match distance with
    | none => true
    | some d => r.anySide (inDistance d))

/-- `get_ground_truth`: ground-truth rows with a status, then the keyword filters -/
def getGroundTruth (t : Table) (s : Sel := {}) : List Cell :=
  (t.filterMap (·.gt)).filter (·.matches s)

/-- `get_estimation` -/
def getEstimation (t : Table) (s : Sel := {}) : List Cell :=
  (t.filterMap (·.est)).filter (·.matches s)

def countStatus (st : Status) (cs : List Cell) : Nat := cs.countP (·.status == st)

def getNumGroundTruth (t : Table) (s : Sel := {}) : Nat := (getGroundTruth t s).length
def getNumEstimation (t : Table) (s : Sel := {}) : Nat := (getEstimation t s).length
def getNumTP (t : Table) (s : Sel := {}) : Nat := countStatus .TP (getEstimation t s)
def getNumFP (t : Table) (s : Sel := {}) : Nat := countStatus .FP (getEstimation t s)
def getNumTN (t : Table) (s : Sel := {}) : Nat := countStatus .TN (getGroundTruth t s)
def getNumFN (t : Table) (s : Sel := {}) : Nat := countStatus .FN (getGroundTruth t s)

/-- the `num_*` properties. On the initial empty frame `df.xs(..., level=1)` raises `TypeError`
(its index is not a MultiIndex) — finding N2.  Whether the analyzer under test still does so is probed
by the harness on the real class and handed over as `emptyRaises` (a repaired analyzer returns 0). -/
def numProp (emptyRaises : Bool) (t : Table) (v : Nat) : Except Err Nat :=
  if emptyRaises && t.isEmpty then .error "TypeError" else .ok v

def numGroundTruth (er : Bool) (t : Table) : Except Err Nat := numProp er t (getNumGroundTruth t)
def numEstimation (er : Bool) (t : Table) : Except Err Nat := numProp er t (getNumEstimation t)
def numTP (er : Bool) (t : Table) : Except Err Nat := numProp er t (getNumTP t)
def numFP (er : Bool) (t : Table) : Except Err Nat := numProp er t (getNumFP t)
def numTN (er : Bool) (t : Table) : Except Err Nat := numProp er t (getNumTN t)
def numFN (er : Bool) (t : Table) : Except Err Nat := numProp er t (getNumFN t)

/-! ## errors (`get_pair_results`, `calculate_error`, `summarize_error`) -/

/-- `get_pair_results`: pairs whose two rows both carry a status -/
def getPairResults (t : Table) : List (Cell × Cell) :=
  t.filterMap fun r =>
    match r.gt, r.est with
    | some g, some e => some (g, e)
    | _, _ => none

/-- row-wise `df[df["status"].isin(l)]` -/
def rowFilterStatus (l : List Status) (t : Table) : Table :=
  t.map fun r => { r with gt := r.gt.filter (fun c => l.contains c.status),
                          est := r.est.filter (fun c => l.contains c.status) }

inductive Col where
  | x | y | yaw | length | width | vx | vy
  deriving DecidableEq, Repr

def Col.get (c : Col) (o : Obj) : Option Rat :=
  match c with
  | .x => some o.x | .y => some o.y | .yaw => some o.yaw
  | .length => some o.length | .width => some o.width
  | .vx => o.vx | .vy => o.vy

def Col.name : Col → String
  | .x => "x" | .y => "y" | .yaw => "yaw" | .length => "length" | .width => "width"
  | .vx => "vx" | .vy => "vy"

/-- the yaw wrap of `calculate_error` in half-turns: `err[err > π] -= 2π` then `err[err < -π] += 2π` -/
def wrapYaw (d : Rat) : Rat :=
  let d1 := if d > 1 then d - 2 else d
  if d1 < -1 then d1 + 2 else d1

/-- GT − estimate of one paired row (`none` = NaN) -/
def pairError (col : Col) (p : Cell × Cell) : Option Rat :=
  match col.get p.1.obj, col.get p.2.obj with
  | some a, some b => some (if col = .yaw then wrapYaw (a - b) else a - b)
  | _, _ => none

/-- `calculate_error(column, df)` with `remove_nan=False` (`none` = NaN) -/
def calculateError (col : Col) (t : Table) : List (Option Rat) :=
  let t' := rowFilterStatus [.TP, .FP, .TN] t
  if t'.any (·.gt.isSome) && t'.any (·.est.isSome) then (getPairResults t').map (pairError col)
  else []

structure Summary where
  average : Rat
  /-- square of the reported RMS -/
  rms2 : Rat
  /-- square of the reported standard deviation -/
  var : Rat
  max : Rat
  min : Rat
  deriving DecidableEq, Repr

def sumR (l : List Rat) : Rat := l.foldr (· + ·) 0

/-- `_summarize` on a non-empty error array -/
def summarize (errs : List Rat) : Option Summary :=
  match errs with
  | [] => none
  | e :: es =>
    let n : Rat := (errs.length : Nat)
    let avg := sumR errs / n
    some { average := avg
           rms2 := sumR (errs.map fun v => v * v) / n
           var := sumR (errs.map fun v => (v - avg) * (v - avg)) / n
           max := es.foldl (fun m v => if m < v.abs then v.abs else m) e.abs
           min := es.foldl (fun m v => if v.abs < m then v.abs else m) e.abs }

def summaryCols : List Col := [.x, .y, .yaw, .length, .width, .vx, .vy]

/-- the inner `_summarize(column, df_)` for every modelled column (`remove_nan=True`) -/
def summarizeCols (df : Table) : List (Col × Option Summary) :=
  summaryCols.map fun c =>
    (c, if df.isEmpty then none else summarize ((calculateError c df).filterMap id))

/-- `summarize_error(df)`: "ALL" on the selected frame, each label on `self.df.loc[index]` -/
def summarizeError (labels : List String) (full sel : Table) :
    List (String × List (Col × Option Summary)) :=
  ("ALL", summarizeCols sel) :: labels.map fun L =>
    let idx := (sel.filter fun r =>
      r.gt.any fun c => [Status.TP, .FP, .TN].contains c.status && c.obj.label == L).map (·.index)
    (L, if idx.isEmpty then summarizeCols [] else summarizeCols (full.filter fun r => idx.contains r.index))

/-! ## rates (`summarize_ratio`) -/

structure Ratio where
  tp : Rat
  fp : Rat
  tn : Rat
  fn : Rat
  deriving DecidableEq, Repr

def ratioOf (t : Table) (s : Sel) : Ratio :=
  let nGT := getNumGroundTruth t s
  if nGT > 0 then
    let tp := getNumTP t s
    let fp := getNumFP t s
    { tp := (tp : Rat) / nGT
      fp := if tp + fp ≠ 0 then (fp : Rat) / ((tp + fp : Nat) : Rat) else 0
      tn := (getNumTN t s : Rat) / nGT
      fn := (getNumFN t s : Rat) / nGT }
  else ⟨0, 0, 0, 0⟩

/-- `summarize_ratio(df)`: "ALL" then one row per target label -/
def summarizeRatio (labels : List String) (t : Table) : List (String × Ratio) :=
  ("ALL", ratioOf t {}) :: labels.map fun L => (L, ratioOf t { labels := some [L] })

/-! ## confusion matrix (`get_confusion_matrix`) -/

def confusionLabels (labels : List String) : List String :=
  if labels.contains "unknown" then labels else labels ++ ["unknown"]

/-- `label.apply(lambda l: target_labels.index(l))` -/
def labelIndices (tl : List String) : List String → Except Err (List Nat)
  | [] => .ok []
  | l :: ls =>
    match tl.idxOf? l with
    | none => .error "ValueError"
    | some i =>
      match labelIndices tl ls with
      | .ok is => .ok (i :: is)
      | .error e => .error e

/-- `np.bincount(indices, minlength=n*n).reshape(n, n)` -/
def bincountMatrix (n : Nat) (indices : List Nat) : List (List Nat) :=
  (List.range n).map fun i => (List.range n).map fun j => indices.count (n * i + j)

/-- the body of `get_confusion_matrix` for a given index `tl` of the matrix (row / column labels) -/
def confusionWith (tl : List String) (t : Table) : Except Err (Option (List (List Nat))) :=
  if t.isEmpty then .ok none else
  let pairs := getPairResults t
  match labelIndices tl (pairs.map (·.1.obj.label)), labelIndices tl (pairs.map (·.2.obj.label)) with
  | .ok gi, .ok ei =>
    let n := tl.length
    let indices := (gi.zip ei).map fun (g, e) => n * g + e
    if indices.isEmpty then .ok none else .ok (some (bincountMatrix n indices))
  | .error e, _ => .error e
  | _, .error e => .error e

/-- PRE-FIX behaviour (finding N3, repaired by `fix:` 24663d1): the index is `target_labels + ["unknown"]` only, and
`target_labels.index(label)` raised `ValueError` for a paired row with any other label.  Kept for the characterising
theorems (`PEval.C19.confusion_error_iff` …). -/
def getConfusionMatrixOld (labels : List String) (t : Table) : Except Err (Option (List (List Nat))) :=
  confusionWith (confusionLabels labels) t

/-- `for label in pd.concat([gt_df["label"], est_df["label"]]).unique(): if label not in target_labels: append` -/
def extendLabels (tl : List String) (ls : List String) : List String :=
  ls.foldl (fun acc l => if acc.contains l then acc else acc ++ [l]) tl

/-- the index of the matrix after the repair: `target_labels`, `"unknown"`, then every other label met in the paired
rows, in order of first occurrence — the ground-truth column's labels in row order first, then the estimate column's -/
def confusionIndex (labels : List String) (t : Table) : List String :=
  let pairs := getPairResults t
  extendLabels (confusionLabels labels) (pairs.map (·.1.obj.label) ++ pairs.map (·.2.obj.label))

/-- `get_confusion_matrix(df)` (repaired code) -/
def getConfusionMatrix (labels : List String) (t : Table) : Except Err (Option (List (List Nat))) :=
  confusionWith (confusionIndex labels t) t

/-! ## `analyze` -/

structure Analysis where
  ratio : List (String × Ratio)
  error : List (String × List (Col × Option Summary))
  confusion : Option (List (List Nat))
  deriving Repr

/-- `analyze(**kwargs)` without the metric-score columns (they belong to C04/C05) -/
def analyze (labels : List String) (full : Table) (s : Sel) (distance : Option (Rat × Rat)) :
    Except Err (Option Analysis) :=
  let df := full.select s
  let dfE : Except Err Table :=
    match distance with
    | none => .ok df
    | some d => filterByDistance d df
  match dfE with
  | .error e => .error e
  | .ok df =>
    if df.isEmpty then .ok none else
    match getConfusionMatrix labels df with
    | .error e => .error e
    | .ok cm => .ok (some ⟨summarizeRatio labels df, summarizeError labels full df, cm⟩)

/-- PRE-FIX `analyze` (finding N3): the same with `getConfusionMatrixOld` -/
def analyzeOld (labels : List String) (full : Table) (s : Sel) (distance : Option (Rat × Rat)) :
    Except Err (Option Analysis) :=
  match selectTable full s distance with
  | .error e => .error e
  | .ok df =>
    if df.isEmpty then .ok none else
    match getConfusionMatrixOld labels df with
    | .error e => .error e
    | .ok cm => .ok (some ⟨summarizeRatio labels df, summarizeError labels full df, cm⟩)

/-! ## `get_object_status` -/

/-- `GroundTruthStatus` -/
structure GtStatus where
  uuid : String
  total : List Nat := []
  tp : List Nat := []
  fp : List Nat := []
  tn : List Nat := []
  fn : List Nat := []
  deriving DecidableEq, Repr

def GtStatus.addStatus (s : GtStatus) (st : Status) (n : Nat) : GtStatus :=
  match st with
  | .TP => { s with total := s.total ++ [n], tp := s.tp ++ [n] }
  | .FP => { s with total := s.total ++ [n], fp := s.fp ++ [n] }
  | .TN => { s with total := s.total ++ [n], tn := s.tn ++ [n] }
  | .FN => { s with total := s.total ++ [n], fn := s.fn ++ [n] }

/-- one step of the loops: `uuid not in status_infos` → append, else update `status_infos[index(uuid)]` -/
def addTo (uuid : String) (st : Status) (n : Nat) : List GtStatus → List GtStatus
  | [] => [({ uuid := uuid } : GtStatus).addStatus st n]
  | s :: rest => if s.uuid == uuid then s.addStatus st n :: rest else s :: addTo uuid st n rest

/-- the `(uuid, status, frame)` events one frame contributes, in the order of the four loops
(FP results without ground truth are skipped; TP results always carry one) -/
def frameEvents (f : Frame) : List (String × Status × Nat) :=
  (f.tp.filterMap (·.gt)).map (fun g => (g.uuid, Status.TP, f.frameNum)) ++
  (f.fp.filterMap (·.gt)).map (fun g => (g.uuid, Status.FP, f.frameNum)) ++
  f.tn.map (fun g => (g.uuid, Status.TN, f.frameNum)) ++
  f.fn.map (fun g => (g.uuid, Status.FN, f.frameNum))

def getObjectStatus (frames : List Frame) : List GtStatus :=
  (frames.flatMap frameEvents).foldl (fun infos ev => addTo ev.1 ev.2.1 ev.2.2 infos) []

/-! ## objects as they are handed over: `BASE_LINK` or `MAP` frame (`format2dict`, `get_area_idx`)

`Obj` above already holds the ego-frame columns.  The code receives `DynamicObject`s in the frame of the evaluation
(`frame_id` = `base_link` or `map`) together with the frame's transforms (the ego pose `base_link → map`) and brings
every object to `BASE_LINK` itself, twice: in `format2dict`
(`transforms.transform(TransformKey(obj.frame_id, BASE_LINK), position, orientation)`, then `x, y, _ = position`,
`yaw = rotation.yaw_pitch_roll[0]`) and, independently, in `get_area_idx` (`x, y, _ = transforms.transform(key, position)`).
`RawObj` is the object as given, `RawObj.toRow` the row `format2dict` writes, `getAreaIdxRaw` the area lookup.  The height
`z` of the transformed position is discarded by both; velocities are copied untransformed (`state.velocity[:2]`). -/

inductive FrameId where
  | baseLink | map
  deriving DecidableEq, Repr

/-- a `DynamicObject` as handed to the analyzer: position (3-D) and yaw (half-turns, in (-1, 1]) in ITS frame -/
structure RawObj where
  frame : FrameId
  uuid : String
  label : String
  pos : Geometry.V3
  yaw : Rat
  width : Rat
  length : Rat
  vx : Option Rat
  vy : Option Rat
  deriving DecidableEq, Repr

/-- `transforms.transform(TransformKey(frame_id, BASE_LINK), position)`: the input itself when source = destination,
else the inverse of the registered `base_link → map` matrix -/
def egoPosition (e : FrameChange.Pose) (o : RawObj) : Geometry.V3 :=
  match o.frame with
  | .baseLink => o.pos
  | .map => FrameChange.toEgo3 e o.pos

/-- `yaw_pitch_roll[0]` of the transformed orientation: principal value of `yaw − ego yaw` for a map-frame object -/
def egoYaw (e : FrameChange.Pose) (o : RawObj) : Rat :=
  match o.frame with
  | .baseLink => o.yaw
  | .map => Heading.toEgoYaw e.tau o.yaw

/-- the columns `format2dict` writes for one object (`x, y, _ = position`: the height is dropped) -/
def RawObj.toRow (e : FrameChange.Pose) (o : RawObj) : Obj :=
  { uuid := o.uuid, label := o.label, x := (egoPosition e o).x, y := (egoPosition e o).y, yaw := egoYaw e o,
    width := o.width, length := o.length, vx := o.vx, vy := o.vy }

/-- `get_area_idx(object, upper_rights, bottom_lefts, transforms)` -/
def getAreaIdxRaw (a : Areas) (e : FrameChange.Pose) (o : RawObj) : Except Err (Option Nat) :=
  let p := egoPosition e o
  getAreaIdx a p.x p.y

def areaOfRaw (a : Areas) (e : FrameChange.Pose) (o : RawObj) : Option Nat :=
  match getAreaIdxRaw a e o with
  | .ok r => r
  | .error _ => none

/-- the `distance` column, squared: `np.linalg.norm([x, y])` of the ego-frame position -/
def Obj.dist2 (o : Obj) : Rat := o.x * o.x + o.y * o.y

structure RawPair where
  est : RawObj
  gt : Option RawObj
  deriving DecidableEq, Repr

/-- one `PerceptionFrameResult` as given: pass/fail lists of raw objects and the frame's ego pose -/
structure RawFrame where
  ego : FrameChange.Pose
  frameNum : Nat
  tp : List RawPair
  fp : List RawPair
  tn : List RawObj
  fn : List RawObj
  critical : List RawObj
  deriving Repr

/-- `format2dict` for a result given in any frame (area of the ESTIMATE, through `get_area_idx`) -/
def resultCellsRaw (a : Areas) (e : FrameChange.Pose) (scene frame : Nat) (st : Status) (p : RawPair) :
    Option Cell × Option Cell :=
  let ar := areaOfRaw a e p.est
  (p.gt.map fun g => ⟨st, g.toRow e, ar, frame, scene⟩, some ⟨st, p.est.toRow e, ar, frame, scene⟩)

def objectCellsRaw (a : Areas) (e : FrameChange.Pose) (scene frame : Nat) (st : Status) (o : RawObj) :
    Option Cell × Option Cell :=
  (some ⟨st, o.toRow e, areaOfRaw a e o, frame, scene⟩, none)

/-- `add_frame` on a frame result given in any frame -/
def addFrameRaw (a : Areas) (scene : Nat) (t : Table) (f : RawFrame) : Table :=
  let start := t.length
  let tpDf := format2df (resultCellsRaw a f.ego scene f.frameNum .TP) f.tp start
  let start := start + tpDf.length
  let fpDf := format2df (resultCellsRaw a f.ego scene f.frameNum .FP) f.fp start
  let start := start + fpDf.length
  let tnDf := format2df (objectCellsRaw a f.ego scene f.frameNum .TN) f.tn start
  let start := start + tnDf.length
  let fnDf := format2df (objectCellsRaw a f.ego scene f.frameNum .FN) f.fn start
  t ++ tpDf ++ fpDf ++ tnDf ++ fnDf

def Analyzer.addRaw (ar : Areas) (a : Analyzer) (frames : List RawFrame) : Analyzer :=
  { numScene := a.numScene + 1
    numFrame := a.numFrame + frames.length
    table := frames.foldl (addFrameRaw ar a.numScene) a.table }

def addAllRaw (ar : Areas) (scenes : List (List RawFrame)) : Analyzer :=
  scenes.foldl (Analyzer.addRaw ar) {}

/-- the ego-frame view of a raw pair / frame: what the older part of the model starts from -/
def RawPair.toPair (e : FrameChange.Pose) (p : RawPair) : Pair := ⟨p.est.toRow e, p.gt.map (·.toRow e)⟩

def RawFrame.toFrame (f : RawFrame) : Frame :=
  { frameNum := f.frameNum, tp := f.tp.map (·.toPair f.ego), fp := f.fp.map (·.toPair f.ego),
    tn := f.tn.map (·.toRow f.ego), fn := f.fn.map (·.toRow f.ego), critical := f.critical.map (·.toRow f.ego) }

/-- the two renderings of one physical object whose ego-frame description is `o` (`o.frame = baseLink`):
as it is, or moved into the map frame by the ego pose (position by the rigid motion incl. heights, yaw as the
principal value of the sum; what a dataset in the map frame holds) -/
def RawObj.renderMap (e : FrameChange.Pose) (o : RawObj) : RawObj :=
  { o with frame := .map, pos := e.motion.apply3 o.pos, yaw := Heading.wrapYaw (o.yaw + e.tau) }

def RawPair.renderMap (e : FrameChange.Pose) (p : RawPair) : RawPair := ⟨p.est.renderMap e, p.gt.map (·.renderMap e)⟩

def RawFrame.renderMap (f : RawFrame) : RawFrame :=
  { f with tp := f.tp.map (·.renderMap f.ego), fp := f.fp.map (·.renderMap f.ego), tn := f.tn.map (·.renderMap f.ego),
           fn := f.fn.map (·.renderMap f.ego), critical := f.critical.map (·.renderMap f.ego) }

/-- DEFECTIVE variant (kept for the witness `toRow_noTransform_fails`): the object's own coordinates are tabulated,
whatever its frame -/
def RawObj.toRowNoTransform (o : RawObj) : Obj :=
  { uuid := o.uuid, label := o.label, x := o.pos.x, y := o.pos.y, yaw := o.yaw,
    width := o.width, length := o.length, vx := o.vx, vy := o.vy }

/-! ## `get_confusion_matrix`, variants for the witness examples of N3

`getConfusionMatrixOld` above is the pre-fix code: `target_labels.index(label)` raised `ValueError` for a label outside
`target_labels + ["unknown"]`.  `getConfusionMatrixSkip` is a DEFECTIVE variant that silently drops such rows (the
matrix then sums to fewer than the paired rows); `getConfusionMatrixExt` spells the repair as "the old function on the
extended label list" (`getConfusionMatrixExt_eq`: it is the repaired `getConfusionMatrix`). -/

def labelIndicesSkip (tl : List String) (pairs : List (String × String)) : List (Nat × Nat) :=
  pairs.filterMap fun (g, e) =>
    match tl.idxOf? g, tl.idxOf? e with
    | some i, some j => some (i, j)
    | _, _ => none

def getConfusionMatrixSkip (labels : List String) (t : Table) : Option (List (List Nat)) :=
  let pairs := getPairResults t
  let tl := confusionLabels labels
  let n := tl.length
  let indices := (labelIndicesSkip tl (pairs.map fun p => (p.1.obj.label, p.2.obj.label))).map fun (g, e) => n * g + e
  if indices.isEmpty then none else some (bincountMatrix n indices)

def getConfusionMatrixExt (labels : List String) (t : Table) : Except Err (Option (List (List Nat))) :=
  getConfusionMatrixOld (confusionIndex labels t) t

/-! ## `summarize_error`, DEFECTIVE variant for the witness example: per-label rows chosen by the ESTIMATE's label -/

def summarizeErrorByEst (labels : List String) (full sel : Table) :
    List (String × List (Col × Option Summary)) :=
  ("ALL", summarizeCols sel) :: labels.map fun L =>
    let idx := (sel.filter fun r =>
      r.est.any fun c => [Status.TP, .FP, .TN].contains c.status && c.obj.label == L).map (·.index)
    (L, if idx.isEmpty then summarizeCols [] else summarizeCols (full.filter fun r => idx.contains r.index))

/-! ## `GroundTruthStatus.get_status_rates`, `StatusRate.rate`, `get_scene_rates` (`common/status.py`) -/

/-- `StatusRate.rate`: `num_status / num_total if num_status != 0 and num_total != 0 else float("inf")`
(`none` = `inf`: also for a status that never occurred) -/
def statusRate (numStatus numTotal : Nat) : Option Rat :=
  if numStatus ≠ 0 ∧ numTotal ≠ 0 then some ((numStatus : Rat) / (numTotal : Rat)) else none

/-- `get_status_rates()`: (TP, FP, TN, FN) order -/
def GtStatus.statusRates (s : GtStatus) : List (Status × Option Rat) :=
  [(.TP, statusRate s.tp.length s.total.length), (.FP, statusRate s.fp.length s.total.length),
   (.TN, statusRate s.tn.length s.total.length), (.FN, statusRate s.fn.length s.total.length)]

structure SceneCounts where
  total : Nat := 0
  tp : Nat := 0
  fp : Nat := 0
  tn : Nat := 0
  fn : Nat := 0
  deriving DecidableEq, Repr

/-- the accumulation loop of `get_scene_rates` -/
def sceneCounts (l : List GtStatus) : SceneCounts :=
  l.foldl (fun c s => { total := c.total + s.total.length, tp := c.tp + s.tp.length, fp := c.fp + s.fp.length,
                        tn := c.tn + s.tn.length, fn := c.fn + s.fn.length }) {}

/-- `get_scene_rates(status_list)`: `none` = the four `inf` of an empty tally -/
def sceneRates (l : List GtStatus) : Option (Rat × Rat × Rat × Rat) :=
  let c := sceneCounts l
  if c.total = 0 then none
  else some ((c.tp : Rat) / c.total, (c.fp : Rat) / c.total, (c.tn : Rat) / c.total, (c.fn : Rat) / c.total)

end PEval.Analyzer
