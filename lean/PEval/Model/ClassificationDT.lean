import PEval.Model.DTree
import PEval.Model.Classification
/-!
# Decision skeletons of the id-based pairing kernels over abstract atoms (C11, decision-table translator)

`harness/dt_c11.py` runs the REAL `get_object_results` on ROI-less stub `DynamicObject2D`s (at most two estimates and two
ground truths) and emits the decision trees (`PEval/Gen/ClassificationDT.lean`); key1 = 0 generic labels
(`_get_object_results_with_id`), 1 / 2 traffic-light labels with `uuid_matching_first` False / True
(`_get_object_results_for_tlr`); key2 = 3·estimates + ground truths.  Boolean atoms (`i` estimate, `j` ground truth):
`uuid(i,j) = 2i+j`, `frame(i,j) = 4+2i+j`, `lab(i,j) = 8+2i+j`, `tl(i) = 12+i` (`frame_id == CAM_TRAFFIC_LIGHT`).
A result is the list of results in order as `Σ_k digit_k·10^k`, `digit = 1 + 3i + (0 unpaired | j+1)`; `raise 6` = ValueError.

`skel f n m` is the hand-written skeleton (loops over index lists, working copies, `in` guards / `remove` errors as in
the model `PEval.Classification`); `modelOnIndex f n m v` runs the MODEL's own loop functions (`outer`, `stepU`, `stepG`,
`take`) on index objects with the equality tests read from the valuation.  No Mathlib.
-/
namespace PEval.ClassificationDT
open PEval PEval.DT PEval.Classification

def aUuid (i j : Nat) : Nat := 2 * i + j
def aFrame (i j : Nat) : Nat := 4 + 2 * i + j
def aLab (i j : Nat) : Nat := 8 + 2 * i + j
def aTl (i : Nat) : Nat := 12 + i

def digitOf (i : Nat) (j : Option Nat) : Nat :=
  1 + 3 * i + (match j with | none => 0 | some j => j + 1)

def codeOf : List Nat → Nat
  | [] => 0
  | d :: ds => d + 10 * codeOf ds

/-- loop state over indices: result digits, working copies `estimated_objects_`, `ground_truth_objects_` -/
structure S where
  res : List Nat
  es : List Nat
  gs : List Nat

def S.take (s : S) (i j : Nat) : S := ⟨s.res ++ [digitOf i (some j)], s.es.erase i, s.gs.erase j⟩

/-- a short-circuit conjunction of atoms -/
def conj : List Nat → DTree → DTree → DTree
  | [], yes, _ => yes
  | a :: as, yes, no => askB a fun b => if b then conj as yes no else no

/-! ## `_get_object_results_with_id` -/

def gInner (i : Nat) : List Nat → S → (S → DTree) → DTree
  | [], s, k => k s
  | j :: js, s, k =>
    conj [aUuid i j, aFrame i j]
      (if s.es.contains i && s.gs.contains j then gInner i js (s.take i j) k else .leaf (.raise 6))
      (gInner i js s k)

def gOuter (gs0 : List Nat) : List Nat → S → (S → DTree) → DTree
  | [], s, k => k s
  | i :: is, s, k => gInner i gs0 s fun s' => gOuter gs0 is s' k

def anyTl : List Nat → Bool → (Bool → DTree) → DTree
  | [], acc, k => k acc
  | i :: is, acc, k => askB (aTl i) fun b => anyTl is (acc || b) k

/-- the remaining estimates are all FP, unless one of them lives in `CAM_TRAFFIC_LIGHT` -/
def gTail (s : S) : DTree :=
  if s.es.isEmpty then .leaf (.other (codeOf s.res))
  else anyTl s.es false fun b =>
    .leaf (.other (codeOf (if b then s.res else s.res ++ s.es.map (digitOf · none))))

def withIdSkel (n m : Nat) : DTree :=
  gOuter (List.range m) (List.range n) ⟨[], List.range n, List.range m⟩ gTail

/-! ## `_get_object_results_for_tlr` -/

def tAtoms (stage1 uf : Bool) (i j : Nat) : List Nat :=
  (if stage1 then [aLab i j] ++ (if uf then [aUuid i j] else []) else [aUuid i j]) ++ [aFrame i j]

def tLoop (stage1 uf : Bool) : List (Nat × Nat) → S → (S → DTree) → DTree
  | [], s, k => k s
  | (i, j) :: ps, s, k =>
    conj (tAtoms stage1 uf i j)
      (if s.es.contains i && s.gs.contains j then tLoop stage1 uf ps (s.take i j) k else tLoop stage1 uf ps s k)
      (tLoop stage1 uf ps s k)

def pairsOf (es gs : List Nat) : List (Nat × Nat) := es.flatMap fun i => gs.map fun j => (i, j)

def tlrSkel (uf : Bool) (n m : Nat) : DTree :=
  tLoop true uf (pairsOf (List.range n) (List.range m)) ⟨[], List.range n, List.range m⟩ fun s1 =>
  tLoop false uf (pairsOf s1.es s1.gs) s1 fun s2 => .leaf (.other (codeOf s2.res))

/-- `get_object_results` on ROI-less 2-D objects (not FP validation): `f` = 0 generic, 1 / 2 traffic lights -/
def skel (f n m : Nat) : DTree :=
  if n = 0 then .leaf (.other 0)
  else if m = 0 then .leaf (.other (codeOf ((List.range n).map (digitOf · none))))
  else if f = 0 then withIdSkel n m
  else tlrSkel (f == 2) n m

def skelAtoms (f n m : Nat) (v : Val) : DT.Res := eval (skel f n m) v

/-! ## what the per-run obligation leaves open (the property speaks of the pairs as a SET)

`canonRes` forgets the ORDER of the result list (digits sorted; a digit names its estimate and its partner, so the sorted
list is the set of pairs) and — on the traffic-light path with ground truths present, where the text does not say whether
unpaired estimates are reported — the unpaired (FP) results. `harness/dt_c11.py` applies the same canonicalisation to
the result of the real function before it emits a leaf. `pairForb` lists the valuations no input inside the property's
quantifier ("unique non-null uuids per side and camera") induces: one object agreeing in uuid AND camera with both
objects of the other side. -/

/-- the digits of a result code (at most `fuel` of them); inverse of `codeOf` on lists of non-zero digits.  `canonRes` calls
it with fuel 6: a tabulated shape has at most two results, the longest code is `999999` (`dt_c11.BAD`, a result the
translator cannot classify), which `canonRes` leaves as it is -/
def digitsOf : Nat → Nat → List Nat
  | 0, _ => []
  | fuel + 1, k => if k = 0 then [] else (k % 10) :: digitsOf fuel (k / 10)

def insertD (d : Nat) : List Nat → List Nat
  | [] => [d]
  | x :: xs => if d ≤ x then d :: x :: xs else x :: insertD d xs

def sortD : List Nat → List Nat
  | [] => []
  | d :: ds => insertD d (sortD ds)

/-- `digitOf i none = 1 + 3 i` -/
def isFPDigit (d : Nat) : Bool := d % 3 == 1

def canonDigits (dropFP : Bool) (ds : List Nat) : List Nat :=
  sortD (if dropFP then ds.filter (fun d => !isFPDigit d) else ds)

def canonRes (dropFP : Bool) : DT.Res → DT.Res
  | .other k => .other (codeOf (canonDigits dropFP (digitsOf 6 k)))
  | r => r

/-- unpaired results are left open only where `_get_object_results_for_tlr` runs: traffic lights, both lists non-empty -/
def dropFPOf (f n m : Nat) : Bool := f != 0 && n != 0 && m != 0

def mapLeaf (g : DT.Res → DT.Res) : DTree → DTree
  | .leaf r => .leaf (g r)
  | .bnode a n y => .bnode a (mapLeaf g n) (mapLeaf g y)
  | .cnode a l e gt => .cnode a (mapLeaf g l) (mapLeaf g e) (mapLeaf g gt)

theorem eval_mapLeaf (g : DT.Res → DT.Res) (v : Val) : ∀ t : DTree, eval (mapLeaf g t) v = g (eval t v) := by
  intro t
  induction t with
  | leaf r => rfl
  | bnode a n y ihn ihy => rw [mapLeaf, eval, eval]; cases v.b a <;> assumption
  | cnode a l e gt ihl ihe ihg => rw [mapLeaf, eval, eval]; cases v.c a <;> assumption

/-- the skeleton with canonical leaves: what the code's table is compared with -/
def skelC (f n m : Nat) : DTree := mapLeaf (canonRes (dropFPOf f n m)) (skel f n m)

theorem eval_skelC (f n m : Nat) (v : Val) : eval (skelC f n m) v = canonRes (dropFPOf f n m) (skelAtoms f n m v) :=
  eval_mapLeaf _ v _

/-- valuations outside the quantifier: estimate `i` shares uuid and camera with both ground truths, or ground truth `j`
with both estimates (then two objects of one side share uuid and camera) -/
def pairForb : List (List Lit) :=
  [[.b (aUuid 0 0) true, .b (aFrame 0 0) true, .b (aUuid 0 1) true, .b (aFrame 0 1) true],
   [.b (aUuid 1 0) true, .b (aFrame 1 0) true, .b (aUuid 1 1) true, .b (aFrame 1 1) true],
   [.b (aUuid 0 0) true, .b (aFrame 0 0) true, .b (aUuid 1 0) true, .b (aFrame 1 0) true],
   [.b (aUuid 0 1) true, .b (aFrame 0 1) true, .b (aUuid 1 1) true, .b (aFrame 1 1) true]]

/-- the canonical form keeps the set of pairs: reordered results have the same canonical code, different sets differ -/
example : canonRes false (.other 26) = .other 62 ∧ canonRes false (.other 62) = .other 62 ∧
    canonRes false (.other 35) = .other 53 ∧ canonRes false (.other 53) ≠ canonRes false (.other 62) ∧
    canonRes true (.other 214) = .other 2 ∧ canonRes false (.other 214) = .other 421 ∧
    canonRes true (.raise 6) = .raise 6 ∧ canonRes true (.other 999999) = .other 999999 := by decide

/-! ## the model's own functions on index objects, tests read from the valuation -/

/-- estimate `i` has id `i`, ground truth `j` has id `10 + j`; uuids are non-null.  The offset keeps the index objects of the
two sides apart for the tabulated sizes and nothing rests on it: the loops never mix the two lists, so `skel_eq_model`
holds for all `n`, `m` although `idxE 10 = idxG 0` -/
def idxE (i : Nat) : Obj := ⟨i, some "", ⟨false, ""⟩, ""⟩
def idxG (j : Nat) : Obj := ⟨10 + j, some "", ⟨false, ""⟩, ""⟩

def sameKeyV (v : Val) (e g : Obj) : Bool := v.b (aUuid e.id (g.id - 10)) && v.b (aFrame e.id (g.id - 10))
def cond1V (uf : Bool) (v : Val) (e g : Obj) : Bool :=
  v.b (aLab e.id (g.id - 10)) && (!uf || v.b (aUuid e.id (g.id - 10))) && v.b (aFrame e.id (g.id - 10))
def tlV (v : Val) (e : Obj) : Bool := v.b (aTl e.id)

/-- `pairById` with its two tests as parameters -/
def pairByIdG (c : Obj → Obj → Bool) (tl : Obj → Bool) (ests gts : List Obj) : Except Err (List Classification.Res) :=
  match outer (stepU c) gts ests (initSt ests gts) with
  | .error x => .error x
  | .ok s => .ok (paired s.res ++ fpResults (if !s.es.isEmpty && !(s.es.any tl) then s.es else []))

/-- `pairTlr` with its two conditions as parameters -/
def pairTlrG (c1 c2 : Obj → Obj → Bool) (ests gts : List Obj) : Except Err (List Classification.Res) :=
  match outer (stepG c1) gts ests (initSt ests gts) with
  | .error x => .error x
  | .ok s1 =>
    match outer (stepG c2) s1.gs s1.es s1 with
    | .error x => .error x
    | .ok s2 => .ok (paired s2.res)

/-- the model IS the parametrised form at its own tests -/
theorem pairById_eq (ests gts : List Obj) :
    pairById ests gts = pairByIdG sameKey (fun e => e.frame == camTrafficLight) ests gts := rfl

theorem pairTlr_eq (uf : Bool) (ests gts : List Obj) :
    pairTlr uf ests gts = pairTlrG (cond1 uf) sameKey ests gts := rfl

def encodeR : Except Err (List Classification.Res) → DT.Res
  | .error e => if e = "ValueError" then .raise 6 else if e = "RuntimeError" then .raise 7 else .raise 0
  | .ok rs => .other (codeOf (rs.map fun r => digitOf r.est.id (r.gt.map (·.id - 10))))

/-- `objectResults false …` (dispatch of `get_object_results`) on index objects under a valuation -/
def modelOnIndex (f n m : Nat) (v : Val) : DT.Res :=
  let ests := (List.range n).map idxE
  let gts := (List.range m).map idxG
  encodeR (match ests, gts with
    | [], _ => .ok []
    | _ :: _, [] => .ok (fpResults ests)
    | _ :: _, _ :: _ =>
      if f = 0 then pairByIdG (sameKeyV v) (tlV v) ests gts
      else pairTlrG (cond1V (f == 2) v) (sameKeyV v) ests gts)

/-! ## finite valuation spaces -/

/-- the atoms a shape can ask -/
def shapeAtoms (f n m : Nat) : List Nat :=
  ((List.range n).flatMap fun i => (List.range m).flatMap fun j =>
      [aUuid i j, aFrame i j] ++ (if f = 0 then [] else [aLab i j])) ++
    (if f = 0 then (List.range n).map aTl else [])

def valOf (atoms : List Nat) (bs : List Bool) : Val := ⟨fun a => ((atoms.zip bs).lookup a).getD false, fun _ => .eq⟩

def allBits : Nat → List (List Bool)
  | 0 => [[]]
  | k + 1 => (allBits k).flatMap fun bs => [false :: bs, true :: bs]

/-- skeleton = model's algorithm on index objects, for EVERY valuation of the shape's atoms -/
def skelOk (f n m : Nat) : Bool :=
  (allBits (shapeAtoms f n m).length).all fun bs =>
    eval (skel f n m) (valOf (shapeAtoms f n m) bs) == modelOnIndex f n m (valOf (shapeAtoms f n m) bs)

def shapes : List (Nat × Nat) := [(0, 1), (1, 0), (2, 0), (1, 1), (1, 2), (2, 1), (2, 2)]

end PEval.ClassificationDT
