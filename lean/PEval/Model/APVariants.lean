import PEval.Model.AP
/-!
Appendix to the AP model (properties C04 / C08): the constructor `Ap.__init__` with its ranking step as a
parameter, the Boolean "this result is counted correct", and DEFECTIVE variants of single steps.  The defective
variants exist only to be refuted: each theorem of `Properties/C04Perfect.lean` / `Properties/C08.lean` that
names one of them shows that the property's statement FAILS for it on a concrete instance, i.e. that the
statement is not true "by the type of the model".

* `apOfWith sorter` : `Ap.__init__` with `all_object_results.sort(...)` replaced by `sorter`;
  `apOf = apOfWith (sortDesc Res.conf)` by `rfl` (`apOf_eq_apOfWith`).
* `sortAsc`         : `list.sort(key=confidence)` with `reverse=True` forgotten (stable ASCENDING sort).
* `scanC08G`, `calculateApC08G`, `apOfKindsC08G` : stored change C08_G (`break` in the interpolation scan at the first
  rank whose precision is below the running maximum).
* `isResultCorrectC08J` : stored change C08_J (the inverted FP-validation branch of `is_result_correct`
  taken for every ground truth under `ALLOW_ANY`).
* `apOfKindsC04G`   : stored change C04_G (AP undefined as soon as `num_ground_truth = 0`).
-/

namespace PEval.AP

/-! ## the ranking step as a parameter -/

/-- `Ap.__init__` with the sort replaced by `sorter` -/
def apOfWith (sorter : List Res → List Res) (tm : TpMetric) (m : Mode) (targets : List Label)
    (thrs : List Rat) (G : Nat) (results : List Res) : Except Err ApOut :=
  match classifyAll tm m targets thrs (sorter results) with
  | .error e => .error e
  | .ok ks =>
    if results.any (fun r => r.score == Score.noMethod) then .error "AttributeError"
    else .ok (apOfKinds G ks)

theorem apOf_eq_apOfWith (tm : TpMetric) (m : Mode) (T : List Label) (th : List Rat) (G : Nat)
    (rs : List Res) : apOf tm m T th G rs = apOfWith (sortDesc Res.conf) tm m T th G rs := rfl

/-- `all_object_results.sort(key=confidence)` — `reverse=True` forgotten: Python's stable ascending sort -/
def sortAsc (rs : List Res) : List Res := sortDesc (fun r => - r.conf) rs

/-! ## "the result is counted correct" (the TP test of `_calculate_tp_fp`) -/

/-- the label of the result (ground truth's, else estimate's) is a target with threshold `t`, and
`is_result_correct(mode, t)` is `True`; `false` when either step raises -/
def isCorrectAt (m : Mode) (targets : List Label) (thrs : List Rat) (r : Res) : Bool :=
  match getLabelThreshold (keyLabel r) targets (some thrs) with
  | .ok (some t) =>
    (match isResultCorrect m (some t) r with
     | .ok b => b
     | .error _ => false)
  | _ => false

/-! ## stored change C08_G: `break` in `interpolate_precision_recall_list` -/

/-- the backward scan that stops at the first point whose precision is below the running maximum -/
def scanC08G : List Pt → List Pt → List Pt
  | [], st => st
  | (p, r) :: rest, [] => scanC08G rest [(p, r)]
  | (p, r) :: rest, (m, rm) :: st =>
    if p < m then (m, rm) :: st
    else if p > m then scanC08G rest ((p, r) :: (m, rm) :: st) else scanC08G rest ((m, rm) :: st)

def calculateApC08G (ps rs : List Rat) : Rat :=
  match (ps.zip rs).reverse with
  | [] => 0
  | pt :: rest => stackArea (scanC08G rest [pt])

def apOfKindsC08G (G : Nat) (ks : List Kind) : ApOut :=
  let tf := tpFpLists G ks
  { ap := if ks.isEmpty then none
          else some (calculateApC08G (precFrom 0 tf.1) (recalls G tf.1)),
    tpList := tf.1, fpList := tf.2 }

/-! ## stored change C08_J: the inverted branch taken under `ALLOW_ANY` -/

/-- `is_result_correct` deciding "this pair must NOT match" with `policy.is_label_free(gt)`
(`gt.is_fp() or policy == ALLOW_ANY`) instead of `gt.is_fp()` -/
def isResultCorrectC08J (m : Mode) (thr : Option Rat) (r : Res) : Except Err Bool :=
  match r.gt with
  | none => .ok false
  | some g =>
    match thr with
    | none => .ok (isLabelCorrect r)
    | some t =>
      match r.score with
      | .noMethod => .ok (isLabelCorrect r)
      | .val v =>
        match isBetterThan m v t with
        | .error e => .error e
        | .ok b =>
          .ok (if g.label == fpLabel || r.policy == .allowAny then !b else b && isLabelCorrect r)

/-! ## stored change C04_G: AP undefined when there is no ground truth -/

def apOfKindsC04G (G : Nat) (ks : List Kind) : ApOut :=
  let tf := tpFpLists G ks
  { ap := if ks.isEmpty || G == 0 then none
          else some (calculateAp (precFrom 0 tf.1) (recalls G tf.1)),
    tpList := tf.1, fpList := tf.2 }

/-! ## the interpolated area in the property's wording: "maximum precision at any HIGHER RECALL"

`apSpec` (`Model/AP.lean`) takes the maximum over the later INDICES; the property text over the points of recall at
least the current one.  `apSpecRecall` is the literal recall-based sum; `C04.apSpec_eq_apSpecRecall` shows that the two
agree whenever the recalls are non-decreasing along the ranking (TP weights `≥ 0`) and the precisions non-negative. -/

/-- the maximum precision among the points of `all` whose recall is at least `ρ` (0 when there is none) -/
def maxPrecAtRecall (all : List Pt) (ρ : Rat) : Rat :=
  ((all.filter (fun pt => decide (ρ ≤ pt.2))).map Prod.fst).foldr max 0

/-- `Σ_i (r_i − r_{i−1}) · max { p_j | r_j ≥ r_i }` over the points `cur`, the maxima taken over ALL points `all` -/
def apRecallFrom (all : List Pt) (prev : Rat) : List Pt → Rat
  | [] => 0
  | (_, r) :: rest => (r - prev) * maxPrecAtRecall all r + apRecallFrom all r rest

def apSpecRecall (ps rs : List Rat) : Rat := apRecallFrom (ps.zip rs) 0 (ps.zip rs)

end PEval.AP
