import PEval.Model.Basic
/-!
# Model of `perception_eval/common/threshold.py`  (property C15)

`PyVal` is the fragment of Python values a threshold specification is built from: numbers (`int`
/ `float` and every other `numbers.Real` such as `Fraction` or a numpy scalar, carried as `Rat`),
`bool` (a `numbers.Real` in Python: `isinstance(True, Real)`), `str` (whatever its content: `"0.5"`
is a `str`, not a number), `None`, `list`, and `other` for every remaining kind of object (`bytes`,
`Decimal`, `complex`, arrays …), of which the code can only find out that it is neither.  `setThresholds` follows `set_thresholds` and its four helpers branch by branch;
errors are the class name of the Python exception (`"ThresholdError"`, `"TypeError"`).
-/
namespace PEval.Threshold
open PEval

inductive PyVal where
  | num (q : Rat)
  | bool (b : Bool)
  | str (s : String)
  | none
  | list (xs : List PyVal)
  /-- any other Python object that is neither a `numbers.Real`, a `list`, a `str` nor `None` and
  has no `len()` / iteration: `decimal.Decimal`, `complex`, `numpy.bool_`, 0-dimensional arrays.
  In *entry* positions (an item of a list, or a row) the code only ever asks `isinstance(t, Real)`
  and `isinstance(t, list)` of a value, so there the constructor also stands for `bytes`,
  `bytearray`, `tuple`, `dict` and `numpy` arrays of any dimension (the tag names the kind). -/
  | other (tag : String)
  deriving Repr, Inhabited

mutual
/-- decidable equality (the deriving handler does not cover nested inductives) -/
def PyVal.decEq : (a b : PyVal) → Decidable (a = b)
  | .num p, .num q => if h : p = q then isTrue (by rw [h]) else isFalse (by intro h'; cases h'; exact h rfl)
  | .bool p, .bool q => if h : p = q then isTrue (by rw [h]) else isFalse (by intro h'; cases h'; exact h rfl)
  | .str p, .str q => if h : p = q then isTrue (by rw [h]) else isFalse (by intro h'; cases h'; exact h rfl)
  | .none, .none => isTrue rfl
  | .other p, .other q => if h : p = q then isTrue (by rw [h]) else isFalse (by intro h'; cases h'; exact h rfl)
  | .list xs, .list ys =>
    match PyVal.decEqList xs ys with
    | isTrue h => isTrue (by rw [h])
    | isFalse h => isFalse (by intro h'; cases h'; exact h rfl)
  | .num _, .bool _ | .num _, .str _ | .num _, .none | .num _, .list _ | .num _, .other _
  | .bool _, .num _ | .bool _, .str _ | .bool _, .none | .bool _, .list _ | .bool _, .other _
  | .str _, .num _ | .str _, .bool _ | .str _, .none | .str _, .list _ | .str _, .other _
  | .none, .num _ | .none, .bool _ | .none, .str _ | .none, .list _ | .none, .other _
  | .list _, .num _ | .list _, .bool _ | .list _, .str _ | .list _, .none | .list _, .other _
  | .other _, .num _ | .other _, .bool _ | .other _, .str _ | .other _, .none | .other _, .list _ =>
    isFalse (by intro h; cases h)
def PyVal.decEqList : (a b : List PyVal) → Decidable (a = b)
  | [], [] => isTrue rfl
  | [], _ :: _ => isFalse (by intro h; cases h)
  | _ :: _, [] => isFalse (by intro h; cases h)
  | x :: xs, y :: ys =>
    match PyVal.decEq x y, PyVal.decEqList xs ys with
    | isTrue h1, isTrue h2 => isTrue (by rw [h1, h2])
    | isFalse h1, _ => isFalse (by intro h; cases h; exact h1 rfl)
    | _, isFalse h2 => isFalse (by intro h; cases h; exact h2 rfl)
end
instance : DecidableEq PyVal := PyVal.decEq

/-- `isinstance(t, numbers.Real)` -/
def isReal : PyVal → Bool
  | .num _ => true
  | .bool _ => true
  | _ => false

/-- `isinstance(t, list)` -/
def isList : PyVal → Bool
  | .list _ => true
  | _ => false

/-- `isinstance(t, str)` -/
def isStr : PyVal → Bool
  | .str _ => true
  | _ => false

/-- Python truthiness (`if x:`) -/
def truthy : PyVal → Bool
  | .num q => q != 0
  | .bool b => b
  | .str s => s.length != 0
  | .none => false
  | .list xs => !xs.isEmpty
  | .other _ => true   -- a falsy opaque object (`Decimal(0)`) is outside the model; the harness places opaque values at the top level only where truthiness is not asked

/-- `len(t)` of a value already known to be a list (0 otherwise; never consulted otherwise) -/
def lenOf : PyVal → Nat
  | .list ys => ys.length
  | _ => 0

/-- the items of a value already known to be a list -/
def itemsOf : PyVal → List PyVal
  | .list ys => ys
  | _ => []

/-- `xs * n` on Python lists -/
def pyMul (xs : List PyVal) (n : Nat) : List PyVal := (List.replicate n xs).flatten

/-- `t * n` of a value already known to be a list -/
def mulVal (t : PyVal) (n : Nat) : PyVal := .list (pyMul (itemsOf t) n)

def thresholdError {α} : Except Err α := .error "ThresholdError"
def typeError {α} : Except Err α := .error "TypeError"

/-- `__get_thresholds(threshold, num_elements)` -/
def getThresholds (v : PyVal) (n : Nat) : Except Err PyVal :=
  match v with
  | .num _ | .bool _ => .ok (.list (List.replicate n v))     -- isinstance(threshold, Real)
  | .none | .other _ => typeError                            -- len(None), len(Decimal(..))
  | .str _ => thresholdError    -- "" is "empty"; the characters of a non-empty str are not Real
  | .list xs =>
    if xs.length == 0 then thresholdError                     -- Empty list is invalid
    else if xs.any (fun t => !isReal t) then thresholdError   -- all elements must be Real
    else if xs.length != 1 && n != xs.length then thresholdError
    else .ok (.list (if xs.length == 1 then pyMul xs n else xs))

/-- `check_thresholds(thresholds, num_elements)` on an arbitrary value (it is also called directly
by the frame configs): iterating a number / `None` is a `TypeError`; the items of a `str` are `str`s. -/
def checkThresholds (v : PyVal) (n : Nat) : Except Err PyVal :=
  match v with
  | .list xs =>
    if xs.any (fun t => !isReal t) then thresholdError
    else if xs.length != n then thresholdError
    else .ok v
  | .str s =>
    if s.length != 0 then thresholdError        -- a character is not Real
    else if n != 0 then thresholdError          -- len("") != n
    else .ok v
  | _ => typeError

/-- `__get_nested_thresholds(threshold, num_elements)` -/
def getNestedThresholds (v : PyVal) (n : Nat) : Except Err PyVal :=
  match v with
  | .num _ | .bool _ => .ok (.list [.list (List.replicate n v)])
  | .none | .other _ => typeError                            -- len(None), len(Decimal(..))
  | .str _ => thresholdError   -- "" is "empty"; threshold[0] of a str is a str: not Real, not a list
  | .list [] => thresholdError
  | .list (x :: xs) =>
    if isReal x then
      if (x :: xs).any (fun t => !isReal t) then thresholdError
      else if (x :: xs).length != n then
        .ok (.list ((x :: xs).map fun t => .list (List.replicate n t)))
      else .ok (.list [.list (x :: xs)])
    else
      if (x :: xs).any (fun t => !isList t) then thresholdError
      else if (x :: xs).any (fun t => lenOf t != n && lenOf t != 1) then thresholdError
      else .ok (.list ((x :: xs).map fun t => if lenOf t == 1 then mulVal t n else t))

/-- `check_nested_thresholds(thresholds, num_elements)` on an arbitrary value: iterating a number /
`None` / an object without `__iter__` is a `TypeError`; the items of a `str` are `str`s. -/
def checkNestedThresholds (v : PyVal) (n : Nat) : Except Err PyVal :=
  match v with
  | .list rows =>
    if rows.any (fun t => !isList t) then thresholdError
    else if rows.any (fun t => lenOf t == 0 || lenOf t != n) then thresholdError
    else if rows.any (fun t => (itemsOf t).any (fun x => !isReal x)) then thresholdError
    else .ok v
  | .str s =>
    if s.length != 0 then thresholdError        -- a character is not a list
    else .ok v                                  -- nothing to iterate over
  | _ => typeError

/-- `set_thresholds(thresholds, target_objects_num, nest)` -/
def setThresholds (v : PyVal) (n : Nat) (nest : Bool) : Except Err PyVal :=
  if nest then
    match getNestedThresholds v n with
    | .ok out => checkNestedThresholds out n
    | .error e => .error e
  else
    match getThresholds v n with
    | .ok out => checkThresholds out n
    | .error e => .error e

end PEval.Threshold
