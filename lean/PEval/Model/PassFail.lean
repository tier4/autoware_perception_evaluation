import PEval.Model.Basic
/-!
# Model of the per-frame pass/fail accounting (property C03)

Anchors (all under `perception_eval/perception_eval/evaluation`):

* `result/object_result.py`        `DynamicObjectWithPerceptionResult.get_status / is_result_correct`
* `matching/objects_filter.py`     `get_positive_objects`, `get_negative_objects`,
                                   `filter_object_results`, `filter_objects` (as used by the critical filter)
* `result/perception_pass_fail_result.py`  `PassFailResult.evaluate / get_num_success / get_num_fail`
* `result/perception_frame_result.py`      `PerceptionFrameResult.evaluate_frame`

Conventions (DESIGN section 4): objects are harness-assigned `Nat` ids.  What the accounting code reads
of an object is carried as data next to the id:

* the *critical predicate* `_is_target_object(obj, **critical_object_filter_config.filtering_params)`
  is an abstract Boolean per object (`crit`), computed by the harness from the geometry
  (property C10 models the predicate itself) - every theorem therefore holds for ANY critical region;
* `DynamicObject.__eq__` (unix time, label, position, orientation) is the equivalence
  "same `eqKey`"; Python's `x in list` is "identical or `__eq__`" = same id or same `eqKey`;
* `is_label_correct` (`matching_label_policy.is_matchable(est, gt)`) is the Boolean `labelOk`;
* `get_label_threshold(gt.semantic_label, target_labels, matching_threshold_list)` is `thr`;
* `plane_distance.value` (3-D evaluation: `PassFailResult.evaluate` always selects PLANEDISTANCE)
  is `score`; `is_better_than t` is `value < t`, `False` when the value is `None`.

Not modelled: the 2-D branch (`get_matching` returning `None` for ROI-less objects).  The `target_uuids` /
`ignore_attributes` options of the critical filter enter this file only through `crit` / `estCrit`.

Added later: `PEval/Model/CriticalFrame.lean` COMPUTES the two Booleans `crit` / `estCrit` from the object's
position, frame id, the frame's transforms and the critical `filtering_params` (C10's `isTarget` at both filter
call sites of `evaluate_frame`, `target_uuids` / `ignore_attributes` included) and refines into this model
(`C03.critical_refines`): every theorem stated here for an arbitrary `crit` holds of the computed one.
-/

namespace PEval.PassFail

/-- what the accounting reads of a ground-truth object -/
structure GT where
  id : Nat
  /-- `semantic_label.is_fp()` -/
  isFP : Bool
  /-- passes the critical-object filter (`_is_target_object(..., is_gt=True, ...)`) -/
  crit : Bool
  /-- class of `DynamicObject.__eq__` -/
  eqKey : Nat
deriving DecidableEq, Repr

/-- what the accounting reads of a `DynamicObjectWithPerceptionResult` -/
structure Res where
  /-- id of `estimated_object` -/
  est : Nat
  /-- the estimate passes the critical-object filter (`is_gt=False`) -/
  estCrit : Bool
  /-- `ground_truth_object` -/
  gt : Option GT
  /-- `is_label_correct` (only read when `gt` is present) -/
  labelOk : Bool
  /-- `get_label_threshold` for the ground truth's label (`None`: label not a pass/fail target, or no list) -/
  thr : Option Rat
  /-- `plane_distance.value` -/
  score : Option Rat
deriving DecidableEq

/-- `MatchingStatus` -/
inductive Status where
  | TP | FP | FN | TN
deriving DecidableEq, Repr

/-- `DynamicObjectWithPerceptionResult(estimated_object, None, policy)`: the re-wrap used for a
matched estimate whose FP-labelled ground truth is counted TN -/
def Res.unmatched (r : Res) : Res :=
  { est := r.est, estCrit := r.estCrit, gt := none, labelOk := false, thr := none, score := none }

/-- `PlaneDistanceMatching.is_better_than` -/
def isBetterThan (score : Option Rat) (t : Rat) : Bool :=
  match score with
  | none => false
  | some v => decide (v < t)

/-- `is_result_correct(matching_mode, matching_threshold)` -/
def isResultCorrect (r : Res) : Bool :=
  match r.gt with
  | none => false
  | some g =>
    match r.thr with
    | none => r.labelOk
    | some t =>
      let isMatching := isBetterThan r.score t
      if g.isFP then !isMatching else isMatching && r.labelOk

/-- `get_status`: (status of the estimate, status of the ground truth) -/
def getStatus (r : Res) : Status × Option Status :=
  match r.gt with
  | none => (.FP, none)
  | some g =>
    if isResultCorrect r then
      (if g.isFP then (.FP, some .TN) else (.TP, some .TP))
    else
      (if g.isFP then (.FP, some .FP) else (.FP, some .FN))

/-- `get_positive_objects`: the loop over `object_results`, appending to `tp_object_results` /
`fp_object_results` (order of appends = order of the input). The last `match` arm is the
fall-through of the Python `if / elif` (no append); `tp_fp_partition` shows it is never taken. -/
def getPositive : List Res → List Res × List Res
  | [] => ([], [])
  | r :: rs =>
    let rest := getPositive rs
    match r.gt with
    | none => (rest.1, r :: rest.2)
    | some _ =>
      match getStatus r with
      | (.FP, some .TN) => (rest.1, r.unmatched :: rest.2)
      | (.FP, _) => (rest.1, r :: rest.2)
      | (.TP, some .TP) => (r :: rest.1, rest.2)
      | _ => rest

/-- accumulators of the first loop of `get_negative_objects` -/
structure NegAcc where
  tn : List GT
  fn : List GT
  nonCand : List GT

/-- first loop of `get_negative_objects` (over the object results) -/
def negFromResults : List Res → NegAcc
  | [] => ⟨[], [], []⟩
  | r :: rs =>
    let rest := negFromResults rs
    match r.gt, (getStatus r).2 with
    | some g, some .TN => ⟨g :: rest.tn, rest.fn, g :: rest.nonCand⟩
    | some g, some .FN => ⟨rest.tn, g :: rest.fn, g :: rest.nonCand⟩
    | some g, some _ => ⟨rest.tn, rest.fn, g :: rest.nonCand⟩
    | _, _ => rest

/-- Python `a == b` / identity on ground-truth objects as seen by `in`: identical, or `__eq__` -/
def GT.same (a b : GT) : Bool := a.id == b.id || a.eqKey == b.eqKey

/-- `ground_truth_object in non_candidates` -/
def inNonCand (g : GT) (nc : List GT) : Bool := nc.any (fun n => g.same n)

/-- second loop of `get_negative_objects` (over the ground truths): contributions to (tn, fn) -/
def scanGts (nc : List GT) : List GT → List GT × List GT
  | [] => ([], [])
  | g :: gs =>
    let rest := scanGts nc gs
    if inNonCand g nc then rest
    else if g.isFP then (g :: rest.1, rest.2)
    else (rest.1, g :: rest.2)

/-- `get_negative_objects(ground_truth_objects, object_results, ...)` = (tn_objects, fn_objects) -/
def getNegative (gts : List GT) (rs : List Res) : List GT × List GT :=
  let acc := negFromResults rs
  let sc := scanGts acc.nonCand gts
  (acc.tn ++ sc.1, acc.fn ++ sc.2)

/-- `PassFailResult` after `evaluate`, together with the filtered inputs kept by the frame result -/
structure PassFail where
  tp : List Res
  fp : List Res
  tn : List GT
  fn : List GT
  /-- `frame_result.object_results` after `evaluate_frame` -/
  results : List Res
  /-- `frame_result.frame_ground_truth.objects` after `evaluate_frame` -/
  gts : List GT

/-- `PassFailResult.evaluate(object_results, ground_truth_objects)` -/
def evaluate (rs : List Res) (gts : List GT) : PassFail :=
  let p := getPositive rs
  let n := getNegative gts rs
  { tp := p.1, fp := p.2, tn := n.1, fn := n.2, results := rs, gts := gts }

/-- `get_num_success` -/
def numSuccess (p : PassFail) : Nat := p.tp.length + p.tn.length
/-- `get_num_fail` -/
def numFail (p : PassFail) : Nat := p.fp.length + p.fn.length

/-- `filter_object_results` with the critical parameters: the estimate must pass, and when a ground
truth is attached it must pass too (`if is_target and object_result.ground_truth_object: ...`) -/
def resSurvives (r : Res) : Bool :=
  r.estCrit && (match r.gt with
    | none => true
    | some g => g.crit)

def criticalResults (rs : List Res) : List Res := rs.filter resSurvives
/-- `filter_objects(frame_ground_truth.objects, is_gt=True, ...)` with the critical parameters -/
def criticalGts (gts : List GT) : List GT := gts.filter (·.crit)

/-- input of `evaluate_frame`: the matcher's object results and the (manager-filtered) ground truths -/
structure Frame where
  results : List Res
  gts : List GT

/-- `PerceptionFrameResult.evaluate_frame` as far as the pass/fail result is concerned -/
def evaluateFrame (f : Frame) : PassFail :=
  evaluate (criticalResults f.results) (criticalGts f.gts)

/-- a sequence of frames: `add_frame_result` evaluates every frame on its own -/
def evaluateHistory (fs : List Frame) : List PassFail := fs.map evaluateFrame

/-! ## derived views used by the property statements -/

/-- ground truths attached to a list of results, in order -/
def gtsOf (rs : List Res) : List GT := rs.filterMap (·.gt)

def Res.hasFPGt (r : Res) : Bool :=
  match r.gt with
  | some g => g.isFP
  | none => false

/-- the FP results that still carry their FP-labelled ground truth ("matched FP") -/
def matchedFP (fp : List Res) : List Res := fp.filter Res.hasFPGt

/-- a result is counted TP -/
def isTP (r : Res) : Bool := getStatus r == (.TP, some .TP)

/-- the FP-list entry produced for a non-TP result -/
def fpEntry (r : Res) : Res := if (getStatus r).2 == some .TN then r.unmatched else r

/-! ## well-formedness (decidable) -/

/-- ground truths form a *set*: pairwise different objects, pairwise different under `__eq__` -/
def GtsDistinct (gts : List GT) : Prop :=
  gts.Pairwise (fun a b => a.id ≠ b.id ∧ a.eqKey ≠ b.eqKey)

/-- hypothesis of the conservation theorems: the ground truths are a set, and the ground truths of
the object results are distinct members of it -/
def WF (rs : List Res) (gts : List GT) : Prop :=
  GtsDistinct gts ∧ (gtsOf rs).Nodup ∧ ∀ g ∈ gtsOf rs, g ∈ gts

/-- what the matcher guarantees (property C01: `results_gt_nodup`, membership) on a frame whose
ground truths are a set -/
def MatcherWF (f : Frame) : Prop := WF f.results f.gts

instance (gts : List GT) : Decidable (GtsDistinct gts) := by unfold GtsDistinct; infer_instance
instance (rs : List Res) (gts : List GT) : Decidable (WF rs gts) := by unfold WF; infer_instance
instance (f : Frame) : Decidable (MatcherWF f) := by unfold MatcherWF; infer_instance

end PEval.PassFail
