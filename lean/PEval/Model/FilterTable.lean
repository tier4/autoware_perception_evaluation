import PEval.Model.DTree
import PEval.Model.Filter
/-!
# The decision skeleton of `_is_target_object` over abstract atoms (C10, decision-table translator)

`isTargetTree` is the hand-written decision skeleton of the model `PEval.Filter.isTarget`, over the atoms that the
translator (`harness/dt_c10.py`) lets the REAL `_is_target_object` see when it runs it on symbolic inputs; the
numbering of the atoms is the one of the Python registry (`B_ATOMS`, `C_ATOMS`, `EXC_CODE` there). `valuationOf P o`
computes the atoms of a concrete model input; `isTarget_eq_tree` (in `Lemmas/FilterTable.lean`, with `DT.eval_mapT`, `DT.eval_bindT`) shows
`eval isTargetTree (valuationOf P o) = ofExcept (isTarget P o)` for all inputs.

The generated table `PEval.Gen.IsTarget.tree` is compared with the skeleton of one reading of the property text
(`isTargetTreeR`, below; `isTargetTree` is the reading `today`), exception classes merged, by `PEval.DT.agree` (complete
over the finite decision space, kernel-evaluated) in `Properties/C10.lean`.
-/
namespace PEval.FilterTable
open PEval PEval.DT PEval.Filter

/-! ## atom numbering (Boolean atoms) -/
def aFp : Nat := 0
def aUnknown : Nat := 1
def aIsGt : Nat := 2
def aTargetsNone : Nat := 3
def aTargetsEmpty : Nat := 4
def aHasUnknown : Nat := 5
def aLabelIn : Nat := 6
def aIgnoreNone : Nat := 7
def aAttrHit : Nat := 8
def aTfNone : Nat := 9
def aFrameBl : Nat := 10
def aPosNone : Nat := 11
def aIs2d : Nat := 12
def aTfMissing : Nat := 13
def aPcNone : Nat := 14
def aUuidsNone : Nat := 15
def aUuidIn : Nat := 16

/-- the three Boolean atoms of a per-label list: `is None`, shorter than the label's index, `== []` -/
structure LA where
  none : Nat
  short : Nat
  empty : Nat

def laConf : LA := ⟨17, 18, 19⟩
def laMaxX : LA := ⟨20, 21, 22⟩
def laMaxY : LA := ⟨23, 24, 25⟩
def laMaxD : LA := ⟨26, 27, 28⟩
def laMinD : LA := ⟨29, 30, 31⟩
def laPts : LA := ⟨32, 33, 34⟩

/-! order atoms: `compare first second` of the canonical (sorted) pair of term names -/
/-- `cmp(conf[label]|score)` -/
def cConf : Nat := 0
/-- `cmp(0|score)` -/
def cConf0 : Nat := 1
/-- position-dependent order atoms start at 2 for `pos` (state.position) and at 10 for `tf(pos)`:
+0 `cmp(abs(p.x)|maxx[label])`, +1 `…|mean(maxx)`, +2/+3 y, +4/+5 `cmp(dist(p)|maxd[label])`/mean, +6/+7 mind -/
def cBase (tf : Bool) : Nat := if tf then 10 else 2
/-- `cmp(pc|pts[label])` -/
def cPts : Nat := 18
/-- `cmp(0|pc)` -/
def cPts0 : Nat := 19

/-! exception kinds -/
def eType : Nat := 1
def eIndex : Nat := 2
def eAssert : Nat := 3
def eAttr : Nat := 4
def eKey : Nat := 5
def eValue : Nat := 6

def errCode (e : Err) : Nat :=
  if e = "TypeError" then 1 else if e = "IndexError" then 2 else if e = "AssertionError" then 3
  else if e = "AttributeError" then 4 else if e = "KeyError" then 5 else if e = "ValueError" then 6 else 99

def errName (e : Nat) : Err :=
  match e with
  | 1 => "TypeError" | 2 => "IndexError" | 3 => "AssertionError" | 4 => "AttributeError" | 5 => "KeyError"
  | 6 => "ValueError" | _ => "?"

/-- a table result as a model result -/
def toExcept : DT.Res → Option (Except Err Bool)
  | .ret b => some (.ok b)
  | .raise e => some (.error (errName e))
  | _ => none

/-- jointly unrealisable decisions excluded from the comparison (FORBIDDEN in harness/dt_c10.py): none are needed,
table and skeleton agree on every valuation -/
def forbidden : List (List Lit) := []

/-! ## the skeleton, stage by stage (continuation-passing; mirrors `PEval.Filter.isTarget`) -/

/-- `use_unknown_threshold` -/
def tUse (k : Bool → DTree) : DTree :=
  askB aUnknown fun un => if !un then k false else
  askB aIsGt fun g => if g then k false else
  askB aTargetsNone fun tn => if tn then k true else
  askB aHasUnknown fun hu => k (!hu)

/-- `stageLabel` -/
def tLabel (u : Bool) (k : Bool → DTree) : DTree :=
  askB aTargetsNone fun tn => if tn then k true else
  askB aTargetsEmpty fun te => if te then k true else
  if u then k true else askB aLabelIn fun li => k li

/-- `stageAttr` -/
def tAttr (u ok : Bool) (k : Bool → DTree) : DTree :=
  askB aIgnoreNone fun n => if n then k ok else
  if u then k ok else askB aAttrHit fun h => k (ok && !h)

/-- the per-label entry (`bound` for a non-relaxed object): TypeError when `get_label_threshold` answers None,
IndexError when the list is too short -/
def tEntry (la : LA) (k : DTree) : DTree :=
  askB aTargetsNone fun tn => if tn then .leaf (.raise eType) else
  askB aLabelIn fun li => if !li then .leaf (.raise eType) else
  askB la.short fun sh => if sh then .leaf (.raise eIndex) else k

/-- `stage`: a numeric criterion against the per-label entry (order atom `cL`) or, relaxed, against the special
bound (order atom `cU`; `nan`: the special bound is `np.mean`, nan on an empty list) -/
def tStage (u ok : Bool) (la : LA) (cL cU : Nat) (nan : Bool) (pass : Ordering → Bool) (k : Bool → DTree) : DTree :=
  if !ok then k ok else
  askB la.none fun isNone => if isNone then k ok else
  if u then
    (if nan then askB la.empty fun em => if em then k false else askC cU fun o => k (pass o)
     else askC cU fun o => k (pass o))
  else tEntry la (askC cL fun o => k (pass o))

/-- `position`: `none` no ego-relative position, `some false` the object's own position, `some true` the transformed one -/
def tPosition (k : Option Bool → DTree) : DTree :=
  askB aTfNone fun tn =>
    if tn then
      askB aFrameBl fun bl =>
        if bl then askB aPosNone fun pn =>
          if pn then askB aIs2d fun d => .leaf (.raise (if d then eAssert else eType)) else k (some false)
        else k none
    else
      askB aPosNone fun pn => if pn then k none else
      askB aFrameBl fun bl => if bl then k (some false) else
      askB aTfMissing fun ms => if ms then .leaf (.raise eKey) else k (some true)

/-- after the threshold lookup of `stagePts`: the attribute access, then the comparison -/
def tPc (hasBound : Bool) (c : Nat) (pass : Ordering → Bool) (k : Bool → DTree) : DTree :=
  askB aIs2d fun d => if d then .leaf (.raise eAttr) else
  if !hasBound then .leaf (.raise eType) else
  askB aPcNone fun pn => if pn then .leaf (.raise eType) else askC c fun o => k (pass o)

/-- `stagePts` -/
def tPts (u ok : Bool) (k : Bool → DTree) : DTree :=
  if !ok then k ok else
  askB aIsGt fun g => if !g then k ok else
  askB laPts.none fun pn => if pn then k ok else
  if u then tPc true cPts0 (fun o => o != .gt) k
  else
    askB aTargetsNone fun tn => if tn then tPc false cPts (fun o => o != .lt) k else
    askB aLabelIn fun li => if !li then tPc false cPts (fun o => o != .lt) k else
    askB laPts.short fun sh => if sh then .leaf (.raise eIndex) else tPc true cPts (fun o => o != .lt) k

/-- `stageRange` -/
def tRange (u ok : Bool) (pos : Option Bool) (k : Bool → DTree) : DTree :=
  match pos with
  | none => k ok
  | some tf =>
    let c := cBase tf
    tStage u ok laMaxX c (c + 1) true (· == .lt) fun ok1 =>
    tStage u ok1 laMaxY (c + 2) (c + 3) true (· == .lt) fun ok2 =>
    tStage u ok2 laMaxD (c + 4) (c + 5) true (· == .lt) fun ok3 =>
    tStage u ok3 laMinD (c + 6) (c + 7) true (· == .gt) fun ok4 =>
    tPts u ok4 k

/-- `stageUuid` -/
def tUuid (ok : Bool) (k : Bool → DTree) : DTree :=
  if !ok then k ok else
  askB aIsGt fun g => if !g then k ok else
  askB aUuidsNone fun n => if n then k ok else
  askB aUuidIn fun i => k i

/-- `_is_target_object` over the atoms -/
def isTargetTree : DTree :=
  askB aFp fun fp => if fp then .leaf (.ret true) else
  tUse fun u =>
  tLabel u fun ok0 =>
  tAttr u ok0 fun ok1 =>
  tStage u ok1 laConf cConf cConf0 false (· == .lt) fun ok2 =>
  tPosition fun pos =>
  tRange u ok2 pos fun ok3 =>
  tUuid ok3 fun ok4 => .leaf (.ret ok4)

/-- the skeleton as a function of the valuation -/
def isTargetAtoms (v : Val) : DT.Res := eval isTargetTree v

/-! ## readings the property text leaves open

C10: "… whose confidence (estimates) or point count and uuid (ground truth) satisfy that label's thresholds, with the
documented relaxations: false-positive-labelled objects always pass and unknown-labelled estimates are judged against the
mean bounds when unknown is not a target." The text does not say
* whether a GROUND TRUTH's own confidence is compared with the confidence threshold (`gtConf`; today's code: yes),
* whether `target_labels == []` means "no label criterion" or "nothing is targeted" (`emptyAll`; today: no criterion),
* whether the confidence bound of a relaxed unknown estimate is 0 or the mean of the list (`relaxedMean`; today: 0).
`isTargetTreeR r` is the skeleton under reading `r`; `isTargetTreeR today = isTargetTree` by `rfl`. The per-run obligation
(`Properties/C10.lean`) asks the code's table to equal the skeleton of ONE of the eight readings; which exception CLASS a
rejected input raises is not compared either (`canonRes`: the translator records every exception as `raise:Rejected`). -/

structure Reading where
  gtConf : Bool
  emptyAll : Bool
  relaxedMean : Bool
deriving DecidableEq, Repr

def today : Reading := ⟨true, true, false⟩

def readings : List Reading :=
  [today, ⟨false, true, false⟩, ⟨true, false, false⟩, ⟨true, true, true⟩, ⟨false, false, false⟩, ⟨false, true, true⟩,
   ⟨true, false, true⟩, ⟨false, false, true⟩]

/-- `cmp(mean(conf)|score)`: only read under `relaxedMean` -/
def cConfMean : Nat := 20

/-- the one code of "the input is rejected with an exception" (`EXC_CODE` in harness/dt_c10.py) -/
def eRejected : Nat := 0

def canonRes : DT.Res → DT.Res
  | .raise _ => .raise eRejected
  | r => r

/-- `stageLabel` under a reading -/
def tLabelR (r : Reading) (u : Bool) (k : Bool → DTree) : DTree :=
  askB aTargetsNone fun tn => if tn then k true else
  if r.emptyAll then
    askB aTargetsEmpty fun te => if te then k true else
    if u then k true else askB aLabelIn fun li => k li
  else
    if u then k true else askB aLabelIn fun li => k li

/-- the confidence stage under a reading -/
def tConfR (r : Reading) (u ok : Bool) (k : Bool → DTree) : DTree :=
  let st : DTree :=
    if r.relaxedMean then tStage u ok laConf cConf cConfMean true (· == .lt) k
    else tStage u ok laConf cConf cConf0 false (· == .lt) k
  if r.gtConf then st else
  if !ok then k ok else askB aIsGt fun g => if g then k ok else st

/-- what the head hands to the tail: `use_unknown_threshold` and `is_target` after the confidence stage -/
def encUO (u ok : Bool) : DT.Res := .other ((if u then 2 else 0) + (if ok then 1 else 0))

/-- the stages on which the readings differ (label, attributes, confidence); the leaves are the final results reached
there (`ret true` of an FP label, the exceptions of the confidence stage) or `encUO u ok2` -/
def headR (r : Reading) : DTree :=
  askB aFp fun fp => if fp then .leaf (.ret true) else
  tUse fun u =>
  tLabelR r u fun ok0 =>
  tAttr u ok0 fun ok1 =>
  tConfR r u ok1 fun ok2 => .leaf (encUO u ok2)

/-- the stages common to all readings (position, ranges, point count, uuid) -/
def tailT (u ok2 : Bool) : DTree :=
  tPosition fun pos =>
  tRange u ok2 pos fun ok3 =>
  tUuid ok3 fun ok4 => .leaf (.ret ok4)

def tailOf : DT.Res → DTree
  | .other 0 => tailT false false
  | .other 1 => tailT false true
  | .other 2 => tailT true false
  | .other 3 => tailT true true
  | r => .leaf r

/-- `_is_target_object` over the atoms under a reading of the open points -/
def isTargetTreeR (r : Reading) : DTree := bindT tailOf (headR r)

/-- the valuations on which the readings part ways (an OVER-approximation, as conjunctions of atom values):
ground truth with a confidence list whose comparison fails or whose per-label entry is missing; an empty target list;
a relaxed unknown estimate for which 0 and the mean of the confidence list decide differently -/
def openValuations : List (List Lit) :=
  [[.b aIsGt true, .b laConf.none false, .c cConf .eq],
   [.b aIsGt true, .b laConf.none false, .c cConf .gt],
   [.b aIsGt true, .b laConf.none false, .b aTargetsNone true],
   [.b aIsGt true, .b laConf.none false, .b laConf.short true],
   [.b aTargetsEmpty true],
   [.b aUnknown true, .b aIsGt false, .b laConf.none false, .c cConf0 .lt, .b laConf.empty true],
   [.b aUnknown true, .b aIsGt false, .b laConf.none false, .c cConf0 .lt, .c cConfMean .eq],
   [.b aUnknown true, .b aIsGt false, .b laConf.none false, .c cConf0 .lt, .c cConfMean .gt],
   [.b aUnknown true, .b aIsGt false, .b laConf.none false, .c cConf0 .eq, .b laConf.empty false, .c cConfMean .lt],
   [.b aUnknown true, .b aIsGt false, .b laConf.none false, .c cConf0 .gt, .b laConf.empty false, .c cConfMean .lt]]

/-- atoms whose decisions the checker records when it compares two readings outside `openValuations` (every atom named
there, plus the atoms a skeleton re-reads); the list is shared by Boolean and order atoms -/
def openSticky : List Nat :=
  [aIsGt, aTargetsNone, aLabelIn, aTargetsEmpty, aUnknown, laConf.none, laConf.short, laConf.empty, cConf, cConf0, cConfMean]

/-! ## the atoms of a concrete model input -/

def cmpR (a b : Rat) : Ordering := if a < b then .lt else if a = b then .eq else .gt
def cmpI (a b : Int) : Ordering := if a < b then .lt else if a = b then .eq else .gt
/-- `hypot ? t` on the squared distance -/
def cmpDist (d2 t : Rat) : Ordering := if t < 0 then .gt else cmpR d2 (t * t)

/-- index of the object's label among the targets -/
def labelIdx (P : Params) (o : Obj) : Option Nat :=
  match P.targets with
  | some ts => indexOf? o.label ts
  | none => none

def isShort {α} (P : Params) (o : Obj) (l? : Option (List α)) : Bool :=
  match l?, labelIdx P o with
  | some l, some i => l[i]?.isNone
  | _, _ => false

def entryR (P : Params) (o : Obj) (l? : Option (List Rat)) : Rat :=
  match l?, labelIdx P o with
  | some l, some i => l[i]?.getD 0
  | _, _ => 0

def entryI (P : Params) (o : Obj) (l? : Option (List Int)) : Int :=
  match l?, labelIdx P o with
  | some l, some i => l[i]?.getD 0
  | _, _ => 0

def isEmptyL {α} : Option (List α) → Bool
  | some [] => true
  | _ => false

def meanR (l? : Option (List Rat)) : Rat :=
  match l? with
  | some l => (mean l).getD 0
  | none => 0

def posOf (tf : Bool) (o : Obj) : Pos := ((if tf then o.egoPos else o.pos).getD ⟨0, 0⟩)

/-- the Boolean atoms; a `match` needs literals: they are `aFp` … `aUuidIn`, `laConf` … `laPts` above (two numberings to keep
in step; the `val_a…` lemmas of `Lemmas/FilterTable.lean`, proved by `rfl`, tie them) -/
def valB (P : Params) (o : Obj) (a : Nat) : Bool :=
  match a with
  | 0 => isFP o.label
  | 1 => isUnknown o.label
  | 2 => P.isGt
  | 3 => P.targets.isNone
  | 4 => isEmptyL P.targets
  | 5 => (match P.targets with | some ts => ts.any isUnknown | none => false)
  | 6 => (labelIdx P o).isSome
  | 7 => P.ignoreAttrs.isNone
  | 8 => (match P.ignoreAttrs with | some ks => containsAny o ks | none => false)
  | 9 => !P.hasTransforms
  | 10 => o.frame == "base_link"
  | 11 => o.pos.isNone
  | 12 => o.is2d
  | 13 => o.egoPos.isNone
  | 14 => o.pcNum.isNone
  | 15 => P.uuids.isNone
  | 16 => (match P.uuids, o.uuid with | some us, some u => us.contains u | _, _ => false)
  | 17 => P.conf.isNone | 18 => isShort P o P.conf | 19 => isEmptyL P.conf
  | 20 => P.maxX.isNone | 21 => isShort P o P.maxX | 22 => isEmptyL P.maxX
  | 23 => P.maxY.isNone | 24 => isShort P o P.maxY | 25 => isEmptyL P.maxY
  | 26 => P.maxDist.isNone | 27 => isShort P o P.maxDist | 28 => isEmptyL P.maxDist
  | 29 => P.minDist.isNone | 30 => isShort P o P.minDist | 31 => isEmptyL P.minDist
  | 32 => P.minPts.isNone | 33 => isShort P o P.minPts | 34 => isEmptyL P.minPts
  | _ => false

def valCPos (P : Params) (o : Obj) (tf : Bool) (i : Nat) : Ordering :=
  let p := posOf tf o
  match i with
  | 0 => cmpR (absR p.x) (entryR P o P.maxX)
  | 1 => cmpR (absR p.x) (meanR P.maxX)
  | 2 => cmpR (absR p.y) (entryR P o P.maxY)
  | 3 => cmpR (absR p.y) (meanR P.maxY)
  | 4 => cmpDist p.d2 (entryR P o P.maxDist)
  | 5 => cmpDist p.d2 (meanR P.maxDist)
  | 6 => cmpDist p.d2 (entryR P o P.minDist)
  | 7 => cmpDist p.d2 (meanR P.minDist)
  | _ => .eq

/-- the order atoms `cConf`, `cConf0`, `cConfMean` (20: registered last, after the position and point-count atoms, in
`C_ATOMS` of harness/dt_c10.py), `cPts`, `cPts0`, and the two position blocks `cBase false`, `cBase true` -/
def valC (P : Params) (o : Obj) (a : Nat) : Ordering :=
  match a with
  | 0 => cmpR (entryR P o P.conf) o.score
  | 1 => cmpR 0 o.score
  | 20 => cmpR (meanR P.conf) o.score
  | 18 => cmpI (o.pcNum.getD 0) (entryI P o P.minPts)
  | 19 => cmpI 0 (o.pcNum.getD 0)
  | a => if 2 ≤ a ∧ a < 10 then valCPos P o false (a - 2) else if 10 ≤ a ∧ a < 18 then valCPos P o true (a - 10) else .eq

/-- the valuation of the atoms determined by a concrete model input -/
def valuationOf (P : Params) (o : Obj) : Val := ⟨valB P o, valC P o⟩

end PEval.FilterTable
