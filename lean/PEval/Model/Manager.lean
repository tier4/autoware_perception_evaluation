import PEval.Model.Basic
/-!
C13 — state-machine model of `PerceptionEvaluationManager`
(`manager/perception_evaluation_manager.py`, `manager/_evaluation_manager_base.py`,
`evaluation/result/perception_frame_result.py`, `evaluation/metrics/metrics.py`,
`evaluation/metrics/detection/{map,ap}.py`, `evaluation/matching/objects_filter.py:divide_objects*`).

State: the loaded dataset (`ground_truth_frames`) and the history (`frame_results`).
Operations: `getGT` (`get_ground_truth_now_frame`, nearest frame), `addFrameResult`, `getSceneResult`.

What is abstract: the evaluation of ONE frame (filtering, matching, TP/FP decisions; properties
C01–C12 are about those).  It is a pure function parameter, split as the code is split:

* `evalDet g e c`        — everything `_filter_objects` + `evaluate_frame` derive from the ground
                           truth frame `g`, the estimates `e` and the configurations `c` only;
* `evalTrack g e c prev` — the tracking scores; `evaluate_frame(previous_result)` reads
                           `previous_result.object_results` and nothing else; `prev` is the
                           detection part of the *immediately preceding stored* result, i.e. those
                           object results as divided when THAT result was stored (the code divides
                           them again by the current call's critical labels: the same division
                           only while the critical labels do not change between the two calls).

What is concrete: how results are stored, how the predecessor is picked (`frame_results[-1]`), how
`get_scene_result` pools (`all_frame_results[label] = [[]]`, then one appended bucket per stored
frame; `all_num_gt[label] += …`), how `Ap.__init__` flattens the nested lists, sorts them (stable,
descending confidence) and integrates the interpolated precision/recall curve, how `Map` averages.

Python values are immutable here: a frame handed to `addFrameResult` is a value, so the repaired
behaviour of defect F5 (the manager works on a shallow copy) is the only one expressible; that the
real manager keeps `ground_truth_frames` untouched is what the correspondence run compares after
every operation.
-/

namespace PEval.Manager

/-- One object result as pooling sees it.  `id`/`gt`: harness ids of the estimate and of the matched
ground truth; `conf`: `estimated_object.semantic_score`; `tp[c]`: the value `_calculate_tp_fp` adds to
`tp_list` for metric column `c` (one column per `Map` × {AP, APH}): `1` (AP) or the heading weight
(APH) when `is_result_correct`, `0` for an FP or a result whose threshold label is not the bucket's. -/
structure Res where
  id : Nat
  gt : Option Nat
  conf : Rat
  tp : List Rat
deriving DecidableEq, Repr

/-- Detection part of a stored frame result: `divide_objects(object_results, target_labels)` (one
bucket per target label, in stored order) and `divide_objects_to_num(frame_ground_truth.objects)`. -/
structure Det where
  results : List (List Res)
  numGt : List Nat
deriving DecidableEq, Repr

def Det.bucket (d : Det) (l : Nat) : List Res := d.results.getD l []
def Det.gt (d : Det) (l : Nat) : Nat := d.numGt.getD l 0

/-- A ground-truth frame of the dataset (`FrameGroundTruth`): time stamp [µs], `int(frame_name)`, ids of its objects. -/
structure Frame where
  time : Int
  name : Nat
  objects : List Nat
deriving DecidableEq, Repr

/-- `PerceptionFrameResult` (what scene scoring and the next tracking evaluation read), `T` = tracking scores. -/
structure FrameResult (T : Type) where
  frameName : Nat
  det : Det
  track : T
deriving Repr

/-- The manager: `ground_truth_frames` and `frame_results`. -/
structure State (T : Type) where
  dataset : List Frame
  frameResults : List (FrameResult T)

/-- a manager right after construction on a dataset -/
def fresh {T : Type} (ds : List Frame) : State T := { dataset := ds, frameResults := [] }

/-- The abstract single-frame evaluation and the number of target labels of the manager. -/
structure Sem (E C T : Type) where
  nLabels : Nat
  evalDet : Frame → E → C → Det
  evalTrack : Frame → E → C → Option Det → T

/-- `PerceptionFrameResult(...)` followed by `evaluate_frame(previous_result)`. -/
def evalFrame {E C T : Type} (sem : Sem E C T) (g : Frame) (e : E) (c : C) (prev : Option (FrameResult T)) :
    FrameResult T :=
  { frameName := g.name
    det := sem.evalDet g e c
    track := sem.evalTrack g e c (prev.map (·.det)) }

/-- `add_frame_result`: the predecessor is `frame_results[-1]` when there is one; the result is appended. -/
def addFrameResult {E C T : Type} (sem : Sem E C T) (s : State T) (g : Frame) (e : E) (c : C) :
    State T × FrameResult T :=
  let r := evalFrame sem g e c s.frameResults.getLast?
  ({ s with frameResults := s.frameResults ++ [r] }, r)

/-- `get_now_frame`: first frame with the smallest time difference; `None` beyond the tolerance. -/
def getGT {T : Type} (s : State T) (t thr : Int) : Except Err (Option Frame) :=
  if t > 10 ^ 17 then .error "DatasetLoadingError"
  else match s.dataset with
    | [] => .error "IndexError"
    | f0 :: _ =>
      let best := s.dataset.foldl
        (fun (b : Frame × Nat) f => if (t - f.time).natAbs < b.2 then (f, (t - f.time).natAbs) else b)
        (f0, (t - f0.time).natAbs)
      if (best.2 : Int) > thr then .ok none else .ok (some best.1)

/-- The accumulators of `get_scene_result`: `all_frame_results`, `all_num_gt`, `used_frame`. -/
structure Scene where
  results : List (List (List Res))
  numGt : List Nat
  usedFrame : List Nat
deriving DecidableEq, Repr

def sceneInit (nl : Nat) : Scene :=
  { results := List.replicate nl [[]], numGt := List.replicate nl 0, usedFrame := [] }

/-- one pass of the loop `for frame in self.frame_results` -/
def sceneAdd {T : Type} (sc : Scene) (fr : FrameResult T) : Scene :=
  { results := sc.results.mapIdx (fun l b => b ++ [fr.det.bucket l])
    numGt := sc.numGt.mapIdx (fun l n => n + fr.det.gt l)
    usedFrame := sc.usedFrame ++ [fr.frameName] }

def getSceneResult {T : Type} (nl : Nat) (s : State T) : Scene :=
  s.frameResults.foldl sceneAdd (sceneInit nl)

/-- `Ap.__init__`: the nested per-frame lists are concatenated in order. -/
def Scene.pooled (sc : Scene) (l : Nat) : List Res := (sc.results.getD l []).flatten
def Scene.gt (sc : Scene) (l : Nat) : Nat := sc.numGt.getD l 0
/-- `MetricsScore.num_ground_truth` of the scene score -/
def Scene.totalGt (sc : Scene) : Nat := sc.numGt.sum

/-- score of label `l` under an AP function -/
def Scene.score (ap : List Res → Nat → Option Rat) (sc : Scene) (l : Nat) : Option Rat :=
  ap (sc.pooled l) (sc.gt l)
def Det.score (ap : List Res → Nat → Option Rat) (d : Det) (l : Nat) : Option Rat :=
  ap (d.bucket l) (d.gt l)

/-! ### operations and runs -/

inductive Op (E C : Type) where
  | add (g : Frame) (e : E) (c : C)
  | scene
  | lookup (t thr : Int)

inductive Out (T : Type) where
  | added (r : FrameResult T)
  | scene (sc : Scene)
  | frame (f : Except Err (Option Frame))

def step {E C T : Type} (sem : Sem E C T) (s : State T) : Op E C → State T × Out T
  | .add g e c => let r := addFrameResult sem s g e c; (r.1, .added r.2)
  | .scene => (s, .scene (getSceneResult sem.nLabels s))
  | .lookup t thr => (s, .frame (getGT s t thr))

def run {E C T : Type} (sem : Sem E C T) : State T → List (Op E C) → State T × List (Out T)
  | s, [] => (s, [])
  | s, op :: ops =>
    let r := step sem s op
    let rest := run sem r.1 ops
    (rest.1, r.2 :: rest.2)

def Out.det? {T : Type} : Out T → Option Det
  | .added r => some r.det
  | _ => none

def Out.track? {T : Type} : Out T → Option T
  | .added r => some r.track
  | _ => none

def Out.scene? {T : Type} : Out T → Option Scene
  | .scene sc => some sc
  | _ => none

/-- the answer to the last operation of a list -/
def lastOut {E C T : Type} (sem : Sem E C T) (s : State T) (ops : List (Op E C)) : Option (Out T) :=
  (run sem s ops).2.getLast?

/-- is the operation a pure query (`get_scene_result`, `get_ground_truth_now_frame`)? -/
def Op.isQuery {E C : Type} : Op E C → Bool
  | .add .. => false
  | _ => true

/-- the detection parts a FRESH evaluation gives for the `add`s of an operation list, in order -/
def addsDet {E C T : Type} (sem : Sem E C T) : List (Op E C) → List Det
  | [] => []
  | .add g e c :: ops => sem.evalDet g e c :: addsDet sem ops
  | _ :: ops => addsDet sem ops

/-! ### the caller's variables (for `estimates_untouched`)

The caller holds its estimate lists in variables `ests[k]`; an `add` names one of them.  The machine
only reads them. -/

structure World (E T : Type) where
  st : State T
  ests : List E

inductive OpW (C : Type) where
  | add (g : Frame) (k : Nat) (c : C)
  | scene
  | lookup (t thr : Int)

def stepW {E C T : Type} (sem : Sem E C T) (w : World E T) : OpW C → World E T × Option (Out T)
  | .add g k c =>
    match w.ests[k]? with
    | some e => let r := step sem w.st (.add g e c); ({ w with st := r.1 }, some r.2)
    | none => (w, none)
  | .scene => (w, some (step sem w.st (Op.scene : Op E C)).2)
  | .lookup t thr => (w, some (step sem w.st (Op.lookup t thr : Op E C)).2)

def runW {E C T : Type} (sem : Sem E C T) : World E T → List (OpW C) → World E T × List (Option (Out T))
  | w, [] => (w, [])
  | w, op :: ops =>
    let r := stepW sem w op
    let rest := runW sem r.1 ops
    (rest.1, r.2 :: rest.2)

/-! ### a concrete AP (`ap.py`), enough to compute scene scores and to state order-independence -/

/-- insert `r` into a list sorted by descending confidence, before the first element whose
confidence is not larger (`r` comes earlier in the original list than everything in `l`) -/
def insertDesc (r : Res) : List Res → List Res
  | [] => [r]
  | x :: xs => if x.conf ≤ r.conf then r :: x :: xs else x :: insertDesc r xs

/-- `list.sort(key=confidence, reverse=True)`: stable, descending -/
def sortDesc : List Res → List Res
  | [] => []
  | r :: rs => insertDesc r (sortDesc rs)

/-- `np.cumsum` -/
def cumsum (acc : Rat) : List Rat → List Rat
  | [] => []
  | x :: xs => (acc + x) :: cumsum (acc + x) xs

/-- `get_precision_recall_list` on the cumulative TP list, position `i` (0-based) -/
def prFrom (n : Nat) (i : Nat) : List Rat → List (Rat × Rat)
  | [] => []
  | t :: ts => (t / ((i : Rat) + 1), if n > 0 then t / (n : Rat) else 0) :: prFrom n (i + 1) ts

/-- `interpolate_precision_recall_list`, walking from the last point backwards (`rest` = the earlier
points in reverse order); a point is kept when its precision is strictly larger than the last kept
one; finally `(last precision, 0)` is appended. -/
def envelope (last : Rat × Rat) : List (Rat × Rat) → List (Rat × Rat)
  | [] => [last, (last.1, 0)]
  | q :: qs => if q.1 > last.1 then last :: envelope q qs else envelope last qs

/-- `_calculate_ap`: Σ maxP[i] · (maxR[i] − maxR[i+1]) -/
def area : List (Rat × Rat) → Rat
  | a :: b :: rest => a.1 * (a.2 - b.2) + area (b :: rest)
  | _ => 0

/-- AP of the TP values in ranking order; `none` = `float("inf")` (no object result) -/
def apCore (tps : List Rat) (n : Nat) : Option Rat :=
  match (prFrom n 0 (cumsum 0 tps)).reverse with
  | [] => none
  | p :: rest => some (area (envelope p rest))

/-- AP of metric column `c` -/
def apOf (c : Nat) (rs : List Res) (n : Nat) : Option Rat :=
  apCore ((sortDesc rs).map (fun r => r.tp.getD c 0)) n

/-- `Map.map` / `Map.maph`: mean of the APs that are not `inf`; `inf` when there is none -/
def meanValid (xs : List (Option Rat)) : Option Rat :=
  let v := xs.filterMap id
  if v.length > 0 then some (v.sum / (v.length : Rat)) else none

end PEval.Manager

/-!
### Note (heap model)

In this file a ground-truth frame is a VALUE and `Sem.evalDet` has no access to the state, so "the dataset
is not modified" and "the result does not depend on the history" cannot fail here.  The model in which
they can — frames and estimate lists as cells of a store, passed by reference, the assignments of
`_filter_objects` / `evaluate_frame` as writes, with the F5-defective variant next to the repaired code —
is `PEval/Model/ManagerHeap.lean`; `Lemmas/ManagerHeap.lean` (`hrun_sim`) proves that the repaired heap
machine refines `run` of this file, so the theorems about `run` transfer.  `apOf` of the section
"a concrete AP" above is proved equal to the `ap` of `PEval.AP.apOf` in `Lemmas/ManagerAPLink.lean`.
-/
