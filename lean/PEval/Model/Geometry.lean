import PEval.Model.Basic
/-!
# Geometry model (C06): matching scores of `evaluation/matching/object_matching.py`

Numbers are exact rationals. Distances are carried SQUARED (DESIGN 4.1). A planar rotation is its
unit complex number `(c, s)`, `c*c + s*s = 1` (DESIGN 4.2); the unit condition is a hypothesis of the
theorems (`Rot2.IsUnit`), not part of the data.

Anchors:
* `Shape.__calculate_corners` (common/shape.py)              -> `localCorners`
* `DynamicObject.get_footprint` (common/object.py)           -> `footprint`
* `get_area_bev`, `get_volume`                               -> `areaBev`, `volume`
* `distance_objects` / `distance_points` / `_bev`            -> `centerDist2`, `centerDistBev2`
* `Roi` (common/object2d.py)                                 -> `Roi`, `Roi.center`, `Roi.corners`, `Roi.area`
* `IOU2dMatching`, `IOU3dMatching`, `_get_height_intersection`, `_get_volume_intersection`
                                                             -> `iou`, `iouCode`, `iou3d`, `iou3dCode`, `heightInter`
* `_get_area_intersection` = shapely `intersection(...).area` : EXTERNAL CONTRACT (`InterOK` in the
  lemma files); `clipConvex` + `polyArea` is the exact executable reference it is cross-checked with.
* `PlaneDistanceMatching` + `get_point_left_right_index`     -> `planeDist2`
-/
namespace PEval.Geometry

/-! ## rational helpers (own `if`-based max/min/abs so that no instance choice matters) -/

def rmax (a b : Rat) : Rat := if a ≤ b then b else a
def rmin (a b : Rat) : Rat := if a ≤ b then a else b
def rabs (a : Rat) : Rat := if 0 ≤ a then a else -a

/-! ## vectors, rotations, rigid motions -/

structure V2 where
  x : Rat
  y : Rat
deriving DecidableEq, Repr

structure V3 where
  x : Rat
  y : Rat
  z : Rat
deriving DecidableEq, Repr

def V2.zero : V2 := ⟨0, 0⟩
def V2.add (p q : V2) : V2 := ⟨p.x + q.x, p.y + q.y⟩
def V2.sub (p q : V2) : V2 := ⟨p.x - q.x, p.y - q.y⟩
/-- squared distance from the origin (the ego in BASE_LINK) -/
def V2.norm2 (p : V2) : Rat := p.x * p.x + p.y * p.y
/-- squared planar distance (`distance_points_bev` squared) -/
def dist2 (p q : V2) : Rat := (p.x - q.x) * (p.x - q.x) + (p.y - q.y) * (p.y - q.y)
/-- z-component of the cross product of two position vectors (`get_point_left_right_index`) -/
def cross0 (p q : V2) : Rat := p.x * q.y - p.y * q.x
/-- orientation of `p` relative to the directed line `a → b` (positive = left) -/
def cross (a b p : V2) : Rat := (b.x - a.x) * (p.y - a.y) - (b.y - a.y) * (p.x - a.x)

/-- planar rotation as a complex number `c + i s` -/
structure Rot2 where
  c : Rat
  s : Rat
deriving DecidableEq, Repr

def Rot2.IsUnit (r : Rot2) : Prop := r.c * r.c + r.s * r.s = 1
def Rot2.id : Rot2 := ⟨1, 0⟩
def Rot2.apply (r : Rot2) (p : V2) : V2 := ⟨r.c * p.x - r.s * p.y, r.s * p.x + r.c * p.y⟩
/-- composition: first `q`, then `r` -/
def Rot2.mul (r q : Rot2) : Rot2 := ⟨r.c * q.c - r.s * q.s, r.s * q.c + r.c * q.s⟩

/-- rigid motion of the scene: yaw rotation about the ego origin, then a translation -/
structure Motion where
  rot : Rot2
  t : V3
deriving Repr

def Motion.apply2 (m : Motion) (p : V2) : V2 := (m.rot.apply p).add ⟨m.t.x, m.t.y⟩
def Motion.apply3 (m : Motion) (p : V3) : V3 :=
  let q := m.apply2 ⟨p.x, p.y⟩
  ⟨q.x, q.y, p.z + m.t.z⟩
def Motion.rotation (r : Rot2) : Motion := ⟨r, ⟨0, 0, 0⟩⟩

/-! ## boxes -/

/-- 3-D box: `size = (w, l, h)` = `Shape.size` (width along the local y, length along the local x) -/
structure Box where
  center : V3
  rot : Rot2
  w : Rat
  l : Rat
  h : Rat
deriving Repr

def Box.PosSize (b : Box) : Prop := 0 < b.w ∧ 0 < b.l ∧ 0 < b.h

def Box.center2 (b : Box) : V2 := ⟨b.center.x, b.center.y⟩

/-- `Shape.__calculate_corners`: (l,w)/2, (−l,w)/2, (−l,−w)/2, (l,−w)/2 in the object's frame -/
def localCorners (b : Box) : List V2 :=
  [⟨b.l / 2, b.w / 2⟩, ⟨-b.l / 2, b.w / 2⟩, ⟨-b.l / 2, -b.w / 2⟩, ⟨b.l / 2, -b.w / 2⟩]

/-- `get_footprint(scale = 1)`: rotate every local corner by the orientation, add the BEV position -/
def footprint (b : Box) : List V2 :=
  (localCorners b).map (fun p => (b.rot.apply p).add b.center2)

/-- the box after a common rigid motion of the scene -/
def Box.move (m : Motion) (b : Box) : Box :=
  { center := m.apply3 b.center, rot := m.rot.mul b.rot, w := b.w, l := b.l, h := b.h }

/-- `distance_objects` for 3-D objects = `distance_points` (3-D Euclidean), squared -/
def centerDist2 (a b : Box) : Rat :=
  (a.center.x - b.center.x) * (a.center.x - b.center.x)
    + (a.center.y - b.center.y) * (a.center.y - b.center.y)
    + (a.center.z - b.center.z) * (a.center.z - b.center.z)

/-- `distance_objects_bev`, squared -/
def centerDistBev2 (a b : Box) : Rat := dist2 a.center2 b.center2

/-! ## polygon area (shoelace, as a fan from the first vertex) and exact convex clipping -/

/-- twice the signed area of the fan `p0, p(i), p(i+1)` over the vertex list `ps` -/
def fan2 (p0 : V2) : List V2 → Rat
  | p :: q :: rest => cross p0 p q + fan2 p0 (q :: rest)
  | _ => 0

/-- twice the signed area (shoelace) of a polygon given by its vertices (not closed) -/
def signed2 : List V2 → Rat
  | [] => 0
  | p0 :: rest => fan2 p0 rest

/-- polygon area = |shoelace| / 2 (what shapely's `.area` is for a simple ring) -/
def polyArea (ps : List V2) : Rat := rabs (signed2 ps) / 2

/-- intersection of the segment `p → q` with the line `a → b`, given the two orientations `dp`, `dq` -/
def isect (p q : V2) (dp dq : Rat) : V2 :=
  let t := dp / (dp - dq)
  ⟨p.x + t * (q.x - p.x), p.y + t * (q.y - p.y)⟩

/-- one Sutherland–Hodgman step: state = (previous vertex, output in reverse) -/
def clipStep (a b : V2) (st : V2 × List V2) (cur : V2) : V2 × List V2 :=
  let prev := st.1
  let out := st.2
  let dc := cross a b cur
  let dp := cross a b prev
  if 0 ≤ dc then
    if dp < 0 then (cur, cur :: isect prev cur dp dc :: out) else (cur, cur :: out)
  else
    if 0 ≤ dp then (cur, isect prev cur dp dc :: out) else (cur, out)

/-- clip `poly` against the closed half-plane left of `a → b` -/
def clipEdge (a b : V2) (poly : List V2) : List V2 :=
  match poly.getLast? with
  | none => []
  | some last => (poly.foldl (clipStep a b) (last, [])).2.reverse

/-- directed edges of a polygon: (p0,p1), (p1,p2), …, (p(n−1),p0) -/
def edges (ps : List V2) : List (V2 × V2) :=
  match ps with
  | [] => []
  | p0 :: rest => ps.zip (rest ++ [p0])

/-- counter-clockwise version of a polygon -/
def ccw (ps : List V2) : List V2 := if signed2 ps < 0 then ps.reverse else ps

/-- EXACT intersection polygon of a polygon `subject` with a CONVEX polygon `clip`
(Sutherland–Hodgman; either orientation of `clip`) -/
def clipConvex (subject clip : List V2) : List V2 :=
  (edges (ccw clip)).foldl (fun poly e => clipEdge e.1 e.2 poly) subject

/-- exact area of the intersection of two convex polygons (a polygon of zero area, e.g. a zero-size
box, is not a valid clip polygon: the intersection area is then 0) -/
def interArea (p q : List V2) : Rat :=
  if signed2 p = 0 ∨ signed2 q = 0 then 0 else polyArea (clipConvex p q)

/-! ## IoU as the code composes it from an intersection area `I` -/

/-- `I / (A1 + A2 − I)`: no clamping, no special case in the code -/
def iou (I A1 A2 : Rat) : Rat := I / (A1 + A2 - I)

/-- Python float division: a zero union raises `ZeroDivisionError` -/
def iouCode (I A1 A2 : Rat) : Except Err Rat :=
  if A1 + A2 - I = 0 then .error "ZeroDivisionError" else .ok (iou I A1 A2)

/-- `_get_height_intersection`: `max(0, min(tops) − max(bottoms))` -/
def heightInter (z1 h1 z2 h2 : Rat) : Rat :=
  rmax 0 (rmin (z1 + h1 / 2) (z2 + h2 / 2) - rmax (z1 - h1 / 2) (z2 - h2 / 2))

/-- 3-D IoU: volumes `A·H`, intersection `I·h` -/
def iou3d (I A1 A2 H1 H2 h : Rat) : Rat := iou (I * h) (A1 * H1) (A2 * H2)

def iou3dCode (I A1 A2 H1 H2 h : Rat) : Except Err Rat := iouCode (I * h) (A1 * H1) (A2 * H2)

/-- `get_area_bev` = area of the local footprint polygon (shoelace of `Shape.footprint`) -/
def areaBev (b : Box) : Rat := polyArea (localCorners b)

/-- `get_volume` -/
def volume (b : Box) : Rat := areaBev b * b.h

def boxHeightInter (a b : Box) : Rat := heightInter a.center.z a.h b.center.z b.h

/-- BEV IoU of two boxes for a given intersection area `I` of their footprints -/
def boxIou2d (I : Rat) (a b : Box) : Rat := iou I (areaBev a) (areaBev b)
def boxIou3d (I : Rat) (a b : Box) : Rat := iou3d I (areaBev a) (areaBev b) a.h b.h (boxHeightInter a b)

/-! ## ROIs (2-D objects) -/

/-- `Roi((xmin, ymin, width, height))`, integers -/
structure Roi where
  x : Int
  y : Int
  w : Int
  h : Int
deriving DecidableEq, Repr

def Roi.PosSize (r : Roi) : Prop := 0 < r.w ∧ 0 < r.h

/-- `center = (offset_x + width // 2, offset_y + height // 2)`; `Int` division by the positive 2
is floor division, as Python's `//` -/
def Roi.center (r : Roi) : Int × Int := (r.x + r.w / 2, r.y + r.h / 2)

def Roi.area (r : Roi) : Int := r.w * r.h

/-- top-left, top-right, bottom-right, bottom-left -/
def Roi.corners (r : Roi) : List V2 :=
  [⟨r.x, r.y⟩, ⟨r.x + r.w, r.y⟩, ⟨r.x + r.w, r.y + r.h⟩, ⟨r.x, r.y + r.h⟩]

def Roi.shift (dx dy : Int) (r : Roi) : Roi := { r with x := r.x + dx, y := r.y + dy }

/-- `distance_objects` for 2-D objects: norm of the difference of the (integer) centers, squared -/
def roiCenterDist2 (a b : Roi) : Int :=
  (a.center.1 - b.center.1) * (a.center.1 - b.center.1)
    + (a.center.2 - b.center.2) * (a.center.2 - b.center.2)

/-- axis-aligned rectangle over the rationals -/
structure Rect where
  x : Rat
  y : Rat
  w : Rat
  h : Rat
deriving DecidableEq, Repr

def Rect.PosSize (r : Rect) : Prop := 0 < r.w ∧ 0 < r.h
def Rect.area (r : Rect) : Rat := r.w * r.h
def Rect.corners (r : Rect) : List V2 :=
  [⟨r.x, r.y⟩, ⟨r.x + r.w, r.y⟩, ⟨r.x + r.w, r.y + r.h⟩, ⟨r.x, r.y + r.h⟩]

/-- length of the overlap of the intervals `[a, a+la]` and `[b, b+lb]` -/
def overlap (a la b lb : Rat) : Rat := rmax 0 (rmin (a + la) (b + lb) - rmax a b)

/-- closed form of the intersection area of two axis-aligned rectangles -/
def rectInter (r1 r2 : Rect) : Rat := overlap r1.x r1.w r2.x r2.w * overlap r1.y r1.h r2.y r2.h

/-- the two rectangles have disjoint interiors -/
def Rect.Disjoint (r1 r2 : Rect) : Prop :=
  r1.x + r1.w ≤ r2.x ∨ r2.x + r2.w ≤ r1.x ∨ r1.y + r1.h ≤ r2.y ∨ r2.y + r2.h ≤ r1.y

def rectIoU (r1 r2 : Rect) : Rat := iou (rectInter r1 r2) r1.area r2.area

def Roi.toRect (r : Roi) : Rect := ⟨r.x, r.y, r.w, r.h⟩

def roiInter (a b : Roi) : Rat := rectInter a.toRect b.toRect
def roiIoU (a b : Roi) : Rat := iou (roiInter a b) a.area b.area
def roiIoUCode (a b : Roi) : Except Err Rat := iouCode (roiInter a b) a.area b.area
def Roi.Disjoint (a b : Roi) : Prop :=
  a.x + a.w ≤ b.x ∨ b.x + b.w ≤ a.x ∨ a.y + a.h ≤ b.y ∨ b.y + b.h ≤ a.y

/-! ## plane distance -/

/-- insert index `i` into an index list sorted by `key`, AFTER every index whose key is ≤ its key -/
def insertBy (key : Nat → Rat) (i : Nat) : List Nat → List Nat
  | [] => [i]
  | j :: js => if key i < key j then i :: j :: js else j :: insertBy key i js

/-- stable argsort (`np.argsort`; for 4 elements numpy's default sort is an insertion sort) -/
def argsort (keys : List Rat) : List Nat :=
  (List.range keys.length).foldl (fun acc i => insertBy (fun k => keys.getD k 0) i acc) []

/-- `get_point_left_right_index`: `(0,1)` if the cross product is negative, else `(1,0)` -/
def leftRightIndex (p0 p1 : V2) : Nat × Nat := if cross0 p0 p1 < 0 then (0, 1) else (1, 0)

/-- the selected side: indices of the two GT corners nearest to the ego origin (in sort order) -/
def nearestTwo (gt : List V2) : Nat × Nat :=
  let idx := argsort (gt.map V2.norm2)
  (idx.getD 0 0, idx.getD 1 0)

/-- plane distance (SQUARED) from corner lists: sort GT corners by distance from the origin, take the
two nearest, name them left/right by the code's rule, pair with the estimate corners of the same
indices, mean of the two squared distances (the code returns `round(sqrt(.), 10)`) -/
def planeDist2Of (est gt : List V2) : Rat :=
  let ij := nearestTwo gt
  let gtPlane := [gt.getD ij.1 V2.zero, gt.getD ij.2 V2.zero]
  let estPlane := [est.getD ij.1 V2.zero, est.getD ij.2 V2.zero]
  let lr := leftRightIndex (gtPlane.getD 0 V2.zero) (gtPlane.getD 1 V2.zero)
  let dl2 := dist2 (estPlane.getD lr.1 V2.zero) (gtPlane.getD lr.1 V2.zero)
  let dr2 := dist2 (estPlane.getD lr.2 V2.zero) (gtPlane.getD lr.2 V2.zero)
  (dl2 + dr2) / 2

/-- `PlaneDistanceMatching` for two BOUNDING_BOX objects in BASE_LINK, squared -/
def planeDist2 (est gt : Box) : Rat := planeDist2Of (footprint est) (footprint gt)

/-- sorted squared distances of the GT corners (for the harness: margin of the corner choice) -/
def sortedKeys (gt : Box) : List Rat :=
  let keys := (footprint gt).map V2.norm2
  (argsort keys).map (fun i => keys.getD i 0)

/-! ## extension (C06 strengthening): symmetrised exact intersection area, a defective clipper variant -/

/-- the exact clipper evaluated in BOTH argument orders, the smaller value.  The two orders give different
vertex lists of the same region; the check compares `interArea p q` with `interArea q p` exactly on every
generated pair (they agree), so on every checked pair `interSym p q = interArea p q`.  The full area
contract (`0 ≤ I ≤ min(A1, A2)`, symmetric) is PROVED for this function. -/
def interSym (p q : List V2) : Rat := rmin (interArea p q) (interArea q p)

/-- DEFECTIVE variant of `clipStep` (for the non-vacuity examples only): the inside test of the previous
vertex has the wrong sign in the branch "current vertex inside", so crossing points are computed for edges
that do not cross the line (extrapolated beyond the edge) -/
def clipStepBad (a b : V2) (st : V2 × List V2) (cur : V2) : V2 × List V2 :=
  let prev := st.1
  let out := st.2
  let dc := cross a b cur
  let dp := cross a b prev
  if 0 ≤ dc then
    if 0 < dp then (cur, cur :: isect prev cur dp dc :: out) else (cur, cur :: out)
  else
    if 0 ≤ dp then (cur, isect prev cur dp dc :: out) else (cur, out)

def clipEdgeBad (a b : V2) (poly : List V2) : List V2 :=
  match poly.getLast? with
  | none => []
  | some last => (poly.foldl (clipStepBad a b) (last, [])).2.reverse

def clipConvexBad (subject clip : List V2) : List V2 :=
  (edges (ccw clip)).foldl (fun poly e => clipEdgeBad e.1 e.2 poly) subject

def interAreaBad (p q : List V2) : Rat :=
  if signed2 p = 0 ∨ signed2 q = 0 then 0 else polyArea (clipConvexBad p q)

end PEval.Geometry
