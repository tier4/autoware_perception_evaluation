import PEval.Model.Matching
import PEval.Model.PassFail
import PEval.Model.AP
/-!
# Composition of the three stage models of the detection frame evaluation

Anchors: `manager/perception_evaluation_manager.py: PerceptionEvaluationManager.add_frame_result`
(`_filter_objects` -> `get_object_results`, then `PerceptionFrameResult(...)`) and
`evaluation/result/perception_frame_result.py: PerceptionFrameResult.evaluate_frame`
(critical filter on the object results and on the ground truths, `divide_objects` /
`divide_objects_to_num` with the CRITICAL filter's target labels, `MetricsScore.evaluate_detection`
= one `Map` per configured (mode, threshold list) over the METRICS config's target labels, then
`PassFailResult.evaluate`).

The three stages are modelled separately (`Matching`, `PassFail`, `AP`); each later stage states as a
hypothesis what the earlier stage guarantees.  This file only *translates*: the matcher's scene and
result (`Matching.Scene`, `Matching.Res` = positions in the lists handed to the matcher) into the
`PassFail.Frame` and the `List AP.Res` the later stages read, given per object / per pair the data
those stages read and the matcher does not:

* per estimate (position `i`): harness id, label in the AP model's encoding, confidence, critical flag;
* per ground truth (position `j`): harness id, label (AP encoding), critical flag, `__eq__` class;
* per pair `(i, j)`: `plane_distance.value` (pass/fail score), `get_matching(mode).value` for the
  four modes (AP score), `TPMetricsAph.get_value` (heading weight).

Both lists handed to the matcher are the manager-filtered ones (the manager filter is property C10's
subject and is applied by the caller).  3-D detection / FP validation only (`is_detection_2d = False`;
the 2-D pass/fail branch is not modelled by `PassFail`).  In FP validation `detection_config` is
`None`: the frame has no `Map` (`maps = []`).
-/
namespace PEval.Pipeline
open PEval

/-- what the later stages read of an estimate -/
structure EstAttr where
  id : Nat
  /-- `semantic_label.label` in the AP model's encoding (`0` unknown, `1` false_positive) -/
  label : AP.Label
  /-- `semantic_score` -/
  conf : Rat
  /-- passes the critical-object filter (`is_gt=False`) -/
  crit : Bool
  deriving DecidableEq, Repr

/-- what the later stages read of a ground truth -/
structure GtAttr where
  id : Nat
  label : AP.Label
  /-- passes the critical-object filter (`is_gt=True`) -/
  crit : Bool
  /-- class of `DynamicObject.__eq__` -/
  eqKey : Nat
  deriving DecidableEq, Repr

/-- one `Map(...)` of `evaluate_detection`: matching mode and its per-label threshold list -/
structure MapCfg where
  mode : AP.Mode
  thrs : List Rat

/-- one frame as `add_frame_result` sees it after the manager filter -/
structure Frame where
  /-- matcher configuration: label policy, mode (CENTERDISTANCE in the manager), target labels and
  `max_matchable_radii`, task -/
  cfg : Matching.Cfg
  /-- labels / frame ids of the two lists and the real score-table values -/
  scene : Matching.Scene
  est : Nat → EstAttr
  gt : Nat → GtAttr
  /-- `PerceptionPassFailConfig.target_labels` / `.matching_threshold_list` -/
  pfTargets : List AP.Label
  pfThrs : Option (List Rat)
  /-- `plane_distance.value` of the pair -/
  pfScore : Nat → Nat → Option Rat
  /-- `get_matching(mode).value` of the pair -/
  apScore : AP.Mode → Nat → Nat → Option Rat
  /-- `TPMetricsAph.get_value` of the pair -/
  hw : Nat → Nat → Rat
  /-- `critical_object_filter_config.target_labels` (keys of `divide_objects`) -/
  critTargets : List AP.Label
  /-- `metrics_config.detection_config.target_labels` (labels `Map` iterates over) -/
  mapTargets : List AP.Label
  /-- the `Map`s of `evaluate_detection`, in the order they are appended to `metrics_score.maps` -/
  maps : List MapCfg

/-! ## translation -/

def apPolicy : Matching.Policy → AP.Policy
  | .default => .default
  | .allowUnknown => .allowUnknown
  | .allowAny => .allowAny

/-- ground truth `j` as the pass/fail accounting reads it -/
def toGT (f : Frame) (j : Nat) : PassFail.GT :=
  { id := (f.gt j).id, isFP := (f.gt j).label == AP.fpLabel, crit := (f.gt j).crit, eqKey := (f.gt j).eqKey }

/-- `frame_ground_truth.objects` handed to `PerceptionFrameResult` (positions `0 … nG-1`) -/
def pfGts (f : Frame) : List PassFail.GT := (List.range f.scene.gts.length).map (toGT f)

/-- `get_label_threshold(gt.semantic_label, pass_fail.target_labels, matching_threshold_list)` -/
def pfThrOf (f : Frame) (j : Nat) : Except Err (Option Rat) :=
  AP.getLabelThreshold (f.gt j).label f.pfTargets f.pfThrs

/-- the threshold as the record carries it; a lookup that raises is not lost: `detectFrame` tests `pfThrError` before it
evaluates the frame -/
def pfThr (f : Frame) (j : Nat) : Option Rat :=
  match pfThrOf f j with
  | .ok t => t
  | .error _ => none

/-- `is_label_correct`: `matching_label_policy.is_matchable(estimated_object, ground_truth_object)` on
the very objects the matcher saw -/
def labelOk (f : Frame) (i j : Nat) : Bool :=
  match f.scene.ests[i]?, f.scene.gts[j]? with
  | some e, some g => Matching.isMatchable f.cfg.policy e g
  | _, _ => false

/-- one matcher result as the pass/fail accounting reads it -/
def toPFRes (f : Frame) (r : Matching.Res) : PassFail.Res :=
  match r.2 with
  | none =>
    { est := (f.est r.1).id, estCrit := (f.est r.1).crit, gt := none, labelOk := false,
      thr := none, score := none }
  | some j =>
    { est := (f.est r.1).id, estCrit := (f.est r.1).crit, gt := some (toGT f j),
      labelOk := labelOk f r.1 j, thr := pfThr f j, score := f.pfScore r.1 j }

/-- (a) the PassFail model's frame input -/
def pfFrame (f : Frame) (rs : List Matching.Res) : PassFail.Frame :=
  { results := rs.map (toPFRes f), gts := pfGts f }

def toAPGt (f : Frame) (j : Nat) : AP.Gt := { id := (f.gt j).id, label := (f.gt j).label }

/-- one matcher result as the metrics read it under matching mode `m`; a 3-D result without ground
truth has matching methods whose `value` is `None` -/
def toAPRes (f : Frame) (m : AP.Mode) (r : Matching.Res) : AP.Res :=
  { id := (f.est r.1).id, conf := (f.est r.1).conf, label := (f.est r.1).label,
    gt := r.2.map (toAPGt f),
    score := .val (match r.2 with
      | some j => f.apScore m r.1 j
      | none => none),
    hw := (match r.2 with
      | some j => f.hw r.1 j
      | none => 0),
    policy := apPolicy f.cfg.policy }

/-- `filter_object_results` with the critical parameters, on matcher results -/
def survives (f : Frame) (r : Matching.Res) : Bool :=
  (f.est r.1).crit && (match r.2 with
    | none => true
    | some j => (f.gt j).crit)

/-- `self.object_results` after the critical filter -/
def critResults (f : Frame) (rs : List Matching.Res) : List Matching.Res := rs.filter (survives f)

/-- positions of the ground truths kept by the critical filter -/
def critGtIdx (f : Frame) : List Nat := (List.range f.scene.gts.length).filter (fun j => (f.gt j).crit)

/-- (b) the AP model's result list (mode `m`) and ground-truth list of the frame -/
def apResults (f : Frame) (m : AP.Mode) (rs : List Matching.Res) : List AP.Res :=
  (critResults f rs).map (toAPRes f m)

def apGts (f : Frame) : List AP.Gt := (critGtIdx f).map (toAPGt f)

/-! ## the frame-level `Map` with the two target-label lists of `evaluate_frame` -/

/-- `divide_objects(object_results, critical.target_labels)`,
`divide_objects_to_num(ground truths, critical.target_labels)`, then
`Map(…, target_labels = detection_config.target_labels, …)`.  With both lists equal this is
`AP.frameMap` (`frameMap2_same`). -/
def frameMap2 (m : AP.Mode) (is2d : Bool) (divTargets mapTargets : List AP.Label) (thrs : List Rat)
    (rs : List AP.Res) (gtLabels : List AP.Label) : Except Err AP.MapOut :=
  AP.mapOf m is2d mapTargets thrs
    ((AP.divideObjects (some divTargets) rs).map (fun kv => (kv.1, [kv.2])))
    (AP.divideObjectsToNum (some divTargets) gtLabels)

/-- the `Map` of one configured (mode, thresholds) on the matcher's results -/
def mapFor (f : Frame) (rs : List Matching.Res) (mc : MapCfg) : Except Err AP.MapOut :=
  frameMap2 mc.mode false f.critTargets f.mapTargets mc.thrs (apResults f mc.mode rs)
    ((apGts f).map (·.label))

/-- `evaluate_detection`: the `Map`s in order; the first exception aborts the frame -/
def mapsFor (f : Frame) (rs : List Matching.Res) : List MapCfg → Except Err (List AP.MapOut)
  | [] => .ok []
  | mc :: rest =>
    match mapFor f rs mc with
    | .error e => .error e
    | .ok o =>
      match mapsFor f rs rest with
      | .error e => .error e
      | .ok os => .ok (o :: os)

/-- first exception of `get_label_threshold` in `get_positive_objects` (short threshold list;
unreachable through `PerceptionPassFailConfig`, which checks the length) -/
def pfThrError (f : Frame) (rs : List Matching.Res) : Option Err :=
  rs.findSome? fun r =>
    match r.2 with
    | none => none
    | some j =>
      match pfThrOf f j with
      | .error e => some e
      | .ok _ => none

/-! ## the whole frame -/

structure Out where
  /-- `get_object_results(...)`: what `_filter_objects` returns -/
  matched : List Matching.Res
  /-- `pass_fail_result` (+ the filtered `object_results` / `frame_ground_truth.objects`) -/
  pf : PassFail.PassFail
  /-- `metrics_score.maps` -/
  maps : List AP.MapOut

/-- `add_frame_result` → `evaluate_frame`: matcher, critical filter, per-label metrics, pass/fail -/
def detectFrame (f : Frame) : Except Err Out :=
  match Matching.getObjectResults f.cfg f.scene with
  | .error e => .error e
  | .ok rs =>
    match mapsFor f rs f.maps with
    | .error e => .error e
    | .ok maps =>
      match pfThrError f (critResults f rs) with
      | some e => .error e
      | none => .ok { matched := rs, pf := PassFail.evaluateFrame (pfFrame f rs), maps := maps }

/-! ## coherence of the two label encodings (checked by the driver on every frame)

The matcher model reads labels as the enum's string values, the AP model as naturals.  The harness
supplies both; `labelsCoherent` says the two encodings agree on everything the models test: equality
of an estimate's and a ground truth's label, "unknown", "false_positive". -/

def labelsCoherent (f : Frame) : Bool :=
  (List.range f.scene.ests.length).all fun i =>
    match f.scene.ests[i]? with
    | none => true
    | some e =>
      (Matching.isUnknown e.label == ((f.est i).label == AP.unknownLabel)) &&
      (List.range f.scene.gts.length).all fun j =>
        match f.scene.gts[j]? with
        | none => true
        | some g =>
          (Matching.isFp g.label == ((f.gt j).label == AP.fpLabel)) &&
          ((e.label == g.label) == ((f.est i).label == (f.gt j).label))

/-! ## which label keys the pass/fail threshold

`get_positive_objects` skips a result without ground truth before any lookup and otherwise looks the threshold
up under `object_result.ground_truth_object.semantic_label`; `get_negative_objects` looks it up under the ground
truth's label if there is one, else under the ESTIMATE's label (`objects_filter.py`:
`ground_truth_object.semantic_label if ground_truth_object is not None else estimated_object.semantic_label`).
`ThrKey` names the choice for a PAIRED result; `detectFrameWith .gtLabel` is `detectFrame` (the code),
`detectFrameWith .estLabel` the defective variant keyed on the estimate's label (what `seeded/C03_K` does to
`get_negative_objects`, done here to `get_positive_objects`). -/

inductive ThrKey where
  | gtLabel | estLabel
  deriving DecidableEq, Repr

/-- the label handed to `get_label_threshold` for the pair (estimate `i`, ground truth `j`) -/
def keyLabelOf (k : ThrKey) (f : Frame) (i j : Nat) : AP.Label :=
  match k with
  | .gtLabel => (f.gt j).label
  | .estLabel => (f.est i).label

def pfThrOfWith (k : ThrKey) (f : Frame) (i j : Nat) : Except Err (Option Rat) :=
  AP.getLabelThreshold (keyLabelOf k f i j) f.pfTargets f.pfThrs

def pfThrWith (k : ThrKey) (f : Frame) (i j : Nat) : Option Rat :=
  match pfThrOfWith k f i j with
  | .ok t => t
  | .error _ => none

def toPFResWith (k : ThrKey) (f : Frame) (r : Matching.Res) : PassFail.Res :=
  match r.2 with
  | none =>
    { est := (f.est r.1).id, estCrit := (f.est r.1).crit, gt := none, labelOk := false,
      thr := none, score := none }
  | some j =>
    { est := (f.est r.1).id, estCrit := (f.est r.1).crit, gt := some (toGT f j),
      labelOk := labelOk f r.1 j, thr := pfThrWith k f r.1 j, score := f.pfScore r.1 j }

def pfFrameWith (k : ThrKey) (f : Frame) (rs : List Matching.Res) : PassFail.Frame :=
  { results := rs.map (toPFResWith k f), gts := pfGts f }

def pfThrErrorWith (k : ThrKey) (f : Frame) (rs : List Matching.Res) : Option Err :=
  rs.findSome? fun r =>
    match r.2 with
    | none => none
    | some j =>
      match pfThrOfWith k f r.1 j with
      | .error e => some e
      | .ok _ => none

/-- `detectFrame` with the threshold of a paired result keyed as `k` says -/
def detectFrameWith (k : ThrKey) (f : Frame) : Except Err Out :=
  match Matching.getObjectResults f.cfg f.scene with
  | .error e => .error e
  | .ok rs =>
    match mapsFor f rs f.maps with
    | .error e => .error e
    | .ok maps =>
      match pfThrErrorWith k f (critResults f rs) with
      | some e => .error e
      | none => .ok { matched := rs, pf := PassFail.evaluateFrame (pfFrameWith k f rs), maps := maps }

/-- the lookups of `get_negative_objects`' first loop: under the ground truth's label if there is one, else
under the estimate's label -/
def negKeyLabel (f : Frame) (r : Matching.Res) : AP.Label :=
  match r.2 with
  | some j => (f.gt j).label
  | none => (f.est r.1).label

/-- the result as the first loop of `get_negative_objects` reads it: `thr` is looked up for EVERY result,
under `negKeyLabel` -/
def toPFResNeg (f : Frame) (r : Matching.Res) : PassFail.Res :=
  { toPFRes f r with
    thr := (match AP.getLabelThreshold (negKeyLabel f r) f.pfTargets f.pfThrs with
      | .ok t => t
      | .error _ => none) }

end PEval.Pipeline
