import PEval.Model.DTree
import PEval.Model.Sensing
/-!
# The decision skeleton of `SensingFrameResult.evaluate_frame` over abstract atoms (C12, decision-table translator)

`harness/dt_c12.py` runs the REAL `evaluate_frame` on stub objects for the shapes
(number of objects `n`, number of non-detection clouds `k`) ∈ {(0,0),(0,1),(0,2),(1,0),(2,0)} and emits the decision
trees (`PEval/Gen/SensingDT.lean`). Atoms (numbering shared with the Python registry):

* Boolean `2i`   : `len(object_i.crop_pointcloud(cloud, scale)) == 0`;  `2i+1` : `object_i.visibility == Visibility.NONE`;
  `100+j` : `len(nd_clouds[j]) == 0`
* order   `2i`   : `compare (inside count of object i) min_points_threshold` (asked when the crop is non-empty);
  `99` : `compare 0 min_points_threshold` (asked when it is empty)

A result is the number `Σ_i (digit_i + 1)·13^i + 13^4·Σ_j reported_j·2^j`, `digit = container (0 warning, 1 success,
2 fail) + 3·is_detected + 6·(nearest_point is not None)`.

`frameSkel n k` is the model's skeleton as a tree, `frameCode` the same as a function of the valuation,
`valuationOf` the atoms of a concrete model input, `modelCode` the number computed from the MODEL's results (`sresOf`).
That the tree evaluates to `frameCode`, and `frameCode` at `valuationOf` to `modelCode`, is proved in
`Lemmas/SensingDT.lean`.  No Mathlib.
-/
namespace PEval.SensingDT
open PEval PEval.DT PEval.Sensing

def bEmpty (i : Nat) : Nat := 2 * i
def bVisNone (i : Nat) : Nat := 2 * i + 1
def bNdEmpty (j : Nat) : Nat := 100 + j
def cNumThr (i : Nat) : Nat := 2 * i
def cZeroThr : Nat := 99

def digit (warn det near : Bool) : Nat :=
  (if warn then 0 else if det then 1 else 2) + (if det then 3 else 0) + (if near then 6 else 0)

def ndWeight (e : Bool) (j : Nat) : Nat := if e then 0 else 13 ^ 4 * 2 ^ j

/-! ## the skeleton as a tree -/

/-- `_evaluate_pointcloud_for_non_detection` without objects: cloud `j` is reported iff it is non-empty -/
def ndSkel : Nat → Nat → Nat → DTree
  | 0, _, acc => .leaf (.other acc)
  | m + 1, j, acc => askB (bNdEmpty j) fun e => ndSkel m (j + 1) (acc + ndWeight e j)

/-- `_evaluate_pointcloud_for_detection`: per object the crop, `is_detected = count ≥ threshold`, the nearest point
(none iff the crop is empty), then `if is_occluded … elif is_detected … else` -/
def objSkel : Nat → Nat → Nat → Nat → DTree
  | 0, _, k, acc => ndSkel k 0 acc
  | m + 1, i, k, acc =>
    askB (bEmpty i) fun e =>
    askC (if e then cZeroThr else cNumThr i) fun o =>
    askB (bVisNone i) fun w =>
    objSkel m (i + 1) k (acc + (digit w (o != .lt) (!e) + 1) * 13 ^ i)

def frameSkel (n k : Nat) : DTree := objSkel n 0 k 0

/-! ## the skeleton as a function of the valuation -/

def ndCode (v : Val) : Nat → Nat → Nat → Nat
  | 0, _, acc => acc
  | m + 1, j, acc => ndCode v m (j + 1) (acc + ndWeight (v.b (bNdEmpty j)) j)

def objDigitAtoms (v : Val) (i : Nat) : Nat :=
  digit (v.b (bVisNone i)) (v.c (if v.b (bEmpty i) then cZeroThr else cNumThr i) != .lt) (!(v.b (bEmpty i)))

def frameCode (v : Val) : Nat → Nat → Nat → Nat → Nat
  | 0, _, k, acc => ndCode v k 0 acc
  | m + 1, i, k, acc => frameCode v m (i + 1) k (acc + (objDigitAtoms v i + 1) * 13 ^ i)

def frameAtoms (n k : Nat) (v : Val) : Res := .other (frameCode v n 0 k 0)

/-! ## the atoms of a concrete model input -/

def cmpI (a b : Int) : Ordering := if a < b then .lt else if a = b then .eq else .gt

/-- the crop `DynamicObjectWithSensingResult` keeps (`inside_pointcloud`) -/
def insideOf (cfg : Cfg) (cols : Nat) (cloud : List Pt) (o : Obj) : List Pt :=
  cropInside cols cloud (boxCorners o.box (scaleFactor cfg o.dist))

/-- `rest`: the non-detection clouds after the objects' boxes were removed (the clouds themselves when there is no
object) -/
def valuationOf (cfg : Cfg) (cols : Nat) (cloud : List Pt) (objs : List Obj) (rest : List (List Pt)) : Val :=
  ⟨fun a =>
      if 100 ≤ a then (rest.getD (a - 100) []).length == 0
      else match objs[a / 2]? with
        | none => false
        | some o => if a % 2 = 0 then (insideOf cfg cols cloud o).length == 0 else isNone o.visibility,
   fun a =>
      if a = 99 then cmpI 0 cfg.minPoints
      else match objs[a / 2]? with
        | none => .eq
        | some o => cmpI ((insideOf cfg cols cloud o).length : Int) cfg.minPoints⟩

/-! ## the number computed from the MODEL's results -/

/-- digit of a model result (`SRes`): container by `classify`, `isDetected`, nearest point present iff `num ≠ 0` -/
def objDigit (r : SRes) : Nat := digit r.isOccluded r.isDetected (r.num != 0)

/-- the model's `DynamicObjectWithSensingResult` of an object (total form of `sensingResult`) -/
def sresOf (cfg : Cfg) (cols : Nat) (cloud : List Pt) (o : Obj) : SRes :=
  { gt := o.id, inside := insideOf cfg cols cloud o, num := (insideOf cfg cols cloud o).length,
    isDetected := decide (((insideOf cfg cols cloud o).length : Int) ≥ cfg.minPoints),
    isOccluded := isNone o.visibility }

def digitsCode : List Nat → Nat → Nat → Nat
  | [], _, acc => acc
  | d :: ds, i, acc => digitsCode ds (i + 1) (acc + (d + 1) * 13 ^ i)

def flagsCode : List Bool → Nat → Nat → Nat
  | [], _, acc => acc
  | e :: es, j, acc => flagsCode es (j + 1) (acc + ndWeight e j)

/-- the result number of the model: per-object digits in object order, reported non-detection clouds -/
def modelCode (cfg : Cfg) (cols : Nat) (cloud : List Pt) (objs : List Obj) (rest : List (List Pt)) : Nat :=
  flagsCode (rest.map fun c => c.length == 0) 0
    (digitsCode (objs.map fun o => objDigit (sresOf cfg cols cloud o)) 0 0)

end PEval.SensingDT
