import PEval.Model.DTree
import PEval.Model.Analyzer
/-!
# Decision skeletons of the C19 kernels over abstract atoms (decision-table translator)

`harness/dt_c19.py` runs the REAL code on symbolic inputs and emits decision trees (`PEval/Gen/AnalyzerDT.lean`,
`tables : List (key1 × key2 × Option DTree)`).

## (1) `tool/utils.get_area_idx` on the grid of `generate_area_points` — key1 = 0, key2 = divisions (1, 3, 9; 13 = an
object RESULT as input, 3 divisions)

The grid is built by the real `generate_area_points` on the symbolic bounds `max_x`, `max_y`; its lines come out as the
forms `-m, -m/3, m/3, m` (line numbers 0..3, `lineVal`).  Order atoms (three outcomes):
`a = k`     : `compare x (line k of max_x)`,  `a = 4 + k` : `compare y (line k of max_y)`   (x, y = ego-frame position).
Result: `.other 0` = `None`, `.other (i+1)` = area `i`, `.raise 6` = `ValueError` (two areas hit: impossible for ordered
lines, but the atoms are treated as independent).

## (2) the row status written by `PerceptionAnalyzer3D.add([frame])` — key1 = 1, key2 = a + 3b + 9c + 27d for a frame with
`a` TP results, `b` FP results, `c` TN objects, `d` FN objects (a+b+c+d ≤ 2)

Boolean atoms: `i` : TP result `i` has no ground truth, `2+i` : FP result `i` has no ground truth.  Result: the DataFrame
as the number `Σ_k (digit_k + 1)·64^k` over the row pairs IN ASCENDING ORDER OF THEIR CELLS (the pairs are read from the index,
whatever its labels and order), `digit = g + 5e + 25j`, `g`/`e` = status of the ground-truth / estimation row (0 = all-None row,
1 TP, 2 FP, 3 TN, 4 FN), `j` = which item of `tp ++ fp ++ tn ++ fn` the row shows.  Code and model are compared by `rowsRel`.

No Mathlib.
-/
namespace PEval.AnalyzerDT
open PEval PEval.DT PEval.Analyzer

/-! ## (1) area index -/

/-- the four grid lines of a bound `m`, by line number -/
def lineVal (m : Rat) : Nat → Rat
  | 0 => -m
  | 1 => -m / 3
  | 2 => m / 3
  | _ => m

def pick (a b c d : Ordering) : Nat → Ordering
  | 0 => a
  | 1 => b
  | 2 => c
  | _ => d

/-- `generate_area_points` with line numbers instead of numbers: (upper-right x line, y line), (bottom-left x line, y line) -/
def symUR (n : Nat) : List (Nat × Nat) :=
  let rightX := [3, 2, 1]
  if n = 1 then [(3, 0)]
  else if n = 3 then rightX.map (fun x => (x, 0))
  else [2, 1, 0].flatMap (fun y => rightX.map (fun x => (x, y)))

def symBL (n : Nat) : List (Nat × Nat) :=
  let leftX := [2, 1, 0]
  if n = 1 then [(0, 3)]
  else if n = 3 then leftX.map (fun x => (x, 3))
  else [3, 2, 1].flatMap (fun y => leftX.map (fun x => (x, y)))

def isLt : Ordering → Bool
  | .lt => true
  | _ => false

def isGt : Ordering → Bool
  | .gt => true
  | _ => false

/-- `(x < ur.x) * (x > bl.x)`, `(y > ur.y) * (y < bl.y)` on order atoms (`cx k` = `compare x (line k)`) -/
def insideSym (cx cy : Nat → Ordering) (ur bl : Nat × Nat) : Bool :=
  (isLt (cx ur.1) && isGt (cx bl.1)) && (isGt (cy ur.2) && isLt (cy bl.2))

/-- `np.where(mask)[0]` -/
def hitsOf (mask : List Bool) : List Nat := (mask.zipIdx.filter (·.1)).map (·.2)

def hitsSym (n : Nat) (cx cy : Nat → Ordering) : List Nat :=
  hitsOf (((symUR n).zip (symBL n)).map fun (ur, bl) => insideSym cx cy ur bl)

/-- `None` when no area is hit, the index when one is, `.item()` raises `ValueError` otherwise -/
def resOfHits : List Nat → Res
  | [] => .other 0
  | [i] => .other (i + 1)
  | _ => .raise 6

/-- `get_area_idx` on order atoms, following the code (all cells, then `np.where`) -/
def areaRes (n : Nat) (cx cy : Nat → Ordering) : Res := resOfHits (hitsSym n cx cy)

/-! the same function in a form the kernel evaluates quickly at the 3^8 leaves of the skeleton: the mask is the product of
a column mask and a row mask (`areaFast_eq`) -/

/-- of three flags: `some none` = none set, `some (some i)` = exactly flag `i`, `none` = several -/
def one3 : Bool → Bool → Bool → Option (Option Nat)
  | false, false, false => some none
  | true, false, false => some (some 0)
  | false, true, false => some (some 1)
  | false, false, true => some (some 2)
  | _, _, _ => none

def combine (cols rows : Option (Option Nat)) : Res :=
  match cols, rows with
  | some none, _ => .other 0
  | _, some none => .other 0
  | some (some c), some (some r) => .other (3 * r + c + 1)
  | _, _ => .raise 6

def areaFast (n : Nat) (x0 x1 x2 x3 y0 y1 y2 y3 : Ordering) : Res :=
  if n = 1 then combine (one3 (isLt x3 && isGt x0) false false) (one3 (isGt y0 && isLt y3) false false)
  else if n = 3 then
    combine (one3 (isLt x3 && isGt x2) (isLt x2 && isGt x1) (isLt x1 && isGt x0)) (one3 (isGt y0 && isLt y3) false false)
  else
    combine (one3 (isLt x3 && isGt x2) (isLt x2 && isGt x1) (isLt x1 && isGt x0))
      (one3 (isGt y2 && isLt y3) (isGt y1 && isLt y2) (isGt y0 && isLt y1))

theorem fast1 : ∀ c r : Bool, combine (one3 c false false) (one3 r false false) = resOfHits (hitsOf [c && r]) := by decide

theorem fast3 : ∀ c0 c1 c2 r : Bool,
    combine (one3 c0 c1 c2) (one3 r false false) = resOfHits (hitsOf [c0 && r, c1 && r, c2 && r]) := by decide

theorem fast9 : ∀ c0 c1 c2 r0 r1 r2 : Bool,
    combine (one3 c0 c1 c2) (one3 r0 r1 r2) =
      resOfHits (hitsOf [c0 && r0, c1 && r0, c2 && r0, c0 && r1, c1 && r1, c2 && r1, c0 && r2, c1 && r2, c2 && r2]) := by decide

theorem areaFast_eq (n : Nat) (hn : n = 1 ∨ n = 3 ∨ n = 9) (x0 x1 x2 x3 y0 y1 y2 y3 : Ordering) :
    areaFast n x0 x1 x2 x3 y0 y1 y2 y3 = areaRes n (pick x0 x1 x2 x3) (pick y0 y1 y2 y3) := by
  rcases hn with rfl | rfl | rfl
  · exact fast1 (isLt x3 && isGt x0) (isGt y0 && isLt y3)
  · exact fast3 (isLt x3 && isGt x2) (isLt x2 && isGt x1) (isLt x1 && isGt x0) (isGt y0 && isLt y3)
  · exact fast9 (isLt x3 && isGt x2) (isLt x2 && isGt x1) (isLt x1 && isGt x0)
      (isGt y2 && isLt y3) (isGt y1 && isLt y2) (isGt y0 && isLt y1)

/-- the skeleton as a function of the valuation -/
def areaAtoms (n : Nat) (v : Val) : Res :=
  areaFast n (v.c 0) (v.c 1) (v.c 2) (v.c 3) (v.c 4) (v.c 5) (v.c 6) (v.c 7)

/-- the skeleton as a tree (only the atoms the division needs, in the order the unchanged code asks them) -/
def areaSkel (n : Nat) : DTree :=
  if n = 1 then
    askC 3 fun x3 => askC 0 fun x0 => askC 4 fun y0 => askC 7 fun y3 =>
    .leaf (areaFast 1 x0 .eq .eq x3 y0 .eq .eq y3)
  else if n = 3 then
    askC 3 fun x3 => askC 2 fun x2 => askC 1 fun x1 => askC 0 fun x0 => askC 4 fun y0 => askC 7 fun y3 =>
    .leaf (areaFast 3 x0 x1 x2 x3 y0 .eq .eq y3)
  else
    askC 3 fun x3 => askC 2 fun x2 => askC 1 fun x1 => askC 0 fun x0 =>
    askC 6 fun y2 => askC 5 fun y1 => askC 4 fun y0 => askC 7 fun y3 =>
    .leaf (areaFast n x0 x1 x2 x3 y0 y1 y2 y3)

theorem eval_areaSkel (n : Nat) (v : Val) : eval (areaSkel n) v = areaAtoms n v := by
  unfold areaSkel
  split
  · next h => subst h; simp only [eval_askC]; rfl
  · split
    · next h => subst h; simp only [eval_askC]; rfl
    · simp only [eval_askC]; rfl

/-- the number of divisions a table key stands for (13 = three divisions, object result as input) -/
def divisionsOf (key : Nat) : Nat := key % 10

def cmpR (a b : Rat) : Ordering := if a < b then .lt else if a = b then .eq else .gt

/-- the atoms of a concrete input: ego-frame position `(x, y)` against the lines of the bounds -/
def areaValuation (mX mY x y : Rat) : Val :=
  ⟨fun _ => false, fun a => if a < 4 then cmpR x (lineVal mX a) else cmpR y (lineVal mY (a - 4))⟩

/-- what the MODEL answers, as a table result -/
def areaResOfModel (n : Nat) (mX mY x y : Rat) : Res :=
  match generateAreaPoints n mX mY with
  | .error _ => .raise 6
  | .ok a =>
    match getAreaIdx a x y with
    | .ok none => .other 0
    | .ok (some i) => .other (i + 1)
    | .error _ => .raise 6

/-! ## (2) row status -/

def rowDigit (g e j : Nat) : Nat := g + 5 * e + 25 * j

/-- (kind, index in its list) of the items of a frame in table order; kind 0 TP result, 1 FP result, 2 TN object, 3 FN object -/
def itemsOf (a b c d : Nat) : List (Nat × Nat) :=
  (List.range a).map (fun i => (0, i)) ++ (List.range b).map (fun i => (1, i)) ++
  (List.range c).map (fun i => (2, i)) ++ (List.range d).map (fun i => (3, i))

/-- atom "result `i` of list `kind` has no ground truth" -/
def aNone (kind i : Nat) : Nat := 2 * kind + i

def itemDigit (kind : Nat) (none : Bool) (j : Nat) : Nat :=
  if kind < 2 then rowDigit (if none then 0 else kind + 1) (kind + 1) j else rowDigit (kind + 1) 0 j

def rowsSkelAux : List (Nat × Nat) → Nat → Nat → DTree
  | [], _, acc => .leaf (.other acc)
  | (kind, i) :: rest, j, acc =>
    if kind < 2 then askB (aNone kind i) fun none => rowsSkelAux rest (j + 1) (acc + (itemDigit kind none j + 1) * 64 ^ j)
    else rowsSkelAux rest (j + 1) (acc + (itemDigit kind false j + 1) * 64 ^ j)

def rowsCodeAux (v : Val) : List (Nat × Nat) → Nat → Nat → Nat
  | [], _, acc => acc
  | (kind, i) :: rest, j, acc =>
    rowsCodeAux v rest (j + 1) (acc + (itemDigit kind (if kind < 2 then v.b (aNone kind i) else false) j + 1) * 64 ^ j)

def shapeOf (key : Nat) : Nat × Nat × Nat × Nat := (key % 3, key / 3 % 3, key / 9 % 3, key / 27 % 3)

def rowsSkel (key : Nat) : DTree :=
  let s := shapeOf key
  rowsSkelAux (itemsOf s.1 s.2.1 s.2.2.1 s.2.2.2) 0 0

def rowsAtoms (key : Nat) (v : Val) : Res :=
  let s := shapeOf key
  .other (rowsCodeAux v (itemsOf s.1 s.2.1 s.2.2.1 s.2.2.2) 0 0)

theorem eval_rowsSkelAux (v : Val) : ∀ l j acc, eval (rowsSkelAux l j acc) v = .other (rowsCodeAux v l j acc)
  | [], _, _ => rfl
  | (kind, i) :: rest, j, acc => by
    by_cases h : kind < 2
    · simp only [rowsSkelAux, rowsCodeAux, h, if_true, eval_askB]; exact eval_rowsSkelAux v rest (j + 1) _
    · simp only [rowsSkelAux, rowsCodeAux, h, if_false]; exact eval_rowsSkelAux v rest (j + 1) _

theorem eval_rowsSkel (key : Nat) (v : Val) : eval (rowsSkel key) v = rowsAtoms key v :=
  eval_rowsSkelAux v _ 0 0

/-! ### the relation between the code's table and the model's (what the per-run theorem checks for the row shapes)

C19: "one ground-truth/estimate row pair per TP, FP, TN and FN item" — no numbering and no order of the pairs is stated, so
`harness/dt_c19.py` emits the pairs as a SORTED multiset of cells (`cell = digit + 1`, `Σ_k cell_k · 64^k`; sorted = by item, when
every item has its one pair — the model's leaves are already in that form).  Which row pair owns the ground truth of an FP result
carrying one is the open design decision of known finding F11: there — cell `13 + 25 j`, `(g, e) = (FP, FP)` in the model's layout —
the code may also show the estimate only — cell `11 + 25 j`, `(g, e) = (none, FP)`.  Everywhere else the cells must be equal. -/

def cellRel (c m : Nat) : Bool := c == m || (m % 25 == 13 && c + 2 == m)

/-- cell-wise `cellRel` on the base-64 digits (fuel = number of cells looked at; the tables have at most 2) -/
def relCode : Nat → Nat → Nat → Bool
  | 0, c, m => c == m
  | n + 1, c, m => c == m || (cellRel (c % 64) (m % 64) && relCode n (c / 64) (m / 64))

def rowsRel : Res → Res → Bool
  | .other c, .other m => relCode 4 c m
  | _, _ => false

/-- the model's number shows no FP pair holding a ground truth (no input of F11's signature among the items) -/
def noF11Code : Nat → Nat → Bool
  | 0, _ => true
  | n + 1, m => m % 64 % 25 != 13 && noF11Code n (m / 64)

theorem relCode_refl : ∀ (n c : Nat), relCode n c c = true
  | 0, c => by simp [relCode]
  | n + 1, c => by simp [relCode]

/-- one cell: related numbers have related last digits and related quotients -/
theorem relCode_succ {n c m : Nat} (h : relCode (n + 1) c m = true) :
    cellRel (c % 64) (m % 64) = true ∧ relCode n (c / 64) (m / 64) = true := by
  simp only [relCode, Bool.or_eq_true, Bool.and_eq_true, beq_iff_eq] at h
  rcases h with rfl | h
  · exact ⟨by simp [cellRel], relCode_refl n _⟩
  · exact h

theorem relCode_eq_of_noF11 : ∀ (n c m : Nat), noF11Code n m = true → relCode n c m = true → c = m
  | 0, c, m, _, h => by simpa [relCode] using h
  | n + 1, c, m, hn, h => by
    simp only [noF11Code, Bool.and_eq_true, bne_iff_ne, ne_eq] at hn
    obtain ⟨h1, h2⟩ := relCode_succ h
    simp only [cellRel, Bool.or_eq_true, Bool.and_eq_true, beq_iff_eq] at h1
    have hd := relCode_eq_of_noF11 n _ _ hn.2 h2
    have hm : c % 64 = m % 64 := h1.resolve_right fun h => hn.1 h.1
    rw [← Nat.div_add_mod c 64, ← Nat.div_add_mod m 64, hd, hm]

/-- the named restriction of the exact (equality) corollaries: no FP result of the shape carries a ground truth, i.e. the frame holds no
input of F11's signature -/
def noFPwithGT (key : Nat) (v : Val) : Bool := (List.range (shapeOf key).2.1).all fun i => v.b (aNone 1 i)

/-! trees of relational checks: `relTree rel code model` evaluates to `.ret (rel (code's result) (model's result))`, so the
EXISTING checker `DT.agree` (and its soundness lemma) decides "`rel` holds under every valuation" as `agree (relTree ..) (.leaf (.ret true))` -/

def relTree (rel : Res → Res → Bool) (code model : DTree) : DTree :=
  bindT (fun c => mapT (fun m => .ret (rel c m)) model) code

theorem eval_relTree (rel : Res → Res → Bool) (code model : DTree) (v : Val) :
    eval (relTree rel code model) v = .ret (rel (eval code v) (eval model v)) := by
  unfold relTree
  rw [eval_bindT, eval_mapT]

/-! ### the MODEL's `addFrame` on index objects -/

def valOfBits (b : Bool × Bool × Bool × Bool) : Val :=
  ⟨fun a => match a with | 0 => b.1 | 1 => b.2.1 | 2 => b.2.2.1 | 3 => b.2.2.2 | _ => false, fun _ => .eq⟩

def allBits : List (Bool × Bool × Bool × Bool) :=
  [false, true].flatMap fun a => [false, true].flatMap fun b => [false, true].flatMap fun c => [false, true].map fun d => (a, b, c, d)

def mkObj (u : String) : Obj := ⟨u, "car", 0, 0, 0, 2, 4, none, none⟩

def estName (j : Nat) : String := "e" ++ toString j
def gtName (j : Nat) : String := "g" ++ toString j

/-- the model frame of a shape: item `j` (in table order) has estimate `e<j>` and ground truth `g<j>` -/
def frameOf (key : Nat) (v : Val) : Frame :=
  let s := shapeOf key
  let a := s.1; let b := s.2.1; let c := s.2.2.1; let d := s.2.2.2
  { frameNum := 7
    tp := (List.range a).map fun i => ⟨mkObj (estName i), if v.b (aNone 0 i) then none else some (mkObj (gtName i))⟩
    fp := (List.range b).map fun i => ⟨mkObj (estName (a + i)), if v.b (aNone 1 i) then none else some (mkObj (gtName (a + i)))⟩
    tn := (List.range c).map fun i => mkObj (gtName (a + b + i))
    fn := (List.range d).map fun i => mkObj (gtName (a + b + c + i))
    critical := [] }

def statusCode : Status → Nat
  | .TP => 1 | .FP => 2 | .TN => 3 | .FN => 4

def cellCode : Option Cell → Nat
  | none => 0
  | some c => statusCode c.status

def bad : Nat := 999999

/-- which item a uuid names (`e<j>` / `g<j>`, j < 4) -/
def itemOfUuid (side : String) (u : String) : Option Nat :=
  (List.range 4).find? fun j => u == side ++ toString j

/-- the item shown by a row pair: both present rows must name the same item -/
def pairItem (g e : Option Cell) : Option Nat :=
  match g.map (fun c => itemOfUuid "g" c.obj.uuid), e.map (fun c => itemOfUuid "e" c.obj.uuid) with
  | some (some j), none => some j
  | none, some (some j) => some j
  | some (some j), some (some j') => if j = j' then some j else none
  | _, _ => none

/-- the number `harness/dt_c19.py` computes from the DataFrame, here from the model's table (frame 7, scene 0) -/
def tableCodeAux : List RowPair → Nat → Nat → Nat
  | [], _, acc => acc
  | r :: rest, k, acc =>
    match pairItem r.gt r.est with
    | none => bad
    | some j =>
      if r.index = k ∧ (r.gt.all fun c => c.frame = 7 ∧ c.scene = 0) ∧ (r.est.all fun c => c.frame = 7 ∧ c.scene = 0) then
        tableCodeAux rest (k + 1) (acc + (rowDigit (cellCode r.gt) (cellCode r.est) j + 1) * 64 ^ k)
      else bad

def tableCode (t : Table) : Nat := tableCodeAux t 0 0

/-- the model's answer for a shape and a valuation: `add([frame])` on a fresh analyzer -/
def rowsModel (key : Nat) (v : Val) : Res :=
  .other (tableCode (Analyzer.add (fun _ _ => some 0) {} [frameOf key v]).table)

def rowKeys : List Nat :=
  ([0, 1, 2].flatMap fun d => [0, 1, 2].flatMap fun c => [0, 1, 2].flatMap fun b => [0, 1, 2].filterMap fun a =>
    if a + b + c + d ≤ 2 then some (a + 3 * b + 9 * c + 27 * d) else none)

/-- for a shape: on every assignment of the four atoms the skeleton equals the model run on index objects -/
def rowsSkelOk (key : Nat) : Bool := allBits.all fun b => rowsAtoms key (valOfBits b) == rowsModel key (valOfBits b)

end PEval.AnalyzerDT
