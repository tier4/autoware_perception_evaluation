import PEval.Lemmas.GeometryClipArea
import PEval.Lemmas.FrameChange
/-!
# C06 — matching scores are geometrically exact, bounded and symmetric

Model: `PEval.Model.Geometry` (distances SQUARED, rotations as rational unit complex numbers).
The intersection area of two rotated footprints is shapely's — an EXTERNAL CONTRACT: every IoU
theorem below is stated for ANY value `I` meeting the contract `InterOK I A1 A2`
(`0 ≤ I ≤ min(A1, A2)`), plus the named extra clause where one is used (symmetry, `I(P,P) = A(P)`,
`I = 0` for disjoint interiors, invariance under a common rigid motion).  The contract is inhabited:
`interOK_rect` proves it for the closed form on axis-aligned rectangles (all ROIs), and the check
cross-validates shapely against the exact clipper `clipConvex` on every run.

Not proved here (validated by the correspondence run only): that shapely's area / `clipConvex`
computes the true area of the intersection of two ROTATED rectangles in general position.  Proved for
the exact reference clipper `interArea` (the sections on the clipper and on rotated boxes): non-negativity,
invariance under a common rigid motion, `I(P,P) = A(P)` for every rotated box, `I = A(inner)` for nested boxes,
`I ≤ A(subject)`, `I = 0` for separated boxes; and the whole contract for the symmetrised `interSym`.
-/
namespace PEval.C06
open PEval.Geometry PEval

/-! ## center distance (3-D objects): Euclidean, symmetric, rigid-motion invariant -/

/-- the (squared) center distance is the squared Euclidean distance of the two centers -/
theorem centerDist2_eq (a b : Box) :
    centerDist2 a b =
      (a.center.x - b.center.x) ^ 2 + (a.center.y - b.center.y) ^ 2 + (a.center.z - b.center.z) ^ 2 := by
  unfold centerDist2; ring

theorem centerDist2_symm (a b : Box) : centerDist2 a b = centerDist2 b a := by
  unfold centerDist2; ring

theorem centerDist2_nonneg (a b : Box) : 0 ≤ centerDist2 a b := by
  rw [centerDist2_eq]; positivity

theorem centerDist2_self (a : Box) : centerDist2 a a = 0 := by unfold centerDist2; ring

/-- unchanged when both boxes undergo the same rotation about the ego origin AND the same translation -/
theorem centerDist2_rigid_invariant (m : Motion) (hm : m.rot.IsUnit) (a b : Box) :
    centerDist2 (a.move m) (b.move m) = centerDist2 a b := by
  show dist2 (m.apply2 a.center2) (m.apply2 b.center2)
      + (a.center.z + m.t.z - (b.center.z + m.t.z)) * (a.center.z + m.t.z - (b.center.z + m.t.z)) = _
  rw [dist2_motion hm, add_sub_add_right_eq_sub]
  rfl

/-! ## 2-D objects: distance of the ROI centers (`offset + size // 2`) -/

theorem roiCenterDist2_eq (a b : Roi) :
    roiCenterDist2 a b =
      ((a.x + a.w / 2) - (b.x + b.w / 2)) ^ 2 + ((a.y + a.h / 2) - (b.y + b.h / 2)) ^ 2 := by
  simp only [roiCenterDist2, Roi.center]; ring

theorem roiCenterDist2_symm (a b : Roi) : roiCenterDist2 a b = roiCenterDist2 b a := by
  simp only [roiCenterDist2]; ring

theorem roiCenterDist2_shift_invariant (dx dy : Int) (a b : Roi) :
    roiCenterDist2 (a.shift dx dy) (b.shift dx dy) = roiCenterDist2 a b := by
  simp only [roiCenterDist2, Roi.center, Roi.shift]; ring

/-! ## the area contract is inhabited: axis-aligned rectangles -/

theorem interOK_rect_of_nonneg (r1 r2 : Rect) (h1 : 0 ≤ r1.w ∧ 0 ≤ r1.h) (h2 : 0 ≤ r2.w ∧ 0 ≤ r2.h) :
    InterOK (rectInter r1 r2) r1.area r2.area :=
  (overlap_ok h1.1 h2.1).mul (overlap_ok h1.2 h2.2)

theorem interOK_rect (r1 r2 : Rect) (h1 : r1.PosSize) (h2 : r2.PosSize) :
    InterOK (rectInter r1 r2) r1.area r2.area :=
  interOK_rect_of_nonneg r1 r2 ⟨h1.1.le, h1.2.le⟩ ⟨h2.1.le, h2.2.le⟩

theorem rectInter_symm (r1 r2 : Rect) : rectInter r1 r2 = rectInter r2 r1 := by
  unfold rectInter; rw [overlap_symm r1.x, overlap_symm r1.y]

theorem rectInter_self_of_nonneg (r : Rect) (hw : 0 ≤ r.w) (hh : 0 ≤ r.h) : rectInter r r = r.area := by
  unfold rectInter Rect.area; rw [overlap_self hw, overlap_self hh]

theorem rectInter_self (r : Rect) (h : r.PosSize) : rectInter r r = r.area :=
  rectInter_self_of_nonneg r h.1.le h.2.le

theorem rectInter_disjoint (r1 r2 : Rect) (h : r1.Disjoint r2) : rectInter r1 r2 = 0 :=
  mul_eq_zero.2 ((or_assoc.2 h).imp overlap_disjoint overlap_disjoint)

/-! ## ROI IoU: all pairs of integer ROIs of positive size -/

/-- ROIs of size zero included -/
theorem roiIoU_bounds_of_nonneg (a b : Roi) (ha : 0 ≤ a.w ∧ 0 ≤ a.h) (hb : 0 ≤ b.w ∧ 0 ≤ b.h) :
    0 ≤ roiIoU a b ∧ roiIoU a b ≤ 1 := by
  rw [roiIoU_eq_rect]
  exact iou_unit (interOK_rect_of_nonneg _ _ ⟨Int.cast_nonneg ha.1, Int.cast_nonneg ha.2⟩
    ⟨Int.cast_nonneg hb.1, Int.cast_nonneg hb.2⟩)

theorem roiIoU_bounds (a b : Roi) (ha : a.PosSize) (hb : b.PosSize) : 0 ≤ roiIoU a b ∧ roiIoU a b ≤ 1 :=
  roiIoU_bounds_of_nonneg a b ⟨ha.1.le, ha.2.le⟩ ⟨hb.1.le, hb.2.le⟩

theorem roiIoU_symm (a b : Roi) : roiIoU a b = roiIoU b a := by
  rw [roiIoU_eq_rect, roiIoU_eq_rect]; unfold rectIoU; rw [rectInter_symm, iou_comm]

theorem roiIoU_self (a : Roi) (ha : a.PosSize) : roiIoU a a = 1 := by
  rw [roiIoU_eq_rect]; unfold rectIoU
  rw [rectInter_self _ (roi_posSize ha)]
  exact iou_self (roi_area_pos ha)

theorem roiIoU_disjoint (a b : Roi) (hd : a.Disjoint b) : roiIoU a b = 0 := by
  rw [roiIoU_eq_rect]; unfold rectIoU
  rw [rectInter_disjoint _ _ (roi_disjoint hd)]; exact iou_zero _ _

theorem roiIoU_shift_invariant (dx dy : Int) (a b : Roi) :
    roiIoU (a.shift dx dy) (b.shift dx dy) = roiIoU a b := by
  unfold roiIoU; rw [roiInter_shift]; rfl

theorem roiIoUCode_ok (a b : Roi) (ha : a.PosSize) (hb : b.PosSize) : roiIoUCode a b = .ok (roiIoU a b) := by
  unfold roiIoUCode roiIoU roiInter
  rw [roi_area_cast, roi_area_cast]
  exact iouCode_eq (interOK_rect _ _ (roi_posSize ha) (roi_posSize hb)) (roi_area_pos ha)

/-! ## IoU for ANY intersection value meeting the contract -/

theorem iou_bounds {I A1 A2 : Rat} (h : InterOK I A1 A2) (h1 : 0 < A1) :
    0 ≤ iou I A1 A2 ∧ iou I A1 A2 ≤ 1 := iou_unit h

/-- symmetric in its arguments, given a symmetric intersection function -/
theorem iou_symm {α : Type} (inter : α → α → Rat) (area : α → Rat) (hs : ∀ p q, inter p q = inter q p)
    (p q : α) : iou (inter p q) (area p) (area q) = iou (inter q p) (area q) (area p) := by
  rw [hs p q, iou_comm]

/-- 1 for identical boxes, given `I(P,P) = A(P)` -/
theorem iou_self_eq_one {α : Type} (inter : α → α → Rat) (area : α → Rat) (hself : ∀ p, inter p p = area p)
    (p : α) (hp : 0 < area p) : iou (inter p p) (area p) (area p) = 1 := by
  rw [hself p]; exact iou_self hp

/-- `iou` of the intersection value 0 is 0; no boxes here: that `I = 0` for disjoint interiors is the contract's
clause (for the exact clipper: `clipIou_separated_eq_zero`, `symIou_separated_eq_zero`) -/
theorem iou_disjoint_eq_zero (A1 A2 : Rat) : iou 0 A1 A2 = 0 := iou_zero A1 A2

theorem iouCode_ok {I A1 A2 : Rat} (h : InterOK I A1 A2) (h1 : 0 < A1) : iouCode I A1 A2 = .ok (iou I A1 A2) :=
  iouCode_eq h h1

/-! ## height intersection and 3-D IoU -/

theorem heightInter_bounds (z1 h1 z2 h2 : Rat) (p1 : 0 < h1) (p2 : 0 < h2) :
    InterOK (heightInter z1 h1 z2 h2) h1 h2 := heightInter_ok (le_of_lt p1) (le_of_lt p2)

theorem heightInter_symm (z1 h1 z2 h2 : Rat) : heightInter z1 h1 z2 h2 = heightInter z2 h2 z1 h1 := by
  rw [heightInter_eq_overlap, heightInter_eq_overlap, overlap_symm]

theorem heightInter_self (z h : Rat) (p : 0 < h) : heightInter z h z h = h := by
  rw [heightInter_eq_overlap, overlap_self (le_of_lt p)]

/-- boxes whose height ranges are disjoint (or touch) have height intersection 0 -/
theorem heightInter_disjoint (z1 h1 z2 h2 : Rat) (hd : z1 + h1 / 2 ≤ z2 - h2 / 2 ∨ z2 + h2 / 2 ≤ z1 - h1 / 2) :
    heightInter z1 h1 z2 h2 = 0 := by
  rw [heightInter_eq_overlap]
  exact overlap_disjoint (hd.imp (bottom_add_height z1 h1).trans_le (bottom_add_height z2 h2).trans_le)

theorem iou3d_le_iouBev {I A1 A2 : Rat} (z1 H1 z2 H2 : Rat) (hI : InterOK I A1 A2)
    (hA1 : 0 < A1) (hA2 : 0 < A2) (hH1 : 0 < H1) (hH2 : 0 < H2) :
    iou3d I A1 A2 H1 H2 (heightInter z1 H1 z2 H2) ≤ iou I A1 A2 :=
  iou3d_le_iou hI (heightInter_ok (le_of_lt hH1) (le_of_lt hH2)) hA1 hA2 hH2

theorem iou3d_bounds {I A1 A2 : Rat} (z1 H1 z2 H2 : Rat) (hI : InterOK I A1 A2)
    (hA1 : 0 < A1) (hH1 : 0 < H1) (hH2 : 0 < H2) :
    0 ≤ iou3d I A1 A2 H1 H2 (heightInter z1 H1 z2 H2) ∧ iou3d I A1 A2 H1 H2 (heightInter z1 H1 z2 H2) ≤ 1 :=
  iou3d_unit hI (heightInter_ok hH1.le hH2.le)

theorem iou3d_self_eq_one (A z H : Rat) (hA : 0 < A) (hH : 0 < H) :
    iou3d A A A H H (heightInter z H z H) = 1 := by
  unfold iou3d; rw [heightInter_self z H hH]; exact iou_self (mul_pos hA hH)

/-- 0 when the footprints are disjoint (`I = 0`) or the height ranges are disjoint -/
theorem iou3d_disjoint_eq_zero (I A1 A2 z1 H1 z2 H2 : Rat) :
    iou3d 0 A1 A2 H1 H2 (heightInter z1 H1 z2 H2) = 0 ∧
    ((z1 + H1 / 2 ≤ z2 - H2 / 2 ∨ z2 + H2 / 2 ≤ z1 - H1 / 2) →
      iou3d I A1 A2 H1 H2 (heightInter z1 H1 z2 H2) = 0) := by
  constructor
  · unfold iou3d; rw [zero_mul]; exact iou_zero _ _
  · intro hd; unfold iou3d; rw [heightInter_disjoint _ _ _ _ hd, mul_zero]; exact iou_zero _ _

/-! ## boxes: area of the footprint, invariance of the IoUs under a common rigid motion -/

/-- `get_area_bev` (shoelace over `Shape.footprint`) is `w · l` -/
theorem areaBev_eq (b : Box) (hb : b.PosSize) : areaBev b = b.w * b.l := areaBev_eq_mul hb.1.le hb.2.1.le

theorem areaBev_move (m : Motion) (b : Box) : areaBev (b.move m) = areaBev b := rfl

/-! ## plane distance -/

theorem footprint_move (m : Motion) (b : Box) : footprint (b.move m) = (footprint b).map m.apply2 :=
  Geometry.footprint_move m b

theorem planeDist2_nonneg (e g : Box) : 0 ≤ planeDist2 e g := by
  unfold planeDist2; rw [planeDist2Of_eq]
  exact div_nonneg (add_nonneg (dist2_nonneg _ _) (dist2_nonneg _ _)) zero_le_two

theorem planeDist2_self_eq_zero (b : Box) : planeDist2 b b = 0 := by
  unfold planeDist2; rw [planeDist2Of_eq, dist2_self, dist2_self]; norm_num

/-- unchanged when both boxes are rotated together about the ego origin: the selected corners are
determined by their distances from the origin, which the rotation preserves -/
theorem planeDist2_rot_about_ego_invariant (r : Rot2) (hr : r.IsUnit) (e g : Box) :
    planeDist2 (e.move (Motion.rotation r)) (g.move (Motion.rotation r)) = planeDist2 e g :=
  (FrameChange.planeDist2Of_eq_keys _ _).trans
    (FrameChange.planeDist2Keys_move (m := Motion.rotation r) hr (fun p => by rw [rotation_apply2, norm2_rot hr]) e g)

/-- the plane distance squared is the mean of the squared distances between corresponding footprint
corners `i`, `j` of the two boxes, where `i ≠ j` are the two ground-truth corners nearest to the ego:
every other ground-truth corner is at least as far from the origin as both -/
theorem planeDist2_eq_mean_sq_nearest_side (e g : Box) :
    ∃ i j : Nat, i < 4 ∧ j < 4 ∧ i ≠ j ∧
      (∀ k, k < 4 → k ≠ i → k ≠ j →
        ((footprint g).getD i V2.zero).norm2 ≤ ((footprint g).getD k V2.zero).norm2 ∧
        ((footprint g).getD j V2.zero).norm2 ≤ ((footprint g).getD k V2.zero).norm2) ∧
      planeDist2 e g =
        (dist2 ((footprint e).getD i V2.zero) ((footprint g).getD i V2.zero)
          + dist2 ((footprint e).getD j V2.zero) ((footprint g).getD j V2.zero)) / 2 := by
  obtain ⟨i, j, h, hi, hj, hij, h1, h2⟩ := nearestTwo_spec (footprint g) (by simp [footprint_length])
  rw [footprint_length] at hi hj h2
  refine ⟨i, j, hi, hj, hij, fun k hk hki hkj => ?_, ?_⟩
  · have := (h2 k hk hki hkj).1
    exact ⟨le_trans h1.1 this, this⟩
  · unfold planeDist2; rw [planeDist2Of_eq, h]

/-- the two ground-truth corners selected by the plane distance are adjacent corners of the footprint
(a side of the box, never a diagonal), for every box, ties included -/
theorem planeDist2_nearest_is_side (g : Box) :
    nearestTwo (footprint g) ∈ [(0, 1), (1, 0), (1, 2), (2, 1), (2, 3), (3, 2), (3, 0), (0, 3)] := by
  obtain ⟨i, j, h, hi, hj, hij, h1, h2⟩ := nearestTwo_spec (footprint g) (by simp [footprint_length])
  rw [h]
  exact first_two_adjacent _ (footprint_british_flag g) hi hj hij h1 h2

/-! ## contract clauses PROVED for the exact reference clipper `interArea` -/

theorem clip_interArea_nonneg (p q : List V2) : 0 ≤ interArea p q := interArea_nonneg p q

theorem interArea_rigid_invariant (m : Motion) (hm : m.rot.IsUnit) (e g : Box) :
    interArea (footprint (e.move m)) (footprint (g.move m)) = interArea (footprint e) (footprint g) := by
  rw [footprint_move, footprint_move, interArea_motion hm]

theorem interArea_footprint_self (b : Box) (hb : b.PosSize) (hr : b.rot.IsUnit) :
    interArea (footprint b) (footprint b) = areaBev b := by
  rw [interArea_self (cvx_footprint hb.1.le hb.2.1.le hr) (signed2_footprint_ne hb hr), polyArea_footprint hr]

/-- nested boxes (every corner of `e` in every closed half-plane of `g`): `I = A(e)` -/
theorem interArea_footprint_nested (e g : Box) (he : e.PosSize) (hg : g.PosSize) (hre : e.rot.IsUnit)
    (hrg : g.rot.IsUnit) (h : InsideOf (footprint e) (footprint g)) :
    interArea (footprint e) (footprint g) = areaBev e := by
  rw [interArea_inside _ _ h (signed2_footprint_ne he hre) (signed2_footprint_ne hg hrg), polyArea_footprint hre]

/-- with the exact clipper as the intersection: BEV and 3-D IoU of a box with itself are 1 … -/
theorem clipIou_self_eq_one (b : Box) (hb : b.PosSize) (hr : b.rot.IsUnit) :
    boxIou2d (interArea (footprint b) (footprint b)) b b = 1 ∧
    boxIou3d (interArea (footprint b) (footprint b)) b b = 1 := by
  rw [interArea_footprint_self b hb hr]; exact boxIou_self hb

/-- … and both IoUs are unchanged by a common rigid motion (no contract hypothesis left) -/
theorem clipIou_rigid_invariant (m : Motion) (hm : m.rot.IsUnit) (e g : Box) :
    boxIou2d (interArea (footprint (e.move m)) (footprint (g.move m))) (e.move m) (g.move m)
        = boxIou2d (interArea (footprint e) (footprint g)) e g ∧
    boxIou3d (interArea (footprint (e.move m)) (footprint (g.move m))) (e.move m) (g.move m)
        = boxIou3d (interArea (footprint e) (footprint g)) e g :=
  by rw [interArea_rigid_invariant m hm]; exact boxIou_move_invariant m e g _

/-! ## the hypotheses are satisfiable by concrete non-trivial instances -/

example : (⟨3 / 5, 4 / 5⟩ : Rot2).IsUnit := by unfold Rot2.IsUnit; norm_num

/-- two overlapping ROIs of positive size: IoU = 1/7, strictly between 0 and 1 -/
example : (⟨0, 0, 2, 2⟩ : Roi).PosSize ∧ (⟨1, 1, 2, 2⟩ : Roi).PosSize ∧
    roiIoU ⟨0, 0, 2, 2⟩ ⟨1, 1, 2, 2⟩ = 1 / 7 := by
  refine ⟨⟨by decide, by decide⟩, ⟨by decide, by decide⟩, ?_⟩
  simp [roiIoU, roiInter, rectInter, overlap, Roi.toRect, Roi.area, iou, rmax, rmin]
  norm_num

/-- the contract is met with `0 < I < min(A1, A2)` by a concrete pair of rectangles -/
example : InterOK (rectInter ⟨0, 0, 2, 2⟩ ⟨1, 1, 2, 2⟩) (Rect.area ⟨0, 0, 2, 2⟩) (Rect.area ⟨1, 1, 2, 2⟩) :=
  interOK_rect _ _ (by constructor <;> norm_num) (by constructor <;> norm_num)

/-- a concrete contract instance with strict inequalities (non-vacuity of the 3-D statements) -/
example : InterOK (1 : Rat) 4 6 ∧ (0 : Rat) < 4 ∧ iou3d 1 4 6 2 3 (heightInter 0 2 1 3) ≤ iou 1 4 6 :=
  have h : InterOK (1 : Rat) 4 6 := ⟨by norm_num, by norm_num, by norm_num⟩
  ⟨h, by norm_num, iou3d_le_iouBev 0 2 1 3 h (by norm_num) (by norm_num) (by norm_num) (by norm_num)⟩

/-! ## the area contract for ROTATED boxes

What is PROVED for the exact clipper `interArea` on two rotated boxes (no contract hypothesis):
`0 ≤ I`, `I ≤ A(subject)` (`interOK_clip_partial`; more generally `clip_interArea_le_subject` for EVERY
subject in convex position and ANY clip polygon), `I(P,P) = A(P)`, nested boxes, rigid invariance (above),
and `I = 0` for two separated boxes whichever box owns the separating edge (`clip_interArea_separated`,
touching allowed).

What is NOT proved: `interArea P Q = interArea Q P` (the two clipping orders produce different vertex
lists of the same region) and hence `I ≤ A(clip)`, i.e. the whole contract `InterOK (interArea (footprint e)
(footprint g)) (areaBev e) (areaBev g)` for every pair of boxes.  It is proved GIVEN the single equation
`interArea (footprint e) (footprint g) = interArea (footprint g) (footprint e)` for that pair (`interOK_clip_of_symm`); the check evaluates both sides exactly on every
generated pair (`inter` / `inter_swapped` of the driver, compared in `harness/props/c06.py`).  The
symmetrised function `interSym P Q = min (interArea P Q) (interArea Q P)` — equal to `interArea P Q`
whenever that equation holds (`interSym_eq_clip_of_symm`) — meets the WHOLE contract by theorem
(`interOK_sym`, `interSym_symm`, …), so every IoU clause (bounds, symmetry, 1 for identical, 0 for
separated, 3-D ≤ BEV, rigid invariance, no ZeroDivisionError) is a theorem about a concrete intersection
function of two rotated boxes (`symIou_*`). -/

/-- the exact intersection area never exceeds the area of the subject, for every subject in convex
position (every triple of vertices in list order counter-clockwise or collinear) and any clip polygon -/
theorem clip_interArea_le_subject (P Q : List V2) (hP : Cvx P) : interArea P Q ≤ polyArea P :=
  interArea_le_subject Q hP

/-- the contract fields PROVED for the exact clipper on two rotated boxes: `0 ≤ I ≤ A(e)` -/
theorem interOK_clip_partial (e g : Box) (he : e.PosSize) (hre : e.rot.IsUnit) :
    0 ≤ interArea (footprint e) (footprint g) ∧ interArea (footprint e) (footprint g) ≤ areaBev e :=
  ⟨interArea_nonneg _ _, polyArea_footprint hre ▸ interArea_le_subject (footprint g) (cvx_footprint he.1.le he.2.1.le hre)⟩

/-- the whole contract for the exact clipper on a pair on which it is symmetric (one exact equation,
evaluated by the check on every generated pair) -/
theorem interOK_clip_of_symm (e g : Box) (he : e.PosSize) (hg : g.PosSize) (hre : e.rot.IsUnit)
    (hrg : g.rot.IsUnit)
    (hs : interArea (footprint e) (footprint g) = interArea (footprint g) (footprint e)) :
    InterOK (interArea (footprint e) (footprint g)) (areaBev e) (areaBev g) :=
  ⟨interArea_nonneg _ _, (interOK_clip_partial e g he hre).2, by rw [hs]; exact (interOK_clip_partial g e hg hrg).2⟩

/-- `I = 0` for two separated rotated boxes (a separating edge of EITHER footprint, touching allowed) -/
theorem clip_interArea_separated (e g : Box) (he : e.PosSize) (hg : g.PosSize) (hre : e.rot.IsUnit)
    (hrg : g.rot.IsUnit) (h : Separated e g) : interArea (footprint e) (footprint g) = 0 := by
  rcases h with ⟨ed, hed, h⟩ | ⟨ed, hed, h⟩
  -- an edge of the clip box `g` separates: the clipped polygon lies in `g`, so on that edge's line
  · exact interArea_touching (by rwa [ccw_footprint hg.1.le hg.2.1.le hrg]) (footprint_edges_ne hg hrg ed hed) h
  -- an edge of the subject `e` separates: the subject lies on its inner side, the clip box on its outer side
  · exact interArea_eq_zero_of_line (footprint_edges_ne he hre ed hed) (convexPred_nonneg ed.1 ed.2)
      ((cvx_footprint he.1.le he.2.1.le hre).inside_edges ed hed) fun x hs hq =>
        le_antisymm (footprint_bound hg hrg _ _ x (ccw_footprint hg.1.le hg.2.1.le hrg ▸ hq) h) hs

/-- with the exact clipper: BEV and 3-D IoU of two separated rotated boxes are 0 (`iou_disjoint_eq_zero`
only says `iou 0 A1 A2 = 0`) -/
theorem clipIou_separated_eq_zero (e g : Box) (he : e.PosSize) (hg : g.PosSize) (hre : e.rot.IsUnit)
    (hrg : g.rot.IsUnit) (h : Separated e g) :
    boxIou2d (interArea (footprint e) (footprint g)) e g = 0 ∧
    boxIou3d (interArea (footprint e) (footprint g)) e g = 0 := by
  rw [clip_interArea_separated e g he hg hre hrg h]; exact boxIou_zero e g

/-- with the exact clipper, on a pair on which it is symmetric: both IoUs lie in [0,1], 3-D ≤ BEV, the
code's divisions do not raise -/
theorem clipIou_bounds_of_symm (e g : Box) (he : e.PosSize) (hg : g.PosSize) (hre : e.rot.IsUnit)
    (hrg : g.rot.IsUnit)
    (hs : interArea (footprint e) (footprint g) = interArea (footprint g) (footprint e)) :
    (0 ≤ boxIou2d (interArea (footprint e) (footprint g)) e g ∧
      boxIou2d (interArea (footprint e) (footprint g)) e g ≤ 1) ∧
    (0 ≤ boxIou3d (interArea (footprint e) (footprint g)) e g ∧
      boxIou3d (interArea (footprint e) (footprint g)) e g ≤ 1) ∧
    boxIou3d (interArea (footprint e) (footprint g)) e g ≤ boxIou2d (interArea (footprint e) (footprint g)) e g :=
  boxIou_bounds he hg (interOK_clip_of_symm e g he hg hre hrg hs)

/-! ### the symmetrised exact intersection area: the whole contract, by theorem -/

theorem interOK_sym (e g : Box) (he : e.PosSize) (hg : g.PosSize) (hre : e.rot.IsUnit) (hrg : g.rot.IsUnit) :
    InterOK (interSym (footprint e) (footprint g)) (areaBev e) (areaBev g) :=
  polyArea_footprint hre ▸ polyArea_footprint hrg ▸
    interSym_ok (cvx_footprint he.1.le he.2.1.le hre) (cvx_footprint hg.1.le hg.2.1.le hrg)

theorem interSym_symm (e g : Box) : interSym (footprint e) (footprint g) = interSym (footprint g) (footprint e) :=
  interSym_comm _ _

/-- on every pair on which the clipper is symmetric the symmetrised value is the clipper's value -/
theorem interSym_eq_clip_of_symm (e g : Box)
    (hs : interArea (footprint e) (footprint g) = interArea (footprint g) (footprint e)) :
    interSym (footprint e) (footprint g) = interArea (footprint e) (footprint g) := interSym_eq_of_symm hs

theorem interSym_footprint_self (b : Box) (hb : b.PosSize) (hr : b.rot.IsUnit) :
    interSym (footprint b) (footprint b) = areaBev b := by
  rw [interSym_eq_of_symm rfl]; exact interArea_footprint_self b hb hr

theorem interSym_rigid_invariant (m : Motion) (hm : m.rot.IsUnit) (e g : Box) :
    interSym (footprint (e.move m)) (footprint (g.move m)) = interSym (footprint e) (footprint g) := by
  rw [footprint_move, footprint_move, interSym_motion hm]

theorem interSym_separated (e g : Box) (he : e.PosSize) (hg : g.PosSize) (hre : e.rot.IsUnit)
    (hrg : g.rot.IsUnit) (h : Separated e g) : interSym (footprint e) (footprint g) = 0 :=
  interSym_eq_zero_of_left (clip_interArea_separated e g he hg hre hrg h)

theorem symIou_bounds (e g : Box) (he : e.PosSize) (hg : g.PosSize) (hre : e.rot.IsUnit) (hrg : g.rot.IsUnit) :
    0 ≤ boxIou2d (interSym (footprint e) (footprint g)) e g ∧
      boxIou2d (interSym (footprint e) (footprint g)) e g ≤ 1 :=
  (boxIou_bounds he hg (interOK_sym e g he hg hre hrg)).1

theorem symIou3d_bounds (e g : Box) (he : e.PosSize) (hg : g.PosSize) (hre : e.rot.IsUnit) (hrg : g.rot.IsUnit) :
    (0 ≤ boxIou3d (interSym (footprint e) (footprint g)) e g ∧
      boxIou3d (interSym (footprint e) (footprint g)) e g ≤ 1) ∧
    boxIou3d (interSym (footprint e) (footprint g)) e g ≤ boxIou2d (interSym (footprint e) (footprint g)) e g :=
  (boxIou_bounds he hg (interOK_sym e g he hg hre hrg)).2

theorem symIouCode_ok (e g : Box) (he : e.PosSize) (hg : g.PosSize) (hre : e.rot.IsUnit) (hrg : g.rot.IsUnit) :
    iouCode (interSym (footprint e) (footprint g)) (areaBev e) (areaBev g)
        = .ok (boxIou2d (interSym (footprint e) (footprint g)) e g) ∧
    iou3dCode (interSym (footprint e) (footprint g)) (areaBev e) (areaBev g) e.h g.h (boxHeightInter e g)
        = .ok (boxIou3d (interSym (footprint e) (footprint g)) e g) :=
  have hok := interOK_sym e g he hg hre hrg
  ⟨iouCode_eq hok (areaBev_pos he),
    iouCode_eq (hok.mul (boxHeightInter_ok he hg)) (mul_pos (areaBev_pos he) he.2.2)⟩

/-- symmetric in the two boxes: both argument orders, both IoUs (`iou_symm` / `iou3d_symm` take the
symmetry of the intersection as a hypothesis) -/
theorem symIou_symm (e g : Box) :
    boxIou2d (interSym (footprint e) (footprint g)) e g = boxIou2d (interSym (footprint g) (footprint e)) g e ∧
    boxIou3d (interSym (footprint e) (footprint g)) e g = boxIou3d (interSym (footprint g) (footprint e)) g e := by
  rw [interSym_symm e g]
  exact ⟨iou_comm _ _ _, iou3d_symm _ _ _ _ _ _ _⟩

/-- 1 for identical boxes (an actual rotated box; `iou_self_eq_one` takes `I(P,P) = A(P)` as a hypothesis) -/
theorem symIou_self_eq_one (b : Box) (hb : b.PosSize) (hr : b.rot.IsUnit) :
    boxIou2d (interSym (footprint b) (footprint b)) b b = 1 ∧
    boxIou3d (interSym (footprint b) (footprint b)) b b = 1 := by
  rw [interSym_footprint_self b hb hr]; exact boxIou_self hb

/-- 0 for separated boxes (two actual rotated boxes with a separating edge) -/
theorem symIou_separated_eq_zero (e g : Box) (he : e.PosSize) (hg : g.PosSize) (hre : e.rot.IsUnit)
    (hrg : g.rot.IsUnit) (h : Separated e g) :
    boxIou2d (interSym (footprint e) (footprint g)) e g = 0 ∧
    boxIou3d (interSym (footprint e) (footprint g)) e g = 0 := by
  rw [interSym_separated e g he hg hre hrg h]; exact boxIou_zero e g

/-- unchanged by a common rotation about the ego + translation (`boxIou_move_invariant` is about one value `I`
on both sides) -/
theorem symIou_rigid_invariant (m : Motion) (hm : m.rot.IsUnit) (e g : Box) :
    boxIou2d (interSym (footprint (e.move m)) (footprint (g.move m))) (e.move m) (g.move m)
        = boxIou2d (interSym (footprint e) (footprint g)) e g ∧
    boxIou3d (interSym (footprint (e.move m)) (footprint (g.move m))) (e.move m) (g.move m)
        = boxIou3d (interSym (footprint e) (footprint g)) e g :=
  by rw [interSym_rigid_invariant m hm]; exact boxIou_move_invariant m e g _

/-! ### symmetry GIVEN a symmetric intersection -/

theorem iou_symm_of_inter_symm {α : Type} (inter : α → α → Rat) (area : α → Rat)
    (hs : ∀ p q, inter p q = inter q p) (p q : α) :
    iou (inter p q) (area p) (area q) = iou (inter q p) (area q) (area p) := iou_symm inter area hs p q

theorem iou3d_symm_of_inter_symm (I I' A1 A2 z1 H1 z2 H2 : Rat) (hs : I' = I) :
    iou3d I A1 A2 H1 H2 (heightInter z1 H1 z2 H2) = iou3d I' A2 A1 H2 H1 (heightInter z2 H2 z1 H1) := by
  rw [hs]; exact iou3d_symm I A1 A2 z1 H1 z2 H2

/-! ### non-vacuity and defective-variant examples -/

/-- a square rotated by 45° (vertices (±1,0), (0,±1), area 2) against the axis-aligned square of half-side
3/4 (area 9/4): the exact clipper returns the octagon's area 7/4 in BOTH orders; IoU = 7/10 -/
example :
    let P : List V2 := [⟨1, 0⟩, ⟨0, 1⟩, ⟨-1, 0⟩, ⟨0, -1⟩]
    let Q : List V2 := [⟨3/4, 3/4⟩, ⟨-3/4, 3/4⟩, ⟨-3/4, -3/4⟩, ⟨3/4, -3/4⟩]
    Cvx P ∧ Cvx Q ∧ 4 * interArea P Q = 7 ∧ 4 * interArea Q P = 7 ∧ polyArea P = 2 ∧ 4 * polyArea Q = 9 ∧
      10 * iou (interArea P Q) (polyArea P) (polyArea Q) = 7 := by
  decide +kernel

/-- two rotated BOXES (2×2, one turned by the 3-4-5 rotation): hypotheses of the theorems hold, the clipper is
symmetric on the pair, `I = 10/3`, BEV IoU `5/7` strictly between 0 and 1 -/
example :
    let e : Box := ⟨⟨0, 0, 0⟩, ⟨3/5, 4/5⟩, 2, 2, 1⟩
    let g : Box := ⟨⟨0, 0, 0⟩, ⟨1, 0⟩, 2, 2, 1⟩
    e.rot.IsUnit ∧ g.rot.IsUnit ∧
      interArea (footprint e) (footprint g) = interArea (footprint g) (footprint e) ∧
      3 * interArea (footprint e) (footprint g) = 10 ∧
      7 * boxIou2d (interSym (footprint e) (footprint g)) e g = 5 := by
  unfold Rot2.IsUnit
  decide +kernel

/-- separated rotated boxes, the separating edge owned by the CLIP box (`SepByEdge e g`) -/
example :
    let e : Box := ⟨⟨5, 0, 0⟩, ⟨3/5, 4/5⟩, 2, 2, 1⟩
    let g : Box := ⟨⟨0, 0, 0⟩, ⟨1, 0⟩, 2, 2, 1⟩
    SepByEdge e g ∧ Separated e g ∧ interArea (footprint e) (footprint g) = 0 := by
  decide +kernel

/-- separated rotated boxes where NO edge of the clip box separates, only an edge of the subject (corner
of `g` facing a side of `e`): still `I = 0` -/
example :
    let e : Box := ⟨⟨2, 2, 0⟩, ⟨3/5, 4/5⟩, 2, 2, 1⟩
    let g : Box := ⟨⟨0, 0, 0⟩, ⟨1, 0⟩, 2, 2, 1⟩
    ¬ SepByEdge e g ∧ SepByEdge g e ∧ Separated e g ∧ interArea (footprint e) (footprint g) = 0 := by
  decide +kernel

/-- DEFECTIVE clipper (`clipStepBad`: wrong sign in the inside test of the previous vertex): the statement of
`clip_interArea_le_subject` FAILS for it — subject in convex position of area 32, "intersection" 36 -/
example :
    let P : List V2 := [⟨6, 2⟩, ⟨2, 6⟩, ⟨-2, 2⟩, ⟨2, -2⟩]
    let Q : List V2 := [⟨1, 1⟩, ⟨6, 1⟩, ⟨6, 6⟩, ⟨1, 6⟩]
    Cvx P ∧ ¬ (interAreaBad P Q ≤ polyArea P) ∧ interArea P Q ≤ polyArea P := by
  decide +kernel

end PEval.C06
