import PEval.Lemmas.APDTBridge
import PEval.Lemmas.APDTRank
import PEval.Lemmas.APDTMap
import PEval.Gen.APTables
/-!
# C04, continued: the CODE's decision tables and expressions (regenerated from the source on every run)

`PEval/Gen/APTables.lean` holds what `harness/dt_c04.py` obtained by running the REAL `Ap.__init__`,
`Ap.get_precision_recall_list`, `Ap._calculate_ap` (which runs `interpolate_precision_recall_list`) and `Map.__init__` on symbolic
inputs (DESIGN §3.6): decision trees over the Boolean atoms hasGt / inTargets / isTp / empty, with polynomial normal forms
at the leaves; every order relation (between confidences, between precisions) is enumerated up front as a rank pattern, one
table row per weak ordering. The letters (a), (b1), (b2), (c) are those of the header of `harness/dt_c04.py` ((b) of
`PEval/Model/APDT.lean` is (b1) — the precision / recall lists — and (b2) — the area). Each `…_code_table_eq_model` below is the per-run obligation "the regenerated table = the model's
skeleton on EVERY consistent valuation / for EVERY ordering", discharged by kernel evaluation of a complete check (`agree`
of `PEval/Model/ClearDT.lean`, sound by `agree_sound`; plain equality of normal forms for the rows without atoms).
WHAT THE C04 TEXT LEAVES OPEN IS LEFT OPEN BY THE OBLIGATIONS (the same that the Python oracle `_cmp_ap` admits): in (a) the order
among results of EQUAL confidence, the `tp_list` / `fp_list` / "AP undefined or 0" of an EMPTY ranking, and whether an ignored
result counts in `fp_list` (`tpfpAdmits`; where none of these applies the text determines the leaf — "pinned" in the names below:
`tpfpAdmits_pinned`, `table_tpfp_is_model`); in (c) the order of `Map.aps` (read as a mapping label ↦ `Ap`: `canonMap`) and the exception class. A rewrite
of the source that keeps the decisions and the arithmetic leaves them provable with no edits (normal forms do not see how
an expression is spelled, `agree` does not see in which order independent tests are made); a rewrite that changes either
makes the build fail at that theorem. Rows `[]` = the translator could not follow the source (`…Note` says why): the theorems
are then vacuous and the correspondence run alone ties model and code.
A theorem that only cites a bridge of `PEval/Lemmas/APDT*.lean` (`tpfp_skeleton_is_model`, `map_skeleton_is_model`,
`rel_check_sound`, `tpfp_admits_pinned`) puts it under the name `./check C04` reads in this module.
-/

namespace PEval.C04
open PEval.AP PEval.ClearDT PEval.APDT

/-- (a) `Ap.__init__` up to `tp_list` / `fp_list` / "ap defined": for every tabulated shape (no result; every weak ordering
of 1..3 confidences) the code's tree answers a leaf the skeleton's kinds ADMIT (`tpfpAdmits`) — the results ranked by the
MODEL's `sortDesc` up to the order inside a group of equal confidences, each classified as in the model's `classify`, running
sums of the TP weights and FP flags (an ignored result filed as ignored or as FP); for an empty ranking: it returns. -/
theorem tpfp_code_table_eq_model :
    (Gen.APDT.tpfpRows = [] ∨ Gen.APDT.tpfpRows.map (fun r => (r.1, r.2.1)) = tpfpShapes) ∧
    ∀ r ∈ Gen.APDT.tpfpRows, ∀ v : Val, v.consistent →
      tpfpAdmits r.1 r.2.1 (r.2.2.eval v) ((sortIdx r.1).map (kindAtoms v)) = true := by
  have h : tpfpOk Gen.APDT.tpfpRows = true := by decide +kernel
  unfold tpfpOk at h
  rw [Bool.and_eq_true, Bool.or_eq_true, List.all_eq_true] at h
  refine ⟨h.1.imp List.isEmpty_iff.1 eq_of_beq, fun r hr v hc => ?_⟩
  rw [← eval_kindsTree]
  exact relTree_sound _ _ _ (h.2 r hr) v hc

/-- (b1) `get_precision_recall_list` on a symbolic `tp_list` of length n ≤ 3: `precision i = t i / (i+1)`,
`recall i = t i / g` if `g > 0` else `0`, as normal forms -/
theorem prec_recall_code_eq_model :
    (Gen.APDT.prRows = [] ∨ Gen.APDT.prRows.map (fun r => (r.1, r.2.1)) = prShapes) ∧
    ∀ r ∈ Gen.APDT.prRows, r.2.2 = .ok (prModel r.1 r.2.1) := by
  have h : prOk Gen.APDT.prRows = true := by decide +kernel
  unfold prOk at h
  rw [Bool.and_eq_true, Bool.or_eq_true, List.all_eq_true] at h
  exact ⟨h.1.imp List.isEmpty_iff.1 eq_of_beq, fun r hr => of_decide_eq_true (h.2 r hr)⟩

/-- (b2) `_calculate_ap` for EVERY ordering of ≤ 3 precisions: the area as a polynomial in the `P i`, `R i` -/
theorem area_code_eq_model :
    (Gen.APDT.areaRows = [] ∨ Gen.APDT.areaRows.map (·.1) = patShapes 0) ∧
    ∀ r ∈ Gen.APDT.areaRows, r.2 = .ok (areaModel r.1) := by
  have h : areaOk Gen.APDT.areaRows = true := by decide +kernel
  unfold areaOk at h
  rw [Bool.and_eq_true, Bool.or_eq_true, List.all_eq_true] at h
  exact ⟨h.1.imp List.isEmpty_iff.1 eq_of_beq, fun r hr => of_decide_eq_true (h.2 r hr)⟩

/-- (c) `Map.__init__` for ≤ 3 labels and the tabulated key orders of its two dicts: every `Ap` is built from the dict
entries and the threshold of ITS label (the list `aps` read as a mapping target label ↦ `Ap`: `canonMap` lists it by target
label; every exception is one code); mAP / mAPH are the means over the labels with a result -/
theorem map_code_table_eq_model :
    (Gen.APDT.mapRows = [] ∨ ∀ s ∈ mapRequired, ∃ r ∈ Gen.APDT.mapRows, r.1 = s) ∧
    ∀ r ∈ Gen.APDT.mapRows, ∀ v : Val, v.consistent → canonMapE (r.2.eval v) = mapAtoms r.1 v := by
  have h : mapOk Gen.APDT.mapRows = true := by decide +kernel
  unfold mapOk at h
  rw [Bool.and_eq_true, Bool.or_eq_true] at h
  refine ⟨h.1.imp List.isEmpty_iff.1 fun h1 s hs => ?_, fun r hr v hc => ?_⟩
  · obtain ⟨r, hr, hrs⟩ := List.any_eq_true.1 (List.all_eq_true.1 h1 s hs)
    exact ⟨r, hr, eq_of_beq hrs⟩
  · have := agree_sound v hc (mapSk r.1) (mapTree canonMapE r.2) PVal.empty (List.all_eq_true.1 h.2 r hr) (sat_empty v)
    rwa [eval_mapTree, eval_mapSk] at this

/-- WHAT THE CODE'S AREA TABLE SAYS ABOUT NUMBERS (composition of `area_code_eq_model` with the bridge `areaModel_eval`,
which holds for lists of any length, and with `apCode_eq_apSpec`): for every row of the table and every precision / recall
lists whose precisions are ordered like the row's pattern, the polynomial the real `_calculate_ap` returned, read at those
numbers, is the model's `calculateAp`, which is the all-point interpolated area `Σ (r_i − r_{i−1}) · max_{j ≥ i} p_j`. -/
theorem table_area_is_interpolated_area (ps rs : List Rat) (hr : rs.length = ps.length) :
    ∀ r ∈ Gen.APDT.areaRows, r.1.length = ps.length →
      (∀ i j, i < ps.length → j < ps.length → (r.1.getD i 0 > r.1.getD j 0 ↔ ps.getD i 0 > ps.getD j 0)) →
      ∃ nf, r.2 = .ok nf ∧ evalNF (envPR ps rs) nf = calculateAp ps rs ∧ evalNF (envPR ps rs) nf = apSpec ps rs := by
  intro r hmem hlen hiso
  refine ⟨areaModel r.1, area_code_eq_model.2 r hmem, areaModel_eval ps rs r.1 hlen hr hiso, ?_⟩
  rw [areaModel_eval ps rs r.1 hlen hr hiso, calculateAp_eq_apSpec]

/-- (a) the ranking of the rows: `sortIdx pat` — the model's `sortDesc` run on the pattern — is the model's ranking of the
positions of EVERY confidence list ordered like the pattern (with `sortDesc_map`: `sortDesc Res.conf rs` is that ranking
applied to `rs`), so the row of a pattern speaks about all result lists whose confidences are ordered that way -/
theorem table_ranking_is_model_sort (cs : List Rat) (pat : List Nat) (hlen : pat.length = cs.length)
    (hiso : ∀ i j, i < cs.length → j < cs.length →
      (((pat.getD i 0 : Nat) : Rat) < ((pat.getD j 0 : Nat) : Rat) ↔ cs.getD i 0 < cs.getD j 0)) :
    sortIdx pat = sortDesc (fun j => cs.getD j 0) (List.range cs.length) := by
  rw [← hlen] at hiso ⊢
  exact sortDesc_congr _ _ _ fun a ha b hb => hiso a b (List.mem_range.1 ha) (List.mem_range.1 hb)

/-- (b1) read at numbers: the lists the real `get_precision_recall_list` returned for a symbolic tp list, read at a concrete
tp list `ts` and ground-truth count `G`, are `ts i / (i+1)` and the model's `recallOf G (ts i)` -/
theorem table_prec_recall_values (ts : List Rat) (G : Nat) :
    ∀ r ∈ Gen.APDT.prRows, r.2.1 = decide (0 < G) → ∃ x, r.2.2 = .ok x ∧
      x.a.map (evalNF (envT ts G)) = (List.range r.1).map (fun i => ts.getD i 0 / ((i : Rat) + 1)) ∧
      x.b.map (evalNF (envT ts G)) = (List.range r.1).map (fun i => recallOf G (ts.getD i 0)) := by
  intro r hmem hg
  refine ⟨prModel r.1 r.2.1, prec_recall_code_eq_model.2 r hmem, ?_, ?_⟩
  · simp only [prModel, List.map_map]
    exact List.map_congr_left fun i _ => precNF_eval ts G i
  · simp only [prModel, List.map_map, hg]
    exact List.map_congr_left fun i _ => recallNF_eval ts G i

/-- (c) read at numbers: whatever the key order of the two dicts (among the tabulated shapes), the real `Map.__init__` builds
the `Ap` of target label `i` from the entries of label `i` of both dicts and from threshold `i`, and its mAP, read at
per-label values `env ("ap", i)`, is the mean over the labels whose bucket is not empty (`inf` if there is none) -/
theorem table_map_pairs_by_label_and_is_mean (env : Var → Rat) :
    ∀ r ∈ Gen.APDT.mapRows, ∀ v : Val, v.consistent → ∀ leaf, r.2.eval v = .ok leaf →
      (canonMap leaf).aps = (List.range r.1.L).map (fun i => (false, i, i, i, i)) ∧
      leaf.map.map (evalNF env) =
        (if (definedLabels r.1.L ((List.range r.1.L).map fun i => v.b (.empty i))).isEmpty then none
         else some (((definedLabels r.1.L ((List.range r.1.L).map fun i => v.b (.empty i))).map fun i => env ("ap", i)).sum /
                ((definedLabels r.1.L ((List.range r.1.L).map fun i => v.b (.empty i))).length : Rat))) := by
  intro r hmem v hc leaf hl
  have hm := map_code_table_eq_model.2 r hmem v hc
  rw [hl] at hm
  change Except.ok (canonMap leaf) = _ at hm
  unfold mapAtoms at hm
  split at hm
  · have hm' := Except.ok.inj hm
    refine ⟨congrArg MapLeaf.aps hm', ?_⟩
    rw [show leaf.map = (canonMap leaf).map from rfl, congrArg MapLeaf.map hm']
    exact meanNF_eval env "ap" _
  · cases hm

/-- the checks are not vacuous: another ordering / another shape is told apart -/
example : decide (Except.ok (areaModel [0, 1, 0]) = (Except.ok (areaModel [1, 0, 0]) : Except String NF)) = false := by
  decide +kernel
example : agree PVal.empty (relTree (tpfpAdmits [1, 0] 1) (tpfpSk [0, 1] 1) (kindsTree [1, 0])) (.leaf true) = false := by
  decide +kernel
/-- … a tie is NOT told apart from its other order, nor an ignored result filed as FP; a real FP filed as ignored is -/
example : agree PVal.empty (relTree (tpfpAdmits [0, 0] 1) (kindsSk [1, 0] fun ks => .leaf (.ok (leafOfKinds 1 ks)))
    (kindsTree [0, 0])) (.leaf true) = true := by decide +kernel
example : tpfpAdmits [1, 0] 1 (.ok (leafOfKinds 1 [.fp, .tp 1])) [.ign, .tp 1] = true ∧
    tpfpAdmits [1, 0] 1 (.ok (leafOfKinds 1 [.ign, .tp 1])) [.fp, .tp 1] = false ∧
    tpfpAdmits [1, 0] 1 (.ok (leafOfKinds 1 [.tp 1, .fp])) [.fp, .tp 1] = false := by decide +kernel
example : agree PVal.empty (mapTree canonMapE (mapSk ⟨2, [0, 1], [0, 1], false⟩)) (mapSk ⟨2, [0, 1], [0, 1], true⟩) = false := by
  decide +kernel

/-! ## coverage of the rank patterns and the bridge of (a) for all inputs (`PEval/Lemmas/APDTRank.lean`) -/

/-- COVERAGE, any length: the rank pattern `rankPat cs` (entry ↦ number of entries strictly below it) of a list of rationals
is ordered like the list and is one of the enumerated weak orderings
`countPatterns cs.length` of the tables (a); for ≤ 3 numbers it is among `tpfpShapes` / `patShapes`. Hence "for every input
of length ≤ 3 some table row applies" is a theorem. -/
theorem rank_pattern_coverage (cs : List Rat) :
    (rankPat cs).length = cs.length ∧
    (∀ i j, i < cs.length → j < cs.length →
      ((rankPat cs).getD i 0 < (rankPat cs).getD j 0 ↔ cs.getD i 0 < cs.getD j 0)) ∧
    rankPat cs ∈ countPatterns cs.length ∧
    (1 ≤ cs.length → cs.length ≤ 3 → (rankPat cs, 1) ∈ tpfpShapes) ∧
    (cs.length ≤ 3 → rankPat cs ∈ patShapes 0) ∧ (1 ≤ cs.length → cs.length ≤ 3 → rankPat cs ∈ patShapes 1) :=
  ⟨rankPat_length cs, rankPat_iso cs, rankPat_mem_countPatterns cs, rankPat_mem_tpfpShapes cs,
    rankPat_mem_patShapes 0 cs (Nat.zero_le _), rankPat_mem_patShapes 1 cs⟩

/-- (a) for ALL inputs, model side: whenever the model's `Ap` answers, its `tp_list` / `fp_list` / "ap defined" are the
skeleton `tpfpAtoms pat G` (ranking by the pattern, classification over the atoms, cumulative sums) read at the valuation
`valAP` and the weights `envW` the result list induces — any number of results, every pattern ordered like the confidences -/
theorem tpfp_skeleton_is_model (tm : TpMetric) (m : Mode) (targets : List Label) (thrs : List Rat) (G : Nat)
    (rs : List Res) (pat : List Nat) (hlen : pat.length = rs.length)
    (hiso : ∀ i j, i < rs.length → j < rs.length →
      (pat.getD i 0 < pat.getD j 0 ↔ (rs.map Res.conf).getD i 0 < (rs.map Res.conf).getD j 0))
    (out : ApOut) (hout : apOf tm m targets thrs G rs = .ok out) :
    (tpfpAtoms pat G (valAP m targets thrs rs)).read (envW tm rs) = (out.tpList, out.fpList, out.ap.isSome) :=
  tpfp_bridge tm m targets thrs G rs pat hlen hiso out hout

/-- the row of the tables (a) that applies to a result list: no result — keyed by the ground-truth count; else the rank
pattern of the confidences (tabulated with G = 1: the count does not enter the lists of a non-empty input, `tpfpAtoms_G`) -/
def tpfpRowKey (G : Nat) (rs : List Res) : List Nat × Nat :=
  if rs.isEmpty then ([], G) else (rankPat (rs.map Res.conf), 1)

theorem tpfpRowKey_length (G : Nat) (rs : List Res) : (tpfpRowKey G rs).1.length = rs.length := by
  unfold tpfpRowKey
  cases rs with
  | nil => rfl
  | cons x xs => exact (rankPat_length _).trans (List.length_map _)

theorem tpfpRowKey_of_pos (G : Nat) {rs : List Res} (h : 1 ≤ rs.length) :
    tpfpRowKey G rs = (rankPat (rs.map Res.conf), 1) := by
  rw [tpfpRowKey, if_neg (by cases rs <;> simp at h ⊢)]

/-- SOUNDNESS OF THE RELATIONAL CHECK: a tree pair that passes
`agree PVal.empty (relTree rel code model) (.leaf true)` is related by `rel` on every consistent valuation -/
theorem rel_check_sound {α β : Type} (rel : α → β → Bool) (code : DTree α) (mdl : DTree β)
    (h : agree PVal.empty (relTree rel code mdl) (.leaf true) = true) (v : Val) (hc : v.consistent) :
    rel (code.eval v) (mdl.eval v) = true := relTree_sound rel code mdl h v hc

/-- WHERE THE TEXT LEAVES NO CHOICE (a tabulated pattern without ties, no ignored result, at least one result) the only leaf
`tpfpAdmits` admits is the model's -/
theorem tpfp_admits_pinned (pat : List Nat) (G : Nat) (hs : (pat, G) ∈ tpfpShapes) (hne : pat ≠ []) (hst : strictPat pat = true)
    (c : Except String TpFp) (ks : List K) (hlen : ks.length = pat.length) (hno : ∀ k ∈ ks, k ≠ .ign)
    (h : tpfpAdmits pat G c ks = true) : c = .ok (leafOfKinds G ks) :=
  tpfpAdmits_pinned pat G hs hne hst c ks hlen hno h

/-- the row of an input is among the generated rows, and its tree RETURNS a leaf the model's kinds admit. The empty input
is tabulated with 0 and with 2 ground truths, one count for each branch of the no-result case of `_calculate_tp_fp`
(`[]`, `[]` for 0; else `[0.0] * G`, `[1, …, G]`, tabulated at `G = 2`): hence `G = 0 ∨ G = 2`. -/
theorem table_tpfp_row (m : Mode) (targets : List Label) (thrs : List Rat) (G : Nat) (rs : List Res)
    (hshape : (1 ≤ rs.length ∧ rs.length ≤ 3) ∨ (rs = [] ∧ (G = 0 ∨ G = 2))) (hrows : Gen.APDT.tpfpRows ≠ []) :
    ∃ r ∈ Gen.APDT.tpfpRows, (r.1, r.2.1) = tpfpRowKey G rs ∧ (r.1, r.2.1) ∈ tpfpShapes ∧
      tpfpAdmits r.1 r.2.1 (r.2.2.eval (valAP m targets thrs rs))
        ((sortIdx r.1).map (kindAtoms (valAP m targets thrs rs))) = true := by
  have hshapes : Gen.APDT.tpfpRows.map (fun r => (r.1, r.2.1)) = tpfpShapes :=
    tpfp_code_table_eq_model.1.resolve_left hrows
  have hkey : tpfpRowKey G rs ∈ tpfpShapes := by
    rcases hshape with ⟨h1, h3⟩ | ⟨rfl, rfl | rfl⟩
    · rw [tpfpRowKey_of_pos G h1]
      exact rankPat_mem_tpfpShapes _ (by simpa using h1) (by simpa using h3)
    · decide
    · decide
  obtain ⟨r, hr, hk⟩ := List.mem_map.1 (hshapes ▸ hkey)
  exact ⟨r, hr, hk, hk ▸ hkey, tpfp_code_table_eq_model.2 r hr _ (valAP_consistent m targets thrs rs)⟩

/-- WHAT THE CODE'S TABLE (a) SAYS ABOUT EVERY INPUT OF LENGTH ≤ 3 (coverage ∘ table theorem): for every result list of
1 … 3 results (any confidences, ties included; any labels, thresholds, mode, ground-truth count), and for the empty list with
0 or 2 ground truths, the generated rows contain the row of that input, and the tree of that row, evaluated at the valuation
of the input, RETURNS; for a non-empty list its leaf is `leafOfKinds` (AP defined; `tp_list` / `fp_list` = running sums) of a
kind list the text admits: the model's kinds in ranking order, up to the order inside a group of equal confidences and up to
filing an ignored result as FP (`tpfpVariants`). -/
theorem table_tpfp_is_admitted (m : Mode) (targets : List Label) (thrs : List Rat) (G : Nat) (rs : List Res)
    (hshape : (1 ≤ rs.length ∧ rs.length ≤ 3) ∨ (rs = [] ∧ (G = 0 ∨ G = 2))) (hrows : Gen.APDT.tpfpRows ≠ []) :
    ∃ r ∈ Gen.APDT.tpfpRows, (r.1, r.2.1) = tpfpRowKey G rs ∧
      ∃ leaf, r.2.2.eval (valAP m targets thrs rs) = .ok leaf ∧
        (rs = [] ∨ ∃ ks' ∈ tpfpVariants r.1 ((sortIdx r.1).map (kindAtoms (valAP m targets thrs rs))),
          leaf = leafOfKinds r.2.1 ks') := by
  obtain ⟨r, hr, hk, _, had⟩ := table_tpfp_row m targets thrs G rs hshape hrows
  obtain ⟨leaf, he, h⟩ := tpfpAdmits_ok had
  refine ⟨r, hr, hk, leaf, he, h.imp_left fun hp => List.length_eq_zero_iff.1 ?_⟩
  rw [← tpfpRowKey_length G rs, ← hk, hp]
  rfl

/-- THE INPUTS ON WHICH THE TEXT LEAVES NO CHOICE in (a): at least one result, no two results of equal confidence, no
ignored result (every result's looked-up label has a threshold) -/
structure TpfpPinned (m : Mode) (targets : List Label) (thrs : List Rat) (rs : List Res) : Prop where
  nonempty : 1 ≤ rs.length
  strict : ∀ i j, i < rs.length → j < rs.length → i ≠ j → (rs.map Res.conf).getD i 0 ≠ (rs.map Res.conf).getD j 0
  noIgn : ∀ j, j < rs.length → kindAtoms (valAP m targets thrs rs) j ≠ .ign

/-- `TpfpPinned` as a Boolean, for kernel evaluation on concrete lists (`pinned_of_bool`) -/
def pinnedBool (m : Mode) (targets : List Label) (thrs : List Rat) (rs : List Res) : Bool :=
  decide (1 ≤ rs.length) &&
  ((List.range rs.length).all fun i => (List.range rs.length).all fun j =>
    i == j || decide ((rs.map Res.conf).getD i 0 ≠ (rs.map Res.conf).getD j 0)) &&
  ((List.range rs.length).all fun j => decide (kindAtoms (valAP m targets thrs rs) j ≠ .ign))

theorem pinned_of_bool {m : Mode} {targets : List Label} {thrs : List Rat} {rs : List Res}
    (h : pinnedBool m targets thrs rs = true) : TpfpPinned m targets thrs rs := by
  unfold pinnedBool at h
  simp only [Bool.and_eq_true, decide_eq_true_eq, List.all_eq_true, List.mem_range, Bool.or_eq_true, beq_iff_eq] at h
  refine ⟨h.1.1, fun i j hi hj hij => ?_, fun j hj => h.2 j hj⟩
  rcases h.1.2 i hi j hj with h' | h'
  · exact absurd h' hij
  · exact h'

/-- non-vacuity of `TpfpPinned`: two car results with confidences 1 and 2 (one matched, one not), target car, threshold 1 —
and the predicate excludes a tie and an ignored (pedestrian) result -/
example : TpfpPinned .centerDistance [2] [1]
    [⟨0, 1, 2, some ⟨0, 2⟩, .val (some 0), 1, .default⟩, ⟨1, 2, 2, none, .val none, 1, .default⟩] :=
  pinned_of_bool (by decide +kernel)
example : pinnedBool .centerDistance [2] [1]
    [⟨0, 1, 2, some ⟨0, 2⟩, .val (some 0), 1, .default⟩, ⟨1, 1, 2, none, .val none, 1, .default⟩] = false ∧
  pinnedBool .centerDistance [2] [1]
    [⟨0, 1, 2, some ⟨0, 2⟩, .val (some 0), 1, .default⟩, ⟨1, 2, 4, none, .val none, 1, .default⟩] = false := by
  decide +kernel

theorem strictPat_rankPat (cs : List Rat)
    (h : ∀ i j, i < cs.length → j < cs.length → i ≠ j → cs.getD i 0 ≠ cs.getD j 0) : strictPat (rankPat cs) = true := by
  simp only [strictPat, rankPat_length, List.all_eq_true, List.mem_range, Bool.or_eq_true, beq_iff_eq, bne_iff_ne]
  -- equal ranks: neither entry is below the other (`rankPat_iso`), so they are equal
  refine fun i hi j hj => or_iff_not_imp_left.2 fun hij he => h i j hi hj hij (le_antisymm ?_ ?_)
  · exact not_lt.1 fun hlt => ((rankPat_iso cs j i hj hi).2 hlt).ne' he
  · exact not_lt.1 fun hlt => ((rankPat_iso cs i j hi hj).2 hlt).ne he

/-- WHERE THE TEXT LEAVES NO CHOICE THE CODE'S TABLE (a) IS THE MODEL (coverage ∘ table theorem ∘ `tpfpAdmits_pinned` ∘
bridge): for every PINNED result list of 1 … 3 results (`TpfpPinned`) the generated rows contain the row of that input, and
the tree of that row, evaluated at the valuation of the input and read at its weights, gives exactly the `tp_list`, `fp_list`
and "ap is not inf" of the model's `Ap` (whenever that answers). -/
theorem table_tpfp_is_model (tm : TpMetric) (m : Mode) (targets : List Label) (thrs : List Rat) (G : Nat) (rs : List Res)
    (hpin : TpfpPinned m targets thrs rs) (h3 : rs.length ≤ 3)
    (out : ApOut) (hout : apOf tm m targets thrs G rs = .ok out) (hrows : Gen.APDT.tpfpRows ≠ []) :
    ∃ r ∈ Gen.APDT.tpfpRows, (r.1, r.2.1) = tpfpRowKey G rs ∧
      ∃ leaf, r.2.2.eval (valAP m targets thrs rs) = .ok leaf ∧
        leaf.read (envW tm rs) = (out.tpList, out.fpList, out.ap.isSome) := by
  have h1 := hpin.nonempty
  obtain ⟨⟨pat, G', tree⟩, hr, hk, hsh, had⟩ := table_tpfp_row m targets thrs G rs (Or.inl ⟨h1, h3⟩) hrows
  -- the row of a non-empty input is keyed by the rank pattern of its confidences
  obtain ⟨rfl, rfl⟩ := Prod.mk.inj (hk.trans (tpfpRowKey_of_pos G h1))
  have hlenp : (rankPat (rs.map Res.conf)).length = rs.length := by rw [rankPat_length, List.length_map]
  have hp : rankPat (rs.map Res.conf) ≠ [] := List.ne_nil_of_length_pos (hlenp ▸ h1)
  have hst := strictPat_rankPat (rs.map Res.conf) fun i j hi hj =>
    hpin.strict i j (by rwa [List.length_map] at hi) (by rwa [List.length_map] at hj)
  have hno : ∀ k ∈ (sortIdx (rankPat (rs.map Res.conf))).map (kindAtoms (valAP m targets thrs rs)), k ≠ .ign :=
    List.forall_mem_map.2 fun j hj => hpin.noIgn j (hlenp ▸ List.mem_range.1 ((sortIdx_perm _).mem_iff.1 hj))
  have hleaf := tpfpAdmits_pinned _ 1 hsh hp hst _ _
    (by rw [List.length_map, (sortIdx_perm _).length_eq, List.length_range]) hno had
  refine ⟨_, hr, hk, _, hleaf, ?_⟩
  change (tpfpAtoms _ 1 (valAP m targets thrs rs)).read (envW tm rs) = _
  rw [tpfpAtoms_G _ hp 1 G]
  exact tpfp_bridge tm m targets thrs G rs _ hlenp
    (fun i j hi hj => rankPat_iso _ i j (by rwa [List.length_map]) (by rwa [List.length_map])) out hout

/-- the same coverage for the area table (b2): for EVERY precision / recall lists of length ≤ 3 the generated rows contain a
row whose pattern is ordered like the precisions (the rank pattern), and its polynomial, read at the numbers, is the model's
`calculateAp` = the all-point interpolated area -/
theorem table_area_covers_every_input (ps rs : List Rat) (hr : rs.length = ps.length) (h3 : ps.length ≤ 3)
    (hrows : Gen.APDT.areaRows ≠ []) :
    ∃ r ∈ Gen.APDT.areaRows, r.1 = rankPat ps ∧
      ∃ nf, r.2 = .ok nf ∧ evalNF (envPR ps rs) nf = calculateAp ps rs ∧ evalNF (envPR ps rs) nf = apSpec ps rs := by
  have hshapes : Gen.APDT.areaRows.map (·.1) = patShapes 0 := area_code_eq_model.1.resolve_left hrows
  obtain ⟨r, hrm, hk⟩ := List.mem_map.1 (hshapes ▸ rankPat_mem_patShapes 0 ps (Nat.zero_le _) h3)
  refine ⟨r, hrm, hk, ?_⟩
  exact table_area_is_interpolated_area ps rs hr r hrm (by rw [hk, rankPat_length])
    (fun i j hi hj => by rw [hk]; exact rankPat_iso ps j i hj hi)

/-- non-vacuity of the bridge: a tie and a strictly larger confidence — pattern `[0, 2, 0]`, ranking `[1, 0, 2]` (stable), a tabulated shape -/
example : rankPat [1, 2, 1] = [0, 2, 0] ∧ sortIdx [0, 2, 0] = [1, 0, 2] ∧ ([0, 2, 0], 1) ∈ tpfpShapes := by decide +kernel

/-! ## the bridge of (c) for all inputs (`PEval/Lemmas/APDTMap.lean`) -/

/-- (c) for ALL inputs, model side (any number of labels, any dict key order, extra keys): whenever the model's `Map`
answers — pairwise distinct target labels, one threshold per label — the skeleton `mapAtoms` at the shape of the input
(`shapeOfMap`: the dict keys as positions in the target list) and at its valuation (`valMap`: which buckets are empty)
answers a leaf that reads (`MapLeafReads`) as the model's output: the `Ap` / APH call of label `i`, read on the input
(`readCall`: dict entries and threshold of the label at position `i`), is the model's `Ap` / APH of label `i`, and the
mAP / mAPH normal forms read at the per-label values are the model's mAP / mAPH -/
theorem map_skeleton_is_model (m : Mode) (is2d : Bool) (targets : List Label) (thrs : List Rat)
    (buckets : List (Label × List (List Res))) (nums : List (Label × Nat)) (hnd : targets.Nodup)
    (hlen : thrs.length = targets.length) (out : MapOut) (hout : mapOf m is2d targets thrs buckets nums = .ok out) :
    ∃ leaf, mapAtoms (shapeOfMap is2d targets buckets nums) (valMap targets buckets) = .ok leaf ∧
      MapLeafReads m targets thrs buckets nums leaf out :=
  map_bridge m is2d targets thrs buckets nums hnd hlen out hout

/-- WHAT THE CODE'S TABLE (c) SAYS ABOUT EVERY INPUT OF A TABULATED SHAPE (table theorem ∘ bridge): for every row and every
input of the row's shape on which the model's `Map` answers, the tree of the real `Map.__init__`, evaluated at the
valuation of the input, gives a leaf that — its `aps` / `aphs` listed by target label (`canonMap`) — reads as the model's output (per-label `Ap`s built from the entries and the
threshold of THEIR label, mAP / mAPH = means over the labels with a result) -/
theorem table_map_is_model (m : Mode) (is2d : Bool) (targets : List Label) (thrs : List Rat)
    (buckets : List (Label × List (List Res))) (nums : List (Label × Nat)) (hnd : targets.Nodup)
    (hlen : thrs.length = targets.length) (out : MapOut) (hout : mapOf m is2d targets thrs buckets nums = .ok out) :
    ∀ r ∈ Gen.APDT.mapRows, r.1 = shapeOfMap is2d targets buckets nums →
      ∃ leaf, r.2.eval (valMap targets buckets) = .ok leaf ∧
        MapLeafReads m targets thrs buckets nums (canonMap leaf) out := by
  intro r hr hshape
  obtain ⟨leaf, h1, h2⟩ := map_bridge m is2d targets thrs buckets nums hnd hlen out hout
  have hm := map_code_table_eq_model.2 r hr _ (valMap_consistent targets buckets)
  rw [hshape, h1] at hm
  match r.2.eval (valMap targets buckets), hm with
  | .ok leaf0, hm => exact ⟨leaf0, rfl, Except.ok.inj hm ▸ h2⟩

/-- non-vacuity: a required shape is the shape of a concrete input (labels 5, 7; result dict keyed 7, 5) -/
example : shapeOfMap false [5, 7] [(7, []), (5, [])] [(5, 0), (7, 0)] = ⟨2, [1, 0], [0, 1], false⟩ := by decide

end PEval.C04
