import PEval.Properties.C03Eval
import PEval.Properties.C04ScenePipeline
/-!
# C04, scene level on the composed whole-frame model: NO per-frame hypothesis left but "the inputs are sets"

`pipeline_scene_in_unit_interval` (`Properties/C04ScenePipeline.lean`) still assumes, per frame, pairwise different
ground-truth ids and heading weights in [0,1].  For a history evaluated by `FrameChange.evalFrame` (objects with boxes
and yaws, both filters, score table, matcher — `Model/FrameEval.lean`) both are consequences of the construction:
the ids are the objects' ids (`C03.ObjectsDistinct`, the one input hypothesis of `Properties/C03Eval.lean`), the heading
weight of a pair is `Heading.aphWeight` of the two yaws, which lies in [0,1] for all yaws (`C09.aphWeight_range`).
-/
namespace PEval.C04
open PEval PEval.FrameChange PEval.Pipeline PEval.PipelineProps PEval.C03

/-- the `Pipeline.Frame` of an evaluated frame, with its `Pipeline.Out`: what the manager stores of the frame -/
def StoredAs (C : EvalCfg) (fo : SFrame × FrameOut) (p : Pipeline.Frame × Pipeline.Out) : Prop :=
  ∃ kE kG, keptEsts C fo.1 = .ok kE ∧ keptGts C fo.1 = .ok kG ∧
    p = (frameOf C fo.1 kE kG fo.2.critEst fo.2.critGt, fo.2.out)

theorem frameOf_hw_range (C : EvalCfg) (f : SFrame) (kE kG : List SObj) (cE cG : List Bool) (i j : Nat) :
    0 ≤ (frameOf C f kE kG cE cG).hw i j ∧ (frameOf C f kE kG cE cG).hw i j ≤ 1 := by
  have hrow : ∀ a g : Obj, 0 ≤ (f.reader.row a g).unsigned.aph ∧ (f.reader.row a g).unsigned.aph ≤ 1 := by
    intro a g
    unfold SFrame.reader
    cases f.frameId
    · exact C09.aphWeight_range a.tau g.tau
    · exact C09.aphWeight_range a.tau g.tau
  show 0 ≤ (match rowAt (tableOf f.reader kE kG) i j with
      | some r => r.aph
      | none => 0) ∧ (match rowAt (tableOf f.reader kE kG) i j with
      | some r => r.aph
      | none => 0) ≤ 1
  cases hr : rowAt (tableOf f.reader kE kG) i j with
  | none => exact ⟨le_rfl, zero_le_one⟩
  | some r =>
    -- an entry of the table is the reader's row of two kept objects
    unfold rowAt at hr
    split at hr
    · next row hi =>
      obtain ⟨x, -, rfl⟩ := List.mem_map.1 (List.mem_of_getElem? hi)
      obtain ⟨y, -, rfl⟩ := List.mem_map.1 (List.mem_of_getElem? hr)
      exact hrow x.obj y.obj
    · cases hr

/-- one evaluated frame: it is stored as a `Pipeline.Frame` that `detectFrame` evaluated to the frame's `out`, with
pairwise different ground-truth ids and heading weights in [0,1] -/
theorem eval_stored (C : EvalCfg) (f : SFrame) (o : FrameOut) (h : evalFrame C f = .ok o) (hd : ObjectsDistinct f) :
    ∃ p, StoredAs C (f, o) p ∧ detectFrame p.1 = .ok p.2 ∧ GtIdsDistinct p.1 ∧
      ∀ i j, 0 ≤ p.1.hw i j ∧ p.1.hw i j ≤ 1 := by
  obtain ⟨kE, kG, hE, hG, _, _, _, _, _, _, _, hdet⟩ := evalFrame_trace h
  exact ⟨_, ⟨kE, kG, hE, hG, rfl⟩, hdet, gt_ids_distinct_of_set _ (gtsDistinct_frameOf hd hG _ _),
    frameOf_hw_range C f kE kG _ _⟩

/-- **[0,1] at scene level for histories evaluated by `evalFrame`.**  Every frame of the history is stored as the
`Pipeline.Frame` / `Pipeline.Out` pair `evalFrame` computed for it, and for EVERY scene-level `Map` (mode, 2-D/3-D,
target labels, thresholds) over the stored frames that answers, every defined AP / APH / mAP / mAPH lies in [0,1].
Only hypothesis: each frame's input lists are sets (`ObjectsDistinct`). -/
theorem eval_scene_in_unit_interval (C : EvalCfg) (fs : List SFrame) (outs : List FrameOut)
    (h : evalHistory C fs = .ok outs) (hd : ∀ f ∈ fs, ObjectsDistinct f) :
    ∃ hist : List (Pipeline.Frame × Pipeline.Out), List.Forall₂ (StoredAs C) (fs.zip outs) hist ∧
      ∀ (m : AP.Mode) (is2d : Bool) (T : List AP.Label) (th : List Rat) (o : AP.MapOut),
        AP.sceneMap m is2d T th (hist.map (sceneFrame m)) = .ok o →
        (∀ a ∈ o.aps, ∀ x, a.ap = some x → 0 ≤ x ∧ x ≤ 1) ∧
        (∀ a ∈ o.aphs, ∀ x, a.ap = some x → 0 ≤ x ∧ x ≤ 1) ∧
        (∀ x, o.map = some x → 0 ≤ x ∧ x ≤ 1) ∧ (∀ x, o.maph = some x → 0 ≤ x ∧ x ≤ 1) := by
  have key : ∃ hist : List (Pipeline.Frame × Pipeline.Out), List.Forall₂ (StoredAs C) (fs.zip outs) hist ∧
      ∀ p ∈ hist, detectFrame p.1 = .ok p.2 ∧ GtIdsDistinct p.1 ∧ ∀ i j, 0 ≤ p.1.hw i j ∧ p.1.hw i j ≤ 1 := by
    rw [evalHistory, mapE_eq_mapM] at h
    have hF := mapM_ok_iff.1 h
    clear h
    induction hF with
    | nil => exact ⟨[], .nil, fun p hp => nomatch hp⟩
    | @cons f o fs os h1 _ ih =>
      obtain ⟨p, hp, hp2⟩ := eval_stored C f o h1 (hd f List.mem_cons_self)
      obtain ⟨hist, hh, hh2⟩ := ih fun g hg => hd g (List.mem_cons_of_mem _ hg)
      exact ⟨p :: hist, .cons hp hh, List.forall_mem_cons.2 ⟨hp2, hh2⟩⟩
  obtain ⟨hist, hh, hall⟩ := key
  refine ⟨hist, hh, ?_⟩
  intro m is2d T th o ho
  exact pipeline_scene_in_unit_interval hist (fun p hp => (hall p hp).1) (fun p hp => (hall p hp).2.1)
    (fun p hp => (hall p hp).2.2) ho

/-! ### non-vacuity: the two renderings of the frame of `C03Eval.lean` as a two-frame history (ids repeat across frames) -/

example : ∀ f ∈ [exE, exM], ObjectsDistinct f := by
  intro f hf
  simp only [List.mem_cons, List.not_mem_nil, or_false] at hf
  rcases hf with rfl | rfl
  · exact ⟨by decide +kernel, by decide +kernel⟩
  · exact ⟨by decide +kernel, by decide +kernel⟩
example : (evalHistory exC [exE, exM]).map (fun os => os.map FrameOut.summary) = .ok [exSummary, exSummary] := by
  decide +kernel

end PEval.C04
