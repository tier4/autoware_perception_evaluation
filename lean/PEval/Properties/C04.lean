import PEval.Properties.C04Core
import PEval.Properties.Pipeline
import PEval.Properties.C04Dict
import PEval.Properties.C04Tables
import PEval.Properties.C04Scene
import PEval.Properties.C04Perfect
import PEval.Properties.C04Pipeline
import PEval.Properties.C04Area
import PEval.Properties.C04ScenePipeline
import PEval.Properties.C04SceneEval
/-!
# C04 — AP, APH and mAP equal the interpolated precision-recall area, within [0,1] (root)

* `PEval/Properties/C04Core.lean` (namespace `PEval.C04`): the property theorems about the AP model;
  the bounds assume that each ground truth is the ground truth of at most one result.
* `PEval/Properties/Pipeline.lean` (namespace `PEval.PipelineProps`): the composition with the matcher
  model — `pipeline_ap_in_unit`, `pipeline_frameMap_in_unit`, `pipeline_aph_le_ap`: on every frame the
  pipeline produces, every defined AP / APH / mAP / mAPH lies in [0,1] and APH ≤ AP, the one-to-one
  hypothesis being discharged by C01's theorems and inherited by every `divide_objects` bucket.

* `PEval/Properties/C04Dict.lean` (namespace `PEval.C04`): `Map` reads its per-label dicts by key (key order
  and extra keys are irrelevant), the label list of the critical-object filter may be any listing of the
  evaluation config's labels, and a threshold `float("inf")` behaves like a number above every score.

* `PEval/Properties/C04Tables.lean` (namespace `PEval.C04`): the decision tables / expressions that `harness/dt_c04.py`
  extracts from the real `Ap` / `Map` code on every run agree with the model's skeletons (`…_code_table_eq_model`): the
  precision / recall lists and the area are EQUAL to the model's normal forms; the leaf of `Ap.__init__` is one the model's
  kinds ADMIT (`tpfpAdmits`: ties in any order, an ignored result filed as FP or not, an empty ranking free), the leaf of
  `Map.__init__` equal after `canonMapE` (the `Ap`s listed by label, one exception code) — what the C04 text leaves open.

* `PEval/Properties/C04Perfect.lean` (namespace `PEval.C04`): "AP = 1 when every ground truth is matched by a correct
  estimate and no wrong estimate outranks one, 0 when no estimate is correct" for the whole constructor `apOf` on results
  and ground truths; APH in the perfect case; no ground truth / no result; totality.
* `PEval/Properties/C04Pipeline.lean` (namespace `PEval.PipelineProps`): `is_detection_2d` free; the "AP = 1" clause on
  every `Map` of a pipeline frame with the one-to-one hypotheses discharged by C01.

* `PEval/Properties/C04Area.lean` (namespace `PEval.C04`): index-based area = recall-based area ("maximum precision at any
  higher recall") for non-decreasing recalls; `Map`'s i-th AP is the `Ap` of the i-th label on the bucket looked up by key.

* `PEval/Properties/C04ScenePipeline.lean` (namespace `PEval.PipelineProps`): `pipeline_scene_in_unit_interval` — the
  per-frame hypotheses of `C04.scene_in_unit_interval` discharged for histories of frames evaluated by
  `Pipeline.detectFrame` (C01's one-to-one theorems, frame by frame; ground-truth ids may repeat across frames).
* `PEval/Properties/C04SceneEval.lean` (namespace `PEval.C04`): `eval_scene_in_unit_interval` — the same for histories
  evaluated by `FrameChange.evalFrame`; the remaining input hypotheses (ids, heading weights) follow from the
  construction (`C03.ObjectsDistinct`, `C09.aphWeight_range`).

The core is a separate module only because the composition imports it (no import cycle); `./check C04`
imports this root and therefore sees both.
-/
