import PEval.Lemmas.Heading
import PEval.Lemmas.HeadingQuat
import PEval.Lemmas.HeadingReal
/-!
# C09 — heading comparisons use the true minimal yaw difference

Angles are half-turns (`τ·π`), so `π ↦ 1`.  `InDom τ` is the range `(−1, 1]` of
`yaw_pitch_roll[0]`.  `circDist a b = min(|a − b|, 2 − |a − b|)` is the true minimal absolute yaw
difference `d/π`.  All theorems quantify over *all* rational yaws in the domain (rationals are dense,
the functions are piecewise linear, the harness compares within 1e-9).

The file has four layers.
* The τ-model (`PEval.Model.Heading`), whose input is the yaw: weight, signed error, frame change, and the analysis tool's
  yaw error column, which is the same function as the signed error.
* **Quaternion sign invariance** ("not on the sign convention of the quaternion"): the code reads an orientation only
  through `pyquaternion.Quaternion.yaw_pitch_roll`, whose two `arctan2` arguments are polynomials of the components
  (`PEval.Model.HeadingQuat`); `q` and `−q` give the same pair, so every quantity computed from the yaw is the same for both,
  whatever `arctan2` is.  The correspondence run checks the same on every case by building each object with both `q` and `−q`.
* The bridge `YawBridge` between heading directions and yaws: one named hypothesis collecting what is not polynomial
  (`arctan2`, `arccos`); under it the weight and the error are functions of dot and cross product of the directions.
* The facts the bridge assumes, proved over `ℝ` with Mathlib's `Complex.arg`, `arccos`, `sin`.

The variant that reads `orientation.radians` in place of the yaw (what the code did before defect F3 of DESIGN §7 was fixed
in `/repo`; seed C09_G) is modelled at both levels, on yaws (`quatAngle`,
`aphWeightPreFix`; witnesses `preFix_*`) and on quaternions (`radiansDir`, `radiansVia`, `aphWeightQF3`; `radiansDir_*`,
`radiansVia_neg_ne` and its instance `radiansVia_not_sign_invariant`).

**Boundary d = π** (opposite headings).  In the model (exact arithmetic) `_clip` leaves `±1`
unchanged, so `|error| = d` holds *including* the boundary, the reported sign there is the sign of
`yaw_gt − yaw_est` (`headingError_boundary`), and antisymmetry is exact everywhere
(`headingError_antisymm`).  Only *frame* invariance of the signed error has an exception at the
boundary: the two renderings may report `+π` and `−π` (`headingError_frame_invariant`).  In floating
point `yaw2 − yaw1` may round to either side of `±π` (and `yaw_pitch_roll` may return `−π` for a yaw of
`π` after a frame change), so the harness accepts either sign when the model says `1 − d < 1e-12`
(counted in the branch histogram as `boundary:either-sign`).
-/
namespace PEval.C09
open PEval.Heading

/-! Each theorem is stated for the range `(−1, 1]` of `yaw_pitch_roll[0]` (`InDom`) and, where the statement survives, for the
closed domain `InDomC τ : −1 ≤ τ ≤ 1` (`*_closed`): `np.arctan2(-0.0, -x) = −π`, so in floats `yaw_pitch_roll[0]` can
return `−π`, which `InDom` excludes.  The first is the second restricted; the only statement that changes is "weight 1 ⇔ equal
yaws", because `−1` and `1` name the same heading. -/

theorem aphWeight_eq_closed {τe τg : Rat} (he : InDomC τe) (hg : InDomC τg) :
    aphWeight τe τg = 1 - circDist τe τg ∧ 0 ≤ circDist τe τg ∧ circDist τe τg ≤ 1 := by
  have h0 := circDist_nonneg he hg
  have h1 := circDist_le_one τe τg
  refine ⟨?_, h0, h1⟩
  unfold aphWeight
  rw [foldAbs_heading he hg, clamp01_id (by linarith) (by linarith)]

/-- the APH weight is `1 − d/π` with `d/π` the circular distance of the yaws, which lies in `[0, 1]` -/
theorem aphWeight_eq {τe τg : Rat} (he : InDom τe) (hg : InDom τg) :
    aphWeight τe τg = 1 - circDist τe τg ∧ 0 ≤ circDist τe τg ∧ circDist τe τg ≤ 1 :=
  aphWeight_eq_closed he.closed hg.closed

/-- on the yaw domain the clamp `min(1, max(0, ·))` never fires: there the weight lies in `[0, 1]` by the heading arithmetic
alone -/
theorem aphWeight_clamp_inactive {τe τg : Rat} (he : InDomC τe) (hg : InDomC τg) :
    aphWeight τe τg = 1 - foldAbs (headingBev τe - headingBev τg) ∧
      0 ≤ 1 - foldAbs (headingBev τe - headingBev τg) ∧ 1 - foldAbs (headingBev τe - headingBev τg) ≤ 1 := by
  have h := aphWeight_eq_closed he hg
  rw [foldAbs_heading he hg]
  exact ⟨h.1, by linarith [h.2.2], by linarith [h.2.1]⟩

theorem aphWeight_symm {τe τg : Rat} (he : InDom τe) (hg : InDom τg) :
    aphWeight τe τg = aphWeight τg τe :=
  aphWeight_comm τe τg

/-- weight 1 ⇔ the same heading: equal yaws, or the two names `−π`, `π` of one heading -/
theorem aphWeight_eq_one_iff_closed {τe τg : Rat} (he : InDomC τe) (hg : InDomC τg) :
    aphWeight τe τg = 1 ↔ (τe = τg ∨ absR (τe - τg) = 2) := by
  rw [(aphWeight_eq_closed he hg).1, sub_eq_self, circDist_eq_zero_iff]

theorem aphWeight_eq_one_iff {τe τg : Rat} (he : InDom τe) (hg : InDom τg) :
    aphWeight τe τg = 1 ↔ τe = τg := by
  rw [aphWeight_eq_one_iff_closed he.closed hg.closed, absR_eq_abs,
    or_iff_left (abs_lt.2 ⟨by linarith [he.1, hg.2], by linarith [he.2, hg.1]⟩).ne]

theorem aphWeight_eq_zero_iff_closed {τe τg : Rat} (he : InDomC τe) (hg : InDomC τg) :
    aphWeight τe τg = 0 ↔ circDist τe τg = 1 := by
  rw [(aphWeight_eq_closed he hg).1, sub_eq_zero, eq_comm]

/-- weight 0 ⇔ circular distance 1 (the form used by the harness) -/
theorem aphWeight_eq_zero_iff_d {τe τg : Rat} (he : InDom τe) (hg : InDom τg) :
    aphWeight τe τg = 0 ↔ circDist τe τg = 1 :=
  aphWeight_eq_zero_iff_closed he.closed hg.closed

/-- weight 0 exactly for opposite headings: `d = π`, i.e. the yaws differ by exactly a half turn -/
theorem aphWeight_eq_zero_iff {τe τg : Rat} (he : InDom τe) (hg : InDom τg) :
    aphWeight τe τg = 0 ↔ (τe - τg = 1 ∨ τg - τe = 1) := by
  rw [aphWeight_eq_zero_iff_d he hg, circDist_eq_one_iff, absR_eq_abs, abs_eq zero_le_one]
  exact or_congr_right ⟨fun h => by linarith, fun h => by linarith⟩

/-- the weight lies in `[0, 1]` – for *every* pair of rationals, in the domain or not (the clamp) -/
theorem aphWeight_range (τe τg : Rat) : 0 ≤ aphWeight τe τg ∧ aphWeight τe τg ≤ 1 :=
  clamp01_range _

/-- the map-frame yaws are again in the domain, so every theorem here applies to the map rendering -/
theorem wrapYaw_dom {τ0 τ : Rat} (h0 : InDom τ0) (h : InDom τ) : InDom (wrapYaw (τ + τ0)) :=
  wrapYaw_sum_inDom h.closed h0.closed

theorem frame_invariant_closed {τ0 τe τg : Rat} (h0 : InDomC τ0) (he : InDomC τe) (hg : InDomC τg) :
    aphWeightMap τ0 τe τg = aphWeight τe τg := by
  unfold aphWeightMap
  rw [(aphWeight_eq (wrapYaw_sum_inDom he h0) (wrapYaw_sum_inDom hg h0)).1, (aphWeight_eq_closed he hg).1,
    circDist_wrapYaw h0 he hg]

/-- rendering the pair in another frame (both orientations composed with the same ego rotation `τ0`,
yaws re-wrapped into `(−1, 1]` as `atan2` does) leaves the weight unchanged -/
theorem frame_invariant {τ0 τe τg : Rat} (h0 : InDom τ0) (he : InDom τe) (hg : InDom τg) :
    aphWeightMap τ0 τe τg = aphWeight τe τg :=
  frame_invariant_closed h0.closed he.closed hg.closed

theorem headingError_range_closed {τe τg : Rat} (he : InDomC τe) (hg : InDomC τg) :
    -1 ≤ headingError τe τg ∧ headingError τe τg ≤ 1 :=
  clip_range (hg.sub he)

theorem headingError_range {τe τg : Rat} (he : InDom τe) (hg : InDom τg) :
    -1 ≤ headingError τe τg ∧ headingError τe τg ≤ 1 :=
  headingError_range_closed he.closed hg.closed

theorem headingError_abs_eq_d_closed {τe τg : Rat} (he : InDomC τe) (hg : InDomC τg) :
    absR (headingError τe τg) = circDist τe τg := by
  rw [circDist_comm, circDist_eq_foldAbs]
  exact absR_clip (hg.sub he)

/-- `|error| = d`, whichever object has the larger yaw – boundary `d = π` included -/
theorem headingError_abs_eq_d {τe τg : Rat} (he : InDom τe) (hg : InDom τg) :
    absR (headingError τe τg) = circDist τe τg :=
  headingError_abs_eq_d_closed he.closed hg.closed

/-- the error is the yaw difference up to a whole number of turns (so it is the *signed* minimal difference) -/
theorem headingError_congr (τe τg : Rat) :
    headingError τe τg = τg - τe ∨ headingError τe τg = τg - τe + 2 ∨ headingError τe τg = τg - τe - 2 :=
  clip_cases _

/-- at the boundary the code reports the raw difference: `+π` if the ground truth has the larger yaw,
`−π` otherwise -/
theorem headingError_boundary {τe τg : Rat} (h : circDist τe τg = 1) :
    headingError τe τg = τg - τe := by
  -- `τg − τe = ±1`, and `_clip` leaves `[−1, 1]` alone
  have := (circDist_eq_one_iff τg τe).1 ((circDist_comm τg τe).trans h)
  rw [absR_eq_abs] at this
  exact clip_id (abs_le.1 this.le)

/-- swapping the two objects negates the error – exactly, for all rationals (in the model `_clip` is odd:
`±π` are fixed points). In floats the boundary may come out with either sign. -/
theorem headingError_antisymm (τe τg : Rat) : headingError τg τe = -headingError τe τg := by
  unfold headingError
  rw [← clip_neg, neg_sub]

/-- frame invariance of the signed error: unchanged, except that at `d = π` the two renderings may
report `+π` and `−π` -/
theorem headingError_frame_invariant {τ0 τe τg : Rat} (h0 : InDom τ0) (he : InDom τe) (hg : InDom τg) :
    headingErrorMap τ0 τe τg = headingError τe τg ∨
      (circDist τe τg = 1 ∧ headingErrorMap τ0 τe τg = -headingError τe τg) := by
  unfold headingErrorMap headingError
  rcases clip_shift (hg.closed.sub he.closed) ((wrapYaw_dom h0 hg).closed.sub (wrapYaw_dom h0 he).closed)
    (wrapYaw_sub_turns τ0 τg τe) with h | ⟨h1, h2⟩
  · left; exact h
  · right; exact ⟨(headingError_abs_eq_d he hg).symm.trans h1, h2⟩

theorem aphWeight_eq_one_sub_abs_error {τe τg : Rat} (he : InDom τe) (hg : InDom τg) :
    aphWeight τe τg = 1 - absR (headingError τe τg) := by
  rw [(aphWeight_eq he hg).1, headingError_abs_eq_d he hg]

/-! ## the analysis tool's yaw error column (`calculate_error("yaw")`)

The second public place where a yaw error is reported for a pair. Its two masked wrap assignments compute the
same function as `_clip` of `get_heading_error` (for *all* rationals), so range, magnitude and antisymmetry carry
over; and because the analyzer brings every object to `BASE_LINK` first, the value is frame-free without the
boundary exception. -/

theorem analyzerYawError_eq_headingError (τe τg : Rat) : analyzerYawError τe τg = headingError τe τg :=
  clip_two_steps _

theorem analyzerYawError_range {τe τg : Rat} (he : InDom τe) (hg : InDom τg) :
    -1 ≤ analyzerYawError τe τg ∧ analyzerYawError τe τg ≤ 1 := by
  rw [analyzerYawError_eq_headingError]; exact headingError_range he hg

/-- magnitude `d`, whichever of the two yaws is larger (raw difference beyond `±π` in either direction included) -/
theorem analyzerYawError_abs_eq_d {τe τg : Rat} (he : InDom τe) (hg : InDom τg) :
    absR (analyzerYawError τe τg) = circDist τe τg := by
  rw [analyzerYawError_eq_headingError]; exact headingError_abs_eq_d he hg

theorem analyzerYawError_closed {τe τg : Rat} (he : InDomC τe) (hg : InDomC τg) :
    (-1 ≤ analyzerYawError τe τg ∧ analyzerYawError τe τg ≤ 1) ∧ absR (analyzerYawError τe τg) = circDist τe τg := by
  rw [analyzerYawError_eq_headingError]
  exact ⟨headingError_range_closed he hg, headingError_abs_eq_d_closed he hg⟩

theorem analyzerYawError_antisymm (τe τg : Rat) : analyzerYawError τg τe = -analyzerYawError τe τg := by
  rw [analyzerYawError_eq_headingError, analyzerYawError_eq_headingError]; exact headingError_antisymm τe τg

/-- map → ego undoes ego → map on yaws -/
theorem wrapYaw_roundtrip {τ0 τ : Rat} (h0 : InDom τ0) (h : InDom τ) : toEgoYaw τ0 (wrapYaw (τ + τ0)) = τ :=
  toEgoYaw_wrapYaw τ0 h

theorem analyzerYawError_frame_invariant {τ0 τe τg : Rat} (h0 : InDom τ0) (he : InDom τe) (hg : InDom τg) :
    analyzerYawErrorMap τ0 τe τg = analyzerYawError τe τg := by
  unfold analyzerYawErrorMap
  rw [wrapYaw_roundtrip h0 he, wrapYaw_roundtrip h0 hg]

/-- a saturating clip is not the minimal difference: yaws `61/64` and `−61/64` are `3/32` apart; the wrap reports
`3/32`, the saturating variant reports a full half turn (still inside `[−1, 1]`: a range check alone cannot see it) -/
theorem saturating_not_minimal :
    saturatingYawError (61/64) (-61/64) = -1 ∧ analyzerYawError (61/64) (-61/64) = 3/32 ∧
      circDist (61/64) (-61/64) = 3/32 := by decide +kernel

/-! ## F3 (the variant reading `orientation.radians`): it loses the sign of the yaw and replaces it by
the sign convention of the quaternion -/

/-- reading `.radians`, yaw `−3/10` and `+3/10` (both as `q`) get full weight although `d = 3/5` … -/
theorem preFix_not_minimal :
    aphWeightPreFix (-3/10) false (3/10) false = 1 ∧ aphWeight (-3/10) (3/10) = 2/5 := by decide +kernel

/-- … and the weight depends on the representative (`q` vs `−q`) of the *same* orientation -/
theorem preFix_not_sign_invariant :
    aphWeightPreFix (3/10) false (3/10) false ≠ aphWeightPreFix (3/10) false (3/10) true := by decide +kernel

/-! ## the hypotheses are satisfiable; concrete non-trivial instances -/

example : InDom (3/4) ∧ InDom (-7/8) ∧ InDom 1 := by decide +kernel
/-- wrap-around pair: yaws 3/4 and −7/8 are 3/8 apart (not 13/8) -/
example : aphWeight (3/4) (-7/8) = 5/8 ∧ circDist (3/4) (-7/8) = 3/8 ∧ headingError (3/4) (-7/8) = 3/8 := by
  decide +kernel
example : aphWeight 1 0 = 0 ∧ headingError 1 0 = -1 ∧ headingError 0 1 = 1 := by decide +kernel
/-- a frame change that moves the pair across the ±π cut -/
example : aphWeightMap (1/2) (3/4) (1/4) = aphWeight (3/4) (1/4) ∧ wrapYaw (3/4 + 1/2) = -3/4 := by decide +kernel
/-- the boundary exception of `headingError_frame_invariant` is real -/
example : headingError 0 1 = 1 ∧ headingErrorMap (1/2) 0 1 = -1 := by decide +kernel
/-- both wrap directions of the analyzer's column, and a map rendering that moves the pair across the cut -/
example : analyzerYawError (-61/64) (61/64) = -3/32 ∧ analyzerYawError (61/64) (-61/64) = 3/32 ∧
    analyzerYawErrorMap (1/2) (3/4) (1/4) = -1/2 := by decide +kernel
/-- the float-reachable input `yaw = −π` of the closed domain: same heading as `π`, half a turn from `0` -/
example : InDomC (-1) ∧ ¬ InDom (-1) ∧ aphWeight (-1) 1 = 1 ∧ headingError (-1) 1 = 0 ∧ aphWeight (-1) 0 = 0 ∧
    headingError 0 (-1) = -1 ∧ absR ((-1 : Rat) - 1) = 2 := by decide +kernel

/-! # Quaternion level: "not on the sign convention of the quaternion"

`PEval.Model.HeadingQuat`: an orientation is a rational quaternion; the code reads it through
`yaw_pitch_roll[0] = arctan2(yawDir.s, yawDir.c)`, `yawDir` being two polynomials of the components.  `arctan2` is a
parameter `at2` of `yawVia`, `aphWeightQ`, `headingErrorQ`, `analyzerYawErrorQ`: the `*_sign_invariant` theorems hold for
EVERY function `at2` and for EVERY quaternion (3-D, unit or not).  Reading the heading off the rotation matrix needs a unit
quaternion, composition of headings pure-yaw ones (`YawOnly`).  The defective variant is `radiansVia` / `radiansDir`
(F3, seed C09_G: `orientation.radians`). -/
open PEval.Transform

/-- `q` and `−q` determine the same heading direction (the two arguments of `arctan2`) -/
theorem heading_of_neg (q : Quat) : yawDir (-q) = yawDir q := yawDir_neg q

/-- for a unit quaternion the heading direction is read off its rotation matrix: `R[0,0]`, `−R[0,1]` in pyquaternion's
convention `R = R_x(roll) R_y(pitch) R_z(yaw)` … -/
theorem yawDir_of_rotMat (q : Quat) (h : q.normSq = 1) : yawDir q = ⟨(rotMat q).r0.x, -(rotMat q).r0.y⟩ := by
  simp only [Quat.normSq] at h
  simp only [yawDir, rotMat, Dir.mk.injEq]
  constructor
  · linear_combination (-1 : Rat) * h
  · ring

/-- … so two unit quaternions that are the same rotation have the same heading direction: "depends only on the
physical orientation" -/
theorem yawDir_same_rotation (p q : Quat) (hp : p.normSq = 1) (hq : q.normSq = 1) (h : rotMat p = rotMat q) :
    yawDir p = yawDir q := by
  rw [yawDir_of_rotMat p hp, yawDir_of_rotMat q hq, h]

/-- the yaw the code computes does not depend on the representative -/
theorem yawVia_sign_invariant (at2 : Rat → Rat → Rat) (q : Quat) (b : Bool) :
    yawVia at2 (withSign b q) = yawVia at2 q := by
  unfold yawVia; rw [yawDir_withSign]

/-- the APH weight does not depend on the sign convention of either quaternion (all four sign patterns) -/
theorem aphWeightQ_sign_invariant (at2 : Rat → Rat → Rat) (qe qg : Quat) (be bg : Bool) :
    aphWeightQ at2 (withSign be qe) (withSign bg qg) = aphWeightQ at2 qe qg := by
  unfold aphWeightQ; rw [yawVia_sign_invariant, yawVia_sign_invariant]

theorem headingErrorQ_sign_invariant (at2 : Rat → Rat → Rat) (qe qg : Quat) (be bg : Bool) :
    headingErrorQ at2 (withSign be qe) (withSign bg qg) = headingErrorQ at2 qe qg := by
  unfold headingErrorQ; rw [yawVia_sign_invariant, yawVia_sign_invariant]

theorem analyzerYawErrorQ_sign_invariant (at2 : Rat → Rat → Rat) (qe qg : Quat) (be bg : Bool) :
    analyzerYawErrorQ at2 (withSign be qe) (withSign bg qg) = analyzerYawErrorQ at2 qe qg := by
  unfold analyzerYawErrorQ; rw [yawVia_sign_invariant, yawVia_sign_invariant]

/-- the weight of the pair rendered in the map frame: the sign of the ego rotation included (eight patterns) -/
theorem aphWeightQMap_sign_invariant (at2 : Rat → Rat → Rat) (q0 qe qg : Quat) (b0 be bg : Bool) :
    aphWeightQMap at2 (withSign b0 q0) (withSign be qe) (withSign bg qg) = aphWeightQMap at2 q0 qe qg := by
  unfold aphWeightQMap aphWeightQ yawVia
  rw [yawDir_withSign_mul, yawDir_withSign_mul]

/-- the quaternion-level functions are the τ-model applied to the code's yaw (so every τ-theorem above transfers as soon as
the yaws are in the domain) -/
theorem aphWeightQ_eq_tau (at2 : Rat → Rat → Rat) (qe qg : Quat) :
    aphWeightQ at2 qe qg = aphWeight (yawVia at2 qe) (yawVia at2 qg) ∧
    headingErrorQ at2 qe qg = headingError (yawVia at2 qe) (yawVia at2 qg) ∧
    analyzerYawErrorQ at2 qe qg = headingError (yawVia at2 qe) (yawVia at2 qg) :=
  ⟨rfl, rfl, analyzerYawError_eq_headingError _ _⟩

/-! ### pure-yaw quaternions: the heading direction is the double-angle pair, composition multiplies directions -/

theorem yawDir_pureYaw {q : Quat} (h : YawOnly q) :
    yawDir q = ⟨q.w * q.w - q.z * q.z, 2 * (q.w * q.z)⟩ ∧ (yawDir q).OnCircle := by
  obtain ⟨hx, hy, hn⟩ := h
  simp only [Quat.normSq, hx, hy] at hn
  simp only [yawDir, Dir.OnCircle, hx, hy, Dir.mk.injEq]
  refine ⟨⟨?_, ?_⟩, ?_⟩
  · linear_combination (-1 : Rat) * hn
  · ring
  · linear_combination (4 * q.z * q.z) * hn

theorem yawDir_compose {q0 q : Quat} (h0 : YawOnly q0) (h : YawOnly q) :
    yawDir (q0 * q) = (yawDir q0).mul (yawDir q) ∧ YawOnly (q0 * q) := ⟨yawDir_mul h0 h, h0.mul h⟩

/-- cosine and sine of the yaw difference (dot and cross product of the heading directions) are the same in every frame:
both orientations composed with the same ego rotation -/
theorem dirDiff_frame_invariant {q0 qe qg : Quat} (h0 : YawOnly q0) (he : YawOnly qe) (hg : YawOnly qg) :
    cosDiff (yawDir (q0 * qe)) (yawDir (q0 * qg)) = cosDiff (yawDir qe) (yawDir qg) ∧
    sinDiff (yawDir (q0 * qe)) (yawDir (q0 * qg)) = sinDiff (yawDir qe) (yawDir qg) := by
  rw [yawDir_mul h0 he, yawDir_mul h0 hg]
  exact dirDiff_mul_left _ _ _ (yawDir_pureYaw h0).2

/-- … and for every choice of representatives -/
theorem dirDiff_sign_invariant (qe qg : Quat) (be bg : Bool) :
    cosDiff (yawDir (withSign be qe)) (yawDir (withSign bg qg)) = cosDiff (yawDir qe) (yawDir qg) ∧
    sinDiff (yawDir (withSign be qe)) (yawDir (withSign bg qg)) = sinDiff (yawDir qe) (yawDir qg) := by
  rw [yawDir_withSign, yawDir_withSign]; exact ⟨rfl, rfl⟩

theorem dirDiff_swap (a b : Dir) : cosDiff b a = cosDiff a b ∧ sinDiff b a = -sinDiff a b :=
  ⟨cosDiff_comm b a, sinDiff_antisymm a b⟩

theorem cosDiff_characterisation {a b : Dir} (ha : a.OnCircle) (hb : b.OnCircle) :
    (cosDiff a b = 1 ↔ a = b) ∧ (cosDiff a b = -1 ↔ a = b.opp) ∧ -1 ≤ cosDiff a b ∧ cosDiff a b ≤ 1 :=
  ⟨cosDiff_eq_one_iff ha hb, cosDiff_eq_neg_one_iff ha hb, cosDiff_mem_Icc ha hb⟩

/-! ### the defective variant F3 / C09_G (`orientation.radians`) is NOT sign invariant -/

/-- `.radians` agrees with the yaw exactly when the z-component is non-negative (or `w = 0`): the sign of the yaw is
replaced by the sign convention of the quaternion -/
theorem radiansDir_eq_yawDir_iff {q : Quat} (h : YawOnly q) : radiansDir q = yawDir q ↔ (q.w = 0 ∨ 0 ≤ q.z) := by
  -- the second components agree iff `w · (|z| − z) = 0`
  rw [(yawDir_pureYaw h).1, ← abs_eq_self, ← absR_eq_abs]
  simp only [radiansDir, Dir.mk.injEq, true_and]
  rw [mul_assoc, mul_right_inj' two_ne_zero, ← sub_eq_zero, ← mul_sub, mul_eq_zero, sub_eq_zero]

/-- the direction of `.radians` flips with the representative: `q = (4/5, 0, 0, 3/5)` vs `−q` -/
theorem radiansDir_not_sign_invariant :
    YawOnly ⟨4/5, 0, 0, 3/5⟩ ∧ radiansDir (-⟨4/5, 0, 0, 3/5⟩) ≠ radiansDir ⟨4/5, 0, 0, 3/5⟩ ∧
    yawDir (-⟨4/5, 0, 0, 3/5⟩) = yawDir ⟨4/5, 0, 0, 3/5⟩ := by decide +kernel

/-- … and a negative yaw written with `w > 0` is seen as the mirrored positive yaw -/
theorem radiansDir_loses_yaw_sign :
    radiansDir ⟨4/5, 0, 0, -3/5⟩ = yawDir ⟨4/5, 0, 0, 3/5⟩ ∧ yawDir ⟨4/5, 0, 0, -3/5⟩ ≠ yawDir ⟨4/5, 0, 0, 3/5⟩ := by
  decide +kernel

/-- the angle `.radians` itself, for any quaternion `q = (w, ·, ·, z)` and EVERY `arctan2` that puts `(w, |z|)` strictly inside
`(0, π/2)` and its mirror image `(−w, |z|)` inside `(π/2, π]`: the wrap `θ ↦ θ − 2π` fires for `−q` only, so `q` and `−q` get
different angles, and the `.radians` weight of an object paired with ITSELF written as `−q` is not 1 -/
theorem radiansVia_neg_ne (at2 : Rat → Rat → Rat) (q : Quat)
    (h1 : 0 < at2 (absR q.z) q.w ∧ at2 (absR q.z) q.w < 1/2)
    (h2 : 1/2 < at2 (absR q.z) (-q.w) ∧ at2 (absR q.z) (-q.w) ≤ 1) :
    radiansVia at2 (-q) ≠ radiansVia at2 q ∧ aphWeightQF3 at2 q q = 1 ∧ aphWeightQF3 at2 q (-q) ≠ 1 := by
  have e1 : radiansVia at2 q = 2 * at2 (absR q.z) q.w := if_neg (by linarith [h1.2])
  have e2 : radiansVia at2 (-q) = 2 * at2 (absR q.z) (-q.w) - 2 := by
    unfold radiansVia
    rw [Quat.neg_z, Quat.neg_w, absR_eq_abs, abs_neg, ← absR_eq_abs]
    exact if_pos (by linarith [h2.1])
  unfold aphWeightQF3
  rw [e1, e2]
  generalize at2 (absR q.z) q.w = x at h1 ⊢
  generalize at2 (absR q.z) (-q.w) = y at h2 ⊢
  have d1 : InDom (2 * x) := ⟨by linarith [h1.1], by linarith [h1.2]⟩
  have d2 : InDom (2 * y - 2) := ⟨by linarith [h2.1], by linarith [h2.2]⟩
  have hne : 2 * y - 2 ≠ 2 * x := fun e => by linarith [h1.1, h2.2]
  exact ⟨hne, (aphWeight_eq_one_iff d1 d1).2 rfl, fun h => hne ((aphWeight_eq_one_iff d1 d2).1 h).symm⟩

/-- the statements `yawVia_sign_invariant`, `aphWeightQ_sign_invariant` fail for the defective variant: `radiansVia_neg_ne` at
`q = (4/5, 0, 0, 3/5)` -/
theorem radiansVia_not_sign_invariant (at2 : Rat → Rat → Rat)
    (h1 : 0 < at2 (3/5) (4/5) ∧ at2 (3/5) (4/5) < 1/2) (h2 : 1/2 < at2 (3/5) (-4/5) ∧ at2 (3/5) (-4/5) ≤ 1) :
    radiansVia at2 (withSign true ⟨4/5, 0, 0, 3/5⟩) ≠ radiansVia at2 ⟨4/5, 0, 0, 3/5⟩ ∧
    aphWeightQF3 at2 ⟨4/5, 0, 0, 3/5⟩ ⟨4/5, 0, 0, 3/5⟩ = 1 ∧
    aphWeightQF3 at2 ⟨4/5, 0, 0, 3/5⟩ (withSign true ⟨4/5, 0, 0, 3/5⟩) ≠ 1 := by
  have a : absR (3/5 : Rat) = 3/5 := by decide +kernel
  -- `-4/5` in the form `-(4/5)` of the component of `−q`
  rw [neg_div] at h2
  exact radiansVia_neg_ne at2 ⟨4/5, 0, 0, 3/5⟩ (by rwa [a]) (by rwa [a])

/-! # The bridge to the τ-model: ONE named hypothesis, `YawBridge`

`YawBridge at2 ac pts` (`PEval.Model.HeadingQuat`) collects the non-polynomial facts: `at2 s c` is the angle (in half-turns,
in `(−1, 1]`) of the direction `(c, s)`, the minimal difference of two such angles is `ac` of the dot product with `ac`
strictly decreasing from `ac 1 = 0` to `ac (−1) = 1`, and the wrapped signed difference is in `(0, 1)` exactly when the
cross product is positive.  Everything below is proved from it and from the polynomial identities above. -/

section bridge
variable {at2 : Rat → Rat → Rat} {ac : Rat → Rat} {pts : Dir → Prop}

/-- the APH weight is a function of the dot product of the two heading directions: `1 − arccos(a·b)/π` -/
theorem aphWeightQ_eq_dir (B : YawBridge at2 ac pts) {qe qg : Quat} (he : pts (yawDir qe)) (hg : pts (yawDir qg)) :
    aphWeightQ at2 qe qg = 1 - ac (cosDiff (yawDir qe) (yawDir qg)) := by
  unfold aphWeightQ yawVia
  rw [(aphWeight_eq (B.dom _ he) (B.dom _ hg)).1, B.dist _ _ he hg]

theorem aphWeightQ_eq_one_iff_dir (B : YawBridge at2 ac pts) {qe qg : Quat} (he : pts (yawDir qe))
    (hg : pts (yawDir qg)) : aphWeightQ at2 qe qg = 1 ↔ yawDir qe = yawDir qg := by
  have ce := B.on_circle _ he
  have cg := B.on_circle _ hg
  rw [aphWeightQ_eq_dir B he hg, sub_eq_self, B.ac_eq_zero_iff (cosDiff_mem_Icc ce cg), cosDiff_eq_one_iff ce cg]

theorem aphWeightQ_eq_zero_iff_dir (B : YawBridge at2 ac pts) {qe qg : Quat} (he : pts (yawDir qe))
    (hg : pts (yawDir qg)) : aphWeightQ at2 qe qg = 0 ↔ yawDir qe = (yawDir qg).opp := by
  have ce := B.on_circle _ he
  have cg := B.on_circle _ hg
  rw [aphWeightQ_eq_dir B he hg, sub_eq_zero, eq_comm, B.ac_eq_one_iff (cosDiff_mem_Icc ce cg),
    cosDiff_eq_neg_one_iff ce cg]

/-- comparing two weights is comparing two dot products (the comparison `d ≤ d'` through the cosines) -/
theorem aphWeightQ_le_iff_dir (B : YawBridge at2 ac pts) {qe qg qe' qg' : Quat} (he : pts (yawDir qe))
    (hg : pts (yawDir qg)) (he' : pts (yawDir qe')) (hg' : pts (yawDir qg')) :
    aphWeightQ at2 qe qg ≤ aphWeightQ at2 qe' qg' ↔
      cosDiff (yawDir qe) (yawDir qg) ≤ cosDiff (yawDir qe') (yawDir qg') := by
  rw [aphWeightQ_eq_dir B he hg, aphWeightQ_eq_dir B he' hg', sub_le_sub_iff_left]
  exact B.strictAntiOn.le_iff_ge (cosDiff_mem_Icc (B.on_circle _ he') (B.on_circle _ hg'))
    (cosDiff_mem_Icc (B.on_circle _ he) (B.on_circle _ hg))

theorem aphWeightQMap_frame_invariant (B : YawBridge at2 ac pts) {q0 qe qg : Quat} (h0 : YawOnly q0) (he : YawOnly qe)
    (hg : YawOnly qg) (pe : pts (yawDir qe)) (pg : pts (yawDir qg)) (pe' : pts (yawDir (q0 * qe)))
    (pg' : pts (yawDir (q0 * qg))) : aphWeightQMap at2 q0 qe qg = aphWeightQ at2 qe qg := by
  unfold aphWeightQMap
  rw [aphWeightQ_eq_dir B pe' pg', aphWeightQ_eq_dir B pe pg, (dirDiff_frame_invariant h0 he hg).1]

/-- the magnitude of the reported yaw error is `arccos` of the dot product … -/
theorem headingErrorQ_abs_dir (B : YawBridge at2 ac pts) {qe qg : Quat} (he : pts (yawDir qe)) (hg : pts (yawDir qg)) :
    absR (headingErrorQ at2 qe qg) = ac (cosDiff (yawDir qe) (yawDir qg)) := by
  unfold headingErrorQ yawVia
  rw [headingError_abs_eq_d (B.dom _ he) (B.dom _ hg), B.dist _ _ he hg]

/-- … its sign is the sign of the cross product: positive … -/
theorem headingErrorQ_pos_iff_dir (B : YawBridge at2 ac pts) {qe qg : Quat} (he : pts (yawDir qe))
    (hg : pts (yawDir qg)) :
    (0 < headingErrorQ at2 qe qg ∧ headingErrorQ at2 qe qg < 1) ↔ 0 < sinDiff (yawDir qe) (yawDir qg) :=
  B.sin_sign _ _ he hg

/-- … negative (by antisymmetry of both sides) -/
theorem headingErrorQ_neg_iff_dir (B : YawBridge at2 ac pts) {qe qg : Quat} (he : pts (yawDir qe))
    (hg : pts (yawDir qg)) :
    (-1 < headingErrorQ at2 qe qg ∧ headingErrorQ at2 qe qg < 0) ↔ sinDiff (yawDir qe) (yawDir qg) < 0 := by
  have h := B.sin_sign _ _ hg he
  have e : clip (at2 (yawDir qe).s (yawDir qe).c - at2 (yawDir qg).s (yawDir qg).c) = -headingErrorQ at2 qe qg :=
    headingError_antisymm _ _
  rwa [e, sinDiff_antisymm, neg_pos, neg_pos, neg_lt, and_comm] at h

/-- the signed error of a pair is determined by cosine and sine of the yaw difference — up to the sign at the boundary
`d = π` — so it is the same for all representatives and (for pure-yaw orientations) in every frame -/
theorem headingErrorQ_determined (B : YawBridge at2 ac pts) {qe qg qe' qg' : Quat} (he : pts (yawDir qe))
    (hg : pts (yawDir qg)) (he' : pts (yawDir qe')) (hg' : pts (yawDir qg'))
    (hc : cosDiff (yawDir qe') (yawDir qg') = cosDiff (yawDir qe) (yawDir qg))
    (hs : sinDiff (yawDir qe') (yawDir qg') = sinDiff (yawDir qe) (yawDir qg)) :
    headingErrorQ at2 qe' qg' = headingErrorQ at2 qe qg ∨
      (absR (headingErrorQ at2 qe qg) = 1 ∧ headingErrorQ at2 qe' qg' = -headingErrorQ at2 qe qg) := by
  have hp := headingErrorQ_pos_iff_dir B he hg
  have hp' := headingErrorQ_pos_iff_dir B he' hg'
  have hn := headingErrorQ_neg_iff_dir B he hg
  have hn' := headingErrorQ_neg_iff_dir B he' hg'
  rw [hs] at hp' hn'
  exact eq_or_neg_of_sign (headingError_range (B.dom _ he) (B.dom _ hg))
    (by rw [headingErrorQ_abs_dir B he' hg', headingErrorQ_abs_dir B he hg, hc])
    (fun h => (hp'.2 (hp.1 h)).1) (fun h => (hn'.2 (hn.1 h)).2)

/-- frame invariance of the signed error at the quaternion level (boundary exception as in the τ-model) -/
theorem headingErrorQ_frame_invariant (B : YawBridge at2 ac pts) {q0 qe qg : Quat} (h0 : YawOnly q0) (he : YawOnly qe)
    (hg : YawOnly qg) (pe : pts (yawDir qe)) (pg : pts (yawDir qg)) (pe' : pts (yawDir (q0 * qe)))
    (pg' : pts (yawDir (q0 * qg))) :
    headingErrorQ at2 (q0 * qe) (q0 * qg) = headingErrorQ at2 qe qg ∨
      (absR (headingErrorQ at2 qe qg) = 1 ∧ headingErrorQ at2 (q0 * qe) (q0 * qg) = -headingErrorQ at2 qe qg) :=
  headingErrorQ_determined B pe pg pe' pg' (dirDiff_frame_invariant h0 he hg).1 (dirDiff_frame_invariant h0 he hg).2

end bridge

/-- the bridge hypothesis is satisfiable: the four axis directions with their exact angles `0, 1/2, 1, −1/2` and
`arccos x / π = (1 − x)/2` at `x ∈ {1, 0, −1}`.  (Over `ℚ` these are the only directions with a rational angle; see
`PEval.HeadingReal` for the same facts over `ℝ`, where they hold on the whole circle.) -/
theorem yawBridge_axes : YawBridge at2Axes acAxes (fun d => d ∈ axisPts) where
  on_circle := by decide +kernel
  dom := by decide +kernel
  dist := by
    -- in the bounded form `∀ a ∈ axisPts, ∀ b ∈ axisPts, …` the statement is decidable
    intro a b ha hb
    revert b
    revert a
    decide +kernel
  ac_anti := by intro x y _ h _; unfold acAxes; linarith
  ac_one := by decide +kernel
  ac_neg_one := by decide +kernel
  sin_sign := by
    intro a b ha hb
    revert b
    revert a
    decide +kernel

/-! ### instances of the quaternion-level hypotheses -/

/-- yaw 0 as `q`, yaw π as `−q`: on the axes, opposite, weight 0, error of magnitude 1 -/
example : YawOnly ⟨1, 0, 0, 0⟩ ∧ YawOnly ⟨0, 0, 0, -1⟩ ∧ yawDir ⟨1, 0, 0, 0⟩ ∈ axisPts ∧ yawDir ⟨0, 0, 0, -1⟩ ∈ axisPts ∧
    aphWeightQ at2Axes ⟨1, 0, 0, 0⟩ ⟨0, 0, 0, -1⟩ = 0 ∧ aphWeightQ at2Axes ⟨0, 0, 0, 1⟩ ⟨0, 0, 0, -1⟩ = 1 ∧
    headingErrorQ at2Axes ⟨1, 0, 0, 0⟩ ⟨0, 0, 0, -1⟩ = 1 := by decide +kernel
/-- a genuinely 3-D unit quaternion and its negative: same heading direction -/
example : (⟨1/5, 2/5, 2/5, 4/5⟩ : Quat).normSq = 1 ∧ yawDir ⟨1/5, 2/5, 2/5, 4/5⟩ = ⟨-3/5, 0⟩ ∧
    yawDir (-⟨1/5, 2/5, 2/5, 4/5⟩) = ⟨-3/5, 0⟩ := by decide +kernel
/-- composition of two pure-yaw rotations: directions multiply (angle addition without angles) -/
example : YawOnly ⟨4/5, 0, 0, 3/5⟩ ∧ YawOnly ⟨12/13, 0, 0, -5/13⟩ ∧
    yawDir (⟨4/5, 0, 0, 3/5⟩ * ⟨12/13, 0, 0, -5/13⟩) = (yawDir ⟨4/5, 0, 0, 3/5⟩).mul (yawDir ⟨12/13, 0, 0, -5/13⟩) := by
  decide +kernel
/-- the hypotheses of `radiansVia_not_sign_invariant` hold for a crude rational `arctan2` (exact quadrant, linear inside) -/
example : let at2 : Rat → Rat → Rat := fun y x => if x > 0 then y / 2 else 1 - y / 2
    (0 < at2 (3/5) (4/5) ∧ at2 (3/5) (4/5) < 1/2) ∧ (1/2 < at2 (3/5) (-4/5) ∧ at2 (3/5) (-4/5) ≤ 1) := by decide +kernel

/-! ## no ground truth (outside the property's quantifier) -/

theorem no_ground_truth (τe : Rat) : aphValue τe none = 0 ∧ headingErrorOpt τe none = none ∧
    ∀ g, aphValue τe (some g) = aphWeight τe g ∧ headingErrorOpt τe (some g) = some (headingError τe g) :=
  ⟨rfl, rfl, fun _ => ⟨rfl, rfl⟩⟩

/-! # What `YawBridge` assumes, over `ℝ` (where the angle function exists on the whole circle)

`YawBridge` is typed over `ℚ`, so these are not its fields; they are the real-number facts each field stands for, not packaged
as an instance.  `PEval.Lemmas.HeadingReal`, with `at2R y x = Complex.arg (x + y·i) / π` for `np.arctan2(y, x) / π` and `arccos / π` for `ac`.
The τ-model's input `τ` (a rational number of half-turns, cast to `ℝ`) IS the yaw the code computes from either
representative of the quaternion `±(cos(τπ/2), 0, 0, sin(τπ/2))` the harness builds; dot and cross product of two heading
directions are cosine and sine of the yaw difference; `arccos` is strictly decreasing; the sine is positive exactly on `(0, π)`.
What stays assumed is only that numpy's `arctan2` / pyquaternion's float arithmetic compute these real functions to
within the comparison tolerance. -/

/-- field `dom` and the identification τ ↔ quaternion, both signs: `arctan2` of the code's two polynomials gives back `τ` -/
theorem real_yaw_recovered (τ : ℚ) (h : InDom τ) (neg : Bool) :
    let w : ℝ := (if neg then -1 else 1) * Real.cos ((τ : ℝ) * Real.pi / 2)
    let z : ℝ := (if neg then -1 else 1) * Real.sin ((τ : ℝ) * Real.pi / 2)
    HeadingReal.at2R (HeadingReal.yawDirR w z).2 (HeadingReal.yawDirR w z).1 = (τ : ℝ) :=
  HeadingReal.yaw_recovered (τ : ℝ) (by exact_mod_cast h.1) (by exact_mod_cast h.2) neg

/-- the heading direction of the quaternion of yaw `τπ` is `(cos τπ, sin τπ)`, for `q` and for `−q` -/
theorem real_yawDir (τ : ℝ) :
    HeadingReal.yawDirR (Real.cos (τ * Real.pi / 2)) (Real.sin (τ * Real.pi / 2)) = (Real.cos (τ * Real.pi), Real.sin (τ * Real.pi)) ∧
    HeadingReal.yawDirR (-Real.cos (τ * Real.pi / 2)) (-Real.sin (τ * Real.pi / 2))
      = (Real.cos (τ * Real.pi), Real.sin (τ * Real.pi)) :=
  ⟨HeadingReal.yawDirR_of_yaw τ, by rw [HeadingReal.yawDirR_neg]; exact HeadingReal.yawDirR_of_yaw τ⟩

/-- fields `dist`, `ac_anti`, `ac_one`, `ac_neg_one` over `ℝ` with `ac = arccos / π` -/
theorem real_dist_fields :
    (∀ α β : ℝ, Real.cos (α * Real.pi) * Real.cos (β * Real.pi) + Real.sin (α * Real.pi) * Real.sin (β * Real.pi)
      = Real.cos ((α - β) * Real.pi)) ∧
    (∀ α β d : ℝ, 0 ≤ d → d ≤ 1 → (∃ k : ℤ, d = α - β + 2 * k ∨ d = -(α - β) + 2 * k) →
      d = Real.arccos (Real.cos ((α - β) * Real.pi)) / Real.pi) ∧
    (∀ x y : ℝ, -1 ≤ x → x < y → y ≤ 1 → Real.arccos y / Real.pi < Real.arccos x / Real.pi) ∧
    Real.arccos 1 / Real.pi = 0 ∧ Real.arccos (-1) / Real.pi = 1 :=
  ⟨fun α β => by rw [sub_mul, Real.cos_sub], fun _ _ _ h0 h1 hd => HeadingReal.dist_real h0 h1 hd,
    fun _ _ hx hxy hy =>
      div_lt_div_of_pos_right (Real.strictAntiOn_arccos ⟨hx, by linarith⟩ ⟨by linarith, hy⟩ hxy) Real.pi_pos, by simp,
    by rw [Real.arccos_neg_one]; exact div_self Real.pi_ne_zero⟩

/-- field `sin_sign` over `ℝ` -/
theorem real_sin_sign :
    (∀ α β : ℝ, Real.cos (α * Real.pi) * Real.sin (β * Real.pi) - Real.sin (α * Real.pi) * Real.cos (β * Real.pi)
      = Real.sin ((β - α) * Real.pi)) ∧
    (∀ α β e : ℝ, -1 ≤ e → e ≤ 1 → (∃ k : ℤ, e = β - α + 2 * k) →
      ((0 < e ∧ e < 1) ↔ 0 < Real.sin ((β - α) * Real.pi))) :=
  ⟨fun α β => by rw [sub_mul, Real.sin_sub]; ring, fun _ _ _ h0 h1 he => HeadingReal.sin_sign_real h0 h1 he⟩

/-- the hypotheses of `real_dist_fields` / `real_sin_sign` are what the τ-model delivers: `circDist` is in `[0, 1]` and congruent to
`±(α − β)` mod 2, the yaw error is in `[−1, 1]` and congruent to `β − α` mod 2 -/
theorem tau_model_congruences {a b : Rat} (ha : InDom a) (hb : InDom b) :
    (0 ≤ circDist a b ∧ circDist a b ≤ 1 ∧
      ∃ k : Int, circDist a b = a - b + 2 * k ∨ circDist a b = -(a - b) + 2 * k) ∧
    (-1 ≤ headingError a b ∧ headingError a b ≤ 1 ∧ ∃ k : Int, headingError a b = b - a + 2 * k) := by
  obtain ⟨k, hk⟩ := turns_of_cases (headingError_congr a b)
  refine ⟨⟨circDist_nonneg ha.closed hb.closed, circDist_le_one a b, ?_⟩, (headingError_range ha hb).1,
    (headingError_range ha hb).2, k, hk⟩
  -- the distance is the magnitude of the error: `b − a + 2k` or its negative
  rw [← headingError_abs_eq_d ha hb, absR_eq_abs]
  rcases abs_choice (headingError a b) with e | e
  · exact ⟨k, Or.inr (by rw [e, hk]; ring)⟩
  · exact ⟨-k, Or.inl (by rw [e, hk]; push_cast; ring)⟩

end PEval.C09
