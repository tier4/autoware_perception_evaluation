import PEval.Properties.Pipeline
import PEval.Properties.C04Scene
/-!
# C04, scene level through the pipeline: the per-frame hypotheses of `scene_in_unit_interval` DISCHARGED

`C04.scene_in_unit_interval` (`Properties/C04Scene.lean`) bounds every AP / APH / mAP / mAPH of `get_scene_result`'s
`Map` (`AP.sceneMap`) by [0,1] under three hypotheses per frame: no ground truth is the ground truth of two object
results, every attached ground truth is one of the frame's, heading weights lie in [0,1].  For a history of frames
evaluated by `Pipeline.detectFrame` (matcher → critical filter → the lists the metrics read) the first two are C01's
theorems about `Matching.getObjectResults` (`apResults_one_to_one`), for every matcher configuration, scene and
critical region.  What is left is about the INPUT of each frame: ground-truth ids pairwise different
(`GtIdsDistinct`, implied by `GtsDistinct`) and heading weights in [0,1] (C09's `aphWeight_range`).  Ground-truth
ids may repeat ACROSS frames (the same tracked object in consecutive frames).
-/
namespace PEval.PipelineProps
open PEval PEval.Pipeline

/-- one evaluated frame as `get_scene_result` reads it under matching mode `m`: `frame.object_results` (critical
object results, in the metrics' vocabulary) and `frame.frame_ground_truth.objects` (critical ground truths) -/
def sceneFrameG (m : AP.Mode) (p : Frame × Out) : List AP.Res × List AP.Gt :=
  (apResults p.1 m p.2.matched, apGts p.1)

/-- … with the ground truths as label list (`divide_objects_to_num` reads labels only): the argument of `AP.sceneMap` -/
def sceneFrame (m : AP.Mode) (p : Frame × Out) : List AP.Res × List AP.Label :=
  (apResults p.1 m p.2.matched, (apGts p.1).map (·.label))

/-- the per-frame hypotheses of `C04.scene_in_unit_interval` hold of every frame `detectFrame` returns -/
theorem pipeline_scene_frame_hyps (m : AP.Mode) (hist : List (Frame × Out))
    (hdet : ∀ p ∈ hist, detectFrame p.1 = .ok p.2) (hid : ∀ p ∈ hist, GtIdsDistinct p.1)
    (hw : ∀ p ∈ hist, ∀ i j, 0 ≤ p.1.hw i j ∧ p.1.hw i j ≤ 1) :
    (∀ f ∈ hist.map (sceneFrameG m), (f.1.filterMap (·.gt)).Nodup) ∧
    (∀ f ∈ hist.map (sceneFrameG m), ∀ g ∈ f.1.filterMap (·.gt), g ∈ f.2) ∧
    (∀ f ∈ hist.map (sceneFrameG m), ∀ r ∈ f.1, 0 ≤ r.hw ∧ r.hw ≤ 1) := by
  have h1 : ∀ f ∈ hist.map (sceneFrameG m), (f.1.filterMap (·.gt)).Nodup ∧ ∀ g ∈ f.1.filterMap (·.gt), g ∈ f.2 :=
    List.forall_mem_map.2 fun p hp => by
      obtain ⟨rs, hr, hm, _, _⟩ := detectFrame_ok (hdet p hp)
      rw [sceneFrameG, hm]
      exact apResults_one_to_one hr (hid p hp) m
  exact ⟨fun f hf => (h1 f hf).1, fun f hf => (h1 f hf).2,
    List.forall_mem_map.2 fun p hp => apResults_hw (hw p hp) m _⟩

/-- **[0,1] at scene level, through the pipeline.**  For every history of frames each evaluated by
`Pipeline.detectFrame` (any matcher configuration, any critical region, any sizes), any matching mode, target
labels and thresholds of the scene-level `Map`: whenever `get_scene_result`'s `Map` answers on the stored frames, every
defined per-label AP and APH and the mAP / mAPH lie in [0,1].  Hypotheses on the inputs only: per frame the ground-truth
ids are pairwise different and the heading weights lie in [0,1]. -/
theorem pipeline_scene_in_unit_interval {m : AP.Mode} {is2d : Bool} {T : List AP.Label} {th : List Rat}
    (hist : List (Frame × Out)) (hdet : ∀ p ∈ hist, detectFrame p.1 = .ok p.2)
    (hid : ∀ p ∈ hist, GtIdsDistinct p.1) (hw : ∀ p ∈ hist, ∀ i j, 0 ≤ p.1.hw i j ∧ p.1.hw i j ≤ 1)
    {o : AP.MapOut} (h : AP.sceneMap m is2d T th (hist.map (sceneFrame m)) = .ok o) :
    (∀ a ∈ o.aps, ∀ x, a.ap = some x → 0 ≤ x ∧ x ≤ 1) ∧
    (∀ a ∈ o.aphs, ∀ x, a.ap = some x → 0 ≤ x ∧ x ≤ 1) ∧
    (∀ x, o.map = some x → 0 ≤ x ∧ x ≤ 1) ∧ (∀ x, o.maph = some x → 0 ≤ x ∧ x ≤ 1) := by
  obtain ⟨h1, h2, h3⟩ := pipeline_scene_frame_hyps m hist hdet hid hw
  have h' : AP.sceneMap m is2d T th ((hist.map (sceneFrameG m)).map (fun f => (f.1, f.2.map (·.label)))) = .ok o := by
    rw [List.map_map]
    exact h
  exact C04.scene_in_unit_interval (framesG := hist.map (sceneFrameG m)) h1 h2 h3 h'

/-- a one-frame scene is the frame's own `Map` (same target-label list at both levels), hence in [0,1] too; stated to
show how the scene theorem specialises to `pipeline_frameMap_in_unit` -/
theorem pipeline_single_frame_scene (f : Frame) (o : Out) (m : AP.Mode) (is2d : Bool) (T : List AP.Label) (th : List Rat) :
    AP.sceneMap m is2d T th [sceneFrame m (f, o)]
      = AP.frameMap m is2d T th (apResults f m o.matched) ((apGts f).map (·.label)) :=
  C04.scene_single_frame_eq_frame m is2d T th _ _

/-! ### non-vacuity: the frame of `Properties/Pipeline.lean` evaluated twice (ground-truth ids repeat across the frames) -/

example : ∀ o, detectFrame exFrame = .ok o →
    (AP.sceneMap .centerDistance false [2, 4] [1, 1] ([(exFrame, o), (exFrame, o)].map (sceneFrame .centerDistance))).toOption.map
      (fun mo => (mo.aps.map (·.ap), mo.aphs.map (·.ap), mo.map, mo.maph))
      = some ([some (1 / 2), none], [some (1 / 8), none], some (1 / 2), some (1 / 8)) := by
  intro o ho
  have hm : o.matched = [(0, some 0), (1, some 1), (2, none)] := by
    have : (detectFrame exFrame).toOption.map (·.matched) = some [(0, some 0), (1, some 1), (2, none)] := by
      decide +kernel
    rw [ho] at this
    simpa [Except.toOption] using this
  simp only [List.map, sceneFrame, hm]
  decide +kernel

end PEval.PipelineProps
