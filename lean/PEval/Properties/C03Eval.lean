import PEval.Lemmas.FrameEval
import PEval.Properties.Pipeline
import PEval.Properties.C03Critical
import PEval.Properties.C07
/-!
# C03 on the composed whole-frame model `FrameChange.evalFrame` (joins the two halves of the property's last sentence)

`Properties/C03Critical.lean` proves "nothing outside the critical region is counted, in whichever frame" on
`Model/CriticalFrame.lean`, where the pairing and the fields `labelOk` / `thr` / `score` of a result are INPUTS.
`Properties/Pipeline.lean` proves TP soundness and conservation on `Pipeline.detectFrame`, where the pairing and those
three fields are computed from the matcher's inputs but the critical flags `EstAttr.crit` / `GtAttr.crit` are INPUTS.
`FrameChange.evalFrame` (`Model/FrameEval.lean`, C07's model) is `add_frame_result` + `evaluate_frame` on objects
with 3-D boxes, yaws, labels, confidences, point counts, in the ego or the map frame: it runs the manager filter
(`Filter.isTarget`), computes the score table from the geometry, runs `Matching.getObjectResults`, computes the
critical flags with `Filter.isTarget` on the positions, and hands all of it to `Pipeline.detectFrame`.  Nothing the
accounting reads is an input.  This file states C03 over `evalFrame`:

* `evalFrame_trace`           what a returning `evalFrame` did, stage by stage (`evalWith_trace` on the frame's reader);
* `eval_critical_sound`       (b) every entry of TP / FP / TN / FN is an object of the frame that passed the manager
                              filter and satisfies the C10 criteria of the critical filter on its EGO-RELATIVE position
                              (`SFrame.egoXY`: its own x/y in a BASE_LINK frame, the inverse ego pose applied to it in a MAP
                              frame); `eval_counted_range` spells the range part out; `eval_critical_sound_toMap`
                              composes with `C07.evalFrame_toMap`: the MAP rendering of a BASE_LINK frame returns the
                              very same result and the criteria are tested on the very same coordinates;
* `eval_tp_sound`             (c) every TP is a pair the matcher made from the score table of the frame's geometry, the
                              ground truth not FP-labelled and label-compatible under the configured policy, both inside
                              the critical region, and the plane distance of the two BOXES (as the rendering computes it)
                              is below the entry of the pass/fail threshold list at the index of the GROUND TRUTH's label;
* `eval_conservation`, `eval_accounting_perm`, `eval_num_total`, `eval_tp_fp_exactly_one`
                              (a) the counting theorems, with `MatcherWF` / `FrameWF` / `GtsDistinct` DISCHARGED from the
                              construction; the one hypothesis left ON THIS MODEL is about the input lists:
                              `ObjectsDistinct f` (ground truths pairwise different objects and pairwise different
                              under `__eq__`, estimates pairwise different objects — the quantifier's word "set").
                              `evalFrame` uses ONE critical verdict per ground truth (computed with `gtParams`) also
                              for `frame_ground_truth.objects`; the code filters that list at a second call site,
                              which applies the confidence list as well, so for the code the theorems also need:
* `eval_gt_sites_agree`       the one critical flag per ground truth of `evalFrame` (computed with `gtParams`, as
                              `filter_object_results` does) is also the verdict of `filter_objects(is_gt=True, …)`, which
                              additionally applies the confidence list, whenever the ground truth's own confidence beats
                              the critical confidence threshold (`GtConfBeats`; see `gtConfOK_nonvacuous`).  Without it
                              the code's conservation fails (`C03.gt_conf_needed_conservation`, on the two-site model).

The defective variants: `eval_f2_not_critical_sound` (the F2 reader: the critical filter of the MAP branch is
called without transforms) refutes the statement of `eval_critical_sound`; `eval_estLabel_not_tp_sound` refutes the
statement of `eval_tp_sound` for the threshold keyed on the estimate's label; `eval_dup_gt_breaks_conservation` shows
that `ObjectsDistinct` is needed.
-/
namespace PEval.C03
open PEval PEval.FrameChange PEval.Pipeline PEval.PipelineProps

/-! ## what `evalFrame` does, stage by stage -/

/-- `frame_ground_truth.objects` / `estimated_objects` after the manager filter (`_filter_objects`) -/
def keptEsts (C : EvalCfg) (f : SFrame) : Except Err (List SObj) :=
  Filter.filterE (fun x => f.reader.verdict { C.mgr with isGt := false } x.tagged) f.ests
def keptGts (C : EvalCfg) (f : SFrame) : Except Err (List SObj) :=
  Filter.filterE (fun x => f.reader.verdict { C.mgr with isGt := true } x.tagged) f.gts

/-- the `Pipeline.Frame` that `evalFrame` hands to `Pipeline.detectFrame` for the kept objects `kE`, `kG` and the
critical verdicts `cE`, `cG`: labels, ids, confidences from the objects' attributes, every score from the table of
the boxes as the frame's rendering computes it, `__eq__` classes from the `__eq__` table of the kept ground truths -/
def frameOf (C : EvalCfg) (f : SFrame) (kE kG : List SObj) (cE cG : List Bool) : Pipeline.Frame :=
  mkFrame C f.reader.frame (kE.map (·.attr)) (kG.map (·.attr)) cE cG (tableOf f.reader kE kG)
    (eqKeys (eqTable f.reader.same kG))

/-- **the stages of a returning `evalFrame`**: manager filter on both lists, critical verdicts of every kept
object (estimates with `estParams`, ground truths with `gtParams`), matcher on the table of the kept boxes, and
`Pipeline.detectFrame` on the frame built from exactly these -/
theorem evalFrame_trace {C : EvalCfg} {f : SFrame} {o : FrameOut} (h : evalFrame C f = .ok o) :
    ∃ kE kG : List SObj, keptEsts C f = .ok kE ∧ keptGts C f = .ok kG ∧
      flagsE (fun x => f.reader.verdict (Filter.estParams C.crit) x.tagged) kE = .ok o.critEst ∧
      flagsE (fun x => f.reader.verdict (Filter.gtParams C.crit) x.tagged) kG = .ok o.critGt ∧
      o.keptEst = kE.map (·.attr.tag.id) ∧ o.keptGt = kG.map (·.attr.tag.id) ∧
      o.table = tableOf f.reader kE kG ∧ o.same = eqTable f.reader.same kG ∧
      Matching.getObjectResults C.matcher (frameOf C f kE kG o.critEst o.critGt).scene = .ok o.out.matched ∧
      Pipeline.detectFrame (frameOf C f kE kG o.critEst o.critGt) = .ok o.out := by
  obtain ⟨kE, kG, hE, hG, hcE, hcG, h1, h2, ht, hs, hd, hm⟩ := evalWith_trace (R := f.reader) h
  rw [ht, hs] at hd hm
  exact ⟨kE, kG, hE, hG, hcE, hcG, by rw [h1, List.map_map]; rfl, by rw [h2, List.map_map]; rfl, ht, hs, hm, hd⟩

/-! ## what the filters read of an object of the frame, and its ego-relative position -/

/-- what `_is_target_object` reads of object `x` of frame `f` (BASE_LINK: its own position; MAP: its map position and
the position carried through the inverse of the registered ego pose) -/
def _root_.PEval.FrameChange.SFrame.view (f : SFrame) (x : SObj) : Filter.Obj :=
  match f.frameId with
  | .baseLink => filterViewEgo x.tagged
  | .map => filterViewMap f.pose x.tagged

/-- the ego-relative planar position of object `x` of frame `f`, in whichever frame it is expressed -/
def _root_.PEval.FrameChange.SFrame.egoXY (f : SFrame) (x : SObj) : Filter.Pos :=
  match f.frameId with
  | .baseLink => ⟨x.obj.box.center.x, x.obj.box.center.y⟩
  | .map => ⟨(toEgo3 f.pose x.obj.box.center).x, (toEgo3 f.pose x.obj.box.center).y⟩

/-- the verdict of the frame's reader IS `Filter.isTarget` (C10's model of `_is_target_object`) on the view, with
the manager's `transforms` supplied -/
theorem reader_verdict (f : SFrame) (P : Filter.Params) (x : SObj) :
    f.reader.verdict P x.tagged = Filter.isTarget { P with hasTransforms := true } (f.view x) := by
  unfold SFrame.reader SFrame.view
  cases f.frameId <;> rfl

/-- the position C10's criteria are tested on (`Filter.EgoPos`) is `egoXY`, for either frame id -/
theorem egoPos_view_eval (f : SFrame) (P : Filter.Params) (hP : P.hasTransforms = true) (x : SObj) (p : Filter.Pos) :
    Filter.EgoPos P (f.view x) p ↔ p = f.egoXY x := by
  unfold Filter.EgoPos SFrame.view SFrame.egoXY
  -- the frame id of the view decides which clause of `EgoPos` applies; that clause reads the position off the view
  cases f.frameId
  · exact (or_iff_left fun h => h.1 rfl).trans ⟨fun h => (Option.some.inj h.2).symm, fun h => ⟨rfl, h ▸ rfl⟩⟩
  · have hm : "map" ≠ "base_link" := by decide
    exact (or_iff_right fun h => hm h.1).trans
      ⟨fun h => (Option.some.inj h.2.2.2).symm, fun h => ⟨hm, hP, nofun, h ▸ rfl⟩⟩

/-- the four parameter sets in play: manager filter on estimates / ground truths, critical filter on the estimate
and on the ground truth of a result (`filter_object_results`), all with `transforms` supplied -/
def mgrEstP (C : EvalCfg) : Filter.Params := { ({ C.mgr with isGt := false } : Filter.Params) with hasTransforms := true }
def mgrGtP (C : EvalCfg) : Filter.Params := { ({ C.mgr with isGt := true } : Filter.Params) with hasTransforms := true }
def critEstP (C : EvalCfg) : Filter.Params := { Filter.estParams C.crit with hasTransforms := true }
def critGtP (C : EvalCfg) : Filter.Params := { Filter.gtParams C.crit with hasTransforms := true }

/-- estimate `x` of frame `f` passed the manager filter and lies in the critical region: C10's declarative criteria
(label, confidence, x / y / distance bounds on the ego-relative position) hold for both parameter sets -/
def EvalEstCounted (C : EvalCfg) (f : SFrame) (x : SObj) : Prop :=
  x ∈ f.ests ∧ Filter.Criteria (mgrEstP C) (f.view x) ∧ Filter.Criteria (critEstP C) (f.view x)

/-- ground truth `y` of frame `f` passed the manager filter and lies in the critical region (label, ignored
attributes, bounds on the ego-relative position, point count, uuid) -/
def EvalGtCounted (C : EvalCfg) (f : SFrame) (y : SObj) : Prop :=
  y ∈ f.gts ∧ Filter.Criteria (mgrGtP C) (f.view y) ∧ Filter.Criteria (critGtP C) (f.view y)

/-- every entry of the four lists of a frame result is an object of the frame inside the critical region -/
def EvalCountedInCritical (C : EvalCfg) (f : SFrame) (p : PassFail.PassFail) : Prop :=
  (∀ r ∈ p.tp ++ p.fp, ∃ x, EvalEstCounted C f x ∧ r.est = x.attr.tag.id ∧
    ∀ g, r.gt = some g → ∃ y, EvalGtCounted C f y ∧ g.id = y.attr.tag.id) ∧
  (∀ g ∈ p.tn ++ p.fn, ∃ y, EvalGtCounted C f y ∧ g.id = y.attr.tag.id)

theorem flagsE_getD {α} {g : α → Except Err Bool} {l : List α} {bs : List Bool} (h : flagsE g l = .ok bs) :
    ∀ i a, l[i]? = some a → g a = .ok (bs.getD i false) := fun i a ha => by
  obtain ⟨b, h2, hab⟩ := forall₂_getElem?_some (mapM_ok_iff.1 (flagsE_eq_mapM g l ▸ h)) ha
  rw [List.getD_eq_getElem?_getD, h2]; exact hab

theorem criteria_of_verdict {f : SFrame} {P : Filter.Params} {x : SObj} (h : f.reader.verdict P x.tagged = .ok true) :
    Filter.Criteria { P with hasTransforms := true } (f.view x) := by
  rw [reader_verdict] at h
  exact (Filter.isTarget_ok_iff h).1 rfl

section attrs
variable {C : EvalCfg} {f : SFrame} {kE kG : List SObj} {cE cG : List Bool}

theorem frameOf_est {i : Nat} {x : SObj} (hx : kE[i]? = some x) :
    (frameOf C f kE kG cE cG).est i =
      { id := x.attr.tag.id, label := x.attr.alabel, conf := x.attr.tag.score, crit := cE.getD i false } := by
  unfold frameOf mkFrame
  simp only [List.getElem?_map, hx, Option.map_some]

theorem frameOf_gt {j : Nat} {y : SObj} (hy : kG[j]? = some y) :
    (frameOf C f kE kG cE cG).gt j =
      { id := y.attr.tag.id, label := y.attr.alabel, crit := cG.getD j false,
        eqKey := (eqKeys (eqTable f.reader.same kG)).getD j 0 } := by
  unfold frameOf mkFrame
  simp only [List.getElem?_map, hy, Option.map_some]

theorem frameOf_ests_length : (frameOf C f kE kG cE cG).scene.ests.length = kE.length := by
  unfold frameOf mkFrame
  rw [List.length_map, List.length_map]

theorem frameOf_gts_length : (frameOf C f kE kG cE cG).scene.gts.length = kG.length := by
  unfold frameOf mkFrame
  rw [List.length_map, List.length_map]

end attrs

/-- the stages' outcome on one estimate position: critical flag set ⇒ the object there is a counted estimate -/
theorem est_counted {C : EvalCfg} {f : SFrame} {kE kG : List SObj} {cE cG : List Bool}
    (hE : keptEsts C f = .ok kE)
    (hcE : flagsE (fun x => f.reader.verdict (Filter.estParams C.crit) x.tagged) kE = .ok cE)
    {i : Nat} (h : ((frameOf C f kE kG cE cG).est i).crit = true) :
    ∃ x, kE[i]? = some x ∧ EvalEstCounted C f x ∧ ((frameOf C f kE kG cE cG).est i).id = x.attr.tag.id := by
  cases hx : kE[i]? with
  | none => simp only [frameOf, mkFrame, List.getElem?_map, hx, Option.map_none] at h; cases h
  | some x =>
    rw [frameOf_est hx] at h ⊢
    obtain ⟨hm, hv⟩ := (Filter.mem_filterE hE).1 (List.mem_of_getElem? hx)
    have hv2 := flagsE_getD hcE i x hx
    rw [show cE.getD i false = true from h] at hv2
    exact ⟨x, rfl, ⟨hm, criteria_of_verdict hv, criteria_of_verdict hv2⟩, rfl⟩

theorem gt_counted {C : EvalCfg} {f : SFrame} {kE kG : List SObj} {cE cG : List Bool}
    (hG : keptGts C f = .ok kG)
    (hcG : flagsE (fun x => f.reader.verdict (Filter.gtParams C.crit) x.tagged) kG = .ok cG)
    {j : Nat} (h : ((frameOf C f kE kG cE cG).gt j).crit = true) :
    ∃ y, kG[j]? = some y ∧ EvalGtCounted C f y ∧ ((frameOf C f kE kG cE cG).gt j).id = y.attr.tag.id ∧
      ((frameOf C f kE kG cE cG).gt j).label = y.attr.alabel := by
  cases hy : kG[j]? with
  | none => simp only [frameOf, mkFrame, List.getElem?_map, hy, Option.map_none] at h; cases h
  | some y =>
    rw [frameOf_gt hy] at h ⊢
    obtain ⟨hm, hv⟩ := (Filter.mem_filterE hG).1 (List.mem_of_getElem? hy)
    have hv2 := flagsE_getD hcG j y hy
    rw [show cG.getD j false = true from h] at hv2
    exact ⟨y, rfl, ⟨hm, criteria_of_verdict hv, criteria_of_verdict hv2⟩, rfl, rfl⟩

/-! ## (b) nothing outside the critical region is counted -/

/-- the statement, for a way of evaluating a frame -/
def EvalCriticalSound (eval : EvalCfg → SFrame → Except Err FrameOut) : Prop :=
  ∀ C f o, eval C f = .ok o → EvalCountedInCritical C f o.out.pf

/-- **(b)** for every configuration (both filters with any per-label bounds, `target_uuids`,
`ignore_attributes`, point-count thresholds; any matcher mode and policy; any pass/fail thresholds) and every frame —
objects in BASE_LINK, or in MAP with the ego pose registered — whatever `evalFrame` counts as TP / FP / TN / FN is an
object of the frame that passed the manager filter and satisfies the critical filter's criteria on its ego-relative
position.  No hypothesis besides "the call returned". -/
theorem eval_critical_sound : EvalCriticalSound evalFrame := by
  intro C f o h
  obtain ⟨kE, kG, hE, hG, hcE, hcG, _, _, _, _, _, hdet⟩ := evalFrame_trace h
  obtain ⟨c1, c2⟩ := pipeline_counted hdet
  have gt : ∀ j g, ((frameOf C f kE kG o.critEst o.critGt).gt j).crit = true → g = toGT _ j →
      ∃ y, EvalGtCounted C f y ∧ g.id = y.attr.tag.id := fun j g hc e =>
    let ⟨y, _, hy, hid, _⟩ := gt_counted hG hcG hc
    ⟨y, hy, e ▸ hid⟩
  refine ⟨fun r hr => ?_, fun g hg => ?_⟩
  · obtain ⟨i, hc, he, hg⟩ := c1 r hr
    obtain ⟨x, _, hx, hid⟩ := est_counted hE hcE hc
    exact ⟨x, hx, he.trans hid, fun g hrg => let ⟨j, hj, e⟩ := hg g hrg; gt j g hj e⟩
  · obtain ⟨j, hj, e⟩ := c2 g hg
    exact gt j g hj e

/-- the range part spelled out: for a counted object that is not FP-labelled (those pass by C10's first clause,
DESIGN §7 O1) the x / y / distance / point-count criteria hold AT its ego-relative position `egoXY` — its own
coordinates in a BASE_LINK frame, `toEgo3 pose position` in a MAP frame -/
theorem eval_counted_range {C : EvalCfg} {f : SFrame} {x : SObj} (isGt : Bool)
    (h : if isGt then EvalGtCounted C f x else EvalEstCounted C f x) (hfp : ¬ Filter.IsFP x.attr.tag.label) :
    Filter.RangeOK (if isGt then critGtP C else critEstP C) (f.view x) (f.egoXY x) := by
  have hl : (f.view x).label = x.attr.tag.label := by
    unfold SFrame.view; cases f.frameId <;> rfl
  cases isGt with
  | true => exact CritFrame.range_of_criteria h.2.2 (hl ▸ hfp) ((egoPos_view_eval f (critGtP C) rfl x _).2 rfl)
  | false => exact CritFrame.range_of_criteria h.2.2 (hl ▸ hfp) ((egoPos_view_eval f (critEstP C) rfl x _).2 rfl)

/-! ### in whichever frame: composition with `C07.evalFrame_toMap` -/

/-- the ego-relative position of the MAP rendering of a BASE_LINK object is the object's own position (any unit
yaw, any translation incl. height) -/
theorem egoXY_toMap (e : Pose) (he : e.rot.IsUnit) (f : SFrame) (hf : f.frameId = .baseLink) (x : SObj) :
    (f.toMap e).egoXY (x.toMap e) = f.egoXY x := by
  unfold SFrame.egoXY
  rw [hf]
  show (⟨(toEgo3 e (x.obj.toMap e).box.center).x, (toEgo3 e (x.obj.toMap e).box.center).y⟩ : Filter.Pos) = _
  rw [C07.egoPos3_toMap e he]

/-- **(b), either rendering**: a recorded BASE_LINK frame and its MAP rendering under the ego pose `e` (unit yaw,
any translation) return the SAME result — same four lists, same exception otherwise — and on both renderings every
counted entry satisfies the critical criteria, tested at the same ego-relative coordinates (`egoXY_toMap`) -/
theorem eval_critical_sound_toMap (C : EvalCfg) (e : Pose) (f : SFrame) (hok : C07.FrameOK e f) :
    evalFrame C (f.toMap e) = evalFrame C f ∧
    ∀ o, evalFrame C f = .ok o →
      EvalCountedInCritical C f o.out.pf ∧ EvalCountedInCritical C (f.toMap e) o.out.pf ∧
      ∀ x, (f.toMap e).egoXY (x.toMap e) = f.egoXY x := by
  have h := C07.evalFrame_toMap C e f hok
  refine ⟨h, ?_⟩
  intro o ho
  refine ⟨eval_critical_sound C f o ho, eval_critical_sound C (f.toMap e) o (h ▸ ho), ?_⟩
  intro x
  exact egoXY_toMap e hok.1 f hok.2.2.1 x

/-! ## (c) TP soundness on the frame's objects -/

/-- the scene `evalFrame` hands to the matcher: labels of the kept objects, the frame id of the rendering, and as
matching value the entry of the score table (computed from the boxes) for the matcher's mode -/
def sceneOf (C : EvalCfg) (f : SFrame) (kE kG : List SObj) : Matching.Scene :=
  { ests := kE.map (fun a => ⟨a.attr.mlabel, f.reader.frame⟩)
    gts := kG.map (fun a => ⟨a.attr.mlabel, f.reader.frame⟩)
    val := fun i j =>
      match rowAt (tableOf f.reader kE kG) i j with
      | some r => mValue C.dist C.matcher.mode r
      | none => 0 }

theorem frameOf_scene (C : EvalCfg) (f : SFrame) (kE kG : List SObj) (cE cG : List Bool) :
    (frameOf C f kE kG cE cG).scene = sceneOf C f kE kG := by
  unfold frameOf mkFrame sceneOf
  simp only [List.map_map, Function.comp_def]
  rfl

theorem rowAt_tableOf (R : Reader) {kE kG : List SObj} {i j : Nat} {x y : SObj} (hx : kE[i]? = some x)
    (hy : kG[j]? = some y) : rowAt (tableOf R kE kG) i j = some (R.row x.obj y.obj).unsigned := by
  unfold rowAt tableOf
  simp only [List.getElem?_map, hx, hy, Option.map_some]

theorem frameOf_pfScore {C : EvalCfg} {f : SFrame} {kE kG : List SObj} {cE cG : List Bool} {i j : Nat} {x y : SObj}
    (hx : kE[i]? = some x) (hy : kG[j]? = some y) :
    (frameOf C f kE kG cE cG).pfScore i j = some (C.dist (f.reader.row x.obj y.obj).unsigned.plane2) := by
  unfold frameOf mkFrame
  simp only [rowAt_tableOf f.reader hx hy, Option.map_some]

/-- the statement, for a way of evaluating a frame: every TP is a pair `(i, j)` of the matcher's result on the
scene of the kept objects; the estimate `x` and the ground truth `y` at these positions passed both filters (C10's
criteria on their ego-relative positions); `y` is not FP-labelled and label-compatible with `x` under the configured
policy; and whenever a pass/fail threshold list is configured and `y`'s label occurs in the pass/fail target list, the
plane distance of the two BOXES, as the frame's rendering computes it, is strictly below the entry of the threshold list
at the index of `y`'s label in the target list -/
def EvalTpSound (eval : EvalCfg → SFrame → Except Err FrameOut) : Prop :=
  ∀ C f o, eval C f = .ok o → ∀ r ∈ o.out.pf.tp,
    ∃ (kE kG : List SObj) (i j : Nat) (x y : SObj),
      keptEsts C f = .ok kE ∧ keptGts C f = .ok kG ∧
      Matching.getObjectResults C.matcher (sceneOf C f kE kG) = .ok o.out.matched ∧
      (i, some j) ∈ o.out.matched ∧ kE[i]? = some x ∧ kG[j]? = some y ∧
      r.est = x.attr.tag.id ∧ r.gt.map (·.id) = some y.attr.tag.id ∧
      EvalEstCounted C f x ∧ EvalGtCounted C f y ∧
      Matching.isMatchable C.matcher.policy ⟨x.attr.mlabel, f.reader.frame⟩ ⟨y.attr.mlabel, f.reader.frame⟩ = true ∧
      y.attr.alabel ≠ AP.fpLabel ∧
      ∀ thrs k, C.pfThrs = some thrs → IsIndexOf y.attr.alabel C.pfTargets k →
        ∃ t, thrs[k]? = some t ∧ C.dist (f.reader.row x.obj y.obj).plane2 < t

/-- **(c)** TP soundness of the whole frame evaluation; no hypothesis besides "the call returned" -/
theorem eval_tp_sound : EvalTpSound evalFrame := by
  intro C f o h r hr
  obtain ⟨kE, kG, hE, hG, hcE, hcG, _, _, _, _, hmatch, hdet⟩ := evalFrame_trace h
  obtain ⟨i, j, e, g, hmem, hest, hgt, he, hg, hlab, hnfp, hci, hcj, hthr⟩ :=
    pipeline_tp_sound_detectFrame _ _ hdet r hr
  obtain ⟨x, hx, hxc, hxid⟩ := est_counted (kG := kG) (cG := o.critGt) hE hcE hci
  obtain ⟨y, hy, hyc, hyid, hylab⟩ := gt_counted (kE := kE) (cE := o.critEst) hG hcG hcj
  rw [frameOf_scene] at hmatch he hg
  simp only [sceneOf, List.getElem?_map, hx, hy, Option.map_some, Option.some.injEq] at he hg
  subst he hg
  refine ⟨kE, kG, i, j, x, y, hE, hG, hmatch, hmem, hx, hy, hest.trans hxid, ?_, hxc, hyc, hlab, ?_, ?_⟩
  · rw [hgt]
    exact congrArg some hyid
  · rw [← hylab]; exact hnfp
  · intro thrs k hthrs hk
    rw [← hylab] at hk
    obtain ⟨t, v, ht, hv, hlt⟩ := hthr thrs k hthrs hk
    refine ⟨t, ht, ?_⟩
    rw [frameOf_pfScore hx hy] at hv
    cases hv
    exact hlt

/-! ## (a) conservation and exactly-once accounting, hypotheses discharged from the construction

`pipeline_conservation` & co. need `PassFail.GtsDistinct (pfGts …)` on the `Pipeline.Frame` (ids and `__eq__` classes of
the ground truths handed to the matcher), `critical_conservation` & co. need `FrameWF` and `GtConfOK`.  On `evalFrame`
the ids are the objects' ids, the `__eq__` classes are computed from time stamp, label, position, orientation
(`SObj.sameAs`, `eqTable`, `eqKeys`), the pairing is the matcher's (so `MatcherWF` is C01's theorem,
`matcher_output_wf`), and one critical verdict per ground truth serves both call sites — a property of this model, true of
the code under `GtConfBeats` (`eval_gt_sites_agree` below).  What is left on the model is ONE hypothesis on the two input
lists. -/

/-- **the one input hypothesis** (the quantifier's word "set"): the ground truths handed to `add_frame_result` are
pairwise different objects and pairwise different under `DynamicObject.__eq__` (time stamp, label, position,
orientation), the estimates are pairwise different objects.  What real inputs guarantee: `id` is the harness's name for
the Python object (always distinct); two annotations of one frame that agree in time stamp, label, exact position and
exact orientation do not occur in loaded datasets (`dup_gt_breaks_conservation`, `eval_dup_gt_breaks_conservation`
show what happens when they do; DESIGN §4.3 lists duplicate ground truths as an excluded-point probe). -/
structure ObjectsDistinct (f : SFrame) : Prop where
  gts : f.gts.Pairwise (fun a b => a.attr.tag.id ≠ b.attr.tag.id ∧ a.sameAs Obj.samePose b = false)
  ests : f.ests.Pairwise (fun a b => a.attr.tag.id ≠ b.attr.tag.id)

theorem reader_same (f : SFrame) : f.reader.same = Obj.samePose := by
  unfold SFrame.reader
  cases f.frameId <;> rfl

theorem sameAs_iff (a b : SObj) :
    a.sameAs Obj.samePose b = true ↔
      (a.attr.stamp = b.attr.stamp ∧ a.attr.mlabel = b.attr.mlabel ∧ a.obj.box.center = b.obj.box.center ∧
        a.obj.box.rot = b.obj.box.rot) := by
  unfold SObj.sameAs
  rw [Bool.and_eq_true, Bool.and_eq_true, samePose_iff]
  simp [and_assoc]

theorem getElem?_idxOf_true {α} {l : List α} {p : α → Bool} {a : α} (ha : a ∈ l) (hp : p a = true) :
    ∃ c, l[(l.map p).idxOf true]? = some c ∧ p c = true :=
  Option.map_eq_some_iff.1 (List.getElem?_map .. ▸ List.getElem?_idxOf (List.mem_map.2 ⟨a, ha, hp⟩))

/-- `__eq__` classes of a list of pairwise `!=` objects are pairwise different: two objects of one class are both
`==` to the first member of the class, hence to each other -/
theorem eqKeys_ne {kG : List SObj} (hp : kG.Pairwise (fun a b => a.sameAs Obj.samePose b = false))
    {j j' : Nat} (hjj : j < j') (hj' : j' < kG.length) :
    (eqKeys (eqTable Obj.samePose kG)).getD j 0 ≠ (eqKeys (eqTable Obj.samePose kG)).getD j' 0 := by
  have hj : j < kG.length := Nat.lt_trans hjj hj'
  have key : ∀ k (hk : k < kG.length), (eqKeys (eqTable Obj.samePose kG)).getD k 0 =
      (kG.map (fun b => kG[k].sameAs Obj.samePose b)).idxOf true := by
    intro k hk
    unfold eqKeys eqTable
    rw [List.getD_eq_getElem?_getD, List.getElem?_map, List.getElem?_map, List.getElem?_eq_getElem hk]
    rfl
  have first : ∀ k (hk : k < kG.length), ∃ c,
      kG[(eqKeys (eqTable Obj.samePose kG)).getD k 0]? = some c ∧ kG[k].sameAs Obj.samePose c = true := fun k hk =>
    key k hk ▸ getElem?_idxOf_true (p := fun b => kG[k].sameAs Obj.samePose b) (List.getElem_mem hk)
      ((sameAs_iff _ _).2 ⟨rfl, rfl, rfl, rfl⟩)
  intro heq
  obtain ⟨c, hc, h1⟩ := first j hj
  obtain ⟨c', hc', h2⟩ := first j' hj'
  rw [← heq, hc] at hc'
  cases hc'
  obtain ⟨a1, a2, a3, a4⟩ := (sameAs_iff _ _).1 h1
  obtain ⟨b1, b2, b3, b4⟩ := (sameAs_iff _ _).1 h2
  have := (List.pairwise_iff_getElem.1 hp) j j' hj hj' hjj
  rw [(sameAs_iff _ _).2 ⟨a1.trans b1.symm, a2.trans b2.symm, a3.trans b3.symm, a4.trans b4.symm⟩] at this
  cases this

/-- the ground-truth half of `ObjectsDistinct` discharges `GtsDistinct` of the frame `evalFrame` builds (whatever the
critical verdicts) -/
theorem gtsDistinct_frameOf_of_gts {C : EvalCfg} {f : SFrame}
    (hd : f.gts.Pairwise (fun a b => a.attr.tag.id ≠ b.attr.tag.id ∧ a.sameAs Obj.samePose b = false))
    {kE kG : List SObj} (hG : keptGts C f = .ok kG) (cE cG : List Bool) :
    PassFail.GtsDistinct (pfGts (frameOf C f kE kG cE cG)) := by
  have hp := hd.sublist (Filter.filterE_sublist hG)
  unfold PassFail.GtsDistinct pfGts
  rw [frameOf_gts_length, List.pairwise_map]
  refine List.Pairwise.imp_of_mem ?_ (List.pairwise_lt_range (n := kG.length))
  intro j j' hj hj' hjj
  have hj1 : j < kG.length := List.mem_range.1 hj
  have hj2 : j' < kG.length := List.mem_range.1 hj'
  unfold toGT
  rw [frameOf_gt (List.getElem?_eq_getElem hj1), frameOf_gt (List.getElem?_eq_getElem hj2), reader_same]
  exact ⟨((List.pairwise_iff_getElem.1 hp) j j' hj1 hj2 hjj).1, eqKeys_ne (hp.imp (fun h => h.2)) hjj hj2⟩

theorem gtsDistinct_frameOf {C : EvalCfg} {f : SFrame} (hd : ObjectsDistinct f) {kE kG : List SObj}
    (hG : keptGts C f = .ok kG) (cE cG : List Bool) :
    PassFail.GtsDistinct (pfGts (frameOf C f kE kG cE cG)) :=
  gtsDistinct_frameOf_of_gts hd.gts hG cE cG

theorem estIds_frameOf_of_ests {C : EvalCfg} {f : SFrame}
    (hd : f.ests.Pairwise (fun a b => a.attr.tag.id ≠ b.attr.tag.id)) {kE kG : List SObj}
    (hE : keptEsts C f = .ok kE) (cE cG : List Bool) :
    ((List.range (frameOf C f kE kG cE cG).scene.ests.length).map
      (fun i => ((frameOf C f kE kG cE cG).est i).id)).Nodup := by
  have hp := hd.sublist (Filter.filterE_sublist hE)
  rw [frameOf_ests_length]
  unfold List.Nodup
  rw [List.pairwise_map]
  refine List.Pairwise.imp_of_mem ?_ (List.pairwise_lt_range (n := kE.length))
  intro i i' hi hi' hii
  have hi1 : i < kE.length := List.mem_range.1 hi
  have hi2 : i' < kE.length := List.mem_range.1 hi'
  rw [frameOf_est (List.getElem?_eq_getElem hi1),
    frameOf_est (List.getElem?_eq_getElem hi2)]
  exact (List.pairwise_iff_getElem.1 hp) i i' hi1 hi2 hii

theorem estIds_frameOf {C : EvalCfg} {f : SFrame} (hd : ObjectsDistinct f) {kE kG : List SObj}
    (hE : keptEsts C f = .ok kE) (cE cG : List Bool) :
    ((List.range (frameOf C f kE kG cE cG).scene.ests.length).map
      (fun i => ((frameOf C f kE kG cE cG).est i).id)).Nodup :=
  estIds_frameOf_of_ests hd.ests hE cE cG

/-- what `evalFrame` returns is `detectFrame` of a frame whose ground truths are `GtsDistinct` when the input ground truths
are pairwise different, and whose estimate ids are distinct when the input estimates are: each counting theorem below
uses one half of `ObjectsDistinct` only -/
theorem eval_detect {C : EvalCfg} {f : SFrame} {o : FrameOut} (h : evalFrame C f = .ok o) :
    ∃ F : Pipeline.Frame, Pipeline.detectFrame F = .ok o.out ∧
      (f.gts.Pairwise (fun a b => a.attr.tag.id ≠ b.attr.tag.id ∧ a.sameAs Obj.samePose b = false) →
        PassFail.GtsDistinct (pfGts F)) ∧
      (f.ests.Pairwise (fun a b => a.attr.tag.id ≠ b.attr.tag.id) →
        ((List.range F.scene.ests.length).map (fun i => (F.est i).id)).Nodup) :=
  let ⟨_, _, hE, hG, _, _, _, _, _, _, _, hdet⟩ := evalFrame_trace h
  ⟨_, hdet, fun hd => gtsDistinct_frameOf_of_gts hd hG _ _, fun hd => estIds_frameOf_of_ests hd hE _ _⟩

/-- **(a) conservation**: in every frame `evalFrame` returns, ordinary critical ground truths = TP + FN, FP-labelled
critical ground truths = TN + matched FP, surviving results = TP + FP.  (About the code only where `evalFrame`'s single
critical verdict per ground truth is also the verdict of `filter_objects(is_gt=True, …)`: `eval_gt_sites_agree`.) -/
theorem eval_conservation (C : EvalCfg) (f : SFrame) (o : FrameOut) (h : evalFrame C f = .ok o)
    (hd : ObjectsDistinct f) :
    (o.out.pf.gts.filter (fun g => !g.isFP)).length = o.out.pf.tp.length + o.out.pf.fn.length ∧
    (o.out.pf.gts.filter (fun g => g.isFP)).length
        = o.out.pf.tn.length + (PassFail.matchedFP o.out.pf.fp).length ∧
    o.out.pf.tp.length + o.out.pf.fp.length = o.out.pf.results.length := by
  obtain ⟨F, hdet, hg, _⟩ := eval_detect h
  exact pipeline_conservation F _ hdet (hg hd.gts)

/-- **(a) exactly-once accounting**: the ground truths of the TP results, the FN list, the TN list and the ground
truths of the matched-FP results are together a permutation of the critical ground truths -/
theorem eval_accounting_perm (C : EvalCfg) (f : SFrame) (o : FrameOut) (h : evalFrame C f = .ok o)
    (hd : ObjectsDistinct f) :
    (PassFail.gtsOf o.out.pf.tp ++ (o.out.pf.fn ++ (o.out.pf.tn ++
      PassFail.gtsOf (PassFail.matchedFP o.out.pf.fp)))).Perm o.out.pf.gts := by
  obtain ⟨F, hdet, hg, _⟩ := eval_detect h
  exact pipeline_accounting_perm F _ hdet (hg hd.gts)

/-- … the critical ground truths being exactly the kept ground truths whose critical verdict is `True`, in order
(so the permutation above accounts for each of THEM exactly once) -/
theorem eval_critical_gts (C : EvalCfg) (f : SFrame) (o : FrameOut) (h : evalFrame C f = .ok o) :
    ∃ kG : List SObj, keptGts C f = .ok kG ∧
      o.out.pf.gts.map (·.id) =
        ((List.range kG.length).filter (fun j => o.critGt.getD j false)).map (fun j => (kG.map (·.attr.tag.id)).getD j 0) := by
  obtain ⟨kE, kG, _, hG, _, _, _, _, _, _, _, hdet⟩ := evalFrame_trace h
  refine ⟨kG, hG, ?_⟩
  rw [(pipeline_same_lists _ _ hdet).2.1]
  unfold critGtIdx
  rw [frameOf_gts_length, List.map_map]
  -- at a position below the length, flag and id of the frame's ground truth are those of `frameOf_gt`
  rw [List.filter_congr fun j hj => congrArg (·.crit) (frameOf_gt (List.getElem?_eq_getElem (List.mem_range.1 hj)))]
  refine List.map_congr_left fun j hj => ?_
  have hj' := List.mem_range.1 (List.mem_filter.1 hj).1
  rw [Function.comp, toGT, frameOf_gt (List.getElem?_eq_getElem hj')]
  simp [List.getD_eq_getElem?_getD, hj']

/-- **(a)** successes and failures together count every result and every critical ground truth, the ground truths of TP and
matched-FP results on both sides -/
theorem eval_num_total (C : EvalCfg) (f : SFrame) (o : FrameOut) (h : evalFrame C f = .ok o)
    (hd : ObjectsDistinct f) :
    PassFail.numSuccess o.out.pf + PassFail.numFail o.out.pf + o.out.pf.tp.length
        + (PassFail.matchedFP o.out.pf.fp).length = o.out.pf.results.length + o.out.pf.gts.length := by
  obtain ⟨F, hdet, hg, _⟩ := eval_detect h
  exact pipeline_num_total F _ hdet (hg hd.gts)

/-- **(a)** each surviving estimate is in exactly one of TP / FP -/
theorem eval_tp_fp_exactly_one (C : EvalCfg) (f : SFrame) (o : FrameOut) (h : evalFrame C f = .ok o)
    (hd : ObjectsDistinct f) :
    ∀ r ∈ o.out.pf.results,
      (r.est ∈ o.out.pf.tp.map (·.est) ∧ r.est ∉ o.out.pf.fp.map (·.est)) ∨
      (r.est ∉ o.out.pf.tp.map (·.est) ∧ r.est ∈ o.out.pf.fp.map (·.est)) := by
  obtain ⟨F, hdet, _, hid⟩ := eval_detect h
  exact pipeline_tp_fp_exactly_one F _ hdet (hid hd.ests)

/-- the matcher's guarantee (C01) is the well-formedness hypothesis of the C03 counting theorems — derived, not assumed -/
theorem eval_matcher_wf (C : EvalCfg) (f : SFrame) (o : FrameOut) (h : evalFrame C f = .ok o)
    (hd : ObjectsDistinct f) :
    ∃ kE kG, keptEsts C f = .ok kE ∧ keptGts C f = .ok kG ∧
      PassFail.MatcherWF (pfFrame (frameOf C f kE kG o.critEst o.critGt) o.out.matched) ∧
      o.out.pf = PassFail.evaluateFrame (pfFrame (frameOf C f kE kG o.critEst o.critGt) o.out.matched) := by
  obtain ⟨kE, kG, hE, hG, _, _, _, _, _, _, _, hdet⟩ := evalFrame_trace h
  obtain ⟨rs, hr, hm, hpf, _⟩ := detectFrame_ok hdet
  subst hm
  exact ⟨kE, kG, hE, hG, matcher_output_wf _ _ hr (gtsDistinct_frameOf_of_gts hd.gts hG _ _), hpf⟩

/-- histories: `add_frame_result` evaluates every frame on its own -/
theorem eval_history_conservation (C : EvalCfg) (fs : List SFrame) (outs : List FrameOut)
    (h : evalHistory C fs = .ok outs) (hd : ∀ f ∈ fs, ObjectsDistinct f) :
    ∀ o ∈ outs,
      (o.out.pf.gts.filter (fun g => !g.isFP)).length = o.out.pf.tp.length + o.out.pf.fn.length ∧
      (o.out.pf.gts.filter (fun g => g.isFP)).length
          = o.out.pf.tn.length + (PassFail.matchedFP o.out.pf.fp).length ∧
      o.out.pf.tp.length + o.out.pf.fp.length = o.out.pf.results.length := by
  intro o ho
  obtain ⟨f, hf, hfo⟩ := forall₂_mem_right (mapM_ok_iff.1 ((mapE_eq_mapM _ fs).symm.trans h)) ho
  exact eval_conservation C f o hfo (hd f hf)

/-! ## one critical verdict per ground truth serves both call sites

`evalFrame` computes ONE critical flag per kept ground truth, with `Filter.gtParams` (what `filter_object_results`
hands to `_is_target_object` for the ground truth of a result: no confidence list).  The other call site,
`filter_objects(frame_ground_truth.objects, is_gt=True, **filtering_params)`, hands the confidence list on, and
`_is_target_object` compares it with the ground truth's own `semantic_score` (DESIGN §7 O7).  The two verdicts are
the same whenever that score beats the critical confidence threshold of the ground truth's label: -/

/-- the confidence of ground truth `y` beats the critical confidence threshold of its label (vacuous without a
critical confidence list, true for FP-labelled ground truths).  Real inputs: every ground truth built by the dataset
loader has `semantic_score = 1.0` (`dataset_utils.py`), and `confidence_threshold` is a probability < 1 -/
def GtConfBeats (C : EvalCfg) (f : SFrame) (y : SObj) : Prop := CritFrame.ConfBeats C.crit (f.view y)

theorem eval_gt_sites_agree (C : EvalCfg) (f : SFrame) (y : SObj) (hc : GtConfBeats C f y) :
    f.reader.verdict { C.crit with isGt := true } y.tagged = f.reader.verdict (Filter.gtParams C.crit) y.tagged := by
  rw [reader_verdict, reader_verdict]
  exact CritFrame.isTarget_gt_conf (P := { ({ C.crit with isGt := true } : Filter.Params) with hasTransforms := true })
    (o := f.view y) rfl hc

/-! ## defective variants

`evalFrameX det res` is `evalFrame` with two holes: `det` in place of `Pipeline.detectFrame`, and the reader `res f`
in place of `f.reader` for the critical verdicts of the ESTIMATES (the `filter_object_results` call site).  With
`Pipeline.detectFrame` and `SFrame.reader` it is `evalFrame` (`evalFrameX_code`, by `rfl`).

* `evalFrameF2`: the `filter_object_results` call receives `transform=` instead of `transforms=` (commit 46d063e
  reverted): the callee sees `transforms=None`, a MAP-frame estimate has no ego-relative position and is not
  range-tested.  (The ground-truth half of the same call cannot be told apart from the `filter_objects` call in
  `Pipeline.Frame`, which has one flag per ground truth; `Model/CriticalFrame.lean` has both.)
* `evalFrameEstKey`: the pass/fail threshold of a paired result keyed on the ESTIMATE's label (`Pipeline.detectFrameWith
  .estLabel`). -/

def finishX (det : Pipeline.Frame → Except Err Pipeline.Out) (C : EvalCfg) (fr : String) (aE aG : List Attr)
    (cE cG : List Bool) (T : List (List ScoreRow)) (tbl : List (List Bool)) : Except Err FrameOut :=
  let pf := mkFrame C fr aE aG cE cG T (eqKeys tbl)
  match det pf with
  | .error e => .error e
  | .ok out =>
    .ok { keptEst := aE.map (·.tag.id), keptGt := aG.map (·.tag.id), critEst := cE, critGt := cG,
          table := T, same := tbl, out := out,
          tracks := (Pipeline.critResults pf out.matched).map (trackRes C aE aG pf),
          gtLabels := (Pipeline.apGts pf).map (·.label) }

def evalKeptX (det : Pipeline.Frame → Except Err Pipeline.Out) (R Rres : Reader) (C : EvalCfg) (kE kG : List SObj) :
    Except Err FrameOut :=
  match flagsE (fun o => Rres.verdict (Filter.estParams C.crit) o.tagged) kE with
  | .error e => .error e
  | .ok cE =>
    match flagsE (fun o => R.verdict (Filter.gtParams C.crit) o.tagged) kG with
    | .error e => .error e
    | .ok cG =>
      finishX det C R.frame (kE.map (·.attr)) (kG.map (·.attr)) cE cG (tableOf R kE kG) (eqTable R.same kG)

def evalFrameX (det : Pipeline.Frame → Except Err Pipeline.Out) (res : SFrame → Reader) (C : EvalCfg) (f : SFrame) :
    Except Err FrameOut :=
  match Filter.filterE (fun o => f.reader.verdict { C.mgr with isGt := false } o.tagged) f.ests with
  | .error e => .error e
  | .ok kE =>
    match Filter.filterE (fun o => f.reader.verdict { C.mgr with isGt := true } o.tagged) f.gts with
    | .error e => .error e
    | .ok kG => evalKeptX det f.reader (res f) C kE kG

/-- the code is the instance with the real `detectFrame` and the frame's own reader at both sites -/
theorem evalFrameX_code (C : EvalCfg) (f : SFrame) : evalFrameX Pipeline.detectFrame SFrame.reader C f = evalFrame C f := rfl

/-- the frame's reader as a callee sees it that was handed `transforms=None` -/
def readerNoTransforms (f : SFrame) : Reader :=
  { f.reader with
    verdict := fun P t =>
      match f.frameId with
      | .baseLink => Filter.isTarget { P with hasTransforms := false } (filterViewEgo t)
      | .map => Filter.isTarget { P with hasTransforms := false } (filterViewMap f.pose t) }

def evalFrameF2 : EvalCfg → SFrame → Except Err FrameOut := evalFrameX Pipeline.detectFrame readerNoTransforms
def evalFrameEstKey : EvalCfg → SFrame → Except Err FrameOut := evalFrameX (Pipeline.detectFrameWith .estLabel) SFrame.reader

/-- some counted estimate / ground-truth id belongs only to objects of the frame that `_is_target_object` rejects -/
def evalBadB (C : EvalCfg) (f : SFrame) (p : PassFail.PassFail) : Bool :=
  (p.tp ++ p.fp).any (fun r => f.ests.all (fun x => x.attr.tag.id != r.est || CritFrame.outB (critEstP C) (f.view x))) ||
  (p.tn ++ p.fn).any (fun g => f.gts.all (fun y => y.attr.tag.id != g.id || CritFrame.outB (critGtP C) (f.view y)))

theorem not_counted_of_evalBadB {C : EvalCfg} {f : SFrame} {p : PassFail.PassFail} (h : evalBadB C f p = true) :
    ¬ EvalCountedInCritical C f p := by
  rintro ⟨c1, c2⟩
  rcases Bool.or_eq_true_iff.1 h with h | h
  · obtain ⟨r, hr, hall⟩ := List.any_eq_true.1 h
    obtain ⟨x, ⟨hx, _, hin⟩, hid, _⟩ := c1 r hr
    exact CritFrame.not_criteria_of_all_outB hall hx hid hin
  · obtain ⟨g, hg, hall⟩ := List.any_eq_true.1 h
    obtain ⟨y, ⟨hy, _, hin⟩, hid⟩ := c2 g hg
    exact CritFrame.not_criteria_of_all_outB hall hy hid hin

/-! ## non-vacuity and refutations: a concrete frame in both renderings

Critical filter: cars with |x| < 10, |y| < 10 (ego-relative); manager filter |x| < 60, |y| < 40.  Ego pose: yaw with
(cos, sin) = (3/5, 4/5), ego at (100, 50, 2) in the map.  Ground truths A (5, 5), B (20, 0), D (3, −4); estimates
1 (5, 11/2) pairs with A (TP), 2 (20, 1/2) pairs with B (both outside the critical region: not counted),
3 (12, 0) unpaired outside (not counted), 4 (1, 1) unpaired inside (FP); D is FN.  Distances are carried squared
(`dist := id`): matcher radius 2 m ↔ 4, pass/fail threshold 2 m ↔ 4. -/
section Example

def exPoseE : Pose := { rot := ⟨3/5, 4/5⟩, tau := 59/200, t := ⟨100, 50, 2⟩ }

def exSObj (i : Nat) (lab : String) (ml : String) (al : AP.Label) (score : Rat) (x y : Rat) : SObj :=
  { attr := { tag := { id := i, label := lab, name := ml, attributes := [], score := score, pcNum := some 5, uuid := none },
              mlabel := ml, alabel := al, uid := i, stamp := 7 },
    obj := { box := { center := ⟨x, y, 0⟩, rot := ⟨1, 0⟩, w := 2, l := 4, h := 3/2 }, tau := 0 } }

def exCar (i : Nat) (x y : Rat) : SObj := exSObj i "AutowareLabel.CAR" "car" 2 1 x y

def exFilter (mx my : Rat) : Filter.Params :=
  { isGt := false, targets := some ["AutowareLabel.CAR", "AutowareLabel.PEDESTRIAN"], ignoreAttrs := none,
    maxX := some [mx, mx], maxY := some [my, my], maxDist := none, minDist := none, conf := none, minPts := none,
    uuids := none, hasTransforms := false }

def exC : EvalCfg :=
  { mgr := exFilter 60 40, crit := exFilter 10 10
    matcher := { policy := .default, mode := .centerDistance, targets := some ["car", "pedestrian"],
                 thresholds := some [4, 4], fpValidation := false }
    dist := id, pfTargets := [2, 4], pfThrs := some [4, 4], critTargets := [2, 4], mapTargets := [2, 4]
    maps := [⟨.centerDistance, [1, 1]⟩], trackMode := .centerDistance, trackTargets := [(2, 1)] }

def exE : SFrame :=
  { frameId := .baseLink, pose := exPoseE
    ests := [exCar 1 5 (11/2), exCar 2 20 (1/2), exCar 3 12 0, exCar 4 1 1]
    gts := [exCar 101 5 5, exCar 102 20 0, exCar 103 3 (-4)] }

def exM : SFrame := exE.toMap exPoseE

example : C07.FrameOK exPoseE exE :=
  ⟨by unfold Geometry.Rot2.IsUnit exPoseE; norm_num, by decide +kernel, rfl, by decide +kernel⟩
/-- the hypothesis of the counting theorems holds of both renderings -/
example : ObjectsDistinct exE := ⟨by decide +kernel, by decide +kernel⟩
example : ObjectsDistinct exM := ⟨by decide +kernel, by decide +kernel⟩
/-- the map rendering really is in the map: ground truth A sits at (99, 57, 2) -/
example : exM.gts.map (·.obj.box.center) = [⟨99, 57, 2⟩, ⟨112, 66, 2⟩, ⟨105, 50, 2⟩] := by decide +kernel
example : exM.gts.map exM.egoXY = [⟨5, 5⟩, ⟨20, 0⟩, ⟨3, -4⟩] := by decide +kernel

def exSummary : Summary :=
  { keptEst := [1, 2, 3, 4], keptGt := [101, 102, 103], matched := [(0, some 0), (1, some 1), (2, none), (3, none)],
    tp := [1], fp := [4], tn := [], fn := [103], maps := [(some (1/2), some (1/2))] }

/-- the code, either rendering: TP = {1 ↔ A}, FP = {4}, FN = {D}; B, 2 and 3 are not counted -/
example : (evalFrame exC exE).map FrameOut.summary = .ok exSummary := by decide +kernel
example : (evalFrame exC exM).map FrameOut.summary = .ok exSummary := by decide +kernel

/-- F2 on the map rendering: estimate 3, at ego-relative (12, 0), is counted FP … -/
example : (evalFrameF2 exC exM).map (fun o => (o.summary.tp, o.summary.fp, o.summary.fn)) = .ok ([1], [3, 4], [103]) := by
  decide +kernel
/-- … while on the BASE_LINK rendering the typo is harmless -/
example : (evalFrameF2 exC exE).map FrameOut.summary = .ok exSummary := by decide +kernel

/-- **the F2 variant violates the statement of `eval_critical_sound`** -/
theorem eval_f2_not_critical_sound : ¬ EvalCriticalSound evalFrameF2 := by
  intro hs
  have hb : (match evalFrameF2 exC exM with
      | .ok o => evalBadB exC exM o.out.pf
      | .error _ => false) = true := by decide +kernel
  split at hb
  · next o hx => exact not_counted_of_evalBadB hb (hs exC exM o hx)
  · cases hb

/-- the checker accepts the code on both renderings -/
example : (match evalFrame exC exM with
    | .ok o => evalBadB exC exM o.out.pf
    | .error _ => true) = false ∧
    (match evalFrame exC exE with
    | .ok o => evalBadB exC exE o.out.pf
    | .error _ => true) = false := by decide +kernel

/-! ### the threshold keyed on the estimate's label

Policy ALLOW_ANY; one estimate `car` at (5, 6), one ground truth `pedestrian` at (5, 5): centre distance² 1 (matched),
plane distance² 1; pass/fail targets [car, pedestrian] with thresholds [4, 1/2].  Keyed on the ground truth's label
the pair fails (1 < 1/2 is false): no TP.  Keyed on the estimate's label it passes (1 < 4). -/

def exCKey : EvalCfg :=
  { exC with matcher := { exC.matcher with policy := .allowAny }, pfThrs := some [4, 1/2], maps := [] }
def exKeyEst : SObj := exCar 1 5 6
def exKeyGt : SObj := exSObj 101 "AutowareLabel.PEDESTRIAN" "pedestrian" 4 1 5 5
def exKeyFrame : SFrame := { frameId := .baseLink, pose := exPoseE, ests := [exKeyEst], gts := [exKeyGt] }

example : (evalFrame exCKey exKeyFrame).map (fun o => (o.summary.matched, o.summary.tp, o.summary.fp, o.summary.fn))
    = .ok ([(0, some 0)], [], [1], [101]) := by decide +kernel

/-- **keyed on the estimate's label the statement of `eval_tp_sound` fails** -/
theorem eval_estLabel_not_tp_sound : ¬ EvalTpSound evalFrameEstKey := by
  intro h
  have hok : (evalFrameEstKey exCKey exKeyFrame).toOption.map (fun o => o.out.pf.tp.length) = some 1 := by
    decide +kernel
  -- the call returns, with one TP `r`
  generalize hd : evalFrameEstKey exCKey exKeyFrame = res at hok
  obtain _ | o := res
  · cases hok
  obtain ⟨r, hr⟩ := List.exists_mem_of_length_pos (Option.some.inj hok ▸ Nat.one_pos)
  obtain ⟨kE, kG, i, j, x, y, _, _, _, _, _, _, _, _, hx, hy, _, _, hthr⟩ := h exCKey exKeyFrame o hd r hr
  cases List.mem_singleton.1 hx.1
  cases List.mem_singleton.1 hy.1
  obtain ⟨t, ht, hlt⟩ := hthr [4, 1 / 2] 1 rfl (show IsIndexOf 4 [2, 4] 1 from ⟨rfl, by decide⟩)
  cases ht
  exact absurd hlt (by decide +kernel)

/-- the hypotheses of `eval_tp_sound` are met with a TP present (frame `exE`): estimate 1 on ground truth A, plane
distance² 1/4 below the `car` entry 4 -/
example : exC.dist (exE.reader.row (exCar 1 5 (11/2)).obj (exCar 101 5 5).obj).plane2 = 1 / 4 := by decide +kernel
example : IsIndexOf (exCar 101 5 5).attr.alabel exC.pfTargets 0 := ⟨rfl, fun _ hk' => absurd hk' (Nat.not_lt_zero _)⟩

/-! ### `ObjectsDistinct` is needed

Two annotations that agree in time stamp, label, position and orientation (different Python objects): the matched
twin makes the unmatched one "`in`" the list of matched ground truths, it is counted nowhere. -/

def exDup : SFrame :=
  { frameId := .baseLink, pose := exPoseE, ests := [exCar 1 5 (11/2)], gts := [exCar 101 5 5, exCar 102 5 5] }

theorem eval_dup_gt_breaks_conservation :
    ¬ ObjectsDistinct exDup ∧
    (evalFrame exC exDup).map (fun o => ((o.out.pf.gts.filter (fun g => !g.isFP)).length, o.out.pf.tp.length,
      o.out.pf.fn.length)) = .ok (2, 1, 0) := by
  refine ⟨fun h => absurd h.gts (by decide +kernel), by decide +kernel⟩

/-! ### `GtConfBeats`, non-vacuous: a critical confidence threshold is configured -/

def exCConf : EvalCfg := { exC with crit := { exC.crit with conf := some [1/2, 1/2] } }

example : ∀ y ∈ exE.gts, GtConfBeats exCConf exE y := by
  intro y hy
  refine Or.inr (fun l hl => ?_)
  cases hl
  simp only [exE, List.mem_cons, List.not_mem_nil, or_false] at hy
  rcases hy with rfl | rfl | rfl <;>
  exact ⟨1/2, ⟨["AutowareLabel.CAR", "AutowareLabel.PEDESTRIAN"], 0, rfl, rfl, fun _ hj => absurd hj (Nat.not_lt_zero _), rfl⟩,
    by decide +kernel⟩

end Example

/-! ## `GtConfOK` of `Model/CriticalFrame.lean`, non-vacuously

Both instances of `GtConfOK` in `C03Critical.lean` (`exEgo`, `exMap`) have no critical confidence list.  Here one is
configured (threshold 1/2 for cars); the estimate has confidence 3/4, its ground truth 1.  -/
section GtConf
open PEval.CritFrame PEval.Filter

def exConfOK : CritFrame.Frame :=
  { results := [⟨{ exObj 1 5 (11/2) with score := 3/4 }, some gA, true, some 2, some (1/2)⟩,
                ⟨{ exObj 4 1 1 with score := 1/4 }, none, false, none, none⟩],
    gts := [gA, gC], transforms := some [("map", exPose)],
    critical := { exCrit with conf := some [1/2] } }

/-- **`GtConfOK` with a confidence threshold configured** (1/2) and ground-truth confidence above it (1).  Where real
inputs guarantee the hypothesis: every ground truth the dataset loader builds has `semantic_score = 1.0`
(`perception_eval/common/dataset_utils.py`: the three `semantic_score=1.0` constructor calls), and
`confidence_threshold` is compared strictly, so the hypothesis holds for every loaded dataset and every threshold below
1; it fails for a threshold ≥ 1 and for hand-built ground truths with a lower score (`gt_conf_needed`). -/
theorem gtConfOK_nonvacuous :
    GtConfOK exConfOK ∧ exConfOK.critical.conf = some [1/2] ∧ FrameWF exConfOK ∧
    (CritFrame.evaluateFrame exConfOK).map (fun o => obs o.pf) = .ok ([(1, some 101)], [], [], [103]) := by
  refine ⟨?_, rfl, by unfold FrameWF gtsOfC; decide +kernel, by decide +kernel⟩
  -- the first result carries `gA`, the second no ground truth
  refine List.forall_mem_cons.2 ⟨fun g hg => .inr fun l hl => ?_, List.forall_mem_cons.2 ⟨(fun _ hg => nomatch hg), fun _ h => nomatch h⟩⟩
  cases hg
  cases hl
  exact ⟨1/2, ⟨["AutowareLabel.CAR"], 0, rfl, rfl, fun _ hj => absurd hj (Nat.not_lt_zero _), rfl⟩, by decide +kernel⟩

/-- … so the transfer theorems apply non-vacuously: one ordinary critical ground truth each in TP and FN; the
low-confidence estimate 4 is dropped by the critical filter -/
example : ∀ out, CritFrame.evaluateFrame exConfOK = .ok out →
    (out.pf.gts.filter (fun g => !g.isFP)).length = out.pf.tp.length + out.pf.fn.length :=
  fun _ h => (critical_conservation h gtConfOK_nonvacuous.1 gtConfOK_nonvacuous.2.2.1).1

end GtConf

end PEval.C03
