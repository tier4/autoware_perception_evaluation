import PEval.Lemmas.APDict
import PEval.Properties.Pipeline
/-!
# C13 — what the code does when the hypotheses `LabelsAgree` / `TracksBy` fail

`ManagerHeap.LabelsAgree` (hypothesis of `stored_results_stay_good`, `heap_refines_manager(_from)`,
`heap_scene_eq_manager_scene`, `heap_scene_eq_pooled_ops`, `heap_scene_is_AP_sceneMap_of_reached_state`) and
`ManagerHeap.TracksBy` (hypothesis of `heap_refines_tracking_machine`) say that `evaluate_frame` divides the object
results and ground truths by the SAME target labels as `get_scene_result` does.  The code does not guarantee it:
`evaluate_frame` divides by `critical_object_filter_config.target_labels` (an argument of every `add_frame_result`
call, `perception_frame_config.py: CriticalObjectFilterConfig.__init__`), the metrics and `get_scene_result` iterate over
the manager's `target_labels`.  What happens in the code, case by case (run against /repo, detection and tracking task):

* critical labels a PERMUTATION of the manager's labels: the dicts are read by key
  (`Map.__init__`: `object_results_dict[target_label]`; C04 `map_reads_dicts_by_key`), the frame-level and the scene-level
  buckets of every manager label coincide — the hypothesis holds of the code's dicts (in the list-indexed `Det` of the
  model: after re-indexing by the manager's label order).  A SUPERSET: extra keys are ignored, but the buckets coincide
  only if no estimate carrying an extra label is paired with a ground truth of a manager label (`divide_objects` files
  a result under its estimate's label when that is a target, else under its ground truth's): with manager labels
  `[car]`, critical labels `[car, unknown]` and an `unknown` estimate on a car ground truth (`ALLOW_UNKNOWN`) the car
  bucket is empty at frame level and holds the result at scene level — `frameMap2 … [2, 0] [2] …` gives AP `none`,
  `sceneMap … [2] …` on the same frame `some 1`, so there a one-frame scene does NOT reproduce the frame's score.
* critical labels NOT covering a manager label `l`: `divide_objects(…, critical labels)` has no key `l`;
  `MetricsScore.evaluate_detection` → `Map.__init__` (`map.py`: `object_results_dict[target_label]`), resp.
  `evaluate_tracking` → `TrackingMetricsScore.__init__` (`tracking_metrics_score.py`, same line), resp. the classification
  score raise `KeyError(l)` INSIDE `evaluate_frame`, i.e. inside `add_frame_result` before
  `self.frame_results.append(result)`: the call raises, nothing is stored, the caller's ground-truth frame and estimate
  list are untouched (the writes go to the private copy).  Observation O2 of DESIGN §7.  The one exception: an object
  result filed under `l` through its ground truth's label creates the key (`divide_objects` files a result whose estimate
  label is no target under its ground truth's label) — then only `num_ground_truth_dict[l]` raises the `KeyError`.

The theorems below are the model's statement of the error outcome: `Pipeline.frameMap2` (the frame-level `Map` with the
two label lists of `evaluate_frame`) and `Pipeline.detectFrame` return an error — `"KeyError"` when the first metrics
label is the uncovered one — so no `HResult` exists for such a call and the theorems about the heap machine (`HSem` is
total) are about calls that return.
-/
namespace PEval.C13
open PEval PEval.AP

/-- `divide_objects(object_results, critical labels)` has no key `l` when `l` is no critical label and no object result
is filed under `l` -/
theorem lookupKey_divideObjects_missing {divT : List Label} {rs : List Res} {l : Label}
    (hl : l ∉ divT) (hno : ∀ r ∈ rs, bucketLabel (some divT) r ≠ some l) :
    lookupKey l (divideObjects (some divT) rs) = .error "KeyError" := by
  rw [lookupKey_divideObjects, if_neg]
  rw [Bool.or_eq_true, List.contains_iff_mem, List.any_eq_true]
  rintro (h | ⟨r, hr, h⟩)
  · exact hl h
  · exact hno r hr (eq_of_beq h)

/-- … nor have the nested buckets `Map.__init__` is handed at frame level (`[bucket]` per label) -/
theorem lookupKey_frameBuckets_missing {divT : List Label} {rs : List Res} {l : Label}
    (hl : l ∉ divT) (hno : ∀ r ∈ rs, bucketLabel (some divT) r ≠ some l) :
    lookupKey l ((divideObjects (some divT) rs).map (fun kv => (kv.1, [kv.2]))) = .error "KeyError" := by
  rw [lookupKey_map (fun v : List Res => [v]) l, lookupKey_divideObjects_missing hl hno]
  rfl

/-- the per-label loop of `Map.__init__` raises as soon as one of its labels has no bucket: it answers only if the
`Ap` of every label does, and the one of `l` reads the missing key -/
theorem mapLoop_error_of_missing {m : Mode} {is2d : Bool} {buckets : List (Label × List (List Res))}
    {nums : List (Label × Nat)} {l : Label} (hmiss : lookupKey l buckets = .error "KeyError") :
    ∀ {lts : List (Label × Rat)} {t : Rat}, (l, t) ∈ lts → ∃ e, mapLoop m is2d buckets nums lts = .error e := by
  intro lts t hmem
  cases h : mapLoop m is2d buckets nums lts with
  | error e => exact ⟨e, rfl⟩
  | ok p =>
    -- the loop answered, so the `Ap` of `l` did, having found the key
    obtain ⟨a, -, ha⟩ := forall₂_mem_right (mapLoop_ok_iff.mp h).1.flip hmem
    obtain ⟨_, _, hk, _⟩ := apCall_ok_iff.mp ha
    cases hmiss.symm.trans hk

/-- **critical labels not covering a metrics label: the frame-level `Map` raises** (any error of an earlier label's
`Ap` may come first; with the uncovered label first it is the `KeyError`) -/
theorem frameMap2_error_of_uncovered_label {m : Mode} {is2d : Bool} {divT mapT : List Label} {thrs : List Rat}
    {rs : List Res} {gl : List Label} {l : Label} {t : Rat} (hmem : (l, t) ∈ mapT.zip thrs) (hl : l ∉ divT)
    (hno : ∀ r ∈ rs, bucketLabel (some divT) r ≠ some l) :
    ∃ e, Pipeline.frameMap2 m is2d divT mapT thrs rs gl = .error e := by
  unfold Pipeline.frameMap2 mapOf
  obtain ⟨e, he⟩ := mapLoop_error_of_missing (m := m) (is2d := is2d)
    (nums := divideObjectsToNum (some divT) gl) (lookupKey_frameBuckets_missing hl hno) hmem
  exact ⟨e, by rw [he]⟩

theorem frameMap2_keyError_first {m : Mode} {is2d : Bool} {divT mapT : List Label} {thrs : List Rat}
    {rs : List Res} {gl : List Label} {l : Label} {t : Rat} (hl : l ∉ divT)
    (hno : ∀ r ∈ rs, bucketLabel (some divT) r ≠ some l) :
    Pipeline.frameMap2 m is2d divT (l :: mapT) (t :: thrs) rs gl = .error "KeyError" := by
  unfold Pipeline.frameMap2 mapOf
  simp only [List.zip_cons_cons, mapLoop, lookupKey_frameBuckets_missing hl hno]

/-- … hence `add_frame_result` → `evaluate_frame` raises and stores nothing: `Pipeline.detectFrame` returns an error
whenever the first `Map` of the frame has a label (with a threshold) that the critical filter's target labels do not
cover and under which no surviving object result is filed -/
theorem detectFrame_error_of_uncovered_label (f : Pipeline.Frame) (rs : List Matching.Res)
    (hr : Matching.getObjectResults f.cfg f.scene = .ok rs) (mc : Pipeline.MapCfg) (rest : List Pipeline.MapCfg)
    (hm : f.maps = mc :: rest) {l : Label} {t : Rat} (hmem : (l, t) ∈ f.mapTargets.zip mc.thrs)
    (hl : l ∉ f.critTargets)
    (hno : ∀ r ∈ Pipeline.apResults f mc.mode rs, bucketLabel (some f.critTargets) r ≠ some l) :
    ∃ e, Pipeline.detectFrame f = .error e := by
  obtain ⟨e, he⟩ := frameMap2_error_of_uncovered_label (m := mc.mode) (is2d := false) (thrs := mc.thrs)
    (gl := (Pipeline.apGts f).map (·.label)) hmem hl hno
  refine ⟨e, ?_⟩
  unfold Pipeline.detectFrame
  rw [hr, hm]
  simp only [Pipeline.mapsFor, Pipeline.mapFor, he]

/-! ### the instance: the frame of `Properties/Pipeline.lean` with the critical filter's labels `[car]` only, metrics
labels `[car, pedestrian]` — `KeyError`, as the real code (`add_frame_result` raises `KeyError(<AutowareLabel.PEDESTRIAN>)`,
`len(manager.frame_results)` stays 0) -/

example : (match Pipeline.detectFrame { PipelineProps.exFrame with critTargets := [2] } with
    | .error e => some e
    | .ok _ => none) = some "KeyError" := by decide +kernel
/-- a permutation of the labels changes no score (the dicts are read by key), nor does the superset `[2, 4, 7]` here: no
estimate carries the extra label 7 -/
example : (Pipeline.detectFrame { PipelineProps.exFrame with critTargets := [4, 2] }).toOption.map (·.maps)
      = (Pipeline.detectFrame PipelineProps.exFrame).toOption.map (·.maps) ∧
    (Pipeline.detectFrame { PipelineProps.exFrame with critTargets := [2, 4, 7] }).toOption.map (·.maps)
      = (Pipeline.detectFrame PipelineProps.exFrame).toOption.map (·.maps) := by decide +kernel

end PEval.C13
