import PEval.Lemmas.Label
import PEval.Lemmas.LabelDoc
import PEval.Gen.DocLabels
/-!
# C14 — label names convert totally, case-insensitively and consistently with merging

`PEval.Gen.*Pairs*` are the tables the code's table builders return in the current tree
(regenerated on every run), `PEval.Gen.autowareLabel` / `trafficLightLabel` the enums. What is asked
of the tables themselves is evaluated (`families_ok`, and a few single facts); the statements over
*all strings* follow from that by the general lemmas of `PEval.Lemmas.Label`.  The theorems over whole tables do not lower- or upper-case a
string by evaluation (slow in the kernel; only examples on single strings do): that a name is in lower
case is read off its bytes (`String.toLower_eq_self`), and the conversion of such a name is the plain
lookup `lookupFirst`, which only compares strings.  After the conversion laws come the constructor's
dispatch on prefix and task, the `None` / empty target list, and the comparison of the code's tables with
the tables of docs/en/perception/label.md (`PEval.Gen.doc*`), with the defective variants that comparison
excludes.
-/
namespace PEval.C14
open PEval.Label PEval

/-- the four tables in use -/
def tables : List Table :=
  [Gen.autowarePairs, Gen.autowarePairsMerged, Gen.trafficLightPairsClassification, Gen.trafficLightPairsOther]

/-! ## side conditions on the regenerated tables

What C14 asks of ONE code table, against the enum of its label family and against its table in label.md, is one decidable
proposition `Family.OK` = `Family.Hygiene ∧ Family.Documented`; `families_ok` evaluates it for the four tables in a single
declaration, because the kernel encodes the string literals of a table, and compares them, anew in every declaration that
evaluates something on it.  Each clause is, or given the other clauses implies, the statement of one of the
theorems of this file that cite it by name (`names_lowercase`, `names_nodup`, `*_labels_are_members`, `canonical_roundtrip_*`,
`doc_names_lowercase`, `documented_rows_*`, `registered_names_documented`, `undocumented_lists_exact`), so all of those
statements follow from `families_ok`.  A regenerated table that breaks one of them therefore shows up as a failure of
`families_ok`, not of the theorem that states the clause. -/

/-- Observation O9 of DESIGN.md §7: rows of label.md, `TrafficLightLabel`, on which the documentation and
the code disagree.  The document lists the names `red_left_straight` / `red_right_straight` (labels `TRAFFIC_LIGHT`
for detection / tracking, `RED_LEFT_STRAIGHT` / `RED_RIGHT_STRAIGHT` for classification); the code registers
`red_straight_left` / `red_straight_right` and the enum has no member `RED_LEFT_STRAIGHT` / `RED_RIGHT_STRAIGHT`:
the documented names convert to `UNKNOWN` (`doc_exceptions_exact`).  The theorems about the traffic-light family are
stated modulo exactly these rows. -/
def docExceptionsOther : List (String × String) :=
  [("red_left_straight", "TRAFFIC_LIGHT"), ("red_right_straight", "TRAFFIC_LIGHT")]
def docExceptionsClassification : List (String × String) :=
  [("red_left_straight", "RED_LEFT_STRAIGHT"), ("red_right_straight", "RED_RIGHT_STRAIGHT")]

/-- one of the four tables with what it is compared against: the enum of its label family, its table in label.md, the
names label.md does not mention, the rows on which label.md and the code are known to disagree.  Orientation: `code`
rows are `(label, name)` (`Label.Table`), `doc` and `exceptions` rows `(name, label)` as `Gen.doc*` has them, `enum` rows
`(member, value)` — so an enum row can be a `code` row: the member's own value registered as a name for it -/
structure Family where
  enum : List (String × String)
  code : Table
  doc : List (String × String)
  undocumented : List String
  exceptions : List (String × String)

def autoware : Family := ⟨Gen.autowareLabel, Gen.autowarePairs, Gen.docAutoware, Gen.undocumentedAutoware, []⟩
def autowareMerged : Family :=
  ⟨Gen.autowareLabel, Gen.autowarePairsMerged, Gen.docAutowareMerged, Gen.undocumentedAutowareMerged, []⟩
def tlClassification : Family :=
  ⟨Gen.trafficLightLabel, Gen.trafficLightPairsClassification, Gen.docTrafficLightClassification,
    Gen.undocumentedTrafficLightClassification, docExceptionsClassification⟩
def tlOther : Family :=
  ⟨Gen.trafficLightLabel, Gen.trafficLightPairsOther, Gen.docTrafficLightOther, Gen.undocumentedTrafficLightOther,
    docExceptionsOther⟩

/-- the table by itself and against its enum: names in lower case (read off their bytes) and pairwise distinct; labels are
members of the enum, which has `UNKNOWN`; the canonical pair of a produced label is a row, or else its value converts to it -/
def Family.Hygiene (f : Family) : Prop :=
  (∀ p ∈ f.code, p.2.noCapitalByte = true) ∧ (regNames f.code).Nodup ∧
  (∀ p ∈ f.code, p.1 ∈ f.enum.map (·.1)) ∧ "UNKNOWN" ∈ f.enum.map (·.1) ∧
  (∀ p ∈ f.code, ∀ m ∈ f.enum, m.1 = p.1 → m ∈ f.code ∨ convertLabel f.code m.2 = p.1)

/-- the table against label.md: documented names in lower case; a documented row that is no exception is what the lookup
answers; with a parsed document every row is documented or listed as undocumented; that list is exact -/
def Family.Documented (f : Family) : Prop :=
  (∀ p ∈ f.doc, p.1.noCapitalByte = true) ∧
  (∀ p ∈ f.doc, p ∉ f.exceptions → (lookupFirst f.code p.1).getD "UNKNOWN" = p.2) ∧
  (Gen.docLabelsParsed = true → ∀ p ∈ f.code, (p.2, p.1) ∈ f.doc ∨ p.2 ∈ f.undocumented) ∧
  (∀ n ∈ f.undocumented, n ∈ regNames f.code ∧ n ∉ f.doc.map (·.1))

def Family.OK (f : Family) : Prop := f.Hygiene ∧ f.Documented

instance (f : Family) : Decidable f.Hygiene := by unfold Family.Hygiene; infer_instance
instance (f : Family) : Decidable f.Documented := by unfold Family.Documented; infer_instance
instance (f : Family) : Decidable f.OK := by unfold Family.OK; infer_instance

section clauses
variable {f : Family}

theorem Family.OK.hygiene : f.OK → f.Hygiene | ⟨h, _⟩ => h
theorem Family.OK.documented : f.OK → f.Documented | ⟨_, h⟩ => h

theorem Family.Hygiene.lower : f.Hygiene → ∀ p ∈ f.code, p.2.toLower = p.2
  | ⟨h, _⟩, p, hp => String.toLower_eq_self (h p hp)
theorem Family.Hygiene.nodup : f.Hygiene → (regNames f.code).Nodup | ⟨_, h, _⟩ => h
theorem Family.Hygiene.members : f.Hygiene → ∀ p ∈ f.code, p.1 ∈ f.enum.map (·.1) | ⟨_, _, h, _⟩ => h
theorem Family.Hygiene.unknown : f.Hygiene → "UNKNOWN" ∈ f.enum.map (·.1) | ⟨_, _, _, h, _⟩ => h

/-- the canonical pair `(member, value)` of a label the table produces is normally itself a row of the table, which
settles the claim by comparing strings; the other alternative of the clause is the claim itself, evaluated only for a
member whose canonical pair is no row -/
theorem Family.Hygiene.canonical (h : f.Hygiene) :
    ∀ p ∈ f.code, ∀ m ∈ f.enum, m.1 = p.1 → convertLabel f.code m.2 = p.1
  | p, hp, m, hm, e => match h with
    | ⟨_, _, _, _, hc⟩ => (hc p hp m hm e).elim (fun hmt => e ▸ convertLabel_of_mem h.nodup hmt (h.lower m hmt)) id

theorem Family.Documented.doc_lower : f.Documented → ∀ p ∈ f.doc, p.1.toLower = p.1
  | ⟨h, _⟩, p, hp => String.toLower_eq_self (h p hp)

theorem Family.Documented.rows (h : f.Documented) : ∀ p ∈ f.doc, p ∉ f.exceptions → convertLabel f.code p.1 = p.2
  | p, hp, hn => match h with
    | ⟨_, hr, _⟩ => (convertLabel_of_lower _ (h.doc_lower p hp)).trans (hr p hp hn)

theorem Family.Documented.registered : f.Documented → Gen.docLabelsParsed = true →
    ∀ p ∈ f.code, (p.2, p.1) ∈ f.doc ∨ p.2 ∈ f.undocumented | ⟨_, _, h, _⟩ => h
theorem Family.Documented.undocumented_exact : f.Documented →
    ∀ n ∈ f.undocumented, n ∈ regNames f.code ∧ n ∉ f.doc.map (·.1) | ⟨_, _, _, h⟩ => h

end clauses

theorem families_ok : autoware.OK ∧ autowareMerged.OK ∧ tlClassification.OK ∧ tlOther.OK := by decide +kernel

theorem autoware_ok : autoware.OK := let ⟨h, _⟩ := families_ok; h
theorem autowareMerged_ok : autowareMerged.OK := let ⟨_, h, _⟩ := families_ok; h
theorem tlClassification_ok : tlClassification.OK := let ⟨_, _, h, _⟩ := families_ok; h
theorem tlOther_ok : tlOther.OK := let ⟨_, _, _, h⟩ := families_ok; h

theorem forall_tables {P : Table → Prop} (h : ∀ f : Family, f.OK → P f.code) : ∀ t ∈ tables, P t := by
  simp only [tables, List.forall_mem_cons, List.not_mem_nil, false_imp_iff, implies_true, and_true]
  exact ⟨h _ autoware_ok, h _ autowareMerged_ok, h _ tlClassification_ok, h _ tlOther_ok⟩

theorem names_lowercase : ∀ t ∈ tables, ∀ p ∈ t, p.2.toLower = p.2 := forall_tables fun _ h => h.hygiene.lower
theorem names_nodup : ∀ t ∈ tables, (regNames t).Nodup := forall_tables fun _ h => h.hygiene.nodup

theorem autoware_labels_are_members :
    (∀ p ∈ Gen.autowarePairs, p.1 ∈ Gen.autowareLabel.map (·.1)) ∧
    (∀ p ∈ Gen.autowarePairsMerged, p.1 ∈ Gen.autowareLabel.map (·.1)) ∧
    "UNKNOWN" ∈ Gen.autowareLabel.map (·.1) :=
  ⟨autoware_ok.hygiene.members, autowareMerged_ok.hygiene.members, autoware_ok.hygiene.unknown⟩

theorem trafficLight_labels_are_members :
    (∀ p ∈ Gen.trafficLightPairsClassification, p.1 ∈ Gen.trafficLightLabel.map (·.1)) ∧
    (∀ p ∈ Gen.trafficLightPairsOther, p.1 ∈ Gen.trafficLightLabel.map (·.1)) ∧
    "UNKNOWN" ∈ Gen.trafficLightLabel.map (·.1) :=
  ⟨tlClassification_ok.hygiene.members, tlOther_ok.hygiene.members, tlClassification_ok.hygiene.unknown⟩

theorem merged_table_rel :
    Gen.autowarePairsMerged = Gen.autowarePairs.map (fun p => (mergeImage p.1, p.2)) := by decide +kernel

theorem classification_table : trafficLightTable "CLASSIFICATION2D" = Gen.trafficLightPairsClassification ∧
    trafficLightTable "DETECTION2D" = Gen.trafficLightPairsOther := by decide +kernel

/-! ## totality: the result is always a member of the label family -/

theorem convert_total_autoware (merge : Bool) (s : String) :
    convertLabel (if merge then Gen.autowarePairsMerged else Gen.autowarePairs) s ∈ Gen.autowareLabel.map (·.1) := by
  obtain ⟨h1, h2, hu⟩ := autoware_labels_are_members
  cases merge
  · exact convertLabel_mem h1 hu s
  · exact convertLabel_mem h2 hu s

theorem convert_total_trafficLight (task s : String) :
    convertLabel (trafficLightTable task) s ∈ Gen.trafficLightLabel.map (·.1) := by
  obtain ⟨h1, h2, hu⟩ := trafficLight_labels_are_members
  rcases trafficLightTable_cases task with ht | ht <;> rw [ht]
  · exact convertLabel_mem h1 hu s
  · exact convertLabel_mem h2 hu s

/-! ## letter case is ignored -/

theorem convert_case_insensitive (t : Table) (s s' : String) (h : s.toLower = s'.toLower) :
    convertLabel t s = convertLabel t s' ∧ convertName t s = convertName t s' := by
  unfold convertLabel convertName; rw [h]; exact ⟨rfl, rfl⟩

/-- every registered name, in every case variant, maps to the label it is registered for -/
theorem registered_any_case : ∀ t ∈ tables, ∀ p ∈ t, ∀ s : String, s.toLower = p.2 →
    convertLabel t s = p.1 := by
  intro t ht p hp s hs
  exact convertLabel_of_mem (names_nodup t ht) hp hs

theorem registered_upper : ∀ t ∈ tables, ∀ p ∈ t, convertLabel t p.2.toUpper = p.1 := by
  intro t ht p hp
  exact registered_any_case t ht p hp _ (by rw [String.toLower_toUpper, names_lowercase t ht p hp])

/-! ## every producible label is the image of its own canonical name -/

theorem canonical_roundtrip_autoware :
    (∀ p ∈ Gen.autowarePairs, ∀ m ∈ Gen.autowareLabel, m.1 = p.1 → convertLabel Gen.autowarePairs m.2 = p.1) ∧
    (∀ p ∈ Gen.autowarePairsMerged, ∀ m ∈ Gen.autowareLabel, m.1 = p.1 →
      convertLabel Gen.autowarePairsMerged m.2 = p.1) :=
  ⟨autoware_ok.hygiene.canonical, autowareMerged_ok.hygiene.canonical⟩

theorem canonical_roundtrip_trafficLight :
    (∀ p ∈ Gen.trafficLightPairsClassification, ∀ m ∈ Gen.trafficLightLabel, m.1 = p.1 →
      convertLabel Gen.trafficLightPairsClassification m.2 = p.1) ∧
    (∀ p ∈ Gen.trafficLightPairsOther, ∀ m ∈ Gen.trafficLightLabel, m.1 = p.1 →
      convertLabel Gen.trafficLightPairsOther m.2 = p.1) :=
  ⟨tlClassification_ok.hygiene.canonical, tlOther_ok.hygiene.canonical⟩

/-! ## unregistered names map to unknown -/

theorem unregistered_unknown (t : Table) (s : String) (h : s.toLower ∉ regNames t) :
    convertLabel t s = "UNKNOWN" ∧ convertName t s = "UNKNOWN" := by
  constructor
  · rw [convertLabel_eq, lookupFirst, List.find?_key_eq_none Prod.snd h]; rfl
  · rw [convertName, foldl_last_none _ _ _ h]; rfl

/-! ## merging -/

/-- for EVERY string: converting with merging = merged image of converting without -/
theorem merge_consistent (s : String) :
    convertLabel Gen.autowarePairsMerged s = mergeImage (convertLabel Gen.autowarePairs s) := by
  rw [merged_table_rel]; exact convertLabel_map mergeImage rfl _ _

/-! ## target lists are resolved with the same mapping as object labels -/

theorem targets_same_mapping : ∀ t ∈ tables, ∀ s : String, convertName t s = convertLabel t s := by
  intro t ht s; exact convertName_eq_convertLabel (names_nodup t ht) s

theorem setTargetLists_eq_map (t : Table) (ht : t ∈ tables) (family : String) (l : List String) (hl : l ≠ []) :
    setTargetLists (some l) t family = l.map (convertLabel t) := by
  cases l with
  | nil => exact absurd rfl hl
  | cons a l => exact List.map_congr_left fun s _ => targets_same_mapping t ht s

/-! ## non-vacuity -/
example : convertLabel Gen.autowarePairs "Vehicle.Bus" = "BUS" := by decide +kernel
example : convertLabel Gen.autowarePairsMerged "Vehicle.Bus" = "CAR" := by decide +kernel
example : ("no such thing" : String).toLower ∉ regNames Gen.autowarePairs := by decide +kernel
example : Gen.autowarePairs ∈ tables := List.mem_cons_self

/-! ## the regenerated tables are not empty (an empty table would make every `∀ p ∈ table` theorem above vacuous) -/
theorem label_tables_nonempty :
    Gen.autowareLabel ≠ [] ∧ Gen.trafficLightLabel ≠ [] ∧ Gen.autowarePairs ≠ [] ∧ Gen.autowarePairsMerged ≠ [] ∧
    Gen.trafficLightPairsClassification ≠ [] ∧ Gen.trafficLightPairsOther ≠ [] ∧ Gen.trafficLightTableOfTask ≠ [] := by
  decide +kernel

/-! ## the constructor's dispatch reaches only the four tables (every task, every prefix) -/

/-- whatever the prefix, the merge flag and the task: an accepted constructor call uses one of the four tables, and
the family it reports is the one of that table -/
theorem tableFor_mem_tables (labelPrefix : String) (merge : Bool) (task : String) (t : Table) (fam : String)
    (h : tableFor labelPrefix merge task = .ok (t, fam)) :
    t ∈ tables ∧
    ((labelPrefix = "autoware" ∧ fam = "autoware" ∧ t = (if merge then Gen.autowarePairsMerged else Gen.autowarePairs)) ∨
     (labelPrefix = "traffic_light" ∧ fam = "traffic_light" ∧ t = trafficLightTable task)) := by
  revert h
  fun_cases tableFor labelPrefix merge task with
  | case1 h1 =>
    rintro ⟨⟩
    exact ⟨by cases merge <;> simp [tables], .inl ⟨eq_of_beq h1, rfl, rfl⟩⟩
  | case2 _ h2 =>
    rintro ⟨⟩
    exact ⟨by rcases trafficLightTable_cases task with e | e <;> simp [tables, e], .inr ⟨eq_of_beq h2, rfl, rfl⟩⟩
  | case3 | case4 => nofun

/-- the error exits of the constructor, characterised: `NotImplementedError` exactly for the two announced prefixes,
`ValueError` exactly for every other string but the two supported ones; nothing else fails -/
theorem tableFor_error_iff (labelPrefix : String) (merge : Bool) (task : String) :
    (tableFor labelPrefix merge task = .error "NotImplementedError" ↔
      (labelPrefix = "blinker" ∨ labelPrefix = "brake_lamp")) ∧
    (tableFor labelPrefix merge task = .error "ValueError" ↔
      (labelPrefix ≠ "autoware" ∧ labelPrefix ≠ "traffic_light" ∧ labelPrefix ≠ "blinker" ∧ labelPrefix ≠ "brake_lamp")) ∧
    ((∃ r, tableFor labelPrefix merge task = .ok r) ↔ (labelPrefix = "autoware" ∨ labelPrefix = "traffic_light")) := by
  fun_cases tableFor labelPrefix merge task <;> grind

/-- every task of the current tree gets one of the two traffic-light tables, and the table named in the regenerated
task list is the one the model's dispatch picks -/
theorem trafficLight_table_of_every_task :
    ∀ p ∈ Gen.trafficLightTableOfTask,
      (p.2 = "classification" → trafficLightTable p.1 = Gen.trafficLightPairsClassification) ∧
      (p.2 ≠ "classification" → trafficLightTable p.1 = Gen.trafficLightPairsOther) := by decide +kernel

/-! ## witnesses inside the traffic-light tables (an empty or swapped regenerated table fails these) -/

theorem trafficLight_tables_witness :
    convertLabel Gen.trafficLightPairsClassification "RED" = "RED" ∧
    convertLabel Gen.trafficLightPairsClassification "Green" = "GREEN" ∧
    convertLabel Gen.trafficLightPairsOther "green" = "TRAFFIC_LIGHT" ∧
    convertLabel Gen.trafficLightPairsOther "RED" = "TRAFFIC_LIGHT" ∧
    convertLabel Gen.trafficLightPairsOther "unknown" = "UNKNOWN" ∧
    Gen.trafficLightPairsClassification ≠ Gen.trafficLightPairsOther := by decide +kernel

/-! ## `None` / empty target list = every member of the family, in definition order -/

theorem setTargetLists_empty_all (labelPrefix : String) (merge : Bool) (task : String) (t : Table) (fam : String)
    (h : tableFor labelPrefix merge task = .ok (t, fam)) :
    setTargetLists none t fam = setTargetLists (some []) t fam ∧
    setTargetLists none t fam =
      (if labelPrefix = "autoware" then Gen.autowareLabel.map (·.1) else Gen.trafficLightLabel.map (·.1)) ∧
    setTargetLists none t fam ≠ [] := by
  obtain ⟨_, hc⟩ := tableFor_mem_tables _ _ _ _ _ h
  obtain ⟨ha, htl, _⟩ := label_tables_nonempty
  rcases hc with ⟨rfl, rfl, _⟩ | ⟨rfl, rfl, _⟩ <;> simp [setTargetLists, familyMembers, ha, htl]

/-- the statement fails for the defective variant that answers `[]` -/
example : setTargetLists_noDefault none Gen.autowarePairs ≠ Gen.autowareLabel.map (·.1) := by decide +kernel

/-! ## the DOCUMENTED mapping

`Gen.doc*` are the tables of `docs/en/perception/label.md` of the working tree, parsed on every run by the translator
(`harness/gen_tables.py: gen_doc_labels`): `(documented name, label member name)`.  They are an INDEPENDENT source:
the theorems below compare the code's tables with them.  If the document cannot be found or parsed the translator
emits empty tables and `Gen.docLabelsParsed = false`; every theorem below then holds trivially and `c14.py` reports
`doc:untranslatable`. -/

/-- the documented table of the Autoware family for a merge setting -/
def docAutowareFor (merge : Bool) : List (String × String) :=
  if merge then Gen.docAutowareMerged else Gen.docAutoware

/-- documented names are written in lower case (so "every case variant of a documented name" is `s.toLower = name`) -/
theorem doc_names_lowercase :
    ∀ d ∈ [Gen.docAutoware, Gen.docAutowareMerged, Gen.docTrafficLightOther, Gen.docTrafficLightClassification],
      ∀ p ∈ d, p.1.toLower = p.1 := by
  simp only [List.forall_mem_cons, List.not_mem_nil, false_imp_iff, implies_true, and_true]
  exact ⟨autoware_ok.documented.doc_lower, autowareMerged_ok.documented.doc_lower, tlOther_ok.documented.doc_lower,
    tlClassification_ok.documented.doc_lower⟩

/-- table level, Autoware family, both merge settings: looking a documented name up in the code's table gives the
documented label (also for a documented name the code does not register, e.g. `static_object.forklift` ↦ UNKNOWN) -/
theorem documented_rows_autoware :
    (∀ p ∈ Gen.docAutoware, convertLabel Gen.autowarePairs p.1 = p.2) ∧
    (∀ p ∈ Gen.docAutowareMerged, convertLabel Gen.autowarePairsMerged p.1 = p.2) := by
  exact ⟨fun p hp => autoware_ok.documented.rows p hp List.not_mem_nil,
    fun p hp => autowareMerged_ok.documented.rows p hp List.not_mem_nil⟩

/-- table level, traffic-light family, modulo the listed disagreements -/
theorem documented_rows_trafficLight :
    (∀ p ∈ Gen.docTrafficLightOther, p ∉ docExceptionsOther → convertLabel Gen.trafficLightPairsOther p.1 = p.2) ∧
    (∀ p ∈ Gen.docTrafficLightClassification, p ∉ docExceptionsClassification →
      convertLabel Gen.trafficLightPairsClassification p.1 = p.2) := by
  exact ⟨tlOther_ok.documented.rows, tlClassification_ok.documented.rows⟩

/-- the tasks the document names for each traffic-light table get that table from the code -/
theorem documented_tasks_tables :
    (∀ task ∈ Gen.docTrafficLightOtherTasks, trafficLightTable task = Gen.trafficLightPairsOther) ∧
    (∀ task ∈ Gen.docTrafficLightClassificationTasks, trafficLightTable task = Gen.trafficLightPairsClassification) := by
  decide +kernel

theorem Family.OK.convert_of_row {f : Family} (h : f.OK) : ∀ p ∈ f.doc, p ∉ f.exceptions → ∀ s : String, s.toLower = p.1 →
    convertLabel f.code s = p.2 ∧ convertName f.code s = p.2 := by
  intro p hp hn s hs
  have hc : convertLabel f.code s = p.2 :=
    (convert_case_insensitive _ s p.1 (hs.trans (h.documented.doc_lower p hp).symm)).1.trans (h.documented.rows p hp hn)
  exact ⟨hc, (convertName_eq_convertLabel h.hygiene.nodup s).trans hc⟩

/-- **every documented name converts to its documented label** — Autoware family: for both merge settings, for every
task (the document describes one table for all tasks), through the constructor's dispatch, in every case variant, at
both entry points (`convert_label` for object labels, `convert_name` for target lists) -/
theorem documented_names_convert_autoware (merge : Bool) (task : String) (t : Table) (fam : String)
    (ht : tableFor "autoware" merge task = .ok (t, fam)) :
    ∀ p ∈ docAutowareFor merge, ∀ s : String, s.toLower = p.1 →
      convertLabel t s = p.2 ∧ convertName t s = p.2 := by
  rw [tableFor_autoware] at ht; cases ht
  cases merge
  · exact fun p hp => autoware_ok.convert_of_row p hp List.not_mem_nil
  · exact fun p hp => autowareMerged_ok.convert_of_row p hp List.not_mem_nil

/-- **every documented name converts to its documented label** — traffic-light family: for every task the document
names (detection2d / tracking2d: the one-label table; classification2d: the per-colour table), whatever the merge flag,
through the constructor's dispatch, in every case variant, at both entry points; modulo the rows of observation O9
(`docExceptionsOther`, `docExceptionsClassification`) -/
theorem documented_names_convert_trafficLight (merge : Bool) (task : String) (t : Table) (fam : String)
    (ht : tableFor "traffic_light" merge task = .ok (t, fam)) :
    (task ∈ Gen.docTrafficLightOtherTasks → ∀ p ∈ Gen.docTrafficLightOther, p ∉ docExceptionsOther →
      ∀ s : String, s.toLower = p.1 → convertLabel t s = p.2 ∧ convertName t s = p.2) ∧
    (task ∈ Gen.docTrafficLightClassificationTasks → ∀ p ∈ Gen.docTrafficLightClassification,
      p ∉ docExceptionsClassification →
      ∀ s : String, s.toLower = p.1 → convertLabel t s = p.2 ∧ convertName t s = p.2) := by
  rw [tableFor_trafficLight] at ht; cases ht
  exact ⟨fun htask => documented_tasks_tables.1 task htask ▸ tlOther_ok.convert_of_row,
    fun htask => documented_tasks_tables.2 task htask ▸ tlClassification_ok.convert_of_row⟩

/-- the excepted rows (observation O9) are constrained from both sides, and the statement stays true when the
discrepancy is REPAIRED: for each excepted row either the documented name is not registered and the code answers
`UNKNOWN` (the unchanged tree: "row absent from the code"), or the code gives exactly the documented label ("row present
with the documented label": the code was moved towards the document).  Never a third label; and the documented label
of an excepted row is never `UNKNOWN` itself, so the two cases are distinguishable.  Inputs: the regenerated
`Gen.trafficLightPairs*` (code) — the rows themselves are the two definitions above.  The names the code registers
today for these members (`red_straight_left` / `red_straight_right`) are covered by `canonical_roundtrip_trafficLight`
and `registered_names_documented` / `undocumented_lists_exact`, not restated here. -/
theorem doc_exceptions_exact :
    (∀ p ∈ docExceptionsOther, p.2 ≠ "UNKNOWN" ∧
      ((p.1 ∉ regNames Gen.trafficLightPairsOther ∧ convertLabel Gen.trafficLightPairsOther p.1 = "UNKNOWN") ∨
       convertLabel Gen.trafficLightPairsOther p.1 = p.2)) ∧
    (∀ p ∈ docExceptionsClassification, p.2 ≠ "UNKNOWN" ∧
      ((p.1 ∉ regNames Gen.trafficLightPairsClassification ∧
          convertLabel Gen.trafficLightPairsClassification p.1 = "UNKNOWN") ∨
       convertLabel Gen.trafficLightPairsClassification p.1 = p.2)) := by decide +kernel

/-- the converse direction: every registered (label, name) of the code's tables is a row of the document with that
same label, or its name is in the regenerated list of names the document does not mention -/
theorem registered_names_documented : Gen.docLabelsParsed = true →
    (∀ p ∈ Gen.autowarePairs, (p.2, p.1) ∈ Gen.docAutoware ∨ p.2 ∈ Gen.undocumentedAutoware) ∧
    (∀ p ∈ Gen.autowarePairsMerged, (p.2, p.1) ∈ Gen.docAutowareMerged ∨ p.2 ∈ Gen.undocumentedAutowareMerged) ∧
    (∀ p ∈ Gen.trafficLightPairsOther,
      (p.2, p.1) ∈ Gen.docTrafficLightOther ∨ p.2 ∈ Gen.undocumentedTrafficLightOther) ∧
    (∀ p ∈ Gen.trafficLightPairsClassification,
      (p.2, p.1) ∈ Gen.docTrafficLightClassification ∨ p.2 ∈ Gen.undocumentedTrafficLightClassification) :=
  fun hd => ⟨autoware_ok.documented.registered hd, autowareMerged_ok.documented.registered hd,
    tlOther_ok.documented.registered hd, tlClassification_ok.documented.registered hd⟩

/-- the "undocumented" lists are exact: each of their names is registered in the code's table and occurs in no row of
the document's table (so the escape clause of `registered_names_documented` cannot hide a wrongly documented name) -/
theorem undocumented_lists_exact :
    (∀ n ∈ Gen.undocumentedAutoware, n ∈ regNames Gen.autowarePairs ∧ n ∉ Gen.docAutoware.map (·.1)) ∧
    (∀ n ∈ Gen.undocumentedAutowareMerged, n ∈ regNames Gen.autowarePairsMerged ∧ n ∉ Gen.docAutowareMerged.map (·.1)) ∧
    (∀ n ∈ Gen.undocumentedTrafficLightOther,
      n ∈ regNames Gen.trafficLightPairsOther ∧ n ∉ Gen.docTrafficLightOther.map (·.1)) ∧
    (∀ n ∈ Gen.undocumentedTrafficLightClassification,
      n ∈ regNames Gen.trafficLightPairsClassification ∧ n ∉ Gen.docTrafficLightClassification.map (·.1)) :=
  ⟨autoware_ok.documented.undocumented_exact, autowareMerged_ok.documented.undocumented_exact,
    tlOther_ok.documented.undocumented_exact, tlClassification_ok.documented.undocumented_exact⟩

/-- the document is consistent with the merging rule of the property text: its merged table is the merged image
(truck, bus → car; motorbike → bicycle) of its unmerged table, row for row as a set — this ties the hand-written
`mergeImage` to the documentation -/
theorem doc_merge_consistent :
    (∀ p ∈ Gen.docAutoware, (p.1, mergeImage p.2) ∈ Gen.docAutowareMerged) ∧
    (∀ q ∈ Gen.docAutowareMerged, ∃ p ∈ Gen.docAutoware, p.1 = q.1 ∧ mergeImage p.2 = q.2) :=
  Label.doc_merge_consistent

/-- documented labels are members of the label enum, and the documented `value` of a member is its value in the code
(modulo the two non-existent members of observation O9) -/
theorem doc_labels_are_members :
    (∀ p ∈ Gen.docAutoware ++ Gen.docAutowareMerged, p.2 ∈ Gen.autowareLabel.map (·.1)) ∧
    (∀ p ∈ Gen.docTrafficLightOther, p.2 ∈ Gen.trafficLightLabel.map (·.1)) ∧
    (∀ p ∈ Gen.docTrafficLightClassification, p ∉ docExceptionsClassification → p.2 ∈ Gen.trafficLightLabel.map (·.1)) ∧
    (∀ v ∈ Gen.docAutowareValues, v ∈ Gen.autowareLabel) ∧
    (∀ v ∈ Gen.docTrafficLightValues, v.1 ∉ docExceptionsClassification.map (·.2) → v ∈ Gen.trafficLightLabel) := by
  decide +kernel

/-- a parsed document has rows in every table and names tasks for both traffic-light tables (no vacuity) -/
theorem doc_tables_nonempty : Gen.docLabelsParsed = true →
    Gen.docAutoware ≠ [] ∧ Gen.docAutowareMerged ≠ [] ∧ Gen.docTrafficLightOther ≠ [] ∧
    Gen.docTrafficLightClassification ≠ [] ∧ Gen.docTrafficLightOtherTasks ≠ [] ∧
    Gen.docTrafficLightClassificationTasks ≠ [] := by decide +kernel

/-! ## what the documented-mapping theorems exclude: defective variants -/

/-- the alias `trailer` registered for BUS instead of TRUCK: all the table-hygiene and canonical-name
statements still hold of this table — only the comparison with the document fails -/
def badAliasTable : Table := withWrongAlias Gen.autowarePairs "trailer" "BUS"

example : (regNames badAliasTable).Nodup ∧ regNames badAliasTable = regNames Gen.autowarePairs ∧
    (∀ p ∈ badAliasTable, p.1 ∈ Gen.autowareLabel.map (·.1)) ∧
    (∀ p ∈ badAliasTable, ∀ m ∈ Gen.autowareLabel, m.1 = p.1 → convertLabel badAliasTable m.2 = p.1) := by
  decide +kernel
example : Gen.docLabelsParsed = true → ¬ (∀ p ∈ Gen.docAutoware, convertLabel badAliasTable p.1 = p.2) := by
  have h : Gen.docLabelsParsed = true →
      ¬ ∀ p ∈ Gen.docAutoware, (lookupFirst badAliasTable p.1).getD "UNKNOWN" = p.2 := by decide +kernel
  exact fun hd hc => h hd fun p hp =>
    (convertLabel_of_lower _ (doc_names_lowercase _ (by simp) p hp)).symm.trans (hc p hp)
example : Gen.docLabelsParsed = true →
    ¬ (∀ p ∈ badAliasTable, (p.2, p.1) ∈ Gen.docAutoware ∨ p.2 ∈ Gen.undocumentedAutoware) := by decide +kernel

/-- a converter that does not lower-case its argument fails `registered_upper` / `registered_any_case` -/
example : ¬ (∀ p ∈ Gen.autowarePairs, convertLabelCS Gen.autowarePairs p.2.toUpper = p.1) := by decide +kernel

/-- instances of the hypotheses of the documented-mapping theorems -/
example : tableFor "autoware" true "TRACKING" = .ok (Gen.autowarePairsMerged, "autoware") := tableFor_autoware true _
example : tableFor "traffic_light" false "TRACKING2D" = .ok (Gen.trafficLightPairsOther, "traffic_light") := by
  rw [tableFor_trafficLight]; decide +kernel
example : Gen.docLabelsParsed = true → ("TRAILER" : String).toLower ∈ (docAutowareFor true).map (·.1) := by
  decide +kernel
example : Gen.docLabelsParsed = true →
    "TRACKING2D" ∈ Gen.docTrafficLightOtherTasks ∧ ("red", "TRAFFIC_LIGHT") ∉ docExceptionsOther := by decide +kernel
example : tableFor "blinker" false "DETECTION" = .error "NotImplementedError" ∧
    tableFor "Autoware" false "DETECTION" = .error "ValueError" := by decide +kernel

end PEval.C14
