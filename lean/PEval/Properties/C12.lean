import PEval.Lemmas.SensingCrop
import PEval.Lemmas.SensingWinding
import Mathlib.Tactic.Positivity
import Mathlib.Tactic.NormNum
import Mathlib.Tactic.Ring
import Mathlib.Tactic.FieldSimp
import PEval.Gen.SensingDT
import PEval.Lemmas.SensingDT
/-!
# C12 — sensing counts exactly the points inside each box; every object classified once

All theorems are about the model `PEval/Model/Sensing.lean` (the edge scan of `crop_pointcloud`
with its `uint8` counter, `get_corners`, `DynamicObjectWithSensingResult`,
`SensingFrameResult.evaluate_frame`, `SensingEvaluationManager.add_frame_result`).
No bound on the number of points, objects or areas (the one exception, the bridge to the code's decision tables
`frame_code_table_eq_modelCode`, is explained there).
-/

namespace PEval.C12
open PEval.Sensing

/-! ## inside ⊎ outside = cloud -/

/-- The inside and the outside selection of one area are the two halves of one filter: every row is
in exactly one of them, both keep the order of the cloud, together they are the cloud. Holds for
every area (any polygon, any corner list) and every cloud. -/
theorem crop_partition (cols : Nat) (cloud : List Pt) (area : List Corner) :
    cropInside cols cloud area = cloud.filter (keepInside cols area) ∧
    cropOutside cols cloud area = cloud.filter (fun p => !keepInside cols area p) ∧
    (cropInside cols cloud area).Sublist cloud ∧ (cropOutside cols cloud area).Sublist cloud ∧
    (cropInside cols cloud area ++ cropOutside cols cloud area).Perm cloud ∧
    (cropInside cols cloud area).length + (cropOutside cols cloud area).length = cloud.length := by
  have ho : cropOutside cols cloud area = cloud.filter (fun p => !keepInside cols area p) := by
    unfold cropOutside
    congr 1
    funext p
    exact keepOutside_eq_not cols area p
  have hp : (cropInside cols cloud area ++ cropOutside cols cloud area).Perm cloud := by
    rw [ho]; exact List.filter_append_perm _ _
  refine ⟨rfl, ho, List.filter_sublist, ?_, hp, ?_⟩
  · rw [ho]; exact List.filter_sublist
  · rw [← List.length_append]; exact hp.length_eq

/-- the same through the API with its error cases: when `crop(…, inside=True)` succeeds so does
`crop(…, inside=False)` (and conversely: the condition of `crop_succeeds_iff` does not mention `inside`), and then the
two results partition the cloud -/
theorem crop_partition_api (cols : Nat) (cloud : List Pt) (area : List Corner) (ins : List Pt)
    (h : crop cols cloud area true = .ok ins) :
    ∃ outs, crop cols cloud area false = .ok outs ∧
      ins = cloud.filter (keepInside cols area) ∧ outs = cloud.filter (fun p => !keepInside cols area p) ∧
      (ins ++ outs).Perm cloud ∧ ∀ p ∈ cloud, (p ∈ ins ↔ ¬ p ∈ outs) := by
  obtain ⟨hc, hv, rfl⟩ := crop_ok_iff.mp h
  obtain ⟨_, ho, _, _, hp, _⟩ := crop_partition cols cloud area
  refine ⟨_, crop_ok_iff.mpr ⟨hc, hv, rfl⟩, rfl, ho, hp, fun p hp => ?_⟩
  rw [ho]
  simp [cropInside, List.mem_filter, hp]

/-! ## detection: count, threshold, classification -/

/-- `is_detected ⇔ inside count ≥ min_points_threshold`; the count is the length of the inside crop
with the distance-dependent scale; `is_occluded ⇔ visibility is Visibility.NONE` -/
theorem detected_iff_count (cfg : Cfg) (cols : Nat) (cloud : List Pt) (o : Obj) (r : SRes)
    (h : sensingResult cfg cols cloud o = .ok r) :
    r.gt = o.id ∧
    r.inside = cropInside cols cloud (boxCorners o.box (scaleFactor cfg o.dist)) ∧
    r.num = r.inside.length ∧
    (r.isDetected = true ↔ (r.num : Int) ≥ cfg.minPoints) ∧
    (r.isOccluded = true ↔ isNone o.visibility = true) := by
  rw [sensingResult_eq] at h
  rw [ok_of_ite h]
  simp [sres]

/-- `get_inside_pointcloud_num` and `point_exist` are the length / non-emptiness of the inside crop -/
theorem insideNum_eq (cols : Nat) (cloud : List Pt) (b : Box) (k : Rat) (n : Nat)
    (h : insideNum cols cloud b k = .ok n) :
    n = (cropInside cols cloud (boxCorners b k)).length ∧
    pointExist cols cloud b k = .ok (decide (n > 0)) := by
  refine ⟨?_, by rw [pointExist, h]; rfl⟩
  rw [insideNum, cropBox_eq] at h
  split at h
  · cases h
  · exact (Except.ok.inj h).symm

/-- `is_occluded` for a loaded annotation (a `Visibility` member): exactly the member `NONE`, which
is a member of the enum as regenerated from the source; a raw string is occluded iff it is that
member's value -/
theorem isNone_spec :
    (∀ n : String, isNone (some (.member n)) = true ↔ n = "NONE") ∧
    "NONE" ∈ Gen.visibility.map (·.1) ∧
    (∀ s : String, isNone (some (.raw s)) = true ↔ ("NONE", s) ∈ Gen.visibility) ∧
    isNone none = false := by
  refine ⟨fun n => by simp [isNone], by decide, fun s => ?_, rfl⟩
  -- both sides evaluate to an equation between `s` and the value of the member `NONE`, in opposite orientation
  simp [isNone, Gen.visibility]
  exact eq_comm

/-- the verdict of one object: `warning` takes precedence (fully occluded objects are never counted
as detected or failed), otherwise `success` iff enough points -/
theorem verdict_iff (r : SRes) :
    (classify r = .warning ↔ r.isOccluded = true) ∧
    (classify r = .success ↔ r.isOccluded = false ∧ r.isDetected = true) ∧
    (classify r = .fail ↔ r.isOccluded = false ∧ r.isDetected = false) := by
  unfold classify
  cases r.isOccluded <;> cases r.isDetected <;> simp

/-- the three result lists of a frame are the three classes of the per-object results, in the order
of the ground-truth list -/
theorem classify_lists (cfg : Cfg) (cols : Nat) (objs : List Obj) (cloud : List Pt) (nds : List (List Pt))
    (fr : FrameRes) (h : evaluateFrame cfg cols objs cloud nds = .ok fr) :
    fr.warning = (objs.map (sres cfg cols cloud)).filter (fun r => classify r = .warning) ∧
    fr.success = (objs.map (sres cfg cols cloud)).filter (fun r => classify r = .success) ∧
    fr.fail = (objs.map (sres cfg cols cloud)).filter (fun r => classify r = .fail) := by
  rw [evaluateFrame_eq] at h
  obtain ⟨pw, ps, pf, _⟩ := pushAll_lists (objs.map (sres cfg cols cloud)) {}
  rw [ok_of_ite h]
  exact ⟨pw, ps, pf⟩

/-- **every ground-truth object is reported exactly once**: the ids of warning ++ success ++ fail are
a permutation of the ids of the ground-truth list; if the ids are distinct every object is in exactly
one list; it is in `warning` iff it is annotated `Visibility.NONE` (whatever its point count), in
`success` iff it is not and has at least `min_points_threshold` points inside its scaled box. -/
theorem classify_exactly_one (cfg : Cfg) (cols : Nat) (objs : List Obj) (cloud : List Pt)
    (nds : List (List Pt)) (fr : FrameRes) (h : evaluateFrame cfg cols objs cloud nds = .ok fr) :
    ((fr.warning ++ fr.success ++ fr.fail).map (·.gt)).Perm (objs.map (·.id)) ∧
    ((objs.map (·.id)).Nodup → ∀ o ∈ objs,
        (o.id ∈ fr.warning.map (·.gt) ∧ o.id ∉ fr.success.map (·.gt) ∧ o.id ∉ fr.fail.map (·.gt)) ∨
        (o.id ∉ fr.warning.map (·.gt) ∧ o.id ∈ fr.success.map (·.gt) ∧ o.id ∉ fr.fail.map (·.gt)) ∨
        (o.id ∉ fr.warning.map (·.gt) ∧ o.id ∉ fr.success.map (·.gt) ∧ o.id ∈ fr.fail.map (·.gt))) ∧
    (∀ r ∈ fr.warning, ∃ o ∈ objs, r = sres cfg cols cloud o ∧ isNone o.visibility = true) ∧
    (∀ r ∈ fr.success, ∃ o ∈ objs, r = sres cfg cols cloud o ∧ isNone o.visibility = false ∧
        ((cropInside cols cloud (boxCorners o.box (scaleFactor cfg o.dist))).length : Int) ≥ cfg.minPoints) ∧
    (∀ r ∈ fr.fail, ∃ o ∈ objs, r = sres cfg cols cloud o ∧ isNone o.visibility = false ∧
        ((cropInside cols cloud (boxCorners o.box (scaleFactor cfg o.dist))).length : Int) < cfg.minPoints) := by
  obtain ⟨hw, hs, hf⟩ := classify_lists cfg cols objs cloud nds fr h
  rw [hw, hs, hf]
  refine ⟨?_, fun hnd o ho => ?_, ?_, ?_, ?_⟩
  · exact ((three_way_perm _).map _).trans (.of_eq (List.map_map.trans rfl))
  · have hv : ∀ v : Verdict, o.id ∈ ((objs.map (sres cfg cols cloud)).filter (fun r => classify r = v)).map (·.gt)
        ↔ classify (sres cfg cols cloud o) = v := fun v =>
      (mem_map_filter_iff (key := fun r : SRes => r.gt) (by rw [List.map_map]; exact hnd) _ (List.mem_map_of_mem ho)).trans
        decide_eq_true_iff
    rw [hv, hv, hv]
    cases classify (sres cfg cols cloud o) <;> simp
  · exact List.forall_mem_filter.mpr <| List.forall_mem_map.mpr fun o ho hc =>
      ⟨o, ho, rfl, by simpa [sres] using (verdict_iff _).1.mp (of_decide_eq_true hc)⟩
  · exact List.forall_mem_filter.mpr <| List.forall_mem_map.mpr fun o ho hc =>
      ⟨o, ho, rfl, by simpa [sres] using (verdict_iff _).2.1.mp (of_decide_eq_true hc)⟩
  · exact List.forall_mem_filter.mpr <| List.forall_mem_map.mpr fun o ho hc =>
      ⟨o, ho, rfl, by simpa [sres] using (verdict_iff _).2.2.mp (of_decide_eq_true hc)⟩

/-! ## non-detection areas -/

theorem outsideAll_iff (cfg : Cfg) (cols : Nat) (objs : List Obj) (p : Pt) :
    outsideAll cfg cols objs p = true ↔
      ∀ o ∈ objs, keepInside cols (boxCorners o.box (scaleFactor cfg o.dist)) p = false := by
  simp only [outsideAll, List.all_eq_true, keepOutside_eq_not, Bool.not_eq_true']

/-- `evaluate_frame`: the reported clouds are, for every given cloud in order, its points outside
every object's scaled box (as decided by `crop`), dropped when empty -/
theorem nondetection_exact_frame (cfg : Cfg) (cols : Nat) (objs : List Obj) (cloud : List Pt)
    (nds : List (List Pt)) (fr : FrameRes) (h : evaluateFrame cfg cols objs cloud nds = .ok fr) :
    fr.nonDetection =
      (nds.map (fun c => c.filter (outsideAll cfg cols objs))).filter (fun c => c.length ≠ 0) := by
  rw [evaluateFrame_eq] at h
  rw [ok_of_ite h]
  rfl

/-- **the reported non-detection points** of `add_frame_result`: for every non-detection area, in
order, the rows of the cloud that `crop` puts inside the area and outside every object's box scaled
by the manager's configuration and outside every target object's box scaled by the frame
configuration; areas without such a point are not reported. -/
theorem nondetection_exact (mcfg fcfg : Cfg) (cols : Nat) (objs : List Obj) (cloud : List Pt)
    (areas : List (List Corner)) (fr : FrameRes)
    (h : addFrameResult mcfg fcfg cols objs cloud areas = .ok fr) :
    fr.nonDetection =
      (areas.map (fun a => cloud.filter (fun p =>
          keepInside cols a p && (outsideAll mcfg cols objs p
            && outsideAll fcfg cols (filterUuids fcfg objs) p)))).filter (fun c => c.length ≠ 0) := by
  unfold addFrameResult at h
  obtain ⟨nd, h1, h2⟩ := bind_eq_ok.1 h
  unfold managerCrop at h1
  obtain ⟨cs, h3, h4⟩ := bind_eq_ok.1 h1
  have e3 := managerCropAreas_ok h3
  rw [managerCropObjects_eq] at h4
  have e4 := ok_of_ite h4
  rw [nondetection_exact_frame fcfg cols _ cloud nd fr h2, e4, e3]
  simp only [List.map_map, Function.comp_def, List.filter_filter, Bool.and_assoc, Bool.and_comm]

/-- point-wise reading: a row is reported for some area iff it lies in a non-detection area and in
no scaled object box -/
theorem nondetection_mem (mcfg fcfg : Cfg) (cols : Nat) (objs : List Obj) (cloud : List Pt)
    (areas : List (List Corner)) (fr : FrameRes)
    (h : addFrameResult mcfg fcfg cols objs cloud areas = .ok fr) (p : Pt) :
    (∃ c ∈ fr.nonDetection, p ∈ c) ↔
      p ∈ cloud ∧ (∃ a ∈ areas, keepInside cols a p = true) ∧
      (∀ o ∈ objs, keepInside cols (boxCorners o.box (scaleFactor mcfg o.dist)) p = false) ∧
      (∀ o ∈ filterUuids fcfg objs, keepInside cols (boxCorners o.box (scaleFactor fcfg o.dist)) p = false) := by
  rw [nondetection_exact mcfg fcfg cols objs cloud areas fr h]
  rw [← outsideAll_iff, ← outsideAll_iff]
  constructor
  · rintro ⟨c, hc, hp⟩
    rw [List.mem_filter, List.mem_map] at hc
    obtain ⟨⟨a, ha, rfl⟩, _⟩ := hc
    rw [List.mem_filter] at hp
    simp only [Bool.and_eq_true] at hp
    exact ⟨hp.1, ⟨a, ha, hp.2.1⟩, hp.2.2.1, hp.2.2.2⟩
  · rintro ⟨hp, ⟨a, ha, hk⟩, h1, h2⟩
    have hm : p ∈ cloud.filter (fun p => keepInside cols a p && (outsideAll mcfg cols objs p
        && outsideAll fcfg cols (filterUuids fcfg objs) p)) := by
      rw [List.mem_filter]; simp [hp, hk, h1, h2]
    exact ⟨_, List.mem_filter.mpr ⟨List.mem_map.mpr ⟨a, ha, rfl⟩, 
      decide_eq_true fun h0 => List.ne_nil_of_mem hm (List.length_eq_zero_iff.mp h0)⟩, hm⟩

/-! ## the geometric core

The scan counts an edge `a → b` when `a.y ≤ p.y < b.y` (up) or `b.y ≤ p.y < a.y` (down) and the point is STRICTLY left
of the crossing.  Consequence: a point on an edge line belongs to the footprint iff the infinitesimal step "+x, then +y"
takes it strictly inside.  In box coordinates `ξ ∈ [−L, L]`: the line `ξ = L` is inside iff `stepU < 0`, the line
`ξ = −L` iff `stepU > 0` (`inLen`); corners need both coordinates.  `wn_parallelogram_closed`,
`inside_iff_geometric_closed`, `scale_mono_all_points` hold for EVERY point; `wn_parallelogram`,
`inside_iff_geometric_affine`, `inside_iff_geometric` are what they say off the four edge lines of the footprint. -/

/-- the counter is the sum of the per-edge contributions modulo 256, for every area and point -/
theorem wn_is_sum_mod_256 (area : List Corner) (p : Pt) :
    wn area p = u8add 0 (((List.range (area.length / 2)).map (fun i =>
      edgeK (cornerAt area i) (cornerAt area ((i + 1) % (area.length / 2))) (cornerAt area (i + 1)) p)).sum) :=
  wn_eq_sum area p

/-- the code's `area[i + 1]` (instead of `area[next_idx]`) in the vertical-edge test cannot be observed
on a prism (second plane = first plane in xy, the documented precondition), in particular on every box -/
theorem index_quirk_unobservable (area : List Corner) (p : Pt)
    (h : (cornerAt area (area.length / 2)).y = (cornerAt area 0).y) : wn area p = wnNext area p := by
  unfold wn wnNext
  apply List.foldl_ext
  intro c i hi
  have hq : (cornerAt area (i + 1)).y = (cornerAt area ((i + 1) % (area.length / 2))).y := by
    have hi' : i < area.length / 2 := List.mem_range.mp hi
    by_cases hlast : i + 1 = area.length / 2
    · rw [hlast, Nat.mod_self, h]
    · rw [Nat.mod_eq_of_lt (by omega)]
  unfold edgeStep edgeStepNext
  simp only [hq]

theorem index_quirk_unobservable_box (b : Box) (k : ℚ) (p : Pt) :
    wn (boxCorners b k) p = wnNext (boxCorners b k) p := by
  apply index_quirk_unobservable
  have h : (boxCorners b k).length / 2 = 4 := by simp [boxCorners]
  rw [h]
  rfl

/-- the winding counter on a parallelogram for EVERY point (`det ≠ 0`): `1` / `255` when both coordinates are half-open
inside, else `0` -/
theorem wn_parallelogram_closed (cx cy ax ay bx by_ zu zl u v : ℚ) (p : Pt)
    (hD : ax * by_ - ay * bx ≠ 0)
    (hx : p.x = cx + u * ax + v * bx) (hy : p.y = cy + u * ay + v * by_) :
    wn (paraArea cx cy ax ay bx by_ zu zl) p
      = if inHalf u (stepU ax ay bx by_) ∧ inHalf v (stepV ax ay bx by_) then
          (if 0 < ax * by_ - ay * bx then 1 else 255) else 0 :=
  wn_para_closed cx cy ax ay bx by_ zu zl u v p hD hx hy

/-- off the edge lines the half-open rule of `wn_parallelogram_closed` is the open interval: it only speaks on the lines -/
theorem inHalf_off_lines (u s : ℚ) (h1 : u ≠ 1) (h2 : u ≠ -1) : inHalf u s ↔ (-1 < u ∧ u < 1) :=
  (inHalf_iff_inLen u s).trans (inLen_of_ne s h1 h2)

/-- the exact value off the edge lines: `1` for a counter-clockwise, `255 = uint8(−1)` for a clockwise corner order -/
theorem wn_parallelogram_value (cx cy ax ay bx by_ zu zl u v : ℚ) (p : Pt)
    (hD : ax * by_ - ay * bx ≠ 0)
    (hx : p.x = cx + u * ax + v * bx) (hy : p.y = cy + u * ay + v * by_)
    (hu1 : u ≠ 1) (hu2 : u ≠ -1) (hv1 : v ≠ 1) (hv2 : v ≠ -1) :
    wn (paraArea cx cy ax ay bx by_ zu zl) p
      = if (u < 1 ∧ -1 < u ∧ v < 1 ∧ -1 < v) then (if 0 < ax * by_ - ay * bx then 1 else 255) else 0 := by
  rw [wn_parallelogram_closed cx cy ax ay bx by_ zu zl u v p hD hx hy]
  refine if_congr ?_ rfl rfl
  rw [inHalf_off_lines _ _ hu1 hu2, inHalf_off_lines _ _ hv1 hv2, and_comm (a := -1 < u), and_comm (a := -1 < v), and_assoc]

/-- every sign pattern of `(a.y, b.y)`, both orientations.
Footprint `c ± a ± b` in the corner order of the code, `det(a,b) ≠ 0`, `p = c + u·a + v·b` with
`|u| ≠ 1`, `|v| ≠ 1` (strictly off the four edge lines): the `uint8` counter is non-zero iff
`|u| < 1 ∧ |v| < 1`. -/
theorem wn_parallelogram (cx cy ax ay bx by_ zu zl u v : ℚ) (p : Pt)
    (hD : ax * by_ - ay * bx ≠ 0)
    (hx : p.x = cx + u * ax + v * bx) (hy : p.y = cy + u * ay + v * by_)
    (hu : |u| ≠ 1) (hv : |v| ≠ 1) :
    wn (paraArea cx cy ax ay bx by_ zu zl) p ≠ 0 ↔ |u| < 1 ∧ |v| < 1 :=
  Nat.pos_iff_ne_zero.symm.trans <| (wn_para_pos_iff cx cy ax ay bx by_ zu zl u v p hD hx hy).trans <|
    and_congr (inLen_iff_abs_lt _ one_pos hu) (inLen_iff_abs_lt _ one_pos hv)

/-- **inside ⇔ geometrically inside with the half-open edges**, any box with independent axes, any scale `k > 0`,
EVERY point `p.xy = c + ξ·e1 + η·e2` -/
theorem inside_iff_geometric_closed (cols : Nat) (b : Box) (k ξ η : ℚ) (p : Pt)
    (hk : 0 < k) (hl : 0 < b.l) (hw : 0 < b.w) (hh : 0 ≤ b.h) (hdet : b.e1x * b.e2y - b.e1y * b.e2x ≠ 0)
    (hx : p.x = b.cx + ξ * b.e1x + η * b.e2x) (hy : p.y = b.cy + ξ * b.e1y + η * b.e2y) :
    keepInside cols (boxCorners b k) p = true ↔
      inLen ξ (b.l / 2 * k) (stepU b.e1x b.e1y b.e2x b.e2y) ∧ inLen η (b.w / 2 * k) (stepV b.e1x b.e1y b.e2x b.e2y) ∧
        (cols < 3 ∨ (b.cz - b.h / 2 ≤ p.z ∧ p.z ≤ b.cz + b.h / 2)) := by
  have h2 : 0 ≤ b.h / 2 := div_nonneg hh zero_le_two
  have hz : b.cz - b.h / 2 ≤ b.cz + b.h / 2 := (sub_le_self _ h2).trans (le_add_of_nonneg_right h2)
  rw [keepInside_iff, zMin_box, zMax_box, min_eq_right hz, max_eq_left hz, wn_box_pos_iff b k ξ η p hk hl hw hdet hx hy,
    and_assoc]

/-- **inside ⇔ geometrically inside**, any box whose footprint axes `e1, e2` are independent (any
orientation), any scale `k > 0`: `p.xy = c + ξ·e1 + η·e2`, `|ξ| ≠ k·l/2`, `|η| ≠ k·w/2`. -/
theorem inside_iff_geometric_affine (cols : Nat) (b : Box) (k ξ η : ℚ) (p : Pt)
    (hk : 0 < k) (hl : 0 < b.l) (hw : 0 < b.w) (hh : 0 ≤ b.h) (hdet : b.e1x * b.e2y - b.e1y * b.e2x ≠ 0)
    (hx : p.x = b.cx + ξ * b.e1x + η * b.e2x) (hy : p.y = b.cy + ξ * b.e1y + η * b.e2y)
    (oξ : |ξ| ≠ b.l / 2 * k) (oη : |η| ≠ b.w / 2 * k) :
    keepInside cols (boxCorners b k) p = true ↔
      |ξ| < b.l / 2 * k ∧ |η| < b.w / 2 * k ∧
        (cols < 3 ∨ (b.cz - b.h / 2 ≤ p.z ∧ p.z ≤ b.cz + b.h / 2)) := by
  rw [inside_iff_geometric_closed cols b k ξ η p hk hl hw hh hdet hx hy, inLen_iff_abs_lt _ (by positivity) oξ,
    inLen_iff_abs_lt _ (by positivity) oη]

/-- **inside ⇔ geometrically inside** for a yawed box: with `(ξ, η)` the point's coordinates in the
box frame (rotation by `−yaw` about the centre), a row with `x, y, z` columns is kept iff
`|ξ| < k·l/2`, `|η| < k·w/2` and `cz − h/2 ≤ z ≤ cz + h/2` (z-range closed), provided the point is not
on a footprint edge line. -/
theorem inside_iff_geometric (cols : Nat) (cx cy cz c s w l h k : ℚ) (p : Pt) (hcols : 3 ≤ cols)
    (hcs : c * c + s * s = 1) (hk : 0 < k) (hl : 0 < l) (hw : 0 < w) (hh : 0 ≤ h)
    (oξ : |c * (p.x - cx) + s * (p.y - cy)| ≠ l / 2 * k)
    (oη : |(-s) * (p.x - cx) + c * (p.y - cy)| ≠ w / 2 * k) :
    keepInside cols (boxCorners (yawBox cx cy cz c s w l h) k) p = true ↔
      |c * (p.x - cx) + s * (p.y - cy)| < l / 2 * k ∧ |(-s) * (p.x - cx) + c * (p.y - cy)| < w / 2 * k ∧
        cz - h / 2 ≤ p.z ∧ p.z ≤ cz + h / 2 := by
  have key := inside_iff_geometric_affine cols (yawBox cx cy cz c s w l h) k
    (c * (p.x - cx) + s * (p.y - cy)) ((-s) * (p.x - cx) + c * (p.y - cy)) p hk hl hw hh
    (by
      simp only [yawBox]
      exact ne_of_eq_of_ne (by linear_combination hcs) one_ne_zero)
    (by
      simp only [yawBox]
      linear_combination (cx - p.x) * hcs)
    (by
      simp only [yawBox]
      linear_combination (cy - p.y) * hcs)
    oξ oη
  rw [key]
  simp only [yawBox]
  have : ¬ cols < 3 := by omega
  simp [this]

/-- which edges are inside, axis-aligned box (yaw 0): the x-min and y-min edges (and the corner between them) belong to
the box, the x-max and y-max edges do not — `[cx − L, cx + L) × [cy − W, cy + W)`, z-range closed -/
theorem inside_axis_aligned (cols : Nat) (cx cy cz w l h k : ℚ) (p : Pt) (hcols : 3 ≤ cols)
    (hk : 0 < k) (hl : 0 < l) (hw : 0 < w) (hh : 0 ≤ h) :
    keepInside cols (boxCorners (yawBox cx cy cz 1 0 w l h) k) p = true ↔
      (cx - l / 2 * k ≤ p.x ∧ p.x < cx + l / 2 * k) ∧ (cy - w / 2 * k ≤ p.y ∧ p.y < cy + w / 2 * k) ∧
        cz - h / 2 ≤ p.z ∧ p.z ≤ cz + h / 2 := by
  have sU : (0 : ℚ) < stepU 1 0 (-0) 1 := by norm_num [stepU]
  have sV : (0 : ℚ) < stepV 1 0 (-0) 1 := by norm_num [stepV]
  rw [inside_iff_geometric_closed cols (yawBox cx cy cz 1 0 w l h) k (p.x - cx) (p.y - cy) p hk hl hw hh
    (by simp [yawBox]) (by simp only [yawBox]; ring) (by simp only [yawBox]; ring)]
  simp only [yawBox, inLen_of_pos (show 0 < l / 2 * k by positivity) sU,
    inLen_of_pos (show 0 < w / 2 * k by positivity) sV, show ¬ cols < 3 by omega, false_or,
    neg_le_sub_iff_le_add, ← sub_le_iff_le_add, sub_lt_iff_lt_add']

/-- every point has box-frame coordinates when the axes are independent -/
theorem box_coords_exist (b : Box) (p : Pt) (hdet : b.e1x * b.e2y - b.e1y * b.e2x ≠ 0) :
    ∃ ξ η, p.x = b.cx + ξ * b.e1x + η * b.e2x ∧ p.y = b.cy + ξ * b.e1y + η * b.e2y := by
  generalize hD : b.e1x * b.e2y - b.e1y * b.e2x = D at hdet
  refine ⟨((p.x - b.cx) * b.e2y - (p.y - b.cy) * b.e2x) / D, (b.e1x * (p.y - b.cy) - b.e1y * (p.x - b.cx)) / D, ?_, ?_⟩
  · field_simp
    rw [← hD]
    ring
  · field_simp
    rw [← hD]
    ring

/-- `scale_mono_all_points` for a box of any height and without naming the point's box coordinates -/
theorem keepInside_scale_mono (cols : Nat) (b : Box) (k k' : ℚ) (p : Pt)
    (hk : 0 < k) (hkk : k ≤ k') (hl : 0 < b.l) (hw : 0 < b.w) (hdet : b.e1x * b.e2y - b.e1y * b.e2x ≠ 0)
    (hin : keepInside cols (boxCorners b k) p = true) : keepInside cols (boxCorners b k') p = true := by
  obtain ⟨ξ, η, hx, hy⟩ := box_coords_exist b p hdet
  have hL : b.l / 2 * k ≤ b.l / 2 * k' := mul_le_mul_of_nonneg_left hkk (by positivity)
  have hW : b.w / 2 * k ≤ b.w / 2 * k' := mul_le_mul_of_nonneg_left hkk (by positivity)
  rw [keepInside_iff, zMin_box, zMax_box, wn_box_pos_iff b k ξ η p hk hl hw hdet hx hy] at hin
  rw [keepInside_iff, zMin_box, zMax_box, wn_box_pos_iff b k' ξ η p (hk.trans_le hkk) hl hw hdet hx hy]
  exact ⟨⟨inLen_mono (by positivity) hL hin.1.1, inLen_mono (by positivity) hW hin.1.2⟩, hin.2⟩

/-- **enlarging the scale never removes an inside point** — EVERY point, the edge lines of either footprint included -/
theorem scale_mono_all_points (cols : Nat) (b : Box) (k k' ξ η : ℚ) (p : Pt)
    (hk : 0 < k) (hkk : k ≤ k') (hl : 0 < b.l) (hw : 0 < b.w) (hh : 0 ≤ b.h)
    (hdet : b.e1x * b.e2y - b.e1y * b.e2x ≠ 0)
    (hx : p.x = b.cx + ξ * b.e1x + η * b.e2x) (hy : p.y = b.cy + ξ * b.e1y + η * b.e2y)
    (hin : keepInside cols (boxCorners b k) p = true) :
    keepInside cols (boxCorners b k') p = true :=
  keepInside_scale_mono cols b k k' p hk hkk hl hw hdet hin

/-- `scale_mono_crop_all` with order and multiplicity of the rows, for a box of any height -/
theorem cropInside_scale_mono (cols : Nat) (b : Box) (k k' : ℚ) (cloud : List Pt)
    (hk : 0 < k) (hkk : k ≤ k') (hl : 0 < b.l) (hw : 0 < b.w) (hdet : b.e1x * b.e2y - b.e1y * b.e2x ≠ 0) :
    (cropInside cols cloud (boxCorners b k)).Sublist (cropInside cols cloud (boxCorners b k')) :=
  List.monotone_filter_right cloud fun p => keepInside_scale_mono cols b k k' p hk hkk hl hw hdet

/-- list form for ALL clouds: every row of the inside crop at scale `k > 0` is a row of the inside crop at `k' ≥ k` -/
theorem scale_mono_crop_all (cols : Nat) (b : Box) (k k' : ℚ) (cloud : List Pt)
    (hk : 0 < k) (hkk : k ≤ k') (hl : 0 < b.l) (hw : 0 < b.w) (hh : 0 ≤ b.h)
    (hdet : b.e1x * b.e2y - b.e1y * b.e2x ≠ 0) :
    ∀ p ∈ cropInside cols cloud (boxCorners b k), p ∈ cropInside cols cloud (boxCorners b k') :=
  fun _ hp => (cropInside_scale_mono cols b k k' cloud hk hkk hl hw hdet).subset hp

/-- the same with the point assumed off the edge lines of the smaller footprint: an instance of
`scale_mono_all_points` -/
theorem scale_mono (cols : Nat) (b : Box) (k k' ξ η : ℚ) (p : Pt)
    (hk : 0 < k) (hkk : k ≤ k') (hl : 0 < b.l) (hw : 0 < b.w) (hh : 0 ≤ b.h)
    (hdet : b.e1x * b.e2y - b.e1y * b.e2x ≠ 0)
    (hx : p.x = b.cx + ξ * b.e1x + η * b.e2x) (hy : p.y = b.cy + ξ * b.e1y + η * b.e2y)
    (oξ : |ξ| ≠ b.l / 2 * k) (oη : |η| ≠ b.w / 2 * k)
    (hin : keepInside cols (boxCorners b k) p = true) :
    keepInside cols (boxCorners b k') p = true :=
  scale_mono_all_points cols b k k' ξ η p hk hkk hl hw hh hdet hx hy hin

/-- list form: every row of the inside crop at scale `k` is a row of the inside crop at `k' ≥ k` -/
theorem scale_mono_crop (cols : Nat) (b : Box) (k k' : ℚ) (cloud : List Pt)
    (hk : 0 < k) (hkk : k ≤ k') (hl : 0 < b.l) (hw : 0 < b.w) (hh : 0 ≤ b.h)
    (hdet : b.e1x * b.e2y - b.e1y * b.e2x ≠ 0)
    (hoff : ∀ p ∈ cloud, ∃ ξ η, p.x = b.cx + ξ * b.e1x + η * b.e2x ∧ p.y = b.cy + ξ * b.e1y + η * b.e2y
      ∧ |ξ| ≠ b.l / 2 * k ∧ |η| ≠ b.w / 2 * k) :
    ∀ p ∈ cropInside cols cloud (boxCorners b k), p ∈ cropInside cols cloud (boxCorners b k') :=
  scale_mono_crop_all cols b k k' cloud hk hkk hl hw hh hdet

/-! ## scale factor -/

/-- the distance-dependent scale interpolates linearly between the scale at 0 m and at 100 m and is
monotone in the distance when `box_scale_0m ≤ box_scale_100m` -/
theorem scaleFactor_spec (cfg : Cfg) :
    scaleFactor cfg 0 = cfg.scale0 ∧ scaleFactor cfg 100 = cfg.scale100 ∧
    (cfg.scale0 ≤ cfg.scale100 → ∀ d d' : ℚ, d ≤ d' → scaleFactor cfg d ≤ scaleFactor cfg d') ∧
    (cfg.scale0 = cfg.scale100 → ∀ d : ℚ, scaleFactor cfg d = cfg.scale0) := by
  have e0 : scaleFactor cfg 0 = cfg.scale0 := by unfold scaleFactor; ring
  refine ⟨e0, by unfold scaleFactor; ring, fun h d d' hd => ?_, fun h d => ?_⟩
  · rw [← sub_nonneg, scaleFactor_sub]
    exact mul_nonneg (div_nonneg (sub_nonneg.mpr h) (by norm_num)) (sub_nonneg.mpr hd)
  · rw [← e0, ← sub_eq_zero, scaleFactor_sub, h, sub_self, zero_div, zero_mul]

/-- the distance-dependent scale is ONE linear law over every distance (it extrapolates beyond 100 m, it is
not clamped to the interval on which it is specified): equal steps in the distance change it by equal
amounts, its value at any distance is the value at 100 m continued with the same slope, and for
`box_scale_0m ≠ box_scale_100m` two different distances never get the same scale -/
theorem scaleFactor_linear (cfg : Cfg) :
    (∀ d e : ℚ, scaleFactor cfg (d + e) - scaleFactor cfg d = (cfg.scale100 - cfg.scale0) / 100 * e) ∧
    (∀ d : ℚ, scaleFactor cfg d = cfg.scale100 + (cfg.scale100 - cfg.scale0) / 100 * (d - 100)) ∧
    (cfg.scale0 ≠ cfg.scale100 → ∀ d d' : ℚ, scaleFactor cfg d = scaleFactor cfg d' → d = d') ∧
    (cfg.scale0 < cfg.scale100 → ∀ d : ℚ, 100 < d → cfg.scale100 < scaleFactor cfg d) ∧
    (cfg.scale100 < cfg.scale0 → ∀ d : ℚ, 100 < d → scaleFactor cfg d < cfg.scale100) := by
  have e100 : scaleFactor cfg 100 = cfg.scale100 := by unfold scaleFactor; ring
  refine ⟨fun d e => ?_, fun d => ?_, fun hne d d' h => ?_, fun h d hd => ?_, fun h d hd => ?_⟩
  · rw [scaleFactor_sub, add_sub_cancel_left]
  · rw [← scaleFactor_sub cfg 100 d, e100, add_sub_cancel]
  · have e := scaleFactor_sub cfg d d'
    rw [h, sub_self] at e
    rcases mul_eq_zero.mp e.symm with h1 | h1
    · rw [div_eq_zero_iff, sub_eq_zero] at h1
      exact absurd (h1.resolve_right (by norm_num)).symm hne
    · exact (sub_eq_zero.mp h1).symm
  · rw [← sub_pos, ← e100, scaleFactor_sub]
    exact mul_pos (div_pos (sub_pos.mpr h) (by norm_num)) (sub_pos.mpr hd)
  · rw [← sub_neg, ← e100, scaleFactor_sub]
    exact mul_neg_of_neg_of_pos (div_neg_of_neg_of_pos (sub_neg.mpr h) (by norm_num)) (sub_pos.mpr hd)

/-- the scale stays positive: growing boxes (`scale_100m ≥ scale_0m > 0`) at every distance, shrinking ones exactly up
to the zero crossing of the linear rule -/
theorem scaleFactor_pos (cfg : Cfg) (d : ℚ) :
    (0 < cfg.scale0 → cfg.scale0 ≤ cfg.scale100 → 0 ≤ d → 0 < scaleFactor cfg d) ∧
    (cfg.scale100 < cfg.scale0 → (0 < scaleFactor cfg d ↔ d < 100 * cfg.scale0 / (cfg.scale0 - cfg.scale100))) := by
  refine ⟨fun h0 h1 hd => ?_, fun hs => ?_⟩
  · obtain ⟨e0, _, mono, _⟩ := scaleFactor_spec cfg
    exact lt_of_lt_of_le (by rwa [e0]) (mono h1 0 d hd)
  · unfold scaleFactor
    rw [lt_div_iff₀ (sub_pos.mpr hs)]
    constructor <;> intro h <;> linarith

/-! ## non-vacuity: concrete instances of the hypotheses -/

/-- the scale beyond 100 m: growing (1 → 1.5 per 100 m gives 2 at 200 m, 6 at 1000 m) and shrinking
(2 → 1.5 per 100 m gives 1/4 at 350 m), never the value at 100 m -/
example : scaleFactor ⟨none, 1, 3/2, 1⟩ 200 = 2 ∧ scaleFactor ⟨none, 1, 3/2, 1⟩ 1000 = 6 ∧
    scaleFactor ⟨none, 2, 3/2, 1⟩ 350 = 1/4 ∧ scaleFactor ⟨none, 2, 3/2, 1⟩ 0 = 2 := by decide +kernel

/-- a counter-clockwise parallelogram with a slanted `a` and a point inside, a point outside -/
example : wn (paraArea 1 2 2 1 (-1) 3 1 0) ⟨1 + (1/2) * 2 + (1/4) * (-1), 2 + (1/2) * 1 + (1/4) * 3, 0, 0⟩ = 1 := by
  decide +kernel
example : wn (paraArea 1 2 2 1 (-1) 3 1 0) ⟨1 + (3/2) * 2 + (1/4) * (-1), 2 + (3/2) * 1 + (1/4) * 3, 0, 0⟩ = 0 := by
  decide +kernel
/-- clockwise order (negative determinant): the counter wraps to 255 -/
example : wn (paraArea 0 0 0 1 1 0 1 0) ⟨1/2, 1/2, 0, 0⟩ = 255 := by decide +kernel
/-- the arithmetic hypotheses of `wn_parallelogram` (`det ≠ 0`, `|u| ≠ 1`, `|v| ≠ 1`) and its right-hand side hold for
that instance -/
example : ∃ _cx _cy ax ay bx by_ u v : ℚ, ax * by_ - ay * bx ≠ 0 ∧ |u| ≠ 1 ∧ |v| ≠ 1 ∧ |u| < 1 ∧ |v| < 1 :=
  ⟨1, 2, 2, 1, -1, 3, 1/2, 1/4, by norm_num, by norm_num [abs_of_pos], by norm_num [abs_of_pos],
    by norm_num [abs_of_pos], by norm_num [abs_of_pos]⟩
/-- the hypotheses of `inside_iff_geometric` (and of `scale_mono`) hold for a yawed box and a concrete point -/
example : keepInside 3 (boxCorners (yawBox 1 1 0 (3/5) (4/5) 2 4 2) (3/2)) ⟨1 + 3/5, 1 + 4/5, 1/2, 0⟩ = true :=
  (inside_iff_geometric 3 1 1 0 (3/5) (4/5) 2 4 2 (3/2) ⟨1 + 3/5, 1 + 4/5, 1/2, 0⟩ (by norm_num) (by norm_num)
    (by norm_num) (by norm_num) (by norm_num) (by norm_num) (by norm_num [abs_of_pos]) (by norm_num)).mpr
    (by norm_num [abs_of_pos])
/-- a yawed box (`(c,s) = (3/5, 4/5)`), scale 3/2, three points, threshold 2: detected -/
example :
    (sensingResult ⟨none, 3/2, 3/2, 2⟩ 4
      [⟨1, 1, 0, 0⟩, ⟨1 + 3/5, 1 + 4/5, 1/2, 1⟩, ⟨9, 9, 0, 2⟩, ⟨1, 1, 5, 3⟩]
      ⟨7, some "a", yawBox 1 1 0 (3/5) (4/5) 2 4 2, 1, some (.member "FULL")⟩).map (fun r => (r.num, r.isDetected, r.isOccluded))
      = .ok (2, true, false) := by decide +kernel
/-- `evaluateFrame` on two objects (one fully occluded) and one non-detection cloud -/
example :
    (evaluateFrame ⟨none, 1, 1, 1⟩ 3
      [⟨0, some "a", yawBox 0 0 0 1 0 2 2 2, 0, some (.member "NONE")⟩, ⟨1, some "b", yawBox 10 0 0 1 0 2 2 2, 10, none⟩]
      [⟨0, 0, 0, 0⟩, ⟨5, 5, 0, 1⟩] [[⟨0, 0, 0, 0⟩, ⟨5, 5, 0, 1⟩]]).map
      (fun fr => (fr.warning.map (·.gt), fr.success.map (·.gt), fr.fail.map (·.gt), fr.nonDetection.map (·.map (·.tag))))
      = .ok ([0], [], [1], [[1]]) := by decide +kernel

/-- the half-open rule on concrete points of the axis-aligned 2 × 2 box at the origin: x-min edge and the
(x-min, y-min) corner inside, x-max edge, y-max edge and the other three corners outside -/
example :
    ([(⟨-1, 0, 0, 0⟩ : Pt), ⟨-1, -1, 0, 1⟩, ⟨0, -1, 0, 2⟩, ⟨1, 0, 0, 3⟩, ⟨0, 1, 0, 4⟩, ⟨1, 1, 0, 5⟩, ⟨-1, 1, 0, 6⟩,
      ⟨1, -1, 0, 7⟩, ⟨-1, 3, 0, 8⟩].map (keepInside 3 (boxCorners (yawBox 0 0 0 1 0 2 2 2) 1))) =
      [true, true, true, false, false, false, false, false, false] := by decide +kernel

/-- a rotated box (quarter turn): the edges that are inside turn with the box's axes: now `ξ = +L` (y-min in the world)
is inside -/
example : keepInside 3 (boxCorners (yawBox 0 0 0 0 1 2 2 2) 1) ⟨0, -1, 0, 0⟩ = true ∧
    keepInside 3 (boxCorners (yawBox 0 0 0 0 1 2 2 2) 1) ⟨0, 1, 0, 0⟩ = false ∧
    stepU (0 : ℚ) 1 (-1) 0 = 1 ∧ stepV (0 : ℚ) 1 (-1) 0 = -1 := by
  refine ⟨by decide +kernel, by decide +kernel, by norm_num [stepU], by norm_num [stepV]⟩

/-- A DEFECTIVE variant of the edge test with a NON-strict side test (`p.x ≤ x_cross`) counts the x-max edge in:
`inside_axis_aligned` fails for it -/
def edgeStep_le (area : List Corner) (n : Nat) (p : Pt) (cnt : Nat) (i : Nat) : Nat :=
  let a := cornerAt area i
  let b := cornerAt area ((i + 1) % n)
  let q := cornerAt area (i + 1)
  let vt : Rat := if q.y ≠ a.y then (p.y - a.y) / (b.y - a.y) else p.x
  let valid : Bool := decide (p.x ≤ a.x + vt * (b.x - a.x))
  let inc : Bool := decide (a.y ≤ p.y) && decide (b.y > p.y) && valid
  let dec : Bool := decide (a.y > p.y) && decide (b.y ≤ p.y) && valid
  let cnt := if inc then u8inc cnt else cnt
  if dec then u8dec cnt else cnt

def wn_le (area : List Corner) (p : Pt) : Nat :=
  (List.range (area.length / 2)).foldl (edgeStep_le area (area.length / 2) p) 0

example : wn_le (boxCorners (yawBox 0 0 0 1 0 2 2 2) 1) ⟨1, 0, 0, 0⟩ = 1 ∧
    wn (boxCorners (yawBox 0 0 0 1 0 2 2 2) 1) ⟨1, 0, 0, 0⟩ = 0 := by decide +kernel

/-! ## tie to the source: decision tables and expression trees extracted from the real code (regenerated on every run)

`harness/dt_c12.py` runs the REAL `SensingFrameConfig.get_scale_factor` on expression-tree leaves and the REAL
`SensingFrameResult.evaluate_frame` on stub objects over every assignment of the decision atoms it queries
(`PEval/Gen/SensingDT.lean`). `SensingDT.frameSkel` is the hand-written skeleton of the model over the same atoms;
`DT.agree` decides, completely for the finite decision space and by kernel evaluation, that table and skeleton give the
same result under EVERY valuation. A shape the translator cannot follow has `tree = none` (the statements are vacuous
for it; the run's evidence record says so, and the tie to the code is then carried by the correspondence runs of the
harness alone, see DESIGN.md). -/
section Table
open PEval.DT PEval.SensingDT
set_option linter.unusedTactic false
set_option linter.unreachableTactic false

/-- `compare 0 threshold` is asked once per path by the code (for every object whose crop is empty) -/
def frameSticky : List Nat := [cZeroThr]

def frameTablesOk : Bool :=
  Gen.SensingDT.tables.all fun row =>
    match row.2.2 with
    | some t => agree [] frameSticky t (frameSkel row.1 row.2.1) PA.empty
    | none => true

/-- per-run obligation (the tables are regenerated from the code on every run): the checker accepts every table -/
theorem frame_table_check : frameTablesOk = true := by decide +kernel

/-- the code's decision table of `evaluate_frame` (every tabulated shape) equals the model's skeleton under every
valuation of the atoms -/
theorem frame_code_table_eq_model :
    ∀ row ∈ Gen.SensingDT.tables, ∀ t, row.2.2 = some t → ∀ v : Val, eval t v = frameAtoms row.1 row.2.1 v := by
  intro row hrow t ht v
  have h2 := List.all_eq_true.mp frame_table_check row hrow
  rw [ht] at h2
  rw [agree_sound h2 v (by simp [consistent]), eval_frameSkel]

/-- the model's per-object result used by the bridge is the one of the frame theorems above -/
theorem sresOf_eq_sres (cfg : Cfg) (cols : Nat) (cloud : List Pt) (o : Obj) : sresOf cfg cols cloud o = sres cfg cols cloud o := rfl

/-- the CODE's table, read at the atoms of a concrete input, is the number computed from the MODEL's results:
per object (in object order) the container `classify` chooses, `isDetected`, presence of a nearest point; per
non-detection cloud whether it is reported.  `objs.length ≤ 50`: object `i` owns the atoms `2i`, `2i + 1` of
`valuationOf`, which have to stay below `99` (`compare 0 threshold`) and `100` (where the non-detection clouds begin) -/
theorem frame_code_table_eq_modelCode :
    ∀ row ∈ Gen.SensingDT.tables, ∀ t, row.2.2 = some t →
      ∀ (cfg : Cfg) (cols : Nat) (cloud : List Pt) (objs : List Obj) (rest : List (List Pt)),
        objs.length = row.1 → rest.length = row.2.1 → objs.length ≤ 50 →
        eval t (valuationOf cfg cols cloud objs rest) = .other (modelCode cfg cols cloud objs rest) := by
  intro row hrow t ht cfg cols cloud objs rest hn hk hl
  rw [frame_code_table_eq_model row hrow t ht, ← hn, ← hk]
  exact frameAtoms_valuationOf cfg cols cloud objs rest hl

/-- what a digit says -/
theorem objDigit_spec (r : SRes) :
    (objDigit r % 3 = 0 ↔ classify r = .warning) ∧ (objDigit r % 3 = 1 ↔ classify r = .success) ∧
    (objDigit r % 3 = 2 ↔ classify r = .fail) ∧ ((objDigit r / 3) % 2 = 1 ↔ r.isDetected = true) ∧
    (6 ≤ objDigit r ↔ r.num ≠ 0) := by
  unfold objDigit digit classify
  have hn : (r.num != 0) = true ↔ r.num ≠ 0 := by simp
  rw [← hn]
  cases r.isOccluded <;> cases r.isDetected <;> cases (r.num != 0) <;> decide

/-- C12 for the code's table, one object: the table's answer is the digit of the model's result, whose
`is_detected` bit is set exactly when the number of points inside the scaled box reaches the threshold, and whose
container is `warning` exactly for a fully occluded object -/
theorem table_single_object {t : DTree} (ht : (1, 0, some t) ∈ Gen.SensingDT.tables)
    (cfg : Cfg) (cols : Nat) (cloud : List Pt) (o : Obj) :
    eval t (valuationOf cfg cols cloud [o] []) = .other (objDigit (sres cfg cols cloud o) + 1) ∧
    ((objDigit (sres cfg cols cloud o) / 3) % 2 = 1 ↔
      ((cropInside cols cloud (boxCorners o.box (scaleFactor cfg o.dist))).length : Int) ≥ cfg.minPoints) ∧
    (objDigit (sres cfg cols cloud o) % 3 = 0 ↔ isNone o.visibility = true) := by
  refine ⟨?_, ?_, ?_⟩
  · rw [frame_code_table_eq_modelCode _ ht t rfl cfg cols cloud [o] [] rfl rfl (by simp)]
    simp [modelCode, digitsCode, flagsCode, sresOf_eq_sres]
  · rw [(objDigit_spec _).2.2.2.1]; simp [sres]
  · rw [(objDigit_spec _).1, (verdict_iff _).1]
    rfl

/-- without objects a non-detection cloud is reported exactly when it is non-empty (what an early `return` of
`evaluate_frame` for an empty ground-truth list breaks: seeded changes C12_B, C12_D, C12_J) -/
theorem table_no_objects {t : DTree} (ht : (0, 1, some t) ∈ Gen.SensingDT.tables)
    (cfg : Cfg) (cols : Nat) (cloud : List Pt) (c : List Pt) :
    eval t (valuationOf cfg cols cloud [] [c]) = .other (if c.length = 0 then 0 else 13 ^ 4) := by
  rw [frame_code_table_eq_modelCode _ ht t rfl cfg cols cloud [] [c] rfl rfl (by simp)]
  by_cases h : c.length = 0 <;> simp [modelCode, digitsCode, flagsCode, ndWeight, h]

/-- `get_scale_factor` run on symbolic leaves, and the scale `evaluate_frame` hands to `crop_pointcloud`, are the
model's `scaleFactor` as rational functions of (distance, box_scale_0m, box_scale_100m) -/
theorem scaleFactor_code_eq_model (cfg : Cfg) (d : ℚ) :
    Gen.SensingDT.scaleFactorGen d cfg.scale0 cfg.scale100 = scaleFactor cfg d ∧
    Gen.SensingDT.cropScaleGen d cfg.scale0 cfg.scale100 = scaleFactor cfg d := by
  unfold Gen.SensingDT.scaleFactorGen Gen.SensingDT.cropScaleGen scaleFactor
  -- the two expressions are regenerated from the code on every run and may come with or without divisions; the
  -- alternatives that do not fire are what the two linter options at the head of the section silence
  constructor <;> first | ring1 | (field_simp; ring1) | field_simp

/-- the code's expression: `box_scale_0m` at 0 m, `box_scale_100m` at 100 m, one linear law in the distance -/
theorem scaleFactor_code_spec (s0 s100 : ℚ) :
    Gen.SensingDT.scaleFactorGen 0 s0 s100 = s0 ∧ Gen.SensingDT.scaleFactorGen 100 s0 s100 = s100 ∧
    (∀ d e : ℚ, Gen.SensingDT.scaleFactorGen (d + e) s0 s100 - Gen.SensingDT.scaleFactorGen d s0 s100 = (s100 - s0) / 100 * e) ∧
    (∀ d : ℚ, 100 < d → s0 < s100 → s100 < Gen.SensingDT.scaleFactorGen d s0 s100) := by
  have h := fun d => (scaleFactor_code_eq_model ⟨none, s0, s100, 0⟩ d).1
  dsimp only at h
  obtain ⟨e0, e100, _, _⟩ := scaleFactor_spec ⟨none, s0, s100, 0⟩
  obtain ⟨l1, _, _, l4, _⟩ := scaleFactor_linear ⟨none, s0, s100, 0⟩
  simp only [h]
  exact ⟨e0, e100, l1, fun d hd hs => l4 hs d hd⟩

/-- non-vacuity: the skeleton on concrete atoms (one object, 3 points inside, threshold 2, visible → success,
detected, nearest point present: digit 1+3+6, code 11), and the checker distinguishes skeletons -/
example : frameAtoms 1 0 (valuationOf ⟨none, 1, 1, 2⟩ 3 [⟨0, 0, 0, 0⟩, ⟨1/2, 0, 0, 1⟩, ⟨0, 1/2, 0, 2⟩]
    [⟨0, none, yawBox 0 0 0 1 0 2 2 2, 0, none⟩] []) = .other 11 := by decide +kernel
example : agree [] frameSticky (frameSkel 2 0) (frameSkel 2 0) PA.empty = true := by decide +kernel
example : agree [] frameSticky (frameSkel 1 0) (frameSkel 1 1) PA.empty = false := by decide +kernel

end Table

/-! ## totality: when nothing raises

The frame-level theorems above are stated on `… = .ok fr`.  Here the `.ok` is PROVED: a cloud with at least two
columns and well-formed areas (`ValidArea`: at least three corners per plane, an even number of corners — every box
corner list is one) never raises, for every box (degenerate ones included), every scale (zero and negative included),
every configuration.  `crop_pointcloud`'s two `RuntimeError`s are the only exits (`crop_succeeds_iff`). -/
section Totality

theorem frame_total (mcfg fcfg : Cfg) (cols : Nat) (objs : List Obj) (cloud : List Pt) (areas : List (List Corner))
    (hc : 2 ≤ cols) (ha : ∀ a ∈ areas, ValidArea a) :
    ∃ fr, addFrameResult mcfg fcfg cols objs cloud areas = .ok fr := by
  obtain ⟨cs, hcs⟩ := managerCropAreas_total hc cloud areas ha
  have hn : ¬ cols < 2 := by omega
  unfold addFrameResult managerCrop
  rw [hcs, ok_bind, managerCropObjects_eq, if_neg fun h => hn h.1.1, ok_bind, evaluateFrame_eq,
    if_neg fun h => hn h.1]
  exact ⟨_, rfl⟩

theorem evaluate_frame_total (cfg : Cfg) (cols : Nat) (objs : List Obj) (cloud : List Pt) (nd : List (List Pt))
    (hc : 2 ≤ cols) : ∃ fr, evaluateFrame cfg cols objs cloud nd = .ok fr := by
  rw [evaluateFrame_eq, if_neg fun h => absurd h.1 (by omega)]
  exact ⟨_, rfl⟩

theorem crop_succeeds_iff (cols : Nat) (cloud : List Pt) (area : List Corner) (inside : Bool) :
    ((∃ r, crop cols cloud area inside = .ok r) ↔ (2 ≤ cols ∧ ValidArea area)) ∧
    (∀ k, crop cols cloud area inside = .error k → k = "RuntimeError") := by
  refine ⟨⟨fun ⟨r, h⟩ => ⟨(crop_ok_iff.mp h).1, (crop_ok_iff.mp h).2.1⟩, fun ⟨h1, h2⟩ => ⟨_, crop_ok_iff.mpr ⟨h1, h2, rfl⟩⟩⟩,
    fun k => ?_⟩
  fun_cases crop cols cloud area inside with
  | case1 | case2 => exact fun h => (Except.error.inj h).symm
  | case3 => exact nofun

/-- every box corner list is a well-formed area, whatever the box and the scale -/
theorem box_area_valid (b : Box) (k : ℚ) : ValidArea (boxCorners b k) :=
  ⟨by simp [boxCorners_length], by simp [boxCorners_length]⟩

/-- the contract matters: a one-column cloud raises as soon as one object is evaluated -/
example : (evaluateFrame ⟨none, 1, 1, 1⟩ 1 [⟨0, some "a", yawBox 0 0 0 1 0 2 2 2, 0, none⟩] [] []).map (fun _ => ()) =
    .error "RuntimeError" := by decide +kernel

/-- non-vacuity of `frame_total`: a frame with a triangular prism as non-detection area -/
example : (2 : Nat) ≤ 3 ∧ ∀ a ∈ [[(⟨0, 0, 1⟩ : Corner), ⟨4, 0, 1⟩, ⟨0, 4, 1⟩, ⟨0, 0, 0⟩, ⟨4, 0, 0⟩, ⟨0, 4, 0⟩]], ValidArea a := by
  exact ⟨by decide, List.forall_mem_singleton.mpr ⟨by decide, by decide⟩⟩

/-- a DEFECTIVE variant of `crop_pointcloud` requiring three columns (x, y AND z) breaks `evaluate_frame_total` on a
two-column cloud -/
def crop_needs3 (cols : Nat) (cloud : List Pt) (area : List Corner) (inside : Bool) : Except Err (List Pt) :=
  if cols < 3 then .error "RuntimeError" else crop cols cloud area inside

example : (∃ r, crop 2 [] (boxCorners (yawBox 0 0 0 1 0 2 2 2) 1) true = .ok r) ∧
    crop_needs3 2 [] (boxCorners (yawBox 0 0 0 1 0 2 2 2) 1) true = .error "RuntimeError" :=
  ⟨⟨[], by decide +kernel⟩, by decide +kernel⟩

end Totality

end PEval.C12
