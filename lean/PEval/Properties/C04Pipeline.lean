import PEval.Properties.Pipeline
import PEval.Properties.C04Perfect
/-!
# C04 on the composed pipeline: the 2-D `Map`, and the "AP = 1" clause with its one-to-one hypotheses discharged

`pipeline_ap_in_unit` (Properties/Pipeline.lean) already covers every per-label AP **and APH**, mAP **and mAPH** of every
`Map` of a 3-D pipeline frame (`Pipeline.mapFor` passes `is_detection_2d = False`).  Here:

* `pipeline_frameMap2_in_unit`: the same bounds for the frame-level `Map` with `is_detection_2d` FREE (2-D detection:
  no APH list) and the two label lists of `evaluate_frame` free, on the result list of the geometric matcher (which is
  also the matcher of 2-D objects that carry a ROI; the identity-based matchers of ROI-less 2-D objects are C11's).
* `pipeline_bucket_ap_one_of_perfect`, `pipeline_ap_one_of_perfect`: the clause "AP is 1 when every ground truth is
  matched by a correct estimate and no wrong estimate outranks one" for the `Ap` of every label of every `Map` of a
  pipeline frame; the hypotheses "no ground truth used twice", "ground truths of the results are ground truths of the
  frame", "ground truths pairwise different" of `C04.ap_one_of_all_matched` are DISCHARGED by C01's theorems about the
  matcher (`apResults_one_to_one`) and by `GtIdsDistinct`.
-/
namespace PEval.PipelineProps
open PEval PEval.Pipeline

/-- [0,1] for every defined AP / APH / mAP / mAPH of the frame-level `Map` in BOTH dimensions (`is2d` free) and with the
critical filter's and the metrics' label lists free, on the geometric matcher's result list -/
theorem pipeline_frameMap2_in_unit (f : Frame) (rs : List Matching.Res)
    (hr : Matching.getObjectResults f.cfg f.scene = .ok rs) (hid : GtIdsDistinct f)
    (hw : ∀ i j, 0 ≤ f.hw i j ∧ f.hw i j ≤ 1) (m : AP.Mode) (is2d : Bool) (divT mapT : List AP.Label)
    (thrs : List Rat) (mo : AP.MapOut)
    (h : frameMap2 m is2d divT mapT thrs (apResults f m rs) ((apGts f).map (·.label)) = .ok mo) :
    (∀ a ∈ mo.aps, ∀ x, a.ap = some x → 0 ≤ x ∧ x ≤ 1) ∧
    (∀ a ∈ mo.aphs, ∀ x, a.ap = some x → 0 ≤ x ∧ x ≤ 1) ∧
    (∀ x, mo.map = some x → 0 ≤ x ∧ x ≤ 1) ∧ (∀ x, mo.maph = some x → 0 ≤ x ∧ x ≤ 1) := by
  obtain ⟨hnd, hsub⟩ := apResults_one_to_one hr hid m
  exact frameMap2_in_unit hnd hsub (apResults_hw hw m rs) h

/-- the 2-D `Map` has no APH entries and an undefined mAPH -/
theorem map2d_has_no_aph (m : AP.Mode) (T : List AP.Label) (th : List Rat)
    (buckets : List (AP.Label × List (List AP.Res))) (nums : List (AP.Label × Nat)) (o : AP.MapOut)
    (h : AP.mapOf m true T th buckets nums = .ok o) : o.aphs = [] ∧ o.maph = none := by
  obtain ⟨hloop, _, hmaph⟩ := AP.mapOf_ok_iff.1 h
  have h2 : o.aphs = [] := (AP.mapLoop_ok_iff.1 hloop).2
  exact ⟨h2, by rw [hmaph, h2]; rfl⟩

theorem apGts_nodup {f : Frame} (hid : GtIdsDistinct f) : (apGts f).Nodup :=
  nodup_map_of_lt (toAPGt f) AP.Gt.id hid (List.nodup_range.filter _) fun _ hx => List.mem_range.1 (List.mem_filter.1 hx).1

/-- The "AP = 1" clause for the `Ap` of label `L` on any sub-list `v` of the frame's AP result list (in particular the
`divide_objects` bucket of `L`): the frame has a critical ground truth of label `L`, each of them is the ground truth of
a result of `v` counted correct at `t`, and no result of `v` that is not counted correct outranks a correct one.  The
one-to-one hypotheses are discharged from the matcher. -/
theorem pipeline_bucket_ap_one_of_perfect (f : Frame) (rs : List Matching.Res)
    (hr : Matching.getObjectResults f.cfg f.scene = .ok rs) (hid : GtIdsDistinct f) (m : AP.Mode) (L : AP.Label)
    (t : Rat) (v : List AP.Res) (hv : v.Sublist (apResults f m rs))
    (hex : ∃ g ∈ apGts f, g.label = L)
    (hall : ∀ g ∈ apGts f, g.label = L → ∃ r ∈ v, r.gt = some g ∧ AP.isCorrectAt m [L] [t] r = true)
    (hrank : v.Pairwise (AP.RankOK AP.Res.conf (AP.isCorrectAt m [L] [t]))) {a : AP.ApOut}
    (h : AP.apOf .ap m [L] [t] ((apGts f).filter (fun g => g.label == L)).length v = .ok a) : a.ap = some 1 := by
  obtain ⟨hnd, hsub⟩ := apResults_one_to_one hr hid m
  exact C04.ap_one_of_all_matched m L t v (apGts f) (apGts_nodup hid) (hnd.sublist (hv.filterMap _))
    (fun g hg => hsub g ((hv.filterMap _).subset hg)) hex hall hrank h

/-- … and for the `Map`s the pipeline actually builds: for every element `a` of `Map.aps` of every `Map` of the frame there
are a (label, threshold) pair of that `Map`'s configuration and that label's `divide_objects` bucket such that `a.ap` is 1
under the clause's hypotheses on that bucket.  (The statement names the pair and the bucket by membership only; that `a`
IS the `Ap` of that pair on that bucket is `frame_apCall`, used in the proof.) -/
theorem pipeline_ap_one_of_perfect (f : Frame) (o : Out) (h : detectFrame f = .ok o) (hid : GtIdsDistinct f) :
    ∀ mo ∈ o.maps, ∃ mc ∈ f.maps, ∀ a ∈ mo.aps, ∃ l t v,
      (l, t) ∈ f.mapTargets.zip mc.thrs ∧
      (l, v) ∈ AP.divideObjects (some f.critTargets) (apResults f mc.mode o.matched) ∧
      ((∃ g ∈ apGts f, g.label = l) →
       (∀ g ∈ apGts f, g.label = l → ∃ r ∈ v, r.gt = some g ∧ AP.isCorrectAt mc.mode [l] [t] r = true) →
       v.Pairwise (AP.RankOK AP.Res.conf (AP.isCorrectAt mc.mode [l] [t])) → a.ap = some 1) := by
  obtain ⟨rs, hr, hm, _, hmaps⟩ := detectFrame_ok h
  intro mo hmo
  obtain ⟨mc, hmc, hmf⟩ := mapsFor_mem hmaps mo hmo
  refine ⟨mc, hmc, ?_⟩
  intro a ha
  unfold mapFor frameMap2 at hmf
  obtain ⟨⟨l, t⟩, hz, hc⟩ := forall₂_mem_right (AP.mapOf_spec.1 hmf).1 ha
  obtain ⟨hl, hap'⟩ := frame_apCall hc
  rw [filter_label_length] at hap'
  rw [hm]
  refine ⟨l, t, _, hz, AP.lookupKey_mem (AP.lookup_divideObjects_target _ hl), ?_⟩
  intro hex hall hrank
  exact pipeline_bucket_ap_one_of_perfect f rs hr hid mc.mode l t _ List.filter_sublist hex hall hrank hap'

/-! ## non-vacuity: a frame with two cars, both found, and a phantom of lower confidence -/

def exPerfect : Frame :=
  { cfg := { policy := .default, mode := .centerDistance, targets := some ["car"],
             thresholds := some [3], fpValidation := false },
    scene := { ests := [⟨"car", "base_link"⟩, ⟨"car", "base_link"⟩, ⟨"car", "base_link"⟩],
               gts := [⟨"car", "base_link"⟩, ⟨"car", "base_link"⟩],
               val := fun i j => if i == j then 1 / 2 else 5 },
    est := fun i => ⟨1 + i, 2, 9 - (i : Rat), true⟩,
    gt := fun j => ⟨101 + j, 2, true, 101 + j⟩,
    pfTargets := [2], pfThrs := some [2],
    pfScore := fun i j => some (if i == j then 1 / 2 else 5),
    apScore := fun _ i j => some (if i == j then 1 / 2 else 5),
    hw := fun _ _ => 1,
    critTargets := [2], mapTargets := [2],
    maps := [⟨.centerDistance, [1]⟩] }

example : GtIdsDistinct exPerfect := by decide +kernel

/-- estimates 1, 2 matched to the two cars, estimate 3 unmatched with the lowest confidence; AP(car) = mAP = 1 -/
example :
    (detectFrame exPerfect).toOption.map (fun o => (o.matched, o.maps.map (fun mo => (mo.aps.map (·.ap), mo.map))))
    = some ([(0, some 0), (1, some 1), (2, none)], [([some 1], some 1)]) := by
  decide +kernel

/-- the hypotheses of `pipeline_bucket_ap_one_of_perfect` hold on the car bucket (= the whole result list) -/
example :
    let v := apResults exPerfect .centerDistance [(0, some 0), (1, some 1), (2, none)]
    (∃ g ∈ apGts exPerfect, g.label = 2)
      ∧ (∀ g ∈ apGts exPerfect, g.label = 2 →
          ∃ r ∈ v, r.gt = some g ∧ AP.isCorrectAt .centerDistance [2] [1] r = true)
      ∧ v.Pairwise (AP.RankOK AP.Res.conf (AP.isCorrectAt .centerDistance [2] [1])) := by
  decide +kernel

end PEval.PipelineProps
