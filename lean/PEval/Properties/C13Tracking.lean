import PEval.Lemmas.ManagerTrackingArith
import PEval.Lemmas.ManagerHeapTracking
/-!
# C13 (tracking part) — the manager's per-frame and scene CLEAR scores

Statements about the extended state machine `PEval.ManagerTracking` (`Model/ManagerTracking.lean`):
the machine of `Model/Manager.lean` whose stored frame results also carry the per-label buckets of
object results in the vocabulary of the CLEAR model (`PEval.Clear`, property C05), with
`evaluate_frame`'s tracking branch and `get_scene_result`'s tracking pooling computed by
`Clear.trackingScore` (= `TrackingMetricsScore`: one `CLEAR` per target label, and `_sum_clear`).

Everything holds for EVERY list of operations, every number of target labels and of configured
threshold lists, every single-frame evaluation `sem`.  "Score `(k, l)`" below is
`tracking_scores[k].clears[l]`: the `CLEAR` of the `k`-th configured threshold list for the `l`-th
target label; `cfg = sem.cfgs[k]`, `(lab, t) = zip(target_labels, cfg.thr)[l]`.

Imported by `Properties/C13.lean`, so `./check C13` covers these theorems too.
-/
namespace PEval.C13
open PEval.Manager PEval.ManagerTracking PEval.Clear PEval

variable {E C : Type}

/-! ## the extended machine is the machine of C13 plus a tracking view -/

/-- Forgetting the tracking view commutes with running: states and answers of the extended machine
project onto those of `PEval.Manager` (so `add_preserves_dataset`, `scene_eq_pooled`, … apply to it). -/
theorem tracking_machine_refines (sem : TSem E C) (s : TState) (ops : List (Op E C)) :
    (trun sem s ops).1.forget = (run sem.forget s.forget ops).1 ∧
    (trun sem s ops).2.map TOut.forget = (run sem.forget s.forget ops).2 :=
  trun_forget sem s ops

/-! ## (i) the per-frame tracking score reads the last stored frame and nothing earlier -/

/-- The tracking scores returned by `add(g, e, c)` after ANY operations `pre` from ANY state are
`evaluate_tracking` of `[bucket of frame_results[-1], current bucket]` per label (previous bucket `[]` when
nothing is stored) with the current frame's ground-truth numbers; score `(k, l)` is
`evalClear [last stored bucket, current bucket]`. -/
theorem frame_tracking_depends_on_last_only (sem : TSem E C) (s : TState) (pre : List (Op E C))
    (g : Frame) (e : E) (c : C) :
    (tlastOut sem s (pre ++ [.add g e c])).map TOut.track
      = some (frameTrack sem.labels sem.cfgs ((trun sem s pre).1.frameResults.getLast?.map (·.tb))
          (sem.evalTB g e c) (sem.evalDet g e c)) ∧
    ∀ k l cfg lab t, sem.cfgs[k]? = some cfg → (sem.labels.zip cfg.thr)[l]? = some (lab, t) →
      (tlastOut sem s (pre ++ [.add g e c])).bind (fun o => clearAt o.track k l)
        = some (evalClear ⟨cfg.maximize, [(lab, t)]⟩ ((sem.evalDet g e c).gt l)
            [viewBucket cfg.mode (prevBucket ((trun sem s pre).1.frameResults.getLast?.map (·.tb)) l),
             viewBucket cfg.mode ((sem.evalTB g e c).getD l [])]) := by
  rw [tlastOut_append_one]
  exact ⟨rfl, fun k l cfg lab t hk hl => clearAt_frameTrack _ _ _ _ _ k l cfg lab t hk hl⟩

/-- two managers whose last stored results have the same tracking view answer the same call with the
same tracking scores — whatever else their histories contain -/
theorem frame_tracking_same_last (sem : TSem E C) (s₁ s₂ : TState) (pre₁ pre₂ : List (Op E C))
    (g : Frame) (e : E) (c : C)
    (h : (trun sem s₁ pre₁).1.frameResults.getLast?.map (·.tb) = (trun sem s₂ pre₂).1.frameResults.getLast?.map (·.tb)) :
    (tlastOut sem s₁ (pre₁ ++ [.add g e c])).map TOut.track
      = (tlastOut sem s₂ (pre₂ ++ [.add g e c])).map TOut.track := by
  rw [(frame_tracking_depends_on_last_only sem s₁ pre₁ g e c).1,
    (frame_tracking_depends_on_last_only sem s₂ pre₂ g e c).1, h]

/-- … hence: whatever happened before the previous `add`, and whatever queries were interleaved, the
tracking scores are those a fresh manager computes from the two calls alone -/
theorem frame_tracking_two_step (sem : TSem E C) (s : TState) (pre qs : List (Op E C))
    (hq : ∀ op ∈ qs, op.isQuery = true)
    (g₁ g₂ : Frame) (e₁ e₂ : E) (c₁ c₂ : C) (ds : List Frame) :
    (tlastOut sem s ((pre ++ [.add g₁ e₁ c₁] ++ qs) ++ [.add g₂ e₂ c₂])).map TOut.track
      = (tlastOut sem (tfresh ds) ([.add g₁ e₁ c₁] ++ [.add g₂ e₂ c₂])).map TOut.track :=
  -- the last stored tracking view is `evalTB g₁ e₁ c₁` on both sides: on the fresh manager's by computation
  frame_tracking_same_last sem s (tfresh ds) _ [.add g₁ e₁ c₁] g₂ e₂ c₂ (trun_last_tb_add sem s pre qs hq g₁ e₁ c₁)

/-- the first `add` on a manager without history: the predecessor is the EMPTY LIST for every label
(`previous_results_dict = {label: []}`), exactly the `[]` that heads the scene-level history -/
theorem frame_tracking_first (sem : TSem E C) (ds : List Frame) (qs : List (Op E C))
    (hq : ∀ op ∈ qs, op.isQuery = true) (g : Frame) (e : E) (c : C) :
    (tlastOut sem (tfresh ds) (qs ++ [.add g e c])).map TOut.track
      = some (evaluateTracking sem.labels sem.cfgs (sem.evalDet g e c).gt
          (fun l => [[], (sem.evalTB g e c).getD l []])) := by
  rw [(frame_tracking_depends_on_last_only sem _ qs g e c).1, trun_queries sem _ qs hq]
  rfl

/-! ## (ii) the scene tracking score is CLEAR over the pooled history -/

/-- `get_scene_result` of a tracking manager in ANY state: `evaluate_tracking` of, per label, the nested
list `[[]] ++ [bucket of every stored frame, in order]` with the ground-truth numbers summed over the
stored frames; score `(k, l)` is `evalClear` of that concatenated history. -/
theorem scene_tracking_eq_pooled (sem : TSem E C) (s : TState) :
    sceneTrack sem.labels sem.cfgs (tsceneAcc sem.nLabels s)
      = evaluateTracking sem.labels sem.cfgs (fun l => (s.frameResults.map (·.det.gt l)).sum)
          (fun l => [] :: s.frameResults.map (·.bucket l)) ∧
    ∀ k l cfg lab t, sem.cfgs[k]? = some cfg → (sem.labels.zip cfg.thr)[l]? = some (lab, t) →
      clearAt (sceneTrack sem.labels sem.cfgs (tsceneAcc sem.nLabels s)) k l
        = some (evalClear ⟨cfg.maximize, [(lab, t)]⟩ (s.frameResults.map (·.det.gt l)).sum
            (([] :: s.frameResults.map (·.bucket l)).map (viewBucket cfg.mode))) := by
  have h := sceneTrack_eq sem.labels sem.cfgs s
  refine ⟨h, ?_⟩
  intro k l cfg lab t hk hl
  show clearAt (sceneTrack sem.labels sem.cfgs (tsceneAcc sem.labels.length s)) k l = _
  rw [h, clearAt_evaluateTracking _ _ _ _ k l cfg lab t hk hl]

/-- the same, read off the answer to a `scene` query issued after any operation list on a fresh
manager: the history consists of the fresh evaluations of the `add`s, in call order -/
theorem scene_tracking_eq_pooled_ops (sem : TSem E C) (ds : List Frame) (ops : List (Op E C)) :
    (tlastOut sem (tfresh ds) (ops ++ [.scene])).bind TOut.sceneTrack?
      = some (evaluateTracking sem.labels sem.cfgs (fun l => ((addsDetT sem ops).map (·.gt l)).sum)
          (fun l => [] :: (addsTB sem ops).map (·.getD l []))) := by
  rw [tlastOut_append_one]
  simp only [tstep, tgetSceneResult, Option.bind_some, TOut.sceneTrack?]
  simp only [(scene_tracking_eq_pooled sem _).1, map_det_gt, map_bucket, trun_frameResults_det, trun_frameResults_tb]
  rfl

/-- a one-frame scene reproduces that frame's tracking scores — ALL of them, per label and totals:
without predecessor the frame is evaluated against `[]`, which is the head of the scene history -/
theorem scene_tracking_single_frame (sem : TSem E C) (ds : List Frame) (qs₁ qs₂ : List (Op E C))
    (h₁ : ∀ op ∈ qs₁, op.isQuery = true) (h₂ : ∀ op ∈ qs₂, op.isQuery = true) (g : Frame) (e : E) (c : C) :
    (tlastOut sem (tfresh ds) ((qs₁ ++ [.add g e c] ++ qs₂) ++ [.scene])).bind TOut.sceneTrack?
      = (tlastOut sem (tfresh ds) (qs₁ ++ [.add g e c])).map TOut.track := by
  rw [scene_tracking_eq_pooled_ops, frame_tracking_first sem ds qs₁ h₁, addsDetT_eq, addsTB_eq, adds_single h₁ h₂]
  rfl

/-! ## (iii) scene counts = sums of the per-frame counts -/

/-- For a manager whose stored tracking scores were computed by `add_frame_result` (any operation list
from a state with that property): score `(k, l)` of the scene and the scores `(k, l)` stored in
`frame_results` satisfy
`scene TP = Σ frame TP`, `scene FP = Σ frame FP`, `scene id switches = Σ frame id switches`,
`scene tp_matching_score = Σ …`, `num_ground_truth = Σ …`, `predict_num = Σ …` — UNCONDITIONALLY, the
first stored frame included: each scene increment of `CLEAR.__init__` scans the same previous list as
the stored per-frame evaluation did (`frame_results[i-1]`'s bucket; `[]` for the first).
MOTA / MOTP of the scene are those of the summed counts. -/
theorem scene_tracking_switches_sum_from (sem : TSem E C) (s : TState) (ops : List (Op E C))
    (hs : Consistent sem.labels sem.cfgs none s.frameResults)
    (k l : Nat) (cfg : TCfg) (lab : Nat) (t : Rat)
    (hk : sem.cfgs[k]? = some cfg) (hl : (sem.labels.zip cfg.thr)[l]? = some (lab, t)) :
    ∃ (scene : Clear.Out) (frames : List Clear.Out),
      clearAt (sceneTrack sem.labels sem.cfgs (tsceneAcc sem.nLabels (trun sem s ops).1)) k l = some scene ∧
      (trun sem s ops).1.frameResults.map (fun r => clearAt r.track k l) = frames.map some ∧
      scene.acc.tp = (frames.map (·.acc.tp)).sum ∧
      scene.acc.fp = (frames.map (·.acc.fp)).sum ∧
      scene.acc.sw = (frames.map (·.acc.sw)).sum ∧
      scene.acc.score = (frames.map (·.acc.score)).sum ∧
      scene.g = (frames.map (·.g)).sum ∧
      scene.predictNum = (frames.map (·.predictNum)).sum ∧
      scene.mota = mota scene.g scene.acc ∧ scene.motp = motp scene.acc ∧
      (∀ o ∈ frames, o.mota = mota o.g o.acc ∧ o.motp = motp o.acc) := by
  have hc := consistent_trun sem s ops hs
  obtain ⟨ha, hg, hp⟩ := scene_vs_frames ⟨cfg.maximize, [(lab, t)]⟩ cfg.mode l (trun sem s ops).1.frameResults
  obtain ⟨t1, t2, t3, t4⟩ := accSum_outs
    (frameOuts ⟨cfg.maximize, [(lab, t)]⟩ cfg.mode l none (trun sem s ops).1.frameResults)
  rw [← ha] at t1 t2 t3 t4
  refine ⟨_, _, (scene_tracking_eq_pooled sem _).2 k l cfg lab t hk hl,
    stored_clearAt _ _ _ hc k l cfg lab t hk hl, t1, t2, t3, t4, hg, hp, rfl, rfl, fun o ho => ?_⟩
  unfold frameOuts at ho
  obtain ⟨qr, _, rfl⟩ := List.mem_map.mp ho
  exact ⟨rfl, rfl⟩

/-- … in particular after any operation list on a fresh manager -/
theorem scene_tracking_switches_sum (sem : TSem E C) (ds : List Frame) (ops : List (Op E C))
    (k l : Nat) (cfg : TCfg) (lab : Nat) (t : Rat)
    (hk : sem.cfgs[k]? = some cfg) (hl : (sem.labels.zip cfg.thr)[l]? = some (lab, t)) :
    ∃ (scene : Clear.Out) (frames : List Clear.Out),
      clearAt (sceneTrack sem.labels sem.cfgs (tsceneAcc sem.nLabels (trun sem (tfresh ds) ops).1)) k l = some scene ∧
      (trun sem (tfresh ds) ops).1.frameResults.map (fun r => clearAt r.track k l) = frames.map some ∧
      scene.acc.tp = (frames.map (·.acc.tp)).sum ∧
      scene.acc.fp = (frames.map (·.acc.fp)).sum ∧
      scene.acc.sw = (frames.map (·.acc.sw)).sum ∧
      scene.acc.score = (frames.map (·.acc.score)).sum ∧
      scene.g = (frames.map (·.g)).sum ∧
      scene.predictNum = (frames.map (·.predictNum)).sum ∧
      scene.mota = mota scene.g scene.acc ∧ scene.motp = motp scene.acc ∧
      (∀ o ∈ frames, o.mota = mota o.g o.acc ∧ o.motp = motp o.acc) :=
  scene_tracking_switches_sum_from sem (tfresh ds) ops
    (fun _ hm => nomatch hm) k l cfg lab t hk hl

/-- The scores themselves do not add up — MOTA is clamped at 0 per evaluation and undefined without
ground truth —, but in the regular regime they average: if at least one frame is stored, every stored
frame has ground truth of the label and no per-frame MOTA is clamped (TP − FP − IDsw ≥ 0), the scene
MOTA is the ground-truth-weighted mean of the per-frame MOTAs (the weighting of `_sum_clear`). -/
theorem scene_tracking_mota_weighted_mean (scene : Clear.Out) (frames : List Clear.Out) (hne : frames ≠ [])
    (htp : scene.acc.tp = (frames.map (·.acc.tp)).sum) (hfp : scene.acc.fp = (frames.map (·.acc.fp)).sum)
    (hsw : scene.acc.sw = (frames.map (·.acc.sw)).sum) (hgs : scene.g = (frames.map (·.g)).sum)
    (hms : scene.mota = mota scene.g scene.acc)
    (hm : ∀ o ∈ frames, o.mota = mota o.g o.acc) (hg : ∀ o ∈ frames, o.g ≠ 0) (hn : ∀ o ∈ frames, 0 ≤ o.num) :
    scene.mota = some (ratSum (frames.map motaWeighted) / (((frames.map (·.g)).sum : Nat) : Rat)) := by
  have key := mota_weighted_mean frames hne hm hg hn
  obtain ⟨t1, t2, t3, _⟩ := accSum_outs frames
  rw [hms, hgs, ← key]
  unfold mota
  rw [htp, hfp, hsw, t1, t2, t3]

/-! ## (iv) renaming of track ids -/

/-- Feed the same manager with injectively renamed estimate uuids (`f`) and ground-truth uuids (`g`) —
consistently over all frames —: EVERY tracking score it answers with, per frame and per scene, per
label and in total, is unchanged (lifted from `C05.rename_invariant`: CLEAR only tests ids for
equality). -/
theorem scene_tracking_rename_invariant (f g : Nat → Nat) (hf : Function.Injective f) (hg : Function.Injective g)
    (sem : TSem E C) (ds : List Frame) (ops : List (Op E C)) :
    (trun (sem.rename f g) (tfresh ds) ops).2.map TOut.track = (trun sem (tfresh ds) ops).2.map TOut.track :=
  (trun_rename hf hg sem (tfresh ds) ops).2

/-- the same from any state whose stored results are renamed along -/
theorem scene_tracking_rename_invariant_from (f g : Nat → Nat) (hf : Function.Injective f) (hg : Function.Injective g)
    (sem : TSem E C) (s : TState) (ops : List (Op E C)) :
    (trun (sem.rename f g) (s.rename f g) ops).2.map TOut.track = (trun sem s ops).2.map TOut.track ∧
    (trun (sem.rename f g) (s.rename f g) ops).1 = (trun sem s ops).1.rename f g :=
  ⟨(trun_rename hf hg sem s ops).2, (trun_rename hf hg sem s ops).1⟩

/-! ## concrete instances, and plausible statements that are FALSE -/

section TrackingExamples

/-- estimate `e` on ground truth `g` (both label 0) at centre distance `d` -/
def tr (e g : Nat) (d : Rat) : TRes := ⟨e, 0, some ⟨g, 0, false⟩, [d], true, 1⟩
/-- an estimate without ground truth -/
def trFp (e : Nat) : TRes := ⟨e, 0, none, [0], false, 1⟩

/-- one target label (0), one centre-distance threshold list `[1]`; estimates are a key into a table:
`0`: two targets tracked; `1`: the two track ids exchanged; `2`: as `0` but target 1 far off (fails its own
test); `3`: only clutter -/
def tsemEx : TSem Nat Unit where
  labels := [0]
  cfgs := [⟨0, false, [1]⟩]
  evalDet := fun _ e _ => if e = 3 then ⟨[[]], [1]⟩ else ⟨[[]], [2]⟩
  evalTB := fun _ e _ =>
    if e = 0 then [[tr 1 1 (1/2), tr 2 2 (1/4)]]
    else if e = 1 then [[tr 2 1 (1/2), tr 1 2 (1/4)]]
    else if e = 2 then [[tr 1 1 5, tr 2 2 (1/4)]]
    else [[trFp 7]]

def tf0 : Frame := ⟨100, 0, [11, 12]⟩
def tf1 : Frame := ⟨200, 1, [13, 14]⟩
def topsEx : List (Op Nat Unit) := [.add tf0 0 (), .scene, .add tf1 1 (), .lookup 100 75, .add tf0 2 ()]

-- the premises of the per-score statements hold for score (0, 0)
example : tsemEx.cfgs[0]? = some ⟨0, false, [1]⟩ ∧ (tsemEx.labels.zip [(1 : Rat)])[0]? = some (0, 1) := by decide +kernel

/-- the scene of `topsEx`: 6 results, 3 id switches (two in frame 2, one in frame 3), one FP (frame 3: target 1 is
5 away and its pairing changed), ground truth 6 -/
example : clearAt (sceneTrack tsemEx.labels tsemEx.cfgs (tsceneAcc 1 (trun tsemEx (tfresh [tf0, tf1]) topsEx).1)) 0 0
    = some ⟨6, 6, ⟨5, 1, 3, 7/4⟩, some (1/6), some (7/20)⟩ := by decide +kernel
/-- … and the three stored per-frame scores: their counts add up to the scene's (the MOTAs 1, 0, 0 — the last one
clamped — do not average to 1/6) -/
example : (trun tsemEx (tfresh [tf0, tf1]) topsEx).1.frameResults.map (fun r => clearAt r.track 0 0)
    = [some ⟨2, 2, ⟨2, 0, 0, 3/4⟩, some 1, some (3/8)⟩, some ⟨2, 2, ⟨2, 0, 2, 3/4⟩, some 0, some (3/8)⟩,
       some ⟨2, 2, ⟨1, 1, 1, 1/4⟩, some 0, some (1/4)⟩] := by decide +kernel

/-- FALSE: "the scene tracking score does not depend on the order in which the frames were added" (true for the
pooled AP with distinct confidences, `pooled_ap_perm_invariant`): the same three calls in another order give
2 switches instead of 3, no FP (target 1, 5 away, now KEEPS the pairing of a previous TP and is carried over) -/
example : clearAt (sceneTrack tsemEx.labels tsemEx.cfgs (tsceneAcc 1
      (trun tsemEx (tfresh [tf0, tf1]) [.add tf0 0 (), .add tf0 2 (), .add tf1 1 ()]).1)) 0 0
    = some ⟨6, 6, ⟨6, 0, 2, 9/4⟩, some (2/3), some (3/8)⟩ := by decide +kernel

/-- FALSE: "the scene counts are the sums of the counts of each frame evaluated ON ITS OWN (fresh manager, no
predecessor)".  For the order of the previous example the three calls alone give TP 2 + 1 + 2, FP 0 + 1 + 0 and
no switch; the scene has TP 6, FP 0, 2 switches. -/
example :
    (([[.add tf0 0 ()], [.add tf0 2 ()], [.add tf1 1 ()]] : List (List (Op Nat Unit))).map (fun ops =>
      (tlastOut tsemEx (tfresh [tf0, tf1]) ops).bind (fun o => (clearAt o.track 0 0).map (·.acc))))
      = [some ⟨2, 0, 0, 3/4⟩, some ⟨1, 1, 0, 1/4⟩, some ⟨2, 0, 0, 3/4⟩] ∧
    (2 : Rat) + 1 + 2 ≠ 6 ∧ 0 + 1 + 0 ≠ 0 ∧ 0 + 0 + 0 ≠ 2 := by decide +kernel

/-- FALSE without the regularity premises: "scene MOTA = ground-truth-weighted mean of the per-frame MOTAs".
A clutter-only frame (MOTA clamped from −1 to 0) followed by a perfect one: mean (0·1 + 1·2)/3 = 2/3, scene
MOTA = (2 − 1 − 0)/3 = 1/3. -/
example :
    (trun tsemEx (tfresh [tf0, tf1]) [.add tf0 3 (), .add tf1 0 ()]).1.frameResults.map (fun r => clearAt r.track 0 0)
      = [some ⟨1, 1, ⟨0, 1, 0, 0⟩, some 0, none⟩, some ⟨2, 2, ⟨2, 0, 0, 3/4⟩, some 1, some (3/8)⟩] ∧
    clearAt (sceneTrack tsemEx.labels tsemEx.cfgs (tsceneAcc 1
      (trun tsemEx (tfresh [tf0, tf1]) [.add tf0 3 (), .add tf1 0 ()]).1)) 0 0
      = some ⟨3, 3, ⟨2, 1, 0, 3/4⟩, some (1/3), some (3/8)⟩ ∧
    ((0 : Rat) * 1 + 1 * 2) / 3 ≠ 1 / 3 := by decide +kernel

/-- the premises of `scene_tracking_mota_weighted_mean` are satisfiable non-trivially (two regular frames with
different MOTAs): frame MOTAs 1 and 0 (two switches), scene MOTA (2·1 + 2·0)/4 = 1/2 -/
example :
    (trun tsemEx (tfresh [tf0, tf1]) [.add tf0 0 (), .add tf1 1 ()]).1.frameResults.map (fun r => clearAt r.track 0 0)
      = [some ⟨2, 2, ⟨2, 0, 0, 3/4⟩, some 1, some (3/8)⟩, some ⟨2, 2, ⟨2, 0, 2, 3/4⟩, some 0, some (3/8)⟩] ∧
    clearAt (sceneTrack tsemEx.labels tsemEx.cfgs (tsceneAcc 1
      (trun tsemEx (tfresh [tf0, tf1]) [.add tf0 0 (), .add tf1 1 ()]).1)) 0 0
      = some ⟨4, 4, ⟨4, 0, 2, 3/2⟩, some (1/2), some (3/8)⟩ := by decide +kernel

/-- FALSE for a history that `add_frame_result` did not produce (e.g. `frame_results` edited by the caller): a
stored result whose tracking score is not the one evaluated against its stored predecessor breaks the sum -/
example :
    let s : TState := ⟨[tf0], [⟨0, ⟨[[]], [2]⟩, [[tr 1 1 (1/2)]], []⟩]⟩
    ¬ Consistent tsemEx.labels tsemEx.cfgs none s.frameResults ∧
    s.frameResults.map (fun r => clearAt r.track 0 0) = [none] ∧
    (clearAt (sceneTrack tsemEx.labels tsemEx.cfgs (tsceneAcc 1 s)) 0 0).map (·.acc.tp) = some 1 := by
  refine ⟨?_, by decide +kernel, by decide +kernel⟩
  intro h
  have := h (none, ⟨0, ⟨[[]], [2]⟩, [[tr 1 1 (1/2)]], []⟩) (by simp [framePairs])
  revert this
  decide +kernel

/-- renaming acts non-trivially (ids 1 ↔ 2 exchanged in every frame) and leaves the scores alone -/
example : (tsemEx.rename (swapId 1 2) (swapId 1 2)).evalTB tf0 0 () ≠ tsemEx.evalTB tf0 0 () ∧
    (trun (tsemEx.rename (swapId 1 2) (swapId 1 2)) (tfresh [tf0, tf1]) topsEx).2.map TOut.track
      = (trun tsemEx (tfresh [tf0, tf1]) topsEx).2.map TOut.track := by
  exact ⟨by decide +kernel, scene_tracking_rename_invariant _ _ (swapId_injective 1 2) (swapId_injective 1 2) _ _ _⟩

end TrackingExamples

/-! ## the heap machine refines the tracking machine

`Model/ManagerHeap.lean` passes ground-truth frames and estimate lists BY REFERENCE and performs the
assignments of `_filter_objects` / `evaluate_frame` as writes.  When its pure tracking part is
`frameTrack` on the tracking views of `frame_results[-1].object_results` and of the current object results
(`TracksBy`), the repaired code (`hrun`) run on a store `h` goes through the states of the machine `trun` above run
on the dereferenced values and answers every `add` with the same frame result.  What is related: the end state
(`absTState`: dataset dereferenced, every stored result with the tracking view of its object results) and the answers
to `add`; scene answers are not — `ManagerHeap.HOut.scene` carries no tracking part.  So the theorems above about stored
results and about the answer to an `add` are theorems about the heap machine, and those about the scene tracking score
hold of `sceneTrack … (tsceneAcc … (absTState p s))`, the score computed from what the heap manager has stored. -/

section HeapTracking
open PEval.ManagerHeap

theorem heap_refines_tracking_machine {Est OR C' : Type} (sem : HSem Est OR C' (List TScore)) (p : TrackParams OR)
    (ht : TracksBy sem p) (s : HState Est OR (List TScore)) (ops : List (HOp C'))
    (hv : DatasetValid s.heap s.dataset) (hops : ∀ op ∈ ops, op.validIn s.heap) :
    absTState p (hrun sem s ops).1 = (trun (toTSem sem p) (absTState p s) (ops.map (absOp s.heap))).1 ∧
    (hrun sem s ops).2.map (absTOutAdded p)
      = (trun (toTSem sem p) (absTState p s) (ops.map (absOp s.heap))).2.map TOut.added? := by
  -- kept along the run: the states correspond, the original store is a prefix, the dataset references name cells of it
  have := runWith_sim (step := hstep sem) (step' := tstep (toTSem sem p))
    (fun s' t => absTState p s' = t ∧ Ext s.heap s'.heap ∧ DatasetValid s.heap s'.dataset) (absOp s.heap)
    (absTOutAdded p) TOut.added? (ops := ops) (s := s)
    (fun s' _ op ho ⟨e, hx, hv'⟩ => by
      subst e
      obtain ⟨e1, e2⟩ := hstep_tsim sem p ht s.heap s' op hx hv' (hops op ho)
      exact ⟨⟨e1, hx.trans (hstep_ext sem s' op), by rw [hstep, hstepV_dataset]; exact hv'⟩, e2⟩)
    ⟨rfl, Ext.refl _, hv⟩
  rw [hrun, hrunV_eq, trun_eq]
  exact ⟨this.1.1, this.2⟩

/-- transferred: on the heap machine the tracking scores stored by the last `add` of any valid run are
`evaluate_tracking` of `[tracking view of the previously stored result, current view]` -/
theorem heap_frame_tracking_depends_on_last_only {Est OR C' : Type} (sem : HSem Est OR C' (List TScore))
    (p : TrackParams OR) (ht : TracksBy sem p) (s : HState Est OR (List TScore)) (pre : List (HOp C'))
    (fr er : Ref) (c : C') (h1 : fr < s.heap.frames.length) (h2 : er < s.heap.ests.length) :
    (hlastOut sem s (pre ++ [.add fr er c])).bind HOut.track?
      = some (frameTrack p.labels p.cfgs
          ((hrun sem s pre).1.frameResults.getLast?.map (fun r => p.tbOf r.objectResults))
          (p.tbOf (pureORs sem c (s.heap.frame fr) (s.heap.est er)))
          (pureDet sem c (s.heap.frame fr) (s.heap.est er))) := by
  rw [hlastOut_add sem s pre fr er c ⟨h1, h2⟩]
  simp only [Option.bind_some, HOut.track?, HOut.added?, Option.map_some, addResult, ht _ _ _ _, pureDet,
    Option.map_map]
  rfl

-- non-vacuity: a concrete heap semantics whose tracking part is `frameTrack` (one label, one centre-distance
-- configuration with threshold 1; every estimate is an unmatched result), and a valid two-add run on it
def exTP : TrackParams Nat :=
  { labels := [0], cfgs := [⟨0, false, [1]⟩], tbOf := fun ors => [ors.map (fun e => ⟨e, 0, none, [0], false, 1⟩)] }

def exTSem : HSem Nat Nat Unit (List TScore) where
  nLabels := 1
  filterEst := fun _ es => es
  filterGt := fun _ gs => gs
  matchObjs := fun _ es _ => es
  critRes := fun _ _ ors => ors
  critGt := fun _ _ gs => gs
  detOf := fun _ ors gs => ⟨[ors.map (fun e => ⟨e, none, 0, [0]⟩)], [gs.length]⟩
  bucketsOf := fun ors => [ors.map (fun e => ⟨e, none, 0, [0]⟩)]
  numGtOf := fun gs => [gs.length]
  trackOf := fun _ ors gs prev =>
    frameTrack exTP.labels exTP.cfgs (prev.map exTP.tbOf) (exTP.tbOf ors)
      ⟨[ors.map (fun e => ⟨e, none, 0, [0]⟩)], [gs.length]⟩

example : TracksBy exTSem exTP := fun _ _ _ _ => rfl
example : (hrun exTSem (hfresh ⟨[⟨100, 0, [11]⟩], [[1, 2]]⟩ [0]) [.add 0 0 (), .add 0 0 ()]).1.frameResults.length = 2 := by
  decide +kernel

end HeapTracking

end PEval.C13
