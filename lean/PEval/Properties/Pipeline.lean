import PEval.Lemmas.PipelineMap
import PEval.Properties.C01
import PEval.Properties.C03Core
import PEval.Properties.C04Core
/-!
# Composition: the frame evaluation as one pipeline (C01 ⇒ hypotheses of C03 and C04)

`Pipeline.detectFrame` (`PEval/Model/Pipeline.lean`) = matcher (`Matching.getObjectResults`) →
critical filter + pass/fail (`PassFail.evaluateFrame`) → per-label metrics (`AP.mapOf` over
`divide_objects` buckets), mirroring `PerceptionEvaluationManager.add_frame_result` →
`PerceptionFrameResult.evaluate_frame`.

C03's conservation theorems assume `MatcherWF` (the ground truths of the object results are distinct
members of the ground-truth list); C04's bounds assume that each ground truth is the ground truth of
at most one result.  Both are what C01 proves of the matcher's output.  The theorems below discharge
them: for EVERY configuration (policy, mode, thresholds, task), every scene of any size, every scoring
function, every critical region (the critical flags are inputs of this model), every pass/fail and metric threshold.  The
hypotheses left are about the input data: the ground truths handed to the matcher are a *set* (pairwise different
objects, pairwise different under `DynamicObject.__eq__` — the quantifier's word "set", C03), the heading weights lie in
[0,1] (C09's subject), the harness ids of the estimates are pairwise different (`pipeline_tp_fp_exactly_one`), and the two
label encodings agree (`labelsCoherent`, for `pipeline_label_ok_agrees`).
-/
namespace PEval.Pipeline
open PEval

/-! ## C04 on any result list in which every ground truth is the ground truth of at most one result -/

theorem frameMap2_in_unit {m : AP.Mode} {is2d : Bool} {divT mapT : List AP.Label} {thrs : List Rat}
    {rs : List AP.Res} {gts : List AP.Gt}
    (hnd : (rs.filterMap (·.gt)).Nodup) (hsub : ∀ g ∈ rs.filterMap (·.gt), g ∈ gts)
    (hw : ∀ r ∈ rs, 0 ≤ r.hw ∧ r.hw ≤ 1) {o : AP.MapOut}
    (h : frameMap2 m is2d divT mapT thrs rs (gts.map (·.label)) = .ok o) :
    (∀ a ∈ o.aps, ∀ x, a.ap = some x → 0 ≤ x ∧ x ≤ 1) ∧
    (∀ a ∈ o.aphs, ∀ x, a.ap = some x → 0 ≤ x ∧ x ≤ 1) ∧
    (∀ x, o.map = some x → 0 ≤ x ∧ x ≤ 1) ∧ (∀ x, o.maph = some x → 0 ≤ x ∧ x ≤ 1) := by
  unfold frameMap2 at h
  refine C04.mapOf_in_unit h fun tm z _ a hc => ?_
  obtain ⟨_, ha'⟩ := frame_apCall hc
  rw [filter_label_length] at ha'
  have hsl := (List.filter_sublist (l := rs) (p := fun r => AP.bucketLabel (some divT) r == some z.1)).filterMap (·.gt)
  exact C04.ap_in_unit_interval tm m z.1 z.2 _ gts (hnd.sublist hsl) (fun g hg => hsub g (hsl.subset hg))
    (fun r hr => hw r (List.mem_of_mem_filter hr)) ha'

theorem frameMap2_aph_le_ap {m : AP.Mode} {divT mapT : List AP.Label} {thrs : List Rat}
    {rs : List AP.Res} {gtLabels : List AP.Label} (hw : ∀ r ∈ rs, 0 ≤ r.hw ∧ r.hw ≤ 1)
    {o : AP.MapOut} (h : frameMap2 m false divT mapT thrs rs gtLabels = .ok o) :
    List.Forall₂ (fun hh a => AP.optLe hh.ap a.ap) o.aphs o.aps ∧ AP.optLe o.maph o.map := by
  unfold frameMap2 at h
  obtain ⟨hloop, hmap, hmaph⟩ := AP.mapOf_ok_iff.1 h
  obtain ⟨f1, f2⟩ := AP.mapLoop_ok_iff.1 hloop
  -- APH and AP of one target label are computed from the same bucket and count
  have hf : List.Forall₂ (fun hh a => AP.optLe hh.ap a.ap) o.aphs o.aps := by
    refine AP.forall₂_of_runs (S := Eq) ?_ (forall₂_refl _) (by simpa using f2) f1
    rintro ⟨l, t⟩ _ _ _ hh a rfl h1 h2
    exact C04.aph_le_ap m [l] [t] _ _ (fun r hr => hw r (List.mem_of_mem_filter hr)) (frame_apCall h1).2
      (frame_apCall h2).2
  refine ⟨hf, ?_⟩
  rw [hmap, hmaph]
  exact AP.meanDefined_mono (forall₂_map (R := AP.optLe) AP.ApOut.ap hf)

/-! ## the pipeline's AP result list is such a list -/

/-- every ground truth attached to a surviving result is a critical ground truth of the frame, and
no ground truth is attached twice -/
theorem apResults_one_to_one {f : Frame} {rs : List Matching.Res}
    (h : Matching.getObjectResults f.cfg f.scene = .ok rs) (hid : GtIdsDistinct f) (m : AP.Mode) :
    ((apResults f m rs).filterMap (·.gt)).Nodup ∧
      ∀ g ∈ (apResults f m rs).filterMap (·.gt), g ∈ apGts f := by
  obtain ⟨hnd, hlt⟩ := C01.results_gt_nodup h
  have hsl : (Matching.usedGts (critResults f rs)).Sublist (Matching.usedGts rs) :=
    List.filter_sublist.filterMap _
  rw [apResults_gts]
  refine ⟨nodup_map_of_lt (toAPGt f) AP.Gt.id hid (hnd.sublist hsl) fun x hx => hlt x (hsl.subset hx),
    List.map_subset _ fun j hj => ?_⟩
  obtain ⟨i, hr⟩ := Matching.mem_usedGts.1 hj
  exact List.mem_filter.2 ⟨List.mem_range.2 (hlt j (hsl.subset hj)), ((survives_iff f _).1 (List.mem_filter.1 hr).2).2 j rfl⟩

end PEval.Pipeline

namespace PEval.PipelineProps
open PEval PEval.Pipeline

/-! ## (i) the matcher's output is well-formed input of the pass/fail accounting -/

/-- For every matcher configuration and scene: the translated output of `get_object_results`
satisfies C03's well-formedness predicate `MatcherWF`, provided the ground truths are a set. -/
theorem matcher_output_wf (f : Frame) (rs : List Matching.Res)
    (h : Matching.getObjectResults f.cfg f.scene = .ok rs)
    (hset : PassFail.GtsDistinct (pfGts f)) : PassFail.MatcherWF (pfFrame f rs) := by
  obtain ⟨hnd, hlt⟩ := C01.results_gt_nodup h
  have hgts : PassFail.gtsOf (pfFrame f rs).results = (Matching.usedGts rs).map (toGT f) := gtsOf_map_toPFRes f rs
  refine ⟨hset, ?_, hgts ▸ List.map_subset _ fun j hj => List.mem_range.2 (hlt j hj)⟩
  -- a set of ground truths: the translation is injective on the positions in use
  rw [hgts]
  exact nodup_map_of_lt (toGT f) id hset.nodup hnd hlt

/-- the pass/fail stage and the metrics stage see the same filtered lists: the stored
`object_results` are the translated surviving matcher results, the stored ground truths the
translated critical ground truths -/
theorem pipeline_same_lists (f : Frame) (o : Out) (h : detectFrame f = .ok o) :
    o.pf.results = (critResults f o.matched).map (toPFRes f) ∧
    o.pf.gts = (critGtIdx f).map (toGT f) ∧
    ∀ m, (apResults f m o.matched).map (·.id) = o.pf.results.map (·.est) := by
  obtain ⟨rs, _, hm, hpf, _⟩ := detectFrame_ok h
  subst hm
  rw [hpf]
  refine ⟨criticalResults_map f _, criticalGts_pfGts f, ?_⟩
  intro m
  show _ = (PassFail.criticalResults ((o.matched).map (toPFRes f))).map (·.est)
  simp only [criticalResults_map, apResults, List.map_map, Function.comp_def, toPFRes_est]
  rfl

/-- where the four lists of a pipeline frame come from: every TP / FP is the record of a matcher result whose
estimate is critical, its ground truth (if it kept one) a critical ground truth; every TN / FN is a critical
ground truth -/
theorem pipeline_counted {f : Frame} {o : Out} (h : detectFrame f = .ok o) :
    (∀ r ∈ o.pf.tp ++ o.pf.fp, ∃ i, (f.est i).crit = true ∧ r.est = (f.est i).id ∧
      ∀ g, r.gt = some g → ∃ j, (f.gt j).crit = true ∧ g = toGT f j) ∧
    (∀ g ∈ o.pf.tn ++ o.pf.fn, ∃ j, (f.gt j).crit = true ∧ g = toGT f j) := by
  obtain ⟨rs, _, _, hpf, _⟩ := detectFrame_ok h
  rw [show o.pf = PassFail.evaluate _ _ from hpf]
  refine PassFail.evaluate_forall (fun r0 hr0 => ?_) (fun r ⟨i, hi, he, _⟩ => ⟨i, hi, he, fun _ hg => nomatch hg⟩)
    fun g hg => ?_
  · -- `pfFrame f rs` unfolds to `pfFrameWith .gtLabel f rs`
    obtain ⟨i, oj, _, hs, rfl⟩ := mem_criticalResults_map (k := .gtLabel) hr0
    obtain ⟨hi, hj⟩ := (survives_iff f _).1 hs
    have hgt : ∀ g, (toPFRes f (i, oj)).gt = some g → ∃ j, (f.gt j).crit = true ∧ g = toGT f j := fun g hg =>
      let ⟨j, hoj, e⟩ := Option.map_eq_some_iff.1 ((toPFRes_gt f _).symm.trans hg)
      ⟨j, hj j hoj, e.symm⟩
    exact ⟨⟨i, hi, toPFRes_est f _, hgt⟩, hgt⟩
  · obtain ⟨hmem, hc⟩ := List.mem_filter.1 hg
    obtain ⟨j, _, rfl⟩ := List.mem_map.1 hmem
    exact ⟨j, hc, rfl⟩

/-- the two later stages agree on label compatibility: for every pair the matcher made,
`is_label_correct` as the pass/fail accounting reads it (computed on the matcher's objects) equals
`is_label_correct` as the metrics compute it from their label numbers — provided the harness-supplied
label encodings are coherent (`labelsCoherent`, a Boolean the driver evaluates on every frame) -/
theorem pipeline_label_ok_agrees (f : Frame) (rs : List Matching.Res)
    (h : Matching.getObjectResults f.cfg f.scene = .ok rs) (hc : labelsCoherent f = true)
    (m : AP.Mode) (i j : Nat) (hp : (i, some j) ∈ rs) :
    (toPFRes f (i, some j)).labelOk = AP.isLabelCorrect (toAPRes f m (i, some j)) := by
  have hi := (C01.results_est_nodup h).2 _ hp
  have hj := (C01.results_gt_nodup h).2 j (Matching.mem_usedGts.2 ⟨i, hp⟩)
  exact labelOk_eq_isMatchable hc hi hj

/-! ## (ii) conservation with no well-formedness hypothesis -/

theorem detectFrame_wf {f : Frame} {o : Out} (h : detectFrame f = .ok o) (hset : PassFail.GtsDistinct (pfGts f)) :
    ∃ F, o.pf = PassFail.evaluateFrame F ∧ PassFail.MatcherWF F :=
  let ⟨rs, hr, _, hpf, _⟩ := detectFrame_ok h
  ⟨_, hpf, matcher_output_wf f rs hr hset⟩

/-- Every frame the pipeline produces conserves objects: ordinary critical ground truths = TP + FN,
FP-labelled critical ground truths = TN + matched FP, surviving results = TP + FP. -/
theorem pipeline_conservation (f : Frame) (o : Out) (h : detectFrame f = .ok o)
    (hset : PassFail.GtsDistinct (pfGts f)) :
    (o.pf.gts.filter (fun g => !g.isFP)).length = o.pf.tp.length + o.pf.fn.length ∧
    (o.pf.gts.filter (fun g => g.isFP)).length
        = o.pf.tn.length + (PassFail.matchedFP o.pf.fp).length ∧
    o.pf.tp.length + o.pf.fp.length = o.pf.results.length := by
  obtain ⟨F, e, hw⟩ := detectFrame_wf h hset
  exact e ▸ C03.frame_conservation F hw

/-- exactly-once accounting: the ground truths of the TP results, the FN list, the TN list and the
ground truths of the matched-FP results are together a permutation of the critical ground truths -/
theorem pipeline_accounting_perm (f : Frame) (o : Out) (h : detectFrame f = .ok o)
    (hset : PassFail.GtsDistinct (pfGts f)) :
    (PassFail.gtsOf o.pf.tp ++ (o.pf.fn ++ (o.pf.tn ++
      PassFail.gtsOf (PassFail.matchedFP o.pf.fp)))).Perm o.pf.gts := by
  obtain ⟨F, e, hw⟩ := detectFrame_wf h hset
  exact e ▸ C03.gt_accounting_perm _ _ (C03.pipeline_wf F hw)

/-- success + fail counters of a pipeline frame -/
theorem pipeline_num_total (f : Frame) (o : Out) (h : detectFrame f = .ok o)
    (hset : PassFail.GtsDistinct (pfGts f)) :
    PassFail.numSuccess o.pf + PassFail.numFail o.pf + o.pf.tp.length
        + (PassFail.matchedFP o.pf.fp).length
      = o.pf.results.length + o.pf.gts.length := by
  obtain ⟨F, e, hw⟩ := detectFrame_wf h hset
  exact e ▸ C03.num_total F hw

/-- C01 ⇒ the estimates of the translated results are pairwise different objects, when the harness
ids of the estimates are -/
theorem ests_nodup_of_matched {f : Frame} {rs : List Matching.Res}
    (h : Matching.getObjectResults f.cfg f.scene = .ok rs)
    (hid : ((List.range f.scene.ests.length).map (fun i => (f.est i).id)).Nodup) :
    ((rs.map (toPFRes f)).map (·.est)).Nodup := by
  obtain ⟨hnd, hlt⟩ := C01.results_est_nodup h
  have e : (rs.map (toPFRes f)).map (·.est) = (rs.map (·.1)).map (fun i => (f.est i).id) := by
    simp only [List.map_map, Function.comp_def, toPFRes_est]
  rw [e]
  exact nodup_map_of_lt (fun i => (f.est i).id) id hid hnd (List.forall_mem_map.2 hlt)

/-- each surviving estimate is in exactly one of TP / FP (estimates are pairwise different objects) -/
theorem pipeline_tp_fp_exactly_one (f : Frame) (o : Out) (h : detectFrame f = .ok o)
    (hid : ((List.range f.scene.ests.length).map (fun i => (f.est i).id)).Nodup) :
    ∀ r ∈ o.pf.results,
      (r.est ∈ o.pf.tp.map (·.est) ∧ r.est ∉ o.pf.fp.map (·.est)) ∨
      (r.est ∉ o.pf.tp.map (·.est) ∧ r.est ∈ o.pf.fp.map (·.est)) := by
  obtain ⟨rs, hr, _, hpf, _⟩ := detectFrame_ok h
  rw [hpf]
  have hn := ests_nodup_of_matched hr hid
  have hsub : ((PassFail.criticalResults (rs.map (toPFRes f))).map (·.est)).Sublist
      ((rs.map (toPFRes f)).map (·.est)) := (List.filter_sublist).map _
  exact C03.tp_fp_exactly_one _ (hn.sublist hsub)

/-- every frame of a list conserves objects: `pipeline_conservation` under a `∀ f ∈ fs` binder
(`add_frame_result` evaluates every frame on its own, so a history adds nothing to the single frame) -/
theorem pipeline_history_conservation (fs : List Frame)
    (hset : ∀ f ∈ fs, PassFail.GtsDistinct (pfGts f)) :
    ∀ f ∈ fs, ∀ o, detectFrame f = .ok o →
      (o.pf.gts.filter (fun g => !g.isFP)).length = o.pf.tp.length + o.pf.fn.length ∧
      (o.pf.gts.filter (fun g => g.isFP)).length
          = o.pf.tn.length + (PassFail.matchedFP o.pf.fp).length ∧
      o.pf.tp.length + o.pf.fp.length = o.pf.results.length :=
  fun f hf o h => pipeline_conservation f o h (hset f hf)

/-! ## (iii) every AP / APH / mAP / mAPH of a pipeline frame lies in [0,1] -/

/-- For every `Map` of the frame (any mode, any threshold list, any target labels): each defined
per-label AP and APH and the mAP / mAPH lie in [0,1].  Hypotheses: ground-truth ids pairwise
different (implied by `GtsDistinct`), heading weights in [0,1]. -/
theorem pipeline_ap_in_unit (f : Frame) (o : Out) (h : detectFrame f = .ok o)
    (hid : GtIdsDistinct f) (hw : ∀ i j, 0 ≤ f.hw i j ∧ f.hw i j ≤ 1) :
    ∀ mo ∈ o.maps,
      (∀ a ∈ mo.aps, ∀ x, a.ap = some x → 0 ≤ x ∧ x ≤ 1) ∧
      (∀ a ∈ mo.aphs, ∀ x, a.ap = some x → 0 ≤ x ∧ x ≤ 1) ∧
      (∀ x, mo.map = some x → 0 ≤ x ∧ x ≤ 1) ∧ (∀ x, mo.maph = some x → 0 ≤ x ∧ x ≤ 1) := by
  obtain ⟨rs, hr, _, _, hmaps⟩ := detectFrame_ok h
  intro mo hmo
  obtain ⟨mc, _, hmc⟩ := mapsFor_mem hmaps mo hmo
  obtain ⟨hnd, hsub⟩ := apResults_one_to_one hr hid mc.mode
  exact frameMap2_in_unit hnd hsub (apResults_hw hw mc.mode rs) hmc

/-- the same for the frame-level `Map` as the AP model states it (`AP.frameMap`: one target-label
list), on the pipeline's result list: every defined AP / APH / mAP / mAPH lies in [0,1] -/
theorem pipeline_frameMap_in_unit (f : Frame) (rs : List Matching.Res)
    (hr : Matching.getObjectResults f.cfg f.scene = .ok rs) (hid : GtIdsDistinct f)
    (hw : ∀ i j, 0 ≤ f.hw i j ∧ f.hw i j ≤ 1) (m : AP.Mode) (is2d : Bool) (T : List AP.Label)
    (thrs : List Rat) (mo : AP.MapOut)
    (h : AP.frameMap m is2d T thrs (apResults f m rs) ((apGts f).map (·.label)) = .ok mo) :
    (∀ a ∈ mo.aps, ∀ x, a.ap = some x → 0 ≤ x ∧ x ≤ 1) ∧
    (∀ a ∈ mo.aphs, ∀ x, a.ap = some x → 0 ≤ x ∧ x ≤ 1) ∧
    (∀ x, mo.map = some x → 0 ≤ x ∧ x ≤ 1) ∧ (∀ x, mo.maph = some x → 0 ≤ x ∧ x ≤ 1) := by
  obtain ⟨hnd, hsub⟩ := apResults_one_to_one hr hid m
  rw [← frameMap2_same] at h
  exact frameMap2_in_unit hnd hsub (apResults_hw hw m rs) h

/-- `GtsDistinct` (hypothesis of the conservation part) implies the id hypothesis of the AP part -/
theorem gt_ids_distinct_of_set (f : Frame) (hset : PassFail.GtsDistinct (pfGts f)) :
    GtIdsDistinct f :=
  List.pairwise_map.2 ((List.pairwise_map.1 hset).imp fun h => h.1)

/-! ## (iv) APH ≤ AP on every pipeline frame -/

/-- In every `Map` of the frame the APHs and APs correspond pairwise (same label, same threshold),
APH is defined exactly when AP is and never exceeds it; likewise mAPH ≤ mAP. -/
theorem pipeline_aph_le_ap (f : Frame) (o : Out) (h : detectFrame f = .ok o)
    (hw : ∀ i j, 0 ≤ f.hw i j ∧ f.hw i j ≤ 1) :
    ∀ mo ∈ o.maps,
      List.Forall₂ (fun hh a => AP.optLe hh.ap a.ap) mo.aphs mo.aps ∧ AP.optLe mo.maph mo.map := by
  obtain ⟨rs, _, _, _, hmaps⟩ := detectFrame_ok h
  intro mo hmo
  obtain ⟨mc, _, hmc⟩ := mapsFor_mem hmaps mo hmo
  exact frameMap2_aph_le_ap (apResults_hw hw mc.mode rs) hmc

/-! ## non-vacuity: a concrete frame

Three estimates (car, unknown, car) and three ground truths (car; FP-labelled; pedestrian outside the
critical region), center-distance matcher with radius 3, pass/fail threshold 2, one `Map` (center
distance, thresholds 1 / 1 for car / pedestrian).  Estimate 3 is farther than the radius from every
ground truth. -/

section Example

def exFrame : Frame :=
  { cfg := { policy := .default, mode := .centerDistance, targets := some ["car", "pedestrian"],
             thresholds := some [3, 3], fpValidation := false },
    scene := { ests := [⟨"car", "base_link"⟩, ⟨"unknown", "base_link"⟩, ⟨"car", "base_link"⟩],
               gts := [⟨"car", "base_link"⟩, ⟨"false_positive", "base_link"⟩, ⟨"pedestrian", "base_link"⟩],
               val := fun i j => if i == j && i != 2 then 1 / 2 else 5 },
    est := fun i => ⟨1 + i, if i == 1 then 0 else 2, 1 / 2 + (i : Rat) / 8, true⟩,
    gt := fun j => ⟨101 + j, if j == 0 then 2 else if j == 1 then 1 else 4, j != 2, 101 + j⟩,
    pfTargets := [2, 4], pfThrs := some [2, 2],
    pfScore := fun i j => some (if i == j then 1 / 2 else 5),
    apScore := fun _ i j => some (if i == j then 1 / 2 else 5),
    hw := fun _ _ => 1 / 2,
    critTargets := [2, 4], mapTargets := [2, 4],
    maps := [⟨.centerDistance, [1, 1]⟩] }

example : PassFail.GtsDistinct (pfGts exFrame) := by decide +kernel
example : GtIdsDistinct exFrame := by decide +kernel
example : labelsCoherent exFrame = true := by decide +kernel
example : ∀ i j, 0 ≤ exFrame.hw i j ∧ exFrame.hw i j ≤ 1 := by
  intro i j
  show (0 : Rat) ≤ 1 / 2 ∧ (1 / 2 : Rat) ≤ 1
  decide +kernel

/-- the frame evaluates: pairs (0,0) and (1,1), estimate 2 unmatched; TP = {estimate 1},
FP = {2 (re-wrapped: its FP-labelled ground truth is TN), 3}, TN = {102}, FN = {} … -/
example : (detectFrame exFrame).toOption.map (fun o =>
    (o.matched, o.pf.tp.map (·.est), o.pf.fp.map (·.est), o.pf.tn.map (·.id), o.pf.fn.map (·.id)))
    = some ([(0, some 0), (1, some 1), (2, none)], [1], [2, 3], [102], []) := by
  decide +kernel

/-- … car bucket = [estimate 3 (conf 3/4, no ground truth: FP), estimate 1 (conf 1/2, TP, heading weight 1/2)]:
AP(car) = 1/2, APH(car) = 1/8; no pedestrian result (undefined); mAP = 1/2, mAPH = 1/8 -/
example : (detectFrame exFrame).toOption.map (fun o =>
    o.maps.map (fun mo => (mo.aps.map (·.ap), mo.aphs.map (·.ap), mo.map, mo.maph)))
    = some [([some (1 / 2), none], [some (1 / 8), none], some (1 / 2), some (1 / 8))] := by
  decide +kernel

end Example

/-! ## (v) TP soundness of the composed pipeline

`C03.tp_sound` speaks about the fields `labelOk`, `thr`, `score` of a `PassFail.Res`.  Below the same clause is
stated for the pipeline's INPUTS: the estimates and ground truths handed to the matcher, the label policy, the
pass/fail target-label list and threshold list, the plane-distance table.  `TpSound key` is the statement about
the pipeline whose threshold lookup is keyed as `key` says; it is proved for `.gtLabel` (= `detectFrame`, the code)
and refuted for `.estLabel` on a concrete frame. -/

/-- `k` is `target_labels.index(l)`: the first position at which `l` occurs in the target list -/
def IsIndexOf (l : AP.Label) (ts : List AP.Label) (k : Nat) : Prop :=
  ts[k]? = some l ∧ ∀ k', k' < k → ts[k']? ≠ some l

/-- Every TP of the pipeline is a pair `(i, j)` the matcher made, both objects inside the critical region, the
ground truth not FP-labelled and label-compatible with the estimate under the configured policy, and — whenever a
pass/fail threshold list is configured and the GROUND TRUTH's label occurs in the pass/fail target list — the
plane distance of the pair is strictly below the entry of the threshold list at the index of the ground truth's
label in the target list. -/
def TpSound (key : ThrKey) : Prop :=
  ∀ (f : Frame) (o : Out), detectFrameWith key f = .ok o → ∀ r ∈ o.pf.tp,
    ∃ i j e g, (i, some j) ∈ o.matched ∧ r.est = (f.est i).id ∧ r.gt = some (toGT f j) ∧
      f.scene.ests[i]? = some e ∧ f.scene.gts[j]? = some g ∧
      Matching.isMatchable f.cfg.policy e g = true ∧ (f.gt j).label ≠ AP.fpLabel ∧
      (f.est i).crit = true ∧ (f.gt j).crit = true ∧
      ∀ thrs k, f.pfThrs = some thrs → IsIndexOf (f.gt j).label f.pfTargets k →
        ∃ t v, thrs[k]? = some t ∧ f.pfScore i j = some v ∧ v < t

/-- the code is the `.gtLabel` instance -/
theorem detectFrameWith_gtLabel (f : Frame) : detectFrameWith .gtLabel f = detectFrame f := rfl

theorem getLabelThreshold_index {l : AP.Label} {ts : List AP.Label} {thrs : List Rat} {k : Nat} {t0 : Option Rat}
    (hk : IsIndexOf l ts k) (h : AP.getLabelThreshold l ts (some thrs) = .ok t0) :
    ∃ t, thrs[k]? = some t ∧ t0 = some t := by
  have hidx : ts.findIdx? (· == l) = some k := by
    simp only [IsIndexOf, List.getElem?_eq_some_iff, ne_eq] at hk
    rw [List.findIdx?_eq_some_iff_getElem]
    exact ⟨hk.1.1, beq_iff_eq.2 hk.1.2, fun j hj hb => hk.2 j hj ⟨hj.trans hk.1.1, eq_of_beq hb⟩⟩
  unfold AP.getLabelThreshold at h
  simp only [hidx] at h
  split at h
  · next t htk => cases h; exact ⟨t, htk, rfl⟩
  · cases h

/-- **TP soundness of the composed pipeline**, from (estimates, ground truths, configuration) -/
theorem pipeline_tp_sound : TpSound .gtLabel := by
  intro f o h r hr
  obtain ⟨i, j, hmem, hs, rfl, hpos, t0, ht0⟩ := tp_is_matched_pair h r hr
  obtain ⟨g, hg, hfp, hlab, hthr⟩ := C03.tp_sound _ _ hpos
  cases hg
  obtain ⟨hci, hcj⟩ := (survives_iff f _).1 hs
  -- label compatibility was computed on the matcher's objects, so both exist
  have hlab' : labelOk f i j = true := hlab
  unfold labelOk at hlab'
  split at hlab'
  · next e g he hgg =>
    refine ⟨i, j, e, g, hmem, rfl, rfl, he, hgg, hlab',
      ne_of_beq_false (show ((f.gt j).label == AP.fpLabel) = false from hfp), hci, hcj j rfl, ?_⟩
    intro thrs k hthrs hk
    obtain ⟨t, htk, rfl⟩ := getLabelThreshold_index (t0 := t0) hk (by rw [← hthrs]; exact ht0)
    have hrthr : (toPFResWith .gtLabel f (i, some j)).thr = some t := by
      show pfThrWith .gtLabel f i j = some t
      unfold pfThrWith; rw [ht0]
    rcases hthr with hnone | ⟨t', v, ht', hv, hlt⟩
    · rw [hrthr] at hnone; cases hnone
    · rw [hrthr] at ht'; cases ht'
      exact ⟨t, v, htk, hv, hlt⟩
  · cases hlab'

/-- the same statement for `detectFrame` itself -/
theorem pipeline_tp_sound_detectFrame (f : Frame) (o : Out) (h : detectFrame f = .ok o) :
    ∀ r ∈ o.pf.tp,
    ∃ i j e g, (i, some j) ∈ o.matched ∧ r.est = (f.est i).id ∧ r.gt = some (toGT f j) ∧
      f.scene.ests[i]? = some e ∧ f.scene.gts[j]? = some g ∧
      Matching.isMatchable f.cfg.policy e g = true ∧ (f.gt j).label ≠ AP.fpLabel ∧
      (f.est i).crit = true ∧ (f.gt j).crit = true ∧
      ∀ thrs k, f.pfThrs = some thrs → IsIndexOf (f.gt j).label f.pfTargets k →
        ∃ t v, thrs[k]? = some t ∧ f.pfScore i j = some v ∧ v < t :=
  pipeline_tp_sound f o h

/-! ### non-vacuity, and the variant keyed on the estimate's label

Policy ALLOW_ANY; one estimate `car`, one ground truth `pedestrian`, centre distance 1/2 (matched), plane
distance 1; pass/fail targets [car, pedestrian] with thresholds [2, 1/2]. Keyed on the ground truth's label the
pair fails (1 < 1/2 is false): no TP. Keyed on the estimate's label it passes (1 < 2): a TP whose score does not
beat the threshold of its ground truth's label. -/
section TpExample

def exKey : Frame :=
  { cfg := { policy := .allowAny, mode := .centerDistance, targets := some ["car", "pedestrian"],
             thresholds := some [3, 3], fpValidation := false },
    scene := { ests := [⟨"car", "base_link"⟩], gts := [⟨"pedestrian", "base_link"⟩], val := fun _ _ => 1 / 2 },
    est := fun _ => ⟨1, 2, 1 / 2, true⟩,
    gt := fun _ => ⟨101, 4, true, 101⟩,
    pfTargets := [2, 4], pfThrs := some [2, 1 / 2],
    pfScore := fun _ _ => some 1,
    apScore := fun _ _ _ => some (1 / 2),
    hw := fun _ _ => 1,
    critTargets := [2, 4], mapTargets := [2, 4], maps := [] }

/-- the code: no TP, the estimate is an FP and the ground truth an FN -/
example : (detectFrame exKey).toOption.map (fun o => (o.matched, o.pf.tp.map (·.est), o.pf.fp.map (·.est), o.pf.fn.map (·.id)))
    = some ([(0, some 0)], [], [1], [101]) := by decide +kernel

/-- the hypotheses of `pipeline_tp_sound` are met with a TP present (the frame `exFrame` above): estimate 1 on
ground truth 101, score 1/2 < 2 = the `car` entry -/
example : (detectFrame exFrame).toOption.map (fun o => o.pf.tp.map (fun r => (r.est, r.gt.map (·.id), r.thr, r.score)))
    = some [(1, some 101, some 2, some (1 / 2))] := by decide +kernel
example : IsIndexOf (exFrame.gt 0).label exFrame.pfTargets 0 := ⟨rfl, fun _ hk' => absurd hk' (Nat.not_lt_zero _)⟩

/-- **keyed on the estimate's label the statement fails** -/
theorem estLabel_not_tp_sound : ¬ TpSound .estLabel := by
  intro h
  have hok : (detectFrameWith .estLabel exKey).toOption.map (fun o => o.pf.tp.length) = some 1 := by decide +kernel
  -- the call returns, with one TP `r`
  generalize hd : detectFrameWith .estLabel exKey = x at hok
  obtain _ | o := x
  · cases hok
  obtain ⟨r, hr⟩ := List.exists_mem_of_length_pos (Option.some.inj hok ▸ Nat.one_pos)
  obtain ⟨i, j, e, g, _, _, _, _, _, _, _, _, _, hthr⟩ := h exKey o hd r hr
  obtain ⟨t, v, ht, hv, hlt⟩ := hthr [2, 1 / 2] 1 rfl (show IsIndexOf 4 [2, 4] 1 from ⟨rfl, by decide⟩)
  cases ht
  cases hv
  exact absurd hlt (by norm_num)

end TpExample

/-! ### the label choice of `get_negative_objects`

Its first loop looks the threshold up for EVERY result: under the ground truth's label if there is one, else under
the estimate's (`toPFResNeg`).  For a paired result that is the record `get_positive_objects` uses; for an unpaired
one the threshold is looked up but never read (`get_status` answers `(FP, None)` before looking at it).  Hence the
TN / FN lists do not depend on the estimate-label lookups, and the single record `toPFRes` (threshold keyed on the
ground truth's label, none for unpaired results) is a faithful input of both functions. -/

theorem toPFResNeg_paired (f : Frame) (i j : Nat) : toPFResNeg f (i, some j) = toPFRes f (i, some j) := rfl

theorem toPFResNeg_status (f : Frame) (r : Matching.Res) :
    (toPFResNeg f r).gt = (toPFRes f r).gt ∧ PassFail.getStatus (toPFResNeg f r) = PassFail.getStatus (toPFRes f r) := by
  obtain ⟨i, o⟩ := r
  cases o with
  | some j => exact ⟨rfl, rfl⟩
  | none => exact ⟨rfl, rfl⟩

theorem negative_label_choice (f : Frame) (gts : List PassFail.GT) (rs : List Matching.Res) :
    PassFail.getNegative gts (rs.map (toPFResNeg f)) = PassFail.getNegative gts (rs.map (toPFRes f)) := by
  have h : PassFail.negFromResults (rs.map (toPFResNeg f)) = PassFail.negFromResults (rs.map (toPFRes f)) := by
    induction rs with
    | nil => rfl
    | cons r rs ih =>
      obtain ⟨hg, hs⟩ := toPFResNeg_status f r
      simp only [List.map_cons, PassFail.negFromResults, hg, hs, ih]
  unfold PassFail.getNegative
  rw [h]

/-- the estimate's label IS read by the real lookup of an unpaired result (it can even raise): the model keeps the
lookup, and this is the record with the looked-up threshold — different from `toPFRes`, same status -/
example : (toPFResNeg exFrame (2, none)).thr = some 2 ∧ (toPFRes exFrame (2, none)).thr = none := by decide +kernel

end PEval.PipelineProps
