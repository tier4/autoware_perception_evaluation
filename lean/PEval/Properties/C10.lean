import PEval.Gen.CallSites
import PEval.Gen.IsTarget
import PEval.Model.FilterTable
import PEval.Lemmas.FilterTable
import PEval.Lemmas.FilterMono
import PEval.Lemmas.FilterResults
/-!
# C10 — object filtering keeps exactly the objects satisfying the configured criteria

Model: `PEval.Model.Filter` (`isTarget` = `_is_target_object`, `filterObjects` = `filter_objects`,
`filterResults` = `filter_object_results`). The criteria of the property text are the separately
written declarative predicate `PEval.Filter.Criteria` (`Lemmas/FilterSpec.lean`).

All theorems quantify over every object list, every configuration (label sets, per-label bound lists
of any length, uuid and attribute lists, either role, with or without transforms) and every
rational position; there is no size bound. Theorems about a *returned* list carry the hypothesis
`… = .ok ks` ("the real call returned"); `no_exception_in_contract` shows the hypothesis is met on the
whole documented domain.

"Filtering never mutates its input" holds of the model by construction (the functions are pure);
on the real code it is checked by the harness on every executed case.
-/
namespace PEval.C10
open PEval PEval.Filter

/-- object level: whenever `_is_target_object` returns, it returns `True` exactly on the criteria -/
theorem isTarget_iff_criteria {P : Params} {o : Obj} {b : Bool} (h : isTarget P o = .ok b) :
    b = true ↔ Criteria P o :=
  isTarget_ok_iff h

/-- the result is an order-preserving sub-list of the input -/
theorem filter_sublist {P : Params} {os ks : List Obj} (h : filterObjects P os = .ok ks) :
    ks.Sublist os :=
  filterE_sublist h

open Classical in
/-- exactly (order and multiplicity included): the result IS the input filtered by the criteria -/
theorem filter_exact {P : Params} {os ks : List Obj} (h : filterObjects P os = .ok ks) :
    ks = os.filter (fun o => decide (Criteria P o)) :=
  filterE_eq_filter isTarget_ok_iff h

/-- kept ⇔ in the input and satisfying the criteria -/
theorem mem_filter_iff {P : Params} {os ks : List Obj} (h : filterObjects P os = .ok ks) (o : Obj) :
    o ∈ ks ↔ o ∈ os ∧ Criteria P o := by
  simp [filter_exact h]

/-- filtering the result again changes nothing -/
theorem filter_idem {P : Params} {os ks : List Obj} (h : filterObjects P os = .ok ks) :
    filterObjects P ks = .ok ks :=
  filterE_idem h

/-- widening any bound (same labels, attributes, uuids) never removes a kept object: the narrower
result is an order-preserving sub-list of the wider one -/
theorem filter_mono {P P' : Params} (w : Wider P P') {os ks ks' : List Obj}
    (h : filterObjects P os = .ok ks) (h' : filterObjects P' os = .ok ks') : ks.Sublist ks' := by
  classical
  rw [filter_exact h, filter_exact h']
  apply List.monotone_filter_right
  intro o ho
  simp only [decide_eq_true_eq] at ho ⊢
  exact criteria_wider w ho

/-- an FP-labelled object passes whatever the configuration (and nothing can raise) -/
theorem fp_label_passes (P : Params) (o : Obj) (h : IsFP o.label) : isTarget P o = .ok true := by
  unfold isTarget; rw [if_pos ((isFP_iff _).2 h)]

/-- an unknown-labelled estimate, unknown not being a target, is judged ONLY against confidence 0 and
the MEAN of each range list: label, attributes, point count and uuid play no role -/
theorem unknown_uses_mean {P : Params} {o : Obj} {b : Bool} (hu : IsUnknown o.label)
    (hg : P.isGt = false) (hT : ∀ ts, P.targets = some ts → ∀ t ∈ ts, ¬ IsUnknown t)
    (h : isTarget P o = .ok b) :
    b = true ↔ (P.conf ≠ none → 0 < o.score) ∧ ∀ p, EgoPos P o p →
      (∀ l, P.maxX = some l → ∃ m, IsMean l m ∧ -m < p.x ∧ p.x < m) ∧
      (∀ l, P.maxY = some l → ∃ m, IsMean l m ∧ -m < p.y ∧ p.y < m) ∧
      (∀ l, P.maxDist = some l → ∃ m, IsMean l m ∧ 0 < m ∧ p.x * p.x + p.y * p.y < m * m) ∧
      (∀ l, P.minDist = some l → ∃ m, IsMean l m ∧ (m < 0 ∨ m * m < p.x * p.x + p.y * p.y)) := by
  have hR : Relaxed P o := ⟨hu, hg, hT⟩
  have hnfp : ¬ IsFP o.label := by
    rcases hu with e | e <;> rw [e] <;> simp [IsFP]
  rw [isTarget_ok_iff h]
  -- unfold the criteria under `hR`: `LabelOK`, `AttrOK` hold by their first disjunct, `ConfOK` keeps its relaxed branch
  -- (`0 < score`), `JudgedBy` its `IsMean` branch, and `PtsOK`, `UuidOK` are about ground truths only (`hg`)
  simp only [Criteria, hnfp, false_or, LabelOK, AttrOK, hR, true_or, true_and, ConfOK, not_true_eq_false,
    false_and, or_false, RangeOK, XOK, YOK, MaxDistOK, MinDistOK, JudgedBy, PtsOK, UuidOK, hg,
    Bool.false_eq_true, false_implies, and_true, Option.ne_none_iff_exists', forall_exists_index]

/-- the per-result predicate of `filter_object_results`, whenever it returns -/
theorem resultTarget_iff {P : Params} {r : Res} {b : Bool} (h : resultTarget P r = .ok b) :
    b = true ↔ Criteria (estParams P) r.est ∧ (∀ g, r.gt = some g → Criteria (gtParams P) g) ∧
      (r.gt = none → ∀ us, P.uuids = some us → us = []) :=
  resultTarget_ok_iff h

/-- a result is kept iff its estimate passes and, when present, its ground truth passes (a
ground-truth-less result is dropped when target uuids are configured); order is preserved -/
theorem filterResults_both {P : Params} {rs ks : List Res} (h : filterResults P rs = .ok ks) :
    ks.Sublist rs ∧ ∀ r, r ∈ ks ↔ r ∈ rs ∧ Criteria (estParams P) r.est ∧
      (∀ g, r.gt = some g → Criteria (gtParams P) g) ∧
      (r.gt = none → ∀ us, P.uuids = some us → us = []) := by
  rw [filterE_eq_filter resultTarget_iff h]
  exact ⟨List.filter_sublist, fun r => by simp⟩

theorem filterResults_idem {P : Params} {rs ks : List Res} (h : filterResults P rs = .ok ks) :
    filterResults P ks = .ok ks :=
  filterE_idem h

/-- inside the documented contract (non-empty target list, per-label lists of its length, complete
objects) no exception is reachable: the filter returns -/
theorem no_exception_in_contract {P : Params} {os : List Obj} (hP : WFParams P)
    (hO : ∀ o ∈ os, WFObj P o) : ∃ ks, filterObjects P os = .ok ks :=
  filterE_total (fun o ho => isTarget_total hP (hO o ho))

/-- the squared-distance encoding decides `√d2 < t` and `√d2 > t`: for every rational bracket
`lo ≤ √d2 ≤ hi` (i.e. `lo² ≤ d2 ≤ hi²`, `0 ≤ lo`, `0 ≤ hi`) the model's answer lies between comparing
`hi` and comparing `lo` with `t` -/
theorem dist_encoding_sound (d2 t lo hi : Rat) (hlo : 0 ≤ lo) (hhi : 0 ≤ hi) (h1 : lo * lo ≤ d2)
    (h2 : d2 ≤ hi * hi) :
    (hi < t → distLt d2 t = true) ∧ (distLt d2 t = true → lo < t) ∧
    (t < lo → distGt d2 t = true) ∧ (distGt d2 t = true → t < hi) := by
  simp only [distLt_iff, distGt_iff]
  refine ⟨fun h => ⟨hhi.trans_lt h, h2.trans_lt (mul_self_lt_mul_self hhi h)⟩, fun ⟨h3, h4⟩ => ?_, fun h => ?_, ?_⟩
  · by_contra c
    exact lt_irrefl _ (h4.trans_le ((mul_self_le_mul_self h3.le (not_lt.1 c)).trans h1))
  · by_cases hn : t < 0
    · exact Or.inl hn
    · exact Or.inr ((mul_self_lt_mul_self (not_lt.1 hn) h).trans_le h1)
  · rintro (h | h)
    · exact h.trans_le hhi
    · by_contra c
      exact lt_irrefl _ ((h.trans_le h2).trans_le (mul_self_le_mul_self hhi (not_lt.1 c)))

/-- frame invariance (with C07): a BASE_LINK object and its MAP-frame rendering under any ego pose
(yaw given by a unit complex number, any translation), filtered with the transform supplied, are
judged alike -/
theorem frame_invariant (P : Params) (o : Obj) (e : Pose) (he : e.c * e.c + e.s * e.s = 1)
    (hf : o.frame = "base_link") (hp : o.pos ≠ none) :
    isTarget { P with hasTransforms := true } (renderMap e o) = isTarget P o :=
  isTarget_renderMap P o e he hf hp

/-- … hence the whole filter commutes with rendering a BASE_LINK scene into the MAP frame: the same
objects are kept, in the same order, and the same exception (if any) is raised -/
theorem filter_frame_invariant (P : Params) (os : List Obj) (e : Pose) (he : e.c * e.c + e.s * e.s = 1)
    (h : ∀ o ∈ os, o.frame = "base_link" ∧ o.pos ≠ none) :
    filterObjects { P with hasTransforms := true } (os.map (renderMap e)) =
      (filterObjects P os).map (List.map (renderMap e)) :=
  filterObjects_renderMap P os e he h

/-! ## non-vacuity: concrete instances of the hypotheses -/

def exP : Params :=
  { isGt := true, targets := some ["AutowareLabel.CAR", "AutowareLabel.BICYCLE"], ignoreAttrs := some ["parked"],
    maxX := some [10, 20], maxY := some [10, 20], maxDist := none, minDist := none, conf := none,
    minPts := some [1, 0], uuids := none, hasTransforms := false }
def exWide : Params := { exP with maxX := some [15, 20], maxY := none, minPts := some [0, 0] }
def exObj (i : Nat) (l : String) (x y : Rat) (attrs : List String := []) : Obj :=
  { id := i, label := l, name := "n", attributes := attrs, score := 1/2, pcNum := some 1, uuid := some "u",
    is2d := false, frame := "base_link", pos := some ⟨x, y⟩, egoPos := none }
def exObjs : List Obj :=
  [exObj 0 "AutowareLabel.CAR" 5 5, exObj 1 "AutowareLabel.CAR" 12 0, exObj 2 "AutowareLabel.BICYCLE" (-19) 3,
   exObj 3 "AutowareLabel.FP" 100 100, exObj 4 "AutowareLabel.CAR" 1 1 ["parked"], exObj 5 "AutowareLabel.BUS" 1 1]

example : filterObjects exP exObjs = .ok [exObjs[0], exObjs[2], exObjs[3]] := by decide +kernel
example : filterObjects exWide exObjs = .ok [exObjs[0], exObjs[1], exObjs[2], exObjs[3]] := by decide +kernel
example : Wider exP exWide := by
  constructor <;> simp [exP, exWide, OptRel, Pointwise]
  norm_num
example : WFParams exP := ⟨⟨_, rfl, by simp [exP]⟩⟩
example : ∀ o ∈ exObjs, WFObj exP o := by
  intro o ho
  simp only [exObjs, List.mem_cons, List.not_mem_nil, or_false] at ho
  rcases ho with rfl | rfl | rfl | rfl | rfl | rfl <;>
    exact ⟨by simp [exObj], by simp [exP], by simp [exObj]⟩
/-- the relaxation is reachable: an unknown-labelled estimate judged against the mean (15) -/
example : isTarget { exP with isGt := false } (exObj 6 "AutowareLabel.UNKNOWN" 14 14) = .ok true := by decide +kernel
example : isTarget { exP with isGt := false } (exObj 6 "AutowareLabel.UNKNOWN" 16 0) = .ok false := by decide +kernel
/-- outside the contract the Python exceptions are reproduced -/
example : isTarget { exP with targets := none, ignoreAttrs := none } (exObj 7 "AutowareLabel.CAR" 1 1) = .error "TypeError" := by
  decide +kernel
example : isTarget { exP with maxX := some [10] } (exObj 8 "AutowareLabel.BICYCLE" 1 1) = .error "IndexError" := by
  decide +kernel
/-- a unit rational yaw for `frame_invariant` -/
example : (3/5 : Rat) * (3/5) + (4/5) * (4/5) = 1 := by decide +kernel

/-! ## tie to the source: call sites inside the package (regenerated from the AST on every run)

`filter_objects` / `filter_object_results` accept `*args, **kwargs`, so a misspelt keyword at a call
site is swallowed silently and the corresponding criterion is simply not applied (defect F2:
`transform=` for `transforms=` in `evaluate_frame`). The translator lists every keyword used at the
package's own call sites of the filter / matcher / divide functions and the functions' declared
parameters; the statements below are re-decided against the current source on every run. -/

/-- every keyword written at a call site of these functions is a declared parameter of the callee -/
theorem call_site_keywords_declared :
    ∀ kw ∈ Gen.callSiteKeywords, ∃ ps ∈ Gen.calleeParams, ps.1 = kw.1 ∧ kw.2 ∈ ps.2 := by decide +kernel

/-- every key of the critical filter's `filtering_params` (splatted with `**` into both filter functions)
is a declared parameter of both -/
theorem critical_params_declared :
    ∀ k ∈ Gen.criticalFilteringParamKeys, ∀ f ∈ ["filter_objects", "filter_object_results"],
      ∃ ps ∈ Gen.calleeParams, ps.1 = f ∧ k ∈ ps.2 := by decide +kernel

/-! ## tie to the source: the decision table of `_is_target_object` (regenerated on every run)

`Gen.IsTarget.tree` is the decision tree obtained by running the REAL `_is_target_object` on symbolic inputs over every
assignment of the decision atoms it queries (`harness/dt_c10.py`); `FilterTable.isTargetTreeR r` is the hand-written
skeleton of the model over the same atoms under reading `r` of the three points the property text leaves open
(`FilterTable.Reading`: is a ground truth's own confidence thresholded; does `target_labels == []` target everything or
nothing; is the relaxed unknown estimate's confidence bound 0 or the mean). `DT.agree` decides — completely, for the
finite decision space, by kernel evaluation — that the code's tree and the skeleton of the reading named by
`Gen.IsTarget.readingHint` give the same result under EVERY valuation of the atoms, exception classes not compared (every
exception is the one result `raise eRejected`). A change of the source that alters a decision the text states (an
operator, a bound, a guard, a criterion, raising instead of returning) changes the generated tree so that it equals no
reading's skeleton and the evaluation below yields `false`; a rewrite that keeps the decisions, or moves between readings,
regenerates a tree for which it still yields `true`, with no edit here. When the translator cannot follow the source
(`tree = none`) the statements hold vacuously and the check relies on the correspondence runs. -/
section Table
open PEval.DT PEval.FilterTable

/-- atoms a tree may ask again further down a path (the model re-reads `is_gt`, `target_labels is None` and
`label in target_labels` at every stage): the checker records their decisions -/
def tableSticky : List Nat := [aIsGt, aTargetsNone, aLabelIn]

/-- the reading the translator found to fit the current source (`today` when the index is out of range) -/
def tableReading : Reading := readings.getD Gen.IsTarget.readingHint today

def isTargetTableOk : Bool :=
  match Gen.IsTarget.tree with
  | some t => agree forbidden tableSticky t (mapT canonRes (isTargetTreeR tableReading)) PA.empty
  | none => true

/-- the per-run obligation: the checker accepts the regenerated table (kernel evaluation over all paths) -/
theorem isTarget_table_check : isTargetTableOk = true := by decide +kernel

/-- no valuation is excluded from the per-run comparison: the list of forbidden conjunctions is empty -/
theorem isTarget_all_valuations_consistent (v : Val) : consistent forbidden v = true := by
  simp [consistent, forbidden]

/-- the code's decision table equals the skeleton of ONE reading of the open points under every valuation of the atoms
(exception classes merged) -/
theorem isTarget_code_table_eq_model :
    ∀ t, Gen.IsTarget.tree = some t → ∃ r ∈ readings, ∀ v : Val, eval t v = canonRes (eval (isTargetTreeR r) v) := by
  intro t ht
  have h := isTarget_table_check
  unfold isTargetTableOk at h
  rw [ht] at h
  refine ⟨tableReading, mem_readings _, fun v => ?_⟩
  rw [agree_sound h v (isTarget_all_valuations_consistent v), eval_mapT]

/-- INSIDE the property's quantifier: the atoms of the input avoid the valuations on which the readings of the text part
ways (`FilterTable.openValuations`: a ground truth whose own confidence fails the threshold or has no entry, an empty
target list, a relaxed unknown estimate for which 0 and the mean confidence decide differently) -/
def InQuantifier (P : Params) (o : Obj) : Prop := consistent openValuations (valuationOf P o) = true

instance (P : Params) (o : Obj) : Decidable (InQuantifier P o) := by unfold InQuantifier; infer_instance

/-- the bridge: the model `isTarget` is its decision skeleton applied to the atoms of the input (all inputs) -/
theorem isTarget_eq_skeleton (P : Params) (o : Obj) :
    isTargetAtoms (valuationOf P o) = ofExcept (isTarget P o) :=
  isTarget_eq_tree P o

/-- the CODE's decision table, read at the atoms of a concrete input inside the quantifier, gives the model's verdict: the
same Boolean, or both reject -/
theorem isTarget_code_table_eq_isTarget :
    ∀ t, Gen.IsTarget.tree = some t → ∀ (P : Params) (o : Obj), InQuantifier P o →
      eval t (valuationOf P o) = canonRes (ofExcept (isTarget P o)) := by
  intro t ht P o hq
  obtain ⟨r, hr, h⟩ := isTarget_code_table_eq_model t ht
  rw [h, readings_agree_outside_open hr _ hq]
  exact congrArg canonRes (isTarget_eq_tree P o)

/-- a returned Boolean of the code's table, inside the quantifier, is the model's -/
theorem table_ret {t : DTree} (ht : Gen.IsTarget.tree = some t) {P : Params} {o : Obj} {b : Bool}
    (hq : InQuantifier P o) (h : eval t (valuationOf P o) = .ret b) : isTarget P o = .ok b := by
  rw [isTarget_code_table_eq_isTarget t ht P o hq] at h
  exact canonRes_ofExcept_ret h

/-- C10 for the code's table: whenever the table returns on an input inside the quantifier, it returns `True` exactly on
the criteria -/
theorem table_iff_criteria {t : DTree} (ht : Gen.IsTarget.tree = some t) {P : Params} {o : Obj} {b : Bool}
    (hq : InQuantifier P o) (h : eval t (valuationOf P o) = .ret b) : b = true ↔ Criteria P o :=
  isTarget_iff_criteria (table_ret ht hq h)

/-- for the code's table: an FP-labelled object passes whatever the configuration (every reading, every input) -/
theorem table_fp_label_passes {t : DTree} (ht : Gen.IsTarget.tree = some t) (P : Params) (o : Obj) (h : IsFP o.label) :
    eval t (valuationOf P o) = .ret true := by
  obtain ⟨r, _, hr⟩ := isTarget_code_table_eq_model t ht
  rw [hr, eval_isTargetTreeR_fp r _ (show (valuationOf P o).b aFp = true from (isFP_iff _).2 h)]
  rfl

/-- for the code's table: an unknown-labelled estimate (unknown not a target) inside the quantifier is judged only
against confidence 0 and the mean of each range list (inside the quantifier 0 and the mean confidence decide alike) -/
theorem table_unknown_uses_mean {t : DTree} (ht : Gen.IsTarget.tree = some t) {P : Params} {o : Obj} {b : Bool}
    (hq : InQuantifier P o)
    (hu : IsUnknown o.label) (hg : P.isGt = false) (hT : ∀ ts, P.targets = some ts → ∀ t ∈ ts, ¬ IsUnknown t)
    (h : eval t (valuationOf P o) = .ret b) :
    b = true ↔ (P.conf ≠ none → 0 < o.score) ∧ ∀ p, EgoPos P o p →
      (∀ l, P.maxX = some l → ∃ m, IsMean l m ∧ -m < p.x ∧ p.x < m) ∧
      (∀ l, P.maxY = some l → ∃ m, IsMean l m ∧ -m < p.y ∧ p.y < m) ∧
      (∀ l, P.maxDist = some l → ∃ m, IsMean l m ∧ 0 < m ∧ p.x * p.x + p.y * p.y < m * m) ∧
      (∀ l, P.minDist = some l → ∃ m, IsMean l m ∧ (m < 0 ∨ m * m < p.x * p.x + p.y * p.y)) :=
  unknown_uses_mean hu hg hT (table_ret ht hq h)

/-- for the code's table: inside the documented contract (and the quantifier) the table never answers with an exception -/
theorem table_no_exception_in_contract {t : DTree} (ht : Gen.IsTarget.tree = some t) {P : Params} {o : Obj}
    (hq : InQuantifier P o) (hP : WFParams P) (hO : WFObj P o) : ∃ b, eval t (valuationOf P o) = .ret b := by
  obtain ⟨b, hb⟩ := isTarget_total hP hO
  exact ⟨b, by rw [isTarget_code_table_eq_isTarget t ht P o hq, hb]; rfl⟩

/-- non-vacuity of `InQuantifier`: an estimate and a ground truth with a confidence list it passes, a relaxed unknown
estimate whose score exceeds both 0 and the mean; and the open inputs are outside -/
example : InQuantifier exP (exObj 1 "AutowareLabel.CAR" 12 0) := by decide +kernel
example : InQuantifier { exP with conf := some [1/4, 1/4] } (exObj 1 "AutowareLabel.CAR" 12 0) := by decide +kernel
example : InQuantifier { exP with isGt := false, conf := some [1/4, 1/4] } (exObj 6 "AutowareLabel.UNKNOWN" 14 14) := by
  decide +kernel
example : ¬ InQuantifier { exP with conf := some [3/4, 3/4] } (exObj 1 "AutowareLabel.CAR" 12 0) := by decide +kernel
example : ¬ InQuantifier { exP with targets := some [] } (exObj 1 "AutowareLabel.CAR" 12 0) := by decide +kernel
example : ¬ InQuantifier { exP with isGt := false, conf := some [3/4, 3/4] } (exObj 6 "AutowareLabel.UNKNOWN" 14 14) := by
  decide +kernel

/-- non-vacuity: the table of the current source exists, and on a concrete input it gives the expected verdicts -/
example : ∀ t, Gen.IsTarget.tree = some t → eval t (valuationOf exP (exObj 1 "AutowareLabel.CAR" 12 0)) = .ret false := by
  intro t ht; rw [isTarget_code_table_eq_isTarget t ht _ _ (by decide +kernel)]; decide +kernel

end Table

/-! ## the RESULT level (`filter_object_results`): totality, monotonicity, frame invariance

`filterResults_both` / `filterResults_idem` are stated on `filterResults P rs = .ok ks`.  Here: the filter RETURNS inside
the contract (`filterResults_total`), widening a bound never removes a kept result (`filterResults_mono`, lifts
`filter_mono`), and filtering commutes with rendering the whole scene (estimates AND ground truths) into the map frame
(`filterResults_frame_invariant`, lifts `filter_frame_invariant`). -/
section Results

/-- inside the documented contract (`WFParams`; every estimate complete for the estimate-side arguments, every ground
truth for the ground-truth-side arguments) `filter_object_results` returns -/
theorem filterResults_total {P : Params} {rs : List Res} (hP : WFParams P) (hO : ∀ r ∈ rs, WFRes P r) :
    ∃ ks, filterResults P rs = .ok ks :=
  filterResults_total' hP hO

/-- widening any bound (same labels, attributes, uuids) never removes a kept RESULT: the narrower answer is an
order-preserving sub-list of the wider one -/
theorem filterResults_mono {P P' : Params} (w : Wider P P') {rs ks ks' : List Res}
    (h : filterResults P rs = .ok ks) (h' : filterResults P' rs = .ok ks') : ks.Sublist ks' := by
  classical
  rw [filterE_eq_filter resultTarget_iff h, filterE_eq_filter resultTarget_iff h']
  apply List.monotone_filter_right
  intro r hr
  simp only [decide_eq_true_eq] at hr ⊢
  exact ⟨criteria_wider (wider_est w) hr.1, fun g hg => criteria_wider (wider_gt w) (hr.2.1 g hg),
    fun hn us hu => hr.2.2 hn us (by rw [← w.uuids]; exact hu)⟩

/-- one result: rendering estimate and ground truth into the map frame under any ego pose (unit yaw, any translation)
and filtering with the transform supplied gives the same verdict, the same exception included -/
theorem resultTarget_frame_invariant (P : Params) (r : Res) (e : Pose) (he : e.c * e.c + e.s * e.s = 1)
    (hE : r.est.frame = "base_link" ∧ r.est.pos ≠ none)
    (hG : ∀ g, r.gt = some g → g.frame = "base_link" ∧ g.pos ≠ none) :
    resultTarget { P with hasTransforms := true } (Res.renderMap e r) = resultTarget P r :=
  resultTarget_renderMap P r e he hE hG

/-- the whole result filter commutes with rendering a BASE_LINK scene into the MAP frame: the same results are kept, in
the same order, and the same exception (if any) is raised -/
theorem filterResults_frame_invariant (P : Params) (rs : List Res) (e : Pose) (he : e.c * e.c + e.s * e.s = 1)
    (h : ∀ r ∈ rs, (r.est.frame = "base_link" ∧ r.est.pos ≠ none) ∧
      ∀ g, r.gt = some g → g.frame = "base_link" ∧ g.pos ≠ none) :
    filterResults { P with hasTransforms := true } (rs.map (Res.renderMap e)) =
      (filterResults P rs).map (List.map (Res.renderMap e)) :=
  filterE_map (fun r hr => resultTarget_frame_invariant P r e he (h r hr).1 (h r hr).2)

/-! ### non-vacuity and defective variants -/

def exRP : Params := { exP with isGt := false, uuids := some ["u"], conf := some [1/4, 1/4] }
def exRWide : Params := { exRP with maxX := some [15, 20], maxY := none, minPts := some [0, 0] }
def exG (i : Nat) (l : String) (x y : Rat) (u : String) : Obj := { exObj i l x y with uuid := some u }
/-- results: paired and kept; paired, estimate beyond max_x; GT-less (dropped because target uuids are configured);
paired, ground truth with a foreign uuid; FP-labelled pair far away -/
def exRs : List Res :=
  [⟨0, exObj 0 "AutowareLabel.CAR" 5 5, some (exG 10 "AutowareLabel.CAR" 5 6 "u")⟩,
   ⟨1, exObj 1 "AutowareLabel.CAR" 12 0, some (exG 11 "AutowareLabel.CAR" 9 0 "u")⟩,
   ⟨2, exObj 2 "AutowareLabel.CAR" 1 1, none⟩,
   ⟨3, exObj 3 "AutowareLabel.BICYCLE" 2 2, some (exG 12 "AutowareLabel.BICYCLE" 2 2 "other")⟩,
   ⟨4, exObj 4 "AutowareLabel.FP" 100 100, some (exG 13 "AutowareLabel.FP" 100 100 "zz")⟩]

example : (filterResults exRP exRs).map (List.map (·.id)) = .ok [0, 4] := by decide +kernel
example : (filterResults exRWide exRs).map (List.map (·.id)) = .ok [0, 1, 4] := by decide +kernel
example : (filterResults { exRP with uuids := none } exRs).map (List.map (·.id)) = .ok [0, 2, 3, 4] := by decide +kernel

example : Wider exRP exRWide := by
  constructor <;> simp [exRP, exRWide, exP, OptRel, Pointwise]
  norm_num

example : WFParams exRP := ⟨⟨_, rfl, by simp [exRP, exP]⟩⟩

example : ∀ r ∈ exRs, WFRes exRP r := by
  intro r hr
  simp only [exRs, List.mem_cons, List.not_mem_nil, or_false] at hr
  rcases hr with rfl | rfl | rfl | rfl | rfl <;>
    exact ⟨⟨by simp [exObj], by simp [exRP, exP, estParams], by simp [estParams]⟩,
      fun g hg => by cases hg <;> exact ⟨by simp [exG, exObj], by simp [exRP, exP, gtParams], by simp [exG, exObj]⟩⟩

/-- the hypotheses of `filterResults_frame_invariant` on the example, and both sides evaluated for the pose
`(3/5, 4/5)` + `(7, −2)` -/
example : (∀ r ∈ exRs, (r.est.frame = "base_link" ∧ r.est.pos ≠ none) ∧
      ∀ g, r.gt = some g → g.frame = "base_link" ∧ g.pos ≠ none) ∧
    (filterResults { exRP with hasTransforms := true } (exRs.map (Res.renderMap ⟨3/5, 4/5, 7, -2⟩))).map (List.map (·.id))
      = .ok [0, 4] := by
  refine ⟨?_, by decide +kernel⟩
  intro r hr
  simp only [exRs, List.mem_cons, List.not_mem_nil, or_false] at hr
  rcases hr with rfl | rfl | rfl | rfl | rfl <;>
    exact ⟨⟨rfl, by simp [exObj]⟩, fun g hg => by cases hg <;> exact ⟨rfl, by simp [exG, exObj]⟩⟩

/-- A DEFECTIVE variant: the ground truth is judged by the coordinates of its OWN frame (as if it were a `base_link`
object), i.e. the transform is not applied on the ground-truth side.  Frame invariance fails for it on the example
(pose `(3/5, 4/5)` + `(100, −2)`): in the map rendering result 0 is lost. -/
def resultTarget_gtRaw (P : Params) (r : Res) : Except Err Bool :=
  match isTarget (estParams P) r.est with
  | .error e => .error e
  | .ok e =>
    match e, r.gt with
    | true, some g => isTarget (gtParams P) { g with frame := "base_link" }
    | false, some _ => .ok false
    | e, none => .ok (if truthy P.uuids then false else e)

example :
    (filterE (resultTarget_gtRaw { exRP with hasTransforms := true }) (exRs.map (Res.renderMap ⟨3/5, 4/5, 100, -2⟩))).map
        (List.map (·.id)) = .ok [4] ∧
      ((filterE (resultTarget_gtRaw exRP) exRs).map (List.map (Res.renderMap ⟨3/5, 4/5, 100, -2⟩))).map (List.map (·.id))
        = .ok [0, 4] ∧
      (filterResults { exRP with hasTransforms := true } (exRs.map (Res.renderMap ⟨3/5, 4/5, 100, -2⟩))).map
        (List.map (·.id)) = .ok [0, 4] := by
  decide +kernel

/-- A DEFECTIVE variant that forgets the ground truth (keeps a result whenever its estimate passes): `filterResults_mono`
still holds for it, `filterResults_both` does not — result 3 (foreign ground-truth uuid) is kept -/
def resultTarget_estOnly (P : Params) (r : Res) : Except Err Bool := isTarget (estParams P) r.est

example : (filterE (resultTarget_estOnly exRP) exRs).map (List.map (·.id)) = .ok [0, 2, 3, 4] := by decide +kernel

end Results

/-! ## locality: every element is judged on its own -/

/-- the loop judges every element on its own: the answer on a concatenation is the concatenation of the answers
(`for x in xs: if f(x): out.append(x)` carries no state from one element to the next) -/
theorem filterE_append {α} (f : α → Except Err Bool) (as bs ka kb : List α)
    (ha : filterE f as = .ok ka) (hb : filterE f bs = .ok kb) : filterE f (as ++ bs) = .ok (ka ++ kb) := by
  obtain ⟨ha', rfl⟩ := filterE_ok ha
  obtain ⟨hb', rfl⟩ := filterE_ok hb
  rw [filterE_of_forall_ok fun x hx => (List.mem_append.1 hx).elim (ha' x) (hb' x), List.filter_append]

/-- `filter_objects` on a concatenation = concatenation of the two answers -/
theorem filter_append {P : Params} {os₁ os₂ ks₁ ks₂ : List Obj}
    (h₁ : filterObjects P os₁ = .ok ks₁) (h₂ : filterObjects P os₂ = .ok ks₂) :
    filterObjects P (os₁ ++ os₂) = .ok (ks₁ ++ ks₂) :=
  filterE_append _ _ _ _ _ h₁ h₂

/-- `filter_object_results` on a concatenation = concatenation of the two answers -/
theorem filterResults_append {P : Params} {rs₁ rs₂ ks₁ ks₂ : List Res}
    (h₁ : filterResults P rs₁ = .ok ks₁) (h₂ : filterResults P rs₂ = .ok ks₂) :
    filterResults P (rs₁ ++ rs₂) = .ok (ks₁ ++ ks₂) :=
  filterE_append _ _ _ _ _ h₁ h₂

/-- a one-element list: the object is kept iff it meets the criteria (with `filter_append`: the fate of an object does not
depend on its neighbours or on its position) -/
theorem filter_singleton {P : Params} {o : Obj} {ks : List Obj} (h : filterObjects P [o] = .ok ks) :
    (Criteria P o → ks = [o]) ∧ (¬ Criteria P o → ks = []) := by
  rw [filter_exact h]
  constructor <;> intro hc <;> simp [hc]

/-- the kept list never is longer than the input, and is the whole input iff every object meets the criteria -/
theorem filter_length {P : Params} {os ks : List Obj} (h : filterObjects P os = .ok ks) :
    ks.length ≤ os.length ∧ (ks = os ↔ ∀ o ∈ os, Criteria P o) := by
  rw [filter_exact h]
  exact ⟨List.length_filter_le _ _, by simp [List.filter_eq_self]⟩

end PEval.C10
