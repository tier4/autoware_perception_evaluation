import PEval.Lemmas.DatasetExample
import PEval.Lemmas.DatasetVelocity
import PEval.Properties.C14
/-!
# C16 — loading a dataset reproduces its annotations as ground-truth frames

PARTIAL by nature: the nuScenes devkit is an external contract (DESIGN 4.6). The theorems below are
structural laws of the loader model `PEval.Dataset` (tables as lists of records, token lookup,
`sample["anns"]` in annotation-table order, boxes moved by the inverse ego pose and the inverse
sensor pose, the `prev`-chain walk of `PredictHelper`, the finite-difference velocities, and — for
the 2-D tasks — the camera selection, the `object_ann` filter, truncated ROIs and the merge of
traffic lights), quantified over ALL table sets — no bound on the number of samples, instances,
sensors, annotations. That the model is the devkit + loader is checked on
every run by loading generated dataset directories with the real `load_all_datasets`
(`harness/props/c16.py`). The label pair tables and the `Visibility` tables are regenerated from
/repo on every run (`PEval.Gen`), so the side conditions on them (decided in C14) are re-checked against the code.

Not proved here (left to the correspondence): that the devkit really has the table semantics of the
model (each assumed fact is a named TRUSTED entry of the harness with a case family exposing a
deviation); IEEE arithmetic of the pose and velocity computation (the float `1e-6 * timestamp` enters
the model as the exact rational `Sample.secs`); the order in which Python enumerates `set(uuids)`.
Modelled besides ego→map: the averaged traffic-light camera (`tlrAverage`, up to the irrational
normalisation). Not modelled: the other sensor transforms stored with a frame, `load_raw_data`.
-/
namespace PEval.C16
open PEval PEval.Dataset

/-- every label the pair tables (merge off/on) can answer is a member of `AutowareLabel` -/
theorem label_table_members :
    ∀ merge : Bool, ∀ p ∈ pairTable merge, p.1 ∈ Gen.autowareLabel.map (·.1) := by
  intro merge
  cases merge
  exacts [C14.autoware_labels_are_members.1, C14.autoware_labels_are_members.2.1]

/-- conversion never fails: every string converts to a member of `AutowareLabel` -/
theorem label_total (merge : Bool) (name : String) :
    convertLabel merge name ∈ Gen.autowareLabel.map (·.1) := by
  rw [convertLabel, convertWith_eq]
  exact C14.convert_total_autoware merge name

/-- a category whose lower-cased name is registered gets the label of a pair registered under that
name (case-insensitive; the first such pair, `convert_label` breaks at the first match) -/
theorem label_registered (merge : Bool) (name : String)
    (h : name.toLower ∈ (pairTable merge).map (·.2)) :
    ∃ p ∈ pairTable merge, p.2 = name.toLower ∧ convertLabel merge name = p.1 := by
  rw [convertLabel, convertWith]
  cases hf : (pairTable merge).find? (fun p => name.toLower == p.2) with
  | some p =>
    have hp := List.find?_some hf
    exact ⟨p, List.mem_of_find?_eq_some hf, (beq_iff_eq.1 hp).symm, rfl⟩
  | none =>
    obtain ⟨p, hp, hp2⟩ := List.mem_map.1 h
    simpa [hp2] using List.find?_eq_none.1 hf p hp

/-- a category outside the table becomes UNKNOWN -/
theorem label_unregistered (merge : Bool) (name : String)
    (h : name.toLower ∉ (pairTable merge).map (·.2)) : convertLabel merge name = "UNKNOWN" :=
  (convertWith_eq _ name).trans (C14.unregistered_unknown _ name h).1

/-- one frame per sample, in dataset order, carrying the sample's timestamp and named by its index -/
theorem frames_length_order_time (T : Tables) (cfg : Config) (fs : List Frame)
    (h : loadDataset T cfg = .ok fs) :
    fs.length = T.samples.length ∧
    fs.map (·.unixTime) = T.samples.map (·.timestamp) ∧
    fs.map (·.frameName) = (List.range T.samples.length).map toString := by
  have hall := (loadDataset_ok h).imp fun p f hp => by
    obtain ⟨_, _, _, hf⟩ := sampleToFrame_ok hp
    exact And.intro hf.unixTime hf.frameName
  refine ⟨by rw [← hall.length_eq, List.length_zipIdx], ?_, ?_⟩
  · exact forall₂_map_eq (List.zipIdx_map_fst 0 T.samples ▸ List.forall₂_map_left_iff.2 (hall.imp fun _ _ h => h.1))
  · rw [List.range_eq_range']
    exact forall₂_map_eq (List.zipIdx_map_snd 0 T.samples ▸ List.forall₂_map_left_iff.2 (hall.imp fun _ _ h => h.2))

/-- the `i`-th frame is `_sample_to_frame` of the `i`-th sample, named `str(i)` -/
theorem frames_of_samples (T : Tables) (cfg : Config) (fs : List Frame)
    (h : loadDataset T cfg = .ok fs) :
    ∀ i (hi : i < T.samples.length),
      ∃ f, fs[i]? = some f ∧ sampleToFrame T cfg i T.samples[i] = .ok f := by
  intro i hi
  obtain ⟨f, hf, hs⟩ := (forall₂_zipIdx (loadDataset_ok h)).2 i hi
  rw [Nat.zero_add] at hs
  exact ⟨f, hf, hs⟩

/-- In a loaded frame the objects correspond one-to-one, in order, to the annotations of the sample
(`annsOf`: the annotation table restricted to the sample); each object carries the annotation's
instance id, the name of the instance's category and its converted label, the names of the
annotation's attributes, the annotated size, the lidar point count, the visibility, and is stamped
with the sample's time and the requested frame id. -/
theorem objects_per_annotation (T : Tables) (cfg : Config) (n : Nat) (s : Sample) (f : Frame)
    (h : sampleToFrame T cfg n s = .ok f) :
    List.Forall₂ (fun a o =>
        o.uuid = a.instanceToken ∧
        categoryNameOf T a = .ok o.name ∧ o.label = convertLabel cfg.merge o.name ∧
        attributeNamesOf T a = .ok o.attributes ∧
        o.size = a.size ∧ o.points = a.numLidarPts ∧
        visibilityOf T a = .ok o.visibility ∧
        o.time = s.timestamp ∧ o.frame = cfg.frame)
      (annsOf T s.token) f.objects := by
  refine sampleToFrame_forall₂ h fun _ _ a o _ hao => ?_
  have ho := objectOf_ok hao
  exact ⟨ho.uuid, ho.name, ho.label, ho.attributes, ho.size, ho.points, ho.visibility, ho.time, ho.frame⟩

/-- what `categoryNameOf` reads: the category of the annotation's instance -/
theorem category_via_instance (T : Tables) (a : Annotation) (name : String)
    (h : categoryNameOf T a = .ok name) :
    ∃ inst cat, lookup Instance.token T.instances a.instanceToken = .ok inst ∧
      lookup Named.token T.categories inst.categoryToken = .ok cat ∧ cat.name = name := by
  simp only [categoryNameOf, bind_eq_ok, pure, Except.pure, Except.ok.injEq] at h
  obtain ⟨inst, hi, cat, hc, rfl⟩ := h
  exact ⟨inst, cat, hi, hc, rfl⟩

/-- what `attributeNamesOf` reads: the attribute records the annotation's tokens name, in order -/
theorem attributes_via_tokens (T : Tables) (a : Annotation) (names : List String)
    (h : attributeNamesOf T a = .ok names) :
    List.Forall₂ (fun t nm => ∃ r, lookup Named.token T.attributes t = .ok r ∧ r.name = nm)
      a.attributeTokens names := by
  exact (mapE_forall₂ h).imp fun t nm ht => map_eq_ok.1 ht

/-- with a visibility table: the level of the record the annotation's token names, parsed by
`Visibility.from_value` (`PEval.Enums.visibilityFromValue`, C20) -/
theorem visibility_via_level (T : Tables) (a : Annotation) (v : Option String)
    (hne : T.visibility ≠ []) (h : visibilityOf T a = .ok v) :
    ∃ r m, lookup Named.token T.visibility a.visibilityToken = .ok r ∧
      Enums.visibilityFromValue r.name = .ok m ∧ v = some m := by
  rw [visibilityOf, if_neg (by simpa using hne)] at h
  obtain ⟨r, hr, rfl⟩ := map_eq_ok.1 h
  refine ⟨r, visibilityOfLevel r.name, hr, ?_, rfl⟩
  unfold visibilityOfLevel Enums.visibilityFromValue
  split <;> rfl

/-- without a visibility table (`len(nusc.visibility) == 0`) every object's visibility is `None` -/
theorem visibility_absent (T : Tables) (cfg : Config) (n : Nat) (s : Sample) (f : Frame)
    (hv : T.visibility = []) (h : sampleToFrame T cfg n s = .ok f) :
    ∀ o ∈ f.objects, o.visibility = none := by
  intro o ho
  obtain ⟨_, _, a, hao⟩ := sampleToFrame_mem h ho
  have hvis := hao.visibility
  rw [visibilityOf, hv] at hvis
  exact (Except.ok.inj hvis).symm

/-- requested in the map frame, an object's pose is the annotated global pose -/
theorem map_pose_eq_annotation (T : Tables) (cfg : Config) (n : Nat) (s : Sample) (f : Frame)
    (hm : cfg.frame = "MAP") (h : sampleToFrame T cfg n s = .ok f) :
    List.Forall₂ (fun a o => o.pose = annPose a) (annsOf T s.token) f.objects := by
  refine sampleToFrame_forall₂ h fun _ _ a o _ hao => ?_
  have hpose := (objectOf_ok hao).pose
  rw [hm, boxPose_map] at hpose
  exact (Except.ok.inj hpose).symm

/-- the transform stored with the frame is the ego pose of the lidar key frame the loader picked -/
theorem ego2map_eq_ego_pose (T : Tables) (cfg : Config) (n : Nat) (s : Sample) (f : Frame)
    (h : sampleToFrame T cfg n s = .ok f) :
    ∃ sd ego, lidarOf T s.token = .ok sd ∧
      lookup EgoPose.token T.egoPoses sd.egoPoseToken = .ok ego ∧
      f.ego2map = ⟨ego.translation, ego.rotation⟩ := by
  obtain ⟨sd, ego, _, hf⟩ := sampleToFrame_ok h
  exact ⟨sd, ego, hf.lidar, hf.egoPose, hf.ego2map⟩

/-- the general pose law: whatever the lidar's calibration, an object requested in the "ego" frame carries the
annotated pose moved by the inverse ego pose AND THEN by the inverse pose of the calibrated lidar — i.e. it is
expressed in the lidar's frame; only for a lidar calibrated at the ego origin (`ego_pose_eq_moved`) is that the ego
frame.  Requested in the map frame it is the annotated pose for every calibration (`map_pose_eq_annotation`). -/
theorem ego_pose_any_calibration (T : Tables) (cfg : Config) (n : Nat) (s : Sample) (f : Frame)
    (sd : SampleData) (ego : EgoPose) (cs : CalibratedSensor)
    (hb : cfg.frame = "BASE_LINK") (h : sampleToFrame T cfg n s = .ok f)
    (hsd : lidarOf T s.token = .ok sd)
    (hego : lookup EgoPose.token T.egoPoses sd.egoPoseToken = .ok ego)
    (hcs : lookup CalibratedSensor.token T.calibratedSensors sd.calibratedSensorToken = .ok cs) :
    List.Forall₂ (fun a o => o.pose =
        moveInv cs.translation cs.rotation (moveInv ego.translation ego.rotation (annPose a)))
      (annsOf T s.token) f.objects := by
  obtain ⟨sd', ego', cs', hf⟩ := sampleToFrame_ok h
  cases hsd.symm.trans hf.lidar
  cases hego.symm.trans hf.egoPose
  cases hcs.symm.trans hf.calib
  refine hf.objects.imp fun a o hao => ?_
  have hpose := (objectOf_ok hao).pose
  rw [hb, boxPose_base_link] at hpose
  exact (Except.ok.inj hpose).symm

/-- requested in the ego frame, with the picked lidar calibrated at the ego origin, an object's pose
is the annotated global pose moved by the inverse ego pose -/
theorem ego_pose_eq_moved (T : Tables) (cfg : Config) (n : Nat) (s : Sample) (f : Frame)
    (sd : SampleData) (ego : EgoPose) (cs : CalibratedSensor)
    (hb : cfg.frame = "BASE_LINK") (h : sampleToFrame T cfg n s = .ok f)
    (hsd : lidarOf T s.token = .ok sd)
    (hego : lookup EgoPose.token T.egoPoses sd.egoPoseToken = .ok ego)
    (hcs : lookup CalibratedSensor.token T.calibratedSensors sd.calibratedSensorToken = .ok cs)
    (h0 : cs.translation = Vec3.zero) (h1 : cs.rotation = Quat.one) :
    List.Forall₂ (fun a o => o.pose = moveInv ego.translation ego.rotation (annPose a))
      (annsOf T s.token) f.objects := by
  refine (ego_pose_any_calibration T cfg n s f sd ego cs hb h hsd hego hcs).imp fun a o hao => ?_
  rw [hao, h0, h1, moveInv_identity]

/-- … so, for a unit ego rotation, the ego→map transform stored with the frame maps every object's
ego-frame pose back onto the annotated global pose — position and orientation -/
theorem ego_pose_roundtrip (T : Tables) (cfg : Config) (n : Nat) (s : Sample) (f : Frame)
    (sd : SampleData) (ego : EgoPose) (cs : CalibratedSensor)
    (hb : cfg.frame = "BASE_LINK") (h : sampleToFrame T cfg n s = .ok f)
    (hsd : lidarOf T s.token = .ok sd)
    (hego : lookup EgoPose.token T.egoPoses sd.egoPoseToken = .ok ego)
    (hcs : lookup CalibratedSensor.token T.calibratedSensors sd.calibratedSensorToken = .ok cs)
    (h0 : cs.translation = Vec3.zero) (h1 : cs.rotation = Quat.one)
    (hu : ego.rotation.normSq = 1) :
    List.Forall₂ (fun a o => applyPose f.ego2map o.pose = annPose a) (annsOf T s.token) f.objects := by
  obtain ⟨sd', ego', hsd', hego', he⟩ := ego2map_eq_ego_pose T cfg n s f h
  cases hsd.symm.trans hsd'
  cases hego.symm.trans hego'
  refine (ego_pose_eq_moved T cfg n s f sd ego cs hb h hsd hego hcs h0 h1).imp fun a o hao => ?_
  rw [he, hao]
  exact applyPose_moveInv _ _ hu _

/-- `_sample_to_frame` reads the sample's `LIDAR_TOP` key frame when it has one … -/
theorem lidar_top_preferred (T : Tables) (tok : String) (sd : SampleData)
    (h : dataOf T tok "LIDAR_TOP" = some sd) : lidarOf T tok = .ok sd := by
  simp [lidarOf, h]

/-- … otherwise its `LIDAR_CONCAT` key frame … -/
theorem lidar_concat_fallback (T : Tables) (tok : String) (sd : SampleData)
    (h0 : dataOf T tok "LIDAR_TOP" = none) (h : dataOf T tok "LIDAR_CONCAT" = some sd) :
    lidarOf T tok = .ok sd := by
  simp [lidarOf, h0, h]

/-- … and raises `ValueError` when the sample has neither -/
theorem no_lidar_rejected (T : Tables) (cfg : Config) (n : Nat) (s : Sample)
    (h0 : dataOf T s.token "LIDAR_TOP" = none) (h1 : dataOf T s.token "LIDAR_CONCAT" = none) :
    sampleToFrame T cfg n s = .error "ValueError" := by
  simp [sampleToFrame, lidarOf, h0, h1, bind, Except.bind]

/-- a dataset without samples is rejected (`DatasetLoadingError`) -/
theorem no_samples_rejected (T : Tables) (cfg : Config) (h : T.samples = []) :
    loadDataset T cfg = .error "DatasetLoadingError" := by
  simp [loadDataset, h]

/-- a tracking task exposes, per object, one state per record that `get_past_for_agent` returns for
the object's instance and sample, nearest first: the record's annotated global pose, its size and
the devkit's `box_velocity` of the record -/
theorem tracking_history (T : Tables) (cfg : Config) (n : Nat) (s : Sample) (f : Frame)
    (ht : cfg.tracking = true) (h : sampleToFrame T cfg n s = .ok f) :
    List.Forall₂ (fun a o => ∃ recs states, pastRecords T a = .ok recs ∧ o.tracked = some states ∧
        List.Forall₂ (fun r st => st.pose = annPose r ∧ st.size = r.size ∧
          velocityOf T false r = .ok st.velocity) recs states)
      (annsOf T s.token) f.objects := by
  refine sampleToFrame_forall₂ h fun _ _ a o _ hao => ?_
  have htr := (objectOf_ok hao).tracked
  rw [trackedOf, if_pos ht] at htr
  split at htr
  · cases htr
  · rename_i recs hp
    obtain ⟨states, hm, hst⟩ := map_eq_ok.1 htr
    refine ⟨recs, states, hp, hst.symm, (mapE_forall₂ hm).imp fun r st hrs => ?_⟩
    obtain ⟨v, hv, rfl⟩ := map_eq_ok.1 hrs
    exact ⟨rfl, rfl, hv⟩

/-- when `prev` links stay within one instance (well-formed data), every exposed past state belongs
to an annotation of the SAME instance -/
theorem tracking_history_same_instance (T : Tables) (a : Annotation) (recs : List Annotation)
    (hprev : ∀ b ∈ T.annotations, ∀ c, lookup Annotation.token T.annotations b.prev = .ok c →
      c.instanceToken = b.instanceToken)
    (h : pastRecords T a = .ok recs) :
    ∀ r ∈ recs, r ∈ T.annotations ∧ r.instanceToken = a.instanceToken := by
  obtain ⟨st, t0, _, hstm, hsti, _, h⟩ := pastRecords_inv h
  refine iterate_inv (fun r => r ∈ T.annotations ∧ r.instanceToken = a.instanceToken)
    (fun r => r ∈ T.annotations ∧ r.instanceToken = a.instanceToken) ?_ _ st 0 [] recs ⟨hstm, hsti⟩
    (fun r hr => by cases hr) h
  intro cur nxt t ⟨hc, hci⟩ hn _
  have hm := (lookup_ok_mem hn).1
  have := hprev cur hc nxt hn
  exact ⟨⟨hm, this.trans hci⟩, fun _ => ⟨hm, this.trans hci⟩⟩

/-- the history holds at most 6 states, each less than 3.15 s away from the object's own sample -/
theorem tracking_history_bounds (T : Tables) (a : Annotation) (recs : List Annotation)
    (h : pastRecords T a = .ok recs) :
    recs.length ≤ 6 ∧
    ∀ r ∈ recs, ∃ tr ta, timeOf T r.sampleToken = .ok tr ∧ timeOf T a.sampleToken = .ok ta ∧
      absDiff tr ta < 3150000 := by
  obtain ⟨st, t0, _, _, _, ht0, h⟩ := pastRecords_inv h
  refine ⟨iterate_length _ st 0 [] recs (by simp [maxPast]) h, ?_⟩
  refine iterate_inv (fun r => ∃ tr ta, timeOf T r.sampleToken = .ok tr ∧ timeOf T a.sampleToken = .ok ta ∧
    absDiff tr ta < 3150000) (fun _ => True) ?_ _ st 0 [] recs trivial (fun r hr => by cases hr) h
  intro cur nxt t _ _ ht
  exact ⟨trivial, fun hlt => ⟨t, t0, ht, ht0, hlt⟩⟩

/-- when every `prev` link points to a strictly earlier sample (well-formed data), every exposed
past state lies strictly BEFORE the object's sample: the history is about preceding samples -/
theorem tracking_history_preceding (T : Tables) (a : Annotation) (recs : List Annotation)
    (hearlier : ∀ b ∈ T.annotations, ∀ c, lookup Annotation.token T.annotations b.prev = .ok c →
      ∀ tb tc, timeOf T b.sampleToken = .ok tb → timeOf T c.sampleToken = .ok tc → tc < tb)
    (h : pastRecords T a = .ok recs) :
    ∀ r ∈ recs, ∃ tr ta, timeOf T r.sampleToken = .ok tr ∧ timeOf T a.sampleToken = .ok ta ∧ tr < ta := by
  obtain ⟨st, t0, hst, hstm, _, ht0, h⟩ := pastRecords_inv h
  have hst0 : timeOf T st.sampleToken = .ok t0 := (startOf_inv hst).2.1 ▸ ht0
  refine iterate_inv
    (fun r => ∃ tr ta, timeOf T r.sampleToken = .ok tr ∧ timeOf T a.sampleToken = .ok ta ∧ tr < ta)
    (fun c => c ∈ T.annotations ∧ ∃ tc, timeOf T c.sampleToken = .ok tc ∧ tc ≤ t0) ?_ _ st 0 [] recs
    ⟨hstm, t0, hst0, Nat.le_refl _⟩ (fun r hr => by cases hr) h
  intro cur nxt t ⟨hc, tc, htc, hle⟩ hn ht
  have hlt := hearlier cur hc nxt hn tc t htc ht
  have hm := (lookup_ok_mem hn).1
  exact ⟨⟨hm, t, ht, by omega⟩, fun _ => ⟨t, t0, ht, ht0, by omega⟩⟩

/-! ### the history is EXACTLY a prefix of the `prev`-chain

`PrevChain T a chain` (`PEval.Lemmas.DatasetHistory`): `chain` lists the records met when walking
`prev` from `a` down to a record without `prev`, nearest first. `tm r` is the time of the sample of
record `r`. The code's test (`PredictHelper._iterate`): a record is kept iff its distance in time
to the object's sample is STRICTLY below 3.0 s + 0.15 s = 3 150 000 µs; the walk goes on while the last
distance is ≤ that bound and fewer than `int(2 * 3.0) = 6` records are held. With `prev` links that go
strictly back in time this is "the chain cut at the first record 3.15 s old or older, at most 6". -/

/-- For well-formed data — `prev` links point strictly back in time and the sample holds no second
annotation of the instance — the records `get_past_for_agent` returns for the object are exactly:
the `prev`-chain of the object's annotation, nearest first, cut at the first record that is
3.15 s or more older than the object's sample, truncated to 6. -/
theorem tracking_history_exact (T : Tables) (tm : Annotation → Nat) (a : Annotation) (chain : List Annotation)
    (ha : a ∈ T.annotations)
    (htm : ∀ r ∈ T.annotations, timeOf T r.sampleToken = .ok (tm r))
    (hearlier : ∀ b ∈ T.annotations, ∀ c, lookup Annotation.token T.annotations b.prev = .ok c → tm c < tm b)
    (huniq : ∀ b ∈ T.annotations, b.sampleToken = a.sampleToken → b.instanceToken = a.instanceToken → b = a)
    (hchain : PrevChain T a chain) :
    pastRecords T a = .ok ((chain.takeWhile (fun r => decide (tm a - tm r < 3150000))).take 6) := by
  obtain ⟨hmem, hpw⟩ := hchain.desc ha hearlier
  obtain ⟨hlt, hpw⟩ := List.pairwise_cons.1 hpw
  -- every record of the chain is older than `a`, so its distance in time to the object's sample is `tm a - tm r`,
  -- growing along the chain
  have hdist : ∀ r ∈ chain, absDiff (tm r) (tm a) = tm a - tm r := fun r hr => if_pos (hlt r hr).le
  have hgrow : chain.Pairwise (fun x y => tm a - tm x < tm a - tm y) :=
    hpw.imp_of_mem fun {x y} hx hy hxy => by
      have := hlt x hx
      omega
  have hspec := iterate_spec (start := tm a) (d := fun r => tm a - tm r) hchain
    (fun r hr => ⟨tm r, htm r (hmem r hr), hdist r hr⟩) hgrow
    T.annotations.length 0 [] (hchain.length_lt ha hearlier) (fun _ _ => Nat.zero_le _) (Nat.zero_le _)
  simp only [pastRecords, startOf_self ha huniq, htm a ha, hspec]
  rfl

/-- `prev_chain_exists_sorted` (next) under the one clause of `WellFormed` it needs: every non-empty `prev` resolves -/
theorem prev_chain_of_resolving_prev (T : Tables) (tm : Annotation → Nat) (a : Annotation)
    (hprev : ∀ a ∈ T.annotations, a.prev ≠ "" → ∃ b, lookup Annotation.token T.annotations a.prev = .ok b)
    (ha : a ∈ T.annotations)
    (hearlier : ∀ b ∈ T.annotations, ∀ c, lookup Annotation.token T.annotations b.prev = .ok c → tm c < tm b) :
    ∃ chain, PrevChain T a chain ∧ (∀ chain', PrevChain T a chain' → chain' = chain) ∧
      (∀ r ∈ chain, r ∈ T.annotations ∧ tm r < tm a) ∧ chain.Pairwise (fun x y => tm y < tm x) ∧
      ((∀ b ∈ T.annotations, ∀ c, lookup Annotation.token T.annotations b.prev = .ok c →
          c.instanceToken = b.instanceToken) → ∀ r ∈ chain, r.instanceToken = a.instanceToken) := by
  obtain ⟨chain, hc⟩ := PrevChain.exists_of_resolving tm hprev hearlier a ha
  obtain ⟨hmem, hpw⟩ := hc.desc ha hearlier
  obtain ⟨h1, h2⟩ := List.pairwise_cons.1 hpw
  refine ⟨chain, hc, fun c' hc' => hc'.unique hc, fun r hr => ⟨hmem r hr, h1 r hr⟩, h2, fun hprev => ?_⟩
  -- "`y` has the instance of `x`" is transitive and holds along every link, hence between `a` and every record
  have hinst : (a :: chain).Pairwise (fun x y => y.instanceToken = x.instanceToken) :=
    (hc.pairwise ha (fun _ _ _ hxy hyz => hyz.trans hxy) hprev).2
  exact (List.pairwise_cons.1 hinst).1

/-- on referentially intact tables with `prev` links strictly back in time, the chain of every
annotation exists (the walk along `prev` ends), is unique, sorted newest first, strictly older than
the annotation, made of records of the annotation table, and stays in the instance when every link does -/
theorem prev_chain_exists_sorted (T : Tables) (tm : Annotation → Nat) (a : Annotation) (wf : WellFormed T)
    (ha : a ∈ T.annotations)
    (hearlier : ∀ b ∈ T.annotations, ∀ c, lookup Annotation.token T.annotations b.prev = .ok c → tm c < tm b) :
    ∃ chain, PrevChain T a chain ∧ (∀ chain', PrevChain T a chain' → chain' = chain) ∧
      (∀ r ∈ chain, r ∈ T.annotations ∧ tm r < tm a) ∧ chain.Pairwise (fun x y => tm y < tm x) ∧
      ((∀ b ∈ T.annotations, ∀ c, lookup Annotation.token T.annotations b.prev = .ok c →
          c.instanceToken = b.instanceToken) → ∀ r ∈ chain, r.instanceToken = a.instanceToken) :=
  prev_chain_of_resolving_prev T tm a wf.ann_prev ha hearlier

/-- … so, in a loaded tracking frame of such data, the history of every object is the poses and sizes
of that prefix of its annotation's chain, nearest first -/
theorem tracking_history_exact_frame (T : Tables) (tm : Annotation → Nat) (cfg : Config) (n : Nat) (s : Sample)
    (f : Frame) (ht : cfg.tracking = true) (h : sampleToFrame T cfg n s = .ok f)
    (htm : ∀ r ∈ T.annotations, timeOf T r.sampleToken = .ok (tm r))
    (hearlier : ∀ b ∈ T.annotations, ∀ c, lookup Annotation.token T.annotations b.prev = .ok c → tm c < tm b)
    (huniq : ∀ a ∈ T.annotations, ∀ b ∈ T.annotations, b.sampleToken = a.sampleToken →
      b.instanceToken = a.instanceToken → b = a) :
    List.Forall₂ (fun a o => ∀ chain, PrevChain T a chain → ∃ states, o.tracked = some states ∧
        states.map (fun st => (st.pose, st.size)) =
          ((chain.takeWhile (fun r => decide (tm a - tm r < 3150000))).take 6).map (fun r => (annPose r, r.size)))
      (annsOf T s.token) f.objects := by
  refine forall₂_imp (tracking_history T cfg n s f ht h) ?_
  intro a o ha ⟨recs, states, hrecs, hst, hall⟩ chain hchain
  have ham := (annsOf_mem ha).1
  rw [tracking_history_exact T tm a chain ham htm hearlier (huniq a ham) hchain] at hrecs
  cases hrecs
  exact ⟨states, hst, forall₂_map_eq (hall.imp fun r st hrs => Prod.ext hrs.1 hrs.2.1)⟩

/-- other tasks (detection, sensing) expose no history -/
theorem no_history_unless_tracking (T : Tables) (cfg : Config) (n : Nat) (s : Sample) (f : Frame)
    (ht : cfg.tracking = false) (h : sampleToFrame T cfg n s = .ok f) :
    ∀ o ∈ f.objects, o.tracked = none := by
  intro o ho
  obtain ⟨_, _, a, hao⟩ := sampleToFrame_mem h ho
  have htr := hao.tracked
  rw [trackedOf, if_neg (by simp [ht])] at htr
  exact (Except.ok.inj htr).symm

/-! ## velocities

`velocityOf T true a`  = `_get_box_velocity(nusc, a.token)` of perception_eval (object axes of `first`),
`velocityOf T false r` = `nusc.box_velocity(r.token)` of the devkit (global axes; `none` = the all-`nan`
vector). `secs` of a sample is the float `1e-6 * timestamp` (exact value); `velocity_exact_time`
specialises to timestamps for which that product is exact.

`velocityOf` computes `d / (tl − tf)` with Lean's total division (`x / 0 = 0`).  Python (`_get_box_velocity`, which the
loader uses for every object, dataset_utils.py:322-379; the devkit's `box_velocity`, used for the tracked states)
divides a numpy array by the float `time_diff`: for `time_diff = 0.0` it returns `inf` / `-inf` / `nan` components
without raising, and `0 <= max_time_diff` passes the bound.  `velocityPy` returns that outcome explicitly
(`Vel.div0 d`).  First / last annotation of an instance: the missing side is the annotation itself (one-sided
difference); no neighbour at all: no estimate.  Equal times need two samples with the same timestamp, or a `prev` /
`next` link into the annotation's own sample — excluded by the schema (`TimeOrdered`), not by `WellFormed`.  The
closed form is proved for `velocityPy` and read back through `Vel.leanView`. -/

/-- every loaded object carries `_get_box_velocity` of its annotation — whatever the frame id and task -/
theorem objects_velocity (T : Tables) (cfg : Config) (n : Nat) (s : Sample) (f : Frame)
    (h : sampleToFrame T cfg n s = .ok f) :
    List.Forall₂ (fun a o => velocityOf T true a = .ok o.velocity) (annsOf T s.token) f.objects :=
  sampleToFrame_forall₂ h fun _ _ _ _ _ hao => (objectOf_ok hao).velocity

/-- an annotation with neither `prev` nor `next` has no velocity estimate (`None`; `nan` for the devkit) -/
theorem velocity_none_single (T : Tables) (objectFrame : Bool) (a : Annotation)
    (hp : a.prev = "") (hn : a.next = "") : velocityOf T objectFrame a = .ok none := by
  simp [velocityOf, hp, hn]

/-- the formula with Python's outcome: as `velocity_formula` (next), and for `tl − tf = 0` the division-by-zero outcome
carrying the displacement (components `inf` / `-inf` / `nan` by the sign of its components: `Vel.div0Comps`) -/
theorem velocity_formula_py (T : Tables) (objectFrame : Bool) (a first last : Annotation) (tf tl : Rat)
    (hsome : a.prev ≠ "" ∨ a.next ≠ "")
    (hfirst : if a.prev = "" then first = a else lookup Annotation.token T.annotations a.prev = .ok first)
    (hlast : if a.next = "" then last = a else lookup Annotation.token T.annotations a.next = .ok last)
    (htf : secsOf T first.sampleToken = .ok tf) (htl : secsOf T last.sampleToken = .ok tl) :
    velocityPy T objectFrame a = .ok
      (if tl - tf ≤ (if a.prev ≠ "" ∧ a.next ≠ "" then 3 else 3 / 2) then
        (if tl - tf = 0 then
          .div0 (if objectFrame then rotate first.rotation.conj (last.translation.sub first.translation)
                 else last.translation.sub first.translation)
         else .finite (((if objectFrame then rotate first.rotation.conj (last.translation.sub first.translation)
                else last.translation.sub first.translation)).divBy (tl - tf)))
       else .none) := by
  have h0 : (a.prev == "" && a.next == "") = false := by
    rcases hsome with h | h <;> simp [h]
  simp only [velocityPy, h0, Bool.false_eq_true, if_false, neighbour_eq hfirst, neighbour_eq hlast, htf, htl,
    maxTimeDiff_eq]

/-- the formula. `first` = the `prev` record, or the annotation itself when it has none; `last` = the
`next` record, or itself; `tf`, `tl` their sample times in seconds. The estimate is the displacement
`last − first` (for `_get_box_velocity`: turned into the axes of `first` by its inverse rotation)
divided by `tl − tf`, and there is NO estimate exactly when `tl − tf` exceeds 1.5 s — 3 s when both
neighbours exist (the bound itself is allowed: `time_diff <= max_time_diff`). -/
theorem velocity_formula (T : Tables) (objectFrame : Bool) (a first last : Annotation) (tf tl : Rat)
    (hsome : a.prev ≠ "" ∨ a.next ≠ "")
    (hfirst : if a.prev = "" then first = a else lookup Annotation.token T.annotations a.prev = .ok first)
    (hlast : if a.next = "" then last = a else lookup Annotation.token T.annotations a.next = .ok last)
    (htf : secsOf T first.sampleToken = .ok tf) (htl : secsOf T last.sampleToken = .ok tl) :
    velocityOf T objectFrame a = .ok
      (if tl - tf ≤ (if a.prev ≠ "" ∧ a.next ≠ "" then 3 else 3 / 2) then
        some (((if objectFrame then rotate first.rotation.conj (last.translation.sub first.translation)
                else last.translation.sub first.translation)).divBy (tl - tf))
       else none) := by
  rw [velocityOf_eq_leanView, velocity_formula_py T objectFrame a first last tf tl hsome hfirst hlast htf htl]
  by_cases hb : tl - tf ≤ (if a.prev ≠ "" ∧ a.next ≠ "" then 3 else 3 / 2)
  · by_cases hz : tl - tf = 0
    · rw [if_pos hb, if_pos hb, if_pos hz, hz]; rfl
    · rw [if_pos hb, if_pos hb, if_neg hz]; rfl
  · rw [if_neg hb, if_neg hb]; rfl

/-- with exact times (`secs = timestamp / 10^6`, e.g. timestamps on a 1/64 s grid) the divisor is the
difference of the two sample timestamps in seconds -/
theorem velocity_exact_time (T : Tables) (first last : Annotation) (sf sl : Sample)
    (hf : lookup Sample.token T.samples first.sampleToken = .ok sf)
    (hl : lookup Sample.token T.samples last.sampleToken = .ok sl)
    (hef : sf.secs = (sf.timestamp : Rat) / 1000000) (hel : sl.secs = (sl.timestamp : Rat) / 1000000) :
    ∃ tf tl, secsOf T first.sampleToken = .ok tf ∧ secsOf T last.sampleToken = .ok tl ∧
      tl - tf = ((sl.timestamp : Rat) - sf.timestamp) / 1000000 := by
  refine ⟨sf.secs, sl.secs, secsOf_ok hf, secsOf_ok hl, ?_⟩
  rw [hef, hel, sub_div]

/-- on referentially intact tables both velocity functions are defined for every annotation -/
theorem velocity_total (T : Tables) (wf : WellFormed T) (objectFrame : Bool) (a : Annotation)
    (ha : a ∈ T.annotations) : ∃ v, velocityOf T objectFrame a = .ok v :=
  velocityOf_ok wf objectFrame ha

/-- for ALL tables the total-division model is the Lean view of the Python outcome (`div0 d ↦ some (d / 0)`) -/
theorem velocity_py_refines (T : Tables) (fr : Bool) (a : Annotation) :
    velocityOf T fr a = (match velocityPy T fr a with
      | .ok v => .ok v.leanView
      | .error e => .error e) := velocityOf_eq_leanView T fr a

/-- `velocity_formula` guarded: when the two times differ, the total-division model and
Python's outcome are the same estimate -/
theorem velocity_formula_guarded (T : Tables) (objectFrame : Bool) (a first last : Annotation) (tf tl : Rat)
    (hsome : a.prev ≠ "" ∨ a.next ≠ "")
    (hfirst : if a.prev = "" then first = a else lookup Annotation.token T.annotations a.prev = .ok first)
    (hlast : if a.next = "" then last = a else lookup Annotation.token T.annotations a.next = .ok last)
    (htf : secsOf T first.sampleToken = .ok tf) (htl : secsOf T last.sampleToken = .ok tl) (hne : tl ≠ tf) :
    ∃ v, velocityOf T objectFrame a = .ok v ∧ velocityPy T objectFrame a = .ok (Vel.ofOption v) ∧
      v = (if tl - tf ≤ (if a.prev ≠ "" ∧ a.next ≠ "" then 3 else 3 / 2) then
        some (((if objectFrame then rotate first.rotation.conj (last.translation.sub first.translation)
                else last.translation.sub first.translation)).divBy (tl - tf))
       else none) := by
  refine ⟨_, velocity_formula T objectFrame a first last tf tl hsome hfirst hlast htf htl, ?_, rfl⟩
  rw [velocity_formula_py T objectFrame a first last tf tl hsome hfirst hlast htf htl]
  rw [if_neg (sub_ne_zero.2 hne), apply_ite Vel.ofOption]
  rfl

/-- the excluded class, characterised: equal times ⇒ Python's outcome is the division by zero of the displacement,
whereas the total-division model answers the zero vector (an artefact of `x / 0 = 0`, not what the code returns) -/
theorem velocity_div0_outcome (T : Tables) (objectFrame : Bool) (a first last : Annotation) (t : Rat)
    (hsome : a.prev ≠ "" ∨ a.next ≠ "")
    (hfirst : if a.prev = "" then first = a else lookup Annotation.token T.annotations a.prev = .ok first)
    (hlast : if a.next = "" then last = a else lookup Annotation.token T.annotations a.next = .ok last)
    (htf : secsOf T first.sampleToken = .ok t) (htl : secsOf T last.sampleToken = .ok t) :
    velocityPy T objectFrame a = .ok (.div0 (if objectFrame then
        rotate first.rotation.conj (last.translation.sub first.translation)
      else last.translation.sub first.translation)) ∧
    velocityOf T objectFrame a = .ok (some ⟨0, 0, 0⟩) := by
  have hz : t - t = 0 := sub_self t
  have hb : t - t ≤ (if a.prev ≠ "" ∧ a.next ≠ "" then (3 : Rat) else 3 / 2) := by
    rw [hz]; split
    exacts [zero_le_three, div_nonneg zero_le_three zero_le_two]
  constructor
  · rw [velocity_formula_py T objectFrame a first last t t hsome hfirst hlast htf htl]
    rw [if_pos hb, if_pos hz]
  · rw [velocity_formula T objectFrame a first last t t hsome hfirst hlast htf htl]
    rw [if_pos hb, hz]
    simp only [Vec3.divBy, Rat.div_def, Rat.inv_zero, Rat.mul_zero]

/-- on referentially intact tables whose `prev` / `next` links go strictly back / forward in time (the schema), no
velocity is a division by zero, and the total-division model represents Python's outcome faithfully -/
theorem velocity_no_div0 (T : Tables) (wf : WellFormed T) (ord : TimeOrdered T) (objectFrame : Bool) (a : Annotation)
    (ha : a ∈ T.annotations) :
    ∃ v, velocityPy T objectFrame a = .ok v ∧ v.isDiv0 = false ∧ velocityOf T objectFrame a = .ok v.toOption ∧
      v = Vel.ofOption v.toOption := by
  suffices h : ∃ v, velocityPy T objectFrame a = .ok v ∧ v.isDiv0 = false by
    obtain ⟨v, hv, hd⟩ := h
    obtain ⟨h1, h2⟩ := leanView_of_not_div0 hd
    exact ⟨v, hv, hd, by rw [velocityOf_eq_leanView, hv]; exact congrArg Except.ok h1, h2⟩
  -- the time of `first` is at most, the time of `last` at least the annotation's, one of them strictly
  obtain ⟨sa, hsa⟩ := wf.ann_sample a ha
  have hta := secsOf_ok hsa
  obtain ⟨first, tf, hf, htf, hp⟩ := neighbour_time wf hta (R := (· < ·)) (wf.ann_prev a ha)
    fun hp b hb tb htb => ord.prev_earlier a ha hp b hb _ _ hta htb
  obtain ⟨last, tl, hl, htl, hn⟩ := neighbour_time wf hta (R := fun tb ta => ta < tb) (wf.ann_next a ha)
    fun hn b hb tb htb => ord.next_later a ha hn b hb _ _ hta htb
  by_cases hne : a.prev = "" ∧ a.next = ""
  · exact ⟨.none, by simp [velocityPy, hne.1, hne.2], rfl⟩
  · have hlt : tf < tl := by
      rcases hp with ⟨hp, rfl⟩ | ⟨_, hp⟩ <;> rcases hn with ⟨hn, rfl⟩ | ⟨_, hn⟩
      · exact absurd ⟨hp, hn⟩ hne
      · exact hn
      · exact hp
      · exact hp.trans hn
    refine ⟨_, velocity_formula_py T objectFrame a first last tf tl (not_and_or.1 hne) hf hl htf htl, ?_⟩
    rw [if_neg (sub_ne_zero.2 hlt.ne')]
    exact (apply_ite Vel.isDiv0 _ _ _).trans (ite_self _)

/-- every loaded object carries Python's `_get_box_velocity` outcome of its annotation, and on time-ordered
well-formed tables that outcome is an ordinary estimate or `None` -/
theorem objects_velocity_py (T : Tables) (cfg : Config) (n : Nat) (s : Sample) (f : Frame)
    (wf : WellFormed T) (ord : TimeOrdered T) (h : sampleToFrame T cfg n s = .ok f) :
    List.Forall₂ (fun a o => ∃ v, velocityPy T true a = .ok v ∧ v.isDiv0 = false ∧ o.velocity = v.toOption)
      (annsOf T s.token) f.objects := by
  refine forall₂_imp (objects_velocity T cfg n s f h) ?_
  intro a o ha hao
  obtain ⟨v, hv, hd, hof, _⟩ := velocity_no_div0 T wf ord true a (annsOf_mem ha).1
  rw [hof] at hao
  exact ⟨v, hv, hd, (Except.ok.inj hao).symm⟩

/-- under FP_VALIDATION a loaded frame holds only objects labelled FP (any other converted label makes
`_sample_to_frame` raise `ValueError`) -/
theorem fp_validation_all_fp (T : Tables) (cfg : Config) (n : Nat) (s : Sample) (f : Frame)
    (hfp : cfg.fpValidation = true) (h : sampleToFrame T cfg n s = .ok f) :
    ∀ o ∈ f.objects, o.label = "FP" := by
  intro o ho
  obtain ⟨_, _, a, hao⟩ := sampleToFrame_mem h ho
  have hchk := hao.fp
  by_contra hl
  simp [fpCheck, hfp, hl] at hchk

/-- … and an annotation whose category converts to another label is rejected with `ValueError`, once
its pose, visibility, attributes and category resolve -/
theorem fp_validation_rejects (T : Tables) (cfg : Config) (time : Nat) (ego : EgoPose) (cs : CalibratedSensor)
    (a : Annotation) (pose : Pose) (vis : Option String) (attrs : List String) (name : String)
    (hfp : cfg.fpValidation = true) (hpose : boxPose cfg.frame ego cs a = .ok pose)
    (hvis : visibilityOf T a = .ok vis) (hattrs : attributeNamesOf T a = .ok attrs)
    (hname : categoryNameOf T a = .ok name) (hl : convertLabel cfg.merge name ≠ "FP") :
    objectOf T cfg time ego cs a = .error "ValueError" := by
  simp [objectOf, hpose, hvis, hattrs, hname, fpCheck, hfp, hl, bind, Except.bind]

/-- `_get_transforms` converts the channel of EVERY calibrated sensor of the dataset with
`FrameID.from_value`: a frame loads only if all of them are `FrameID` values -/
theorem sensor_channels_are_frame_ids (T : Tables) (cfg : Config) (n : Nat) (s : Sample) (f : Frame)
    (h : sampleToFrame T cfg n s = .ok f) :
    ∀ cs ∈ T.calibratedSensors, ∃ sen m, lookup Sensor.token T.sensors cs.sensorToken = .ok sen ∧
      Enums.frameFromValue sen.channel = .ok m := by
  obtain ⟨_, _, _, hf⟩ := sampleToFrame_ok h
  obtain ⟨frs, hfrs⟩ := hf.transforms
  exact sensorFrames_sensors hfrs

/-- Two traffic-light cameras calibrated `q` and `-q` (one and the same rotation) cannot make the average
`sum / sum.norm` of `_get_transforms` divide by zero (finding C16-N1): the rotations are averaged AFTER negating every one
whose 4-D dot product with the FIRST is negative (`alignSigns`). When the first is not the zero quaternion (pose
tables hold unit quaternions), an aligned rotation is the calibrated one or its negation and lies in the closed
half-space of the first; the aligned sum keeps a component of at least `|q₀|²` along the first rotation `q₀`, hence
is not zero, whatever the signs and the number of the rotations; so on tables without zero rotations
`_get_transforms` fails only where a calibrated sensor's sensor does not resolve (`KeyError`) or its channel is no
`FrameID` value (`ValueError`), and no frame of any 3-D task fails with `ZeroDivisionError`. -/
theorem traffic_light_rotations_never_cancel :
    (∀ q0 q : Quat, (alignTo q0 q = q ∨ alignTo q0 q = q.neg) ∧ 0 ≤ Quat.dot q0 (alignTo q0 q)) ∧
    (∀ (q0 : Quat) (rest : List Quat), q0 ≠ Quat.zero →
      q0.normSq ≤ Quat.dot q0 ((alignSigns (q0 :: rest)).foldl Quat.add Quat.zero) ∧
      (alignSigns (q0 :: rest)).foldl Quat.add Quat.zero ≠ Quat.zero) ∧
    (∀ (T : Tables) (frs : List String),
      (∀ q, (tlrRawRotations T frs).head? = some q → q ≠ Quat.zero) → tlrRotations T frs ≠ [] →
      (tlrRotations T frs).foldl Quat.add Quat.zero ≠ Quat.zero) ∧
    (∀ T : Tables, (∀ cs ∈ T.calibratedSensors, cs.rotation ≠ Quat.zero) →
      sensorFrames T ≠ .error "ZeroDivisionError" ∧
      (∀ e, sensorFrames T = .error e → e = "KeyError" ∨ e = "ValueError") ∧
      ∀ (cfg : Config) (n : Nat) (s : Sample) (sd : SampleData) (ego : EgoPose) (cs : CalibratedSensor),
        lidarOf T s.token = .ok sd → (cfg.frame = "BASE_LINK" ∨ cfg.frame = "MAP") →
        lookup EgoPose.token T.egoPoses sd.egoPoseToken = .ok ego →
        lookup CalibratedSensor.token T.calibratedSensors sd.calibratedSensorToken = .ok cs →
        (∃ frs, sensorFrames T = .ok frs) ∨
          sampleToFrame T cfg n s = .error "KeyError" ∨ sampleToFrame T cfg n s = .error "ValueError") := by
  refine ⟨?_, ?_, ?_, ?_⟩
  · exact fun q0 q => ⟨(alignTo_cases q0 q).symm.imp And.right And.right, alignTo_dot_nonneg q0 q⟩
  · intro q0 rest h
    exact ⟨alignSigns_sum_dot q0 rest, alignSigns_sum_ne_zero rest h⟩
  · intro T frs h hne
    exact tlrRotations_sum_ne_zero h hne
  · intro T hr
    have hkind : ∀ e, sensorFrames T = .error e → e = "KeyError" ∨ e = "ValueError" :=
      fun e he => frameIdsOf_error (sensorFrames_eq_frameIdsOf hr ▸ he)
    refine ⟨?_, hkind, ?_⟩
    · intro hz
      rcases hkind _ hz with h | h <;> simp at h
    · intro cfg n s sd ego cs hsd hfr hego hcs
      cases hs : sensorFrames T with
      | ok frs => exact Or.inl ⟨frs, rfl⟩
      | error e =>
        have : sampleToFrame T cfg n s = .error e := by simp [sampleToFrame, hsd, hfr, hego, hcs, hs, bind, Except.bind]
        rcases hkind e hs with rfl | rfl
        exacts [.inr (.inl this), .inr (.inr this)]

/-- the averaged traffic-light camera stored with a frame (`CAM_TRAFFIC_LIGHT -> BASE_LINK`): its rotation is
the (normalised) sum of the sign-aligned calibrated rotations, which is not the zero quaternion and has a
positive component along the first camera's rotation — two cameras calibrated `q` and `-q` average to `q`,
not to garbage; its position is the mean of the calibrated translations -/
theorem traffic_light_average (T : Tables) (hr : ∀ cs ∈ T.calibratedSensors, cs.rotation ≠ Quat.zero)
    (avg : Pose) (h : tlrAverage T = .ok (some avg)) :
    ∃ frs q0 rest, sensorFrames T = .ok frs ∧ tlrRawRotations T frs = q0 :: rest ∧
      avg.rot = (q0 :: rest.map (alignTo q0)).foldl Quat.add Quat.zero ∧
      avg.rot ≠ Quat.zero ∧ 0 < q0.normSq ∧ q0.normSq ≤ Quat.dot q0 avg.rot ∧
      avg.pos = ((tlrPositions T frs).foldl Vec3.add Vec3.zero).divBy ((tlrPositions T frs).length : Nat) := by
  revert h
  fun_cases tlrAverage T with
  | case3 frs hs hne =>
    rintro ⟨⟩
    cases hl : tlrRawRotations T frs with
    | nil => simp [tlrRotations, hl, alignSigns] at hne
    | cons q0 rest =>
      have hq0 : q0 ≠ Quat.zero := by
        obtain ⟨cs, hcs, rfl⟩ := tlrRawRotations_mem (T := T) (frs := frs) (q := q0) (by simp [hl])
        exact hr cs hcs
      refine ⟨frs, q0, rest, hs, hl, ?_, ?_, Quat.normSq_pos hq0, ?_, rfl⟩
      · simp [tlrRotations, hl, alignSigns]
      · simpa [tlrRotations, hl] using alignSigns_sum_ne_zero rest hq0
      · simpa [tlrRotations, hl] using alignSigns_sum_dot q0 rest
  | _ => nofun

/-- on referentially intact tables (`WellFormed`: every followed token resolves, every sample has a
lidar key frame, every sensor channel is a `FrameID` value, no calibrated rotation is the zero quaternion)
the loader returns frames for both supported frame ids, detection / tracking / sensing, merge on/off (for
FP_VALIDATION see `fp_validation_*`). `WellFormed` does not ask that `_get_transforms` succeed: that the
traffic-light cameras' rotations cannot cancel is proved (`traffic_light_rotations_never_cancel`), so
cameras calibrated `q` and `-q` are covered -/
theorem load_total (T : Tables) (cfg : Config) (wf : WellFormed T)
    (hfr : cfg.frame = "BASE_LINK" ∨ cfg.frame = "MAP") (hfp : cfg.fpValidation = false) :
    ∃ fs, loadDataset T cfg = .ok fs := by
  rw [loadDataset, if_neg (by simpa using wf.samples_ne), loadFrom_eq_mapM]
  refine mapM_ok_of_forall fun p hp => sampleToFrame_total wf hfr hfp p.2 ?_
  exact List.zipIdx_map_fst 0 T.samples ▸ List.mem_map_of_mem hp

/-- any other frame id is rejected (`_get_sample_boxes`) -/
theorem other_frame_rejected (T : Tables) (cfg : Config) (n : Nat) (s : Sample) (sd : SampleData)
    (hsd : lidarOf T s.token = .ok sd) (hfr : ¬ (cfg.frame = "BASE_LINK" ∨ cfg.frame = "MAP")) :
    sampleToFrame T cfg n s = .error "ValueError" := by
  simp [sampleToFrame, hsd, hfr, bind, Except.bind, throw, throwThe, MonadExceptOf.throw]

/-! ## 2-D tasks (`_sample_to_frame_2d`)

The "annotations" of a 2-D frame are the records of `object_ann.json` whose `sample_data_token` is
the key-frame image of one of the REQUESTED frame ids (cameras) in the sample — `objectAnnsOf T
(camerasOf T s.token cfg.frames)`, in table order. -/

/-- 2-D label conversion is total: every category name converts to a member of the label family of
the converter (`AutowareLabel` for the prefix `autoware`, `TrafficLightLabel` for `traffic_light`) -/
theorem label2d_total (cfg : Config2D) (name : String) :
    convertWith (pairTable2D cfg) name ∈
      (if cfg.family = "traffic_light" then Gen.trafficLightLabel else Gen.autowareLabel).map (·.1) := by
  rw [convertWith_eq, pairTable2D]
  split
  · exact C14.convert_total_trafficLight cfg.task name
  · exact C14.convert_total_autoware cfg.merge name

/-- one frame per sample, in dataset order, carrying the sample's timestamp and named by its index -/
theorem frames2d_length_order_time (T : Tables) (cfg : Config2D) (fs : List Frame2D)
    (h : loadDataset2D T cfg = .ok fs) :
    fs.length = T.samples.length ∧
    ∀ i (hi : i < T.samples.length), ∃ f, fs[i]? = some f ∧ sampleToFrame2D T cfg i T.samples[i] = .ok f ∧
      f.unixTime = T.samples[i].timestamp ∧ f.frameName = toString i := by
  unfold loadDataset2D at h
  split at h
  · cases h
  · obtain ⟨hlen, hidx⟩ := forall₂_zipIdx (mapM_ok_iff.1 (loadFrom2D_eq_mapM T cfg _ _ ▸ h))
    refine ⟨hlen, fun i hi => ?_⟩
    obtain ⟨f, hf, hs⟩ := hidx i hi
    rw [Nat.zero_add] at hs
    obtain ⟨_, _, _, _, _, _, rfl⟩ := sampleToFrame2D_ok hs
    exact ⟨_, hf, hs, rfl, rfl⟩

/-- the cameras of a frame: exactly the requested frame ids for which the sample has a key-frame
`sample_data` of the channel `frame_id.value.upper()`, in the order requested -/
theorem cameras_selected (T : Tables) (tok : String) (frames : List String) :
    (∀ fr sd, (fr, sd) ∈ camerasOf T tok frames ↔ fr ∈ frames ∧ dataOf T tok (cameraType fr) = some sd) ∧
    ((camerasOf T tok frames).map (·.1)).Sublist frames :=
  ⟨fun _ _ => mem_camerasOf, camerasOf_sublist T tok frames⟩

/-- the transform stored with a 2-D frame: none when no requested camera has data; otherwise the ego
pose of the image of the LAST requested camera that has data -/
theorem ego2map_2d (T : Tables) (cfg : Config2D) (n : Nat) (s : Sample) (f : Frame2D)
    (h : sampleToFrame2D T cfg n s = .ok f) :
    (camerasOf T s.token cfg.frames = [] → f.ego2map = none) ∧
    (∀ c, (camerasOf T s.token cfg.frames).getLast? = some c →
      ∃ ego, lookup EgoPose.token T.egoPoses c.2.egoPoseToken = .ok ego ∧
        f.ego2map = some ⟨ego.translation, ego.rotation⟩) := by
  obtain ⟨tf, _, _, htf, _, _, rfl⟩ := sampleToFrame2D_ok h
  refine ⟨fun hc => ?_, fun c hc => ?_⟩
  · rw [hc] at htf
    exact (Except.ok.inj htf).symm
  · exact transforms2D_last htf hc

/-- the per-annotation facts of `objects2d_per_annotation` (next), of the output of the annotation loop: they hold
for every configuration, the merging one included, where these objects are the candidates of `merged_traffic_lights` -/
theorem loop_objects_per_annotation {T : Tables} {cfg : Config2D} {time : Nat} {cams : List (String × SampleData)}
    {stale : Option String} {anns : List ObjectAnn} {objs : List Obj2D}
    (h : objects2DLoop T cfg time cams stale anns = .ok objs) :
    List.Forall₂ (fun o obj =>
        (∃ cat, lookup Named.token T.categories o.categoryToken = .ok cat ∧ obj.name = cat.name) ∧
        obj.label = convertWith (pairTable2D cfg) obj.name ∧
        attributeNamesOfTokens T o.attributeTokens = .ok obj.attributes ∧
        obj.roi = roiOf cfg.task o ∧
        frameOfToken cams o.sampleDataToken = some obj.frame ∧
        obj.time = time ∧
        (cfg.family ≠ "traffic_light" → obj.uuid = o.instanceToken) ∧
        (cfg.family = "traffic_light" → ∀ i, T.instances.find? (fun i => i.token == o.instanceToken) = some i →
          obj.uuid = lastSegment i.instanceName))
      anns objs := by
  refine forall₂_imp (objects2DLoop_forall₂ h) ?_
  intro o obj _ ⟨st, ho⟩
  obtain ⟨cat, attrs, uuid, fr, hcat, hattrs, huuid, hfr, rfl⟩ := object2DOf_ok ho
  refine ⟨⟨cat, hcat, rfl⟩, rfl, hattrs, rfl, hfr, rfl, ?_, ?_⟩
  · intro hne
    simp only [hne, if_false, Except.ok.injEq] at huuid
    exact huuid.symm
  · intro heq i hi
    simp only [heq, if_true, tlrUuid, hi, Except.ok.injEq] at huuid
    exact huuid.symm

/-- Unless traffic lights are merged (family `traffic_light` with CLASSIFICATION2D, see
`merged_traffic_lights`), the objects of a loaded 2-D frame correspond one-to-one, in order, to the
2-D annotations on the requested cameras; each object carries the name of the annotation's category
and its converted label, the names of its attributes, the ROI of its bbox (detection / tracking
only), the frame id under which its camera was requested, the sample's time, and as uuid the
annotation's instance token — for the traffic-light family the regulatory-element id (last
`:`-segment of `instance_name`) of the first instance record carrying that token. -/
theorem objects2d_per_annotation (T : Tables) (cfg : Config2D) (n : Nat) (s : Sample) (f : Frame2D)
    (hnm : ¬ (cfg.family = "traffic_light" ∧ cfg.task = "CLASSIFICATION2D"))
    (h : sampleToFrame2D T cfg n s = .ok f) :
    List.Forall₂ (fun o obj =>
        (∃ cat, lookup Named.token T.categories o.categoryToken = .ok cat ∧ obj.name = cat.name) ∧
        obj.label = convertWith (pairTable2D cfg) obj.name ∧
        attributeNamesOfTokens T o.attributeTokens = .ok obj.attributes ∧
        obj.roi = roiOf cfg.task o ∧
        frameOfToken (camerasOf T s.token cfg.frames) o.sampleDataToken = some obj.frame ∧
        obj.time = s.timestamp ∧
        (cfg.family ≠ "traffic_light" → obj.uuid = o.instanceToken) ∧
        (cfg.family = "traffic_light" → ∀ i, T.instances.find? (fun i => i.token == o.instanceToken) = some i →
          obj.uuid = lastSegment i.instanceName))
      (objectAnnsOf T (camerasOf T s.token cfg.frames)) f.objects := by
  obtain ⟨_, objs, objs', _, hobjs, hm, rfl⟩ := sampleToFrame2D_ok h
  simp only [hnm, if_false, Except.ok.injEq] at hm
  subst hm
  exact loop_objects_per_annotation hobjs

/-- the ROI: `None` for classification / fp-validation; for detection and tracking
`(int(xmin), int(ymin), int(xmax) - int(xmin), int(ymax) - int(ymin))` where `int` TRUNCATES toward zero
(so width and height are differences of truncated corners, not truncated differences) -/
theorem roi_truncates_toward_zero (task : String) (o : ObjectAnn) :
    ((task = "DETECTION2D" ∨ task = "TRACKING2D") → roiOf task o =
      some ⟨truncInt o.x0, truncInt o.y0, truncInt o.x1 - truncInt o.x0, truncInt o.y1 - truncInt o.y0⟩) ∧
    (¬ (task = "DETECTION2D" ∨ task = "TRACKING2D") → roiOf task o = none) ∧
    (∀ q : Rat, 0 ≤ q → 0 ≤ truncInt q ∧ (truncInt q : Rat) ≤ q ∧ q < (truncInt q : Rat) + 1) ∧
    (∀ q : Rat, q < 0 → truncInt q ≤ 0 ∧ q ≤ (truncInt q : Rat) ∧ (truncInt q : Rat) - 1 < q) := by
  refine ⟨fun h => by simp [roiOf, h], fun h => by simp [roiOf, h], fun q => truncInt_nonneg, fun q => truncInt_neg⟩

/-- the traffic-light uuid of one annotation, given what the loop variable `uuid` holds from earlier rounds (`stale`): the
regulatory-element id of the FIRST instance record with the annotation's instance token; when no instance record
matches, `stale` is reused silently, and `UnboundLocalError` is raised when there is none.  That `stale` is the previous
object's uuid, and nothing for the first object of a frame, is `Dataset.objects2DLoop_cons_ok`. -/
theorem traffic_light_uuid (T : Tables) (o : ObjectAnn) :
    (∀ i stale, T.instances.find? (fun i => i.token == o.instanceToken) = some i →
      tlrUuid T stale o = .ok (lastSegment i.instanceName)) ∧
    (T.instances.find? (fun i => i.token == o.instanceToken) = none →
      (∀ u, tlrUuid T (some u) o = .ok u) ∧ tlrUuid T none o = .error "UnboundLocalError") := by
  refine ⟨fun i stale hi => by simp [tlrUuid, hi], fun hn => ⟨fun u => by simp [tlrUuid, hn], by simp [tlrUuid, hn]⟩⟩

/-- family `traffic_light` with CLASSIFICATION2D: the frame holds ONE object per distinct uuid of the
per-annotation objects `objs` (described by `loop_objects_per_annotation`), stamped
`CAM_TRAFFIC_LIGHT`, without ROI; its label, name and attributes are those of one of the candidates
with that uuid — the common label if all candidates agree, otherwise (exactly two distinct labels are
tolerated, else `AssertionError`) a label different from UNKNOWN -/
theorem merged_traffic_lights (T : Tables) (cfg : Config2D) (n : Nat) (s : Sample) (f : Frame2D)
    (hm : cfg.family = "traffic_light" ∧ cfg.task = "CLASSIFICATION2D")
    (h : sampleToFrame2D T cfg n s = .ok f) :
    ∃ objs, objects2DLoop T cfg s.timestamp (camerasOf T s.token cfg.frames) none
        (objectAnnsOf T (camerasOf T s.token cfg.frames)) = .ok objs ∧
      f.objects.map (·.uuid) = dedupFirst (objs.map (·.uuid)) ∧ (f.objects.map (·.uuid)).Nodup ∧
      (∀ u, u ∈ f.objects.map (·.uuid) ↔ u ∈ objs.map (·.uuid)) ∧
      ∀ m ∈ f.objects, m.frame = "CAM_TRAFFIC_LIGHT" ∧ m.roi = none ∧ m.time = s.timestamp ∧
        ∃ c ∈ objs, c.uuid = m.uuid ∧ m.label = c.label ∧ m.name = c.name ∧ m.attributes = c.attributes ∧
          ((∀ c' ∈ objs, c'.uuid = m.uuid → c'.label = m.label) ∨
           (m.label ≠ "UNKNOWN" ∧
            (dedupFirst ((objs.filter (fun o => o.uuid == m.uuid)).map (·.label))).length = 2)) := by
  obtain ⟨_, objs, objs', _, hobjs, hmerge, rfl⟩ := sampleToFrame2D_ok h
  simp only [hm, and_self, if_true] at hmerge
  unfold mergeTrafficLights at hmerge
  have hall := mapE_forall₂ hmerge
  have huu : objs'.map (·.uuid) = dedupFirst (objs.map (·.uuid)) :=
    (forall₂_map_eq (hall.imp fun _ _ hab => (mergeOne_ok hab).1)).trans (List.map_id _)
  refine ⟨objs, hobjs, huu, huu ▸ nodup_dedupFirst _, fun u => by rw [huu]; exact mem_dedupFirst, ?_⟩
  intro m hmm
  obtain ⟨u, _, hu⟩ := forall₂_mem_right hall hmm
  obtain ⟨h1, h2, h3, h4, c, hc, hcu, rest⟩ := mergeOne_ok hu
  subst h1
  exact ⟨h2, h3, h4, c, hc, hcu, rest⟩

/-- on referentially intact tables (`WellFormed2D`, which like `WellFormed` puts no condition on the
signs of the calibrated rotations) the 2-D loader returns frames for every list of
frame ids, every 2-D task and both label families — the merging configuration excepted, which can
also fail with `AssertionError` on three or more distinct labels under one uuid -/
theorem load2d_total (T : Tables) (cfg : Config2D) (wf : WellFormed2D T)
    (hnm : ¬ (cfg.family = "traffic_light" ∧ cfg.task = "CLASSIFICATION2D")) :
    ∃ fs, loadDataset2D T cfg = .ok fs := by
  rw [loadDataset2D, if_neg (by simpa using wf.samples_ne), loadFrom2D_eq_mapM]
  exact mapM_ok_of_forall fun p _ => sampleToFrame2D_total wf cfg hnm p.2 p.1

/-! ## non-vacuity: the hypotheses above hold of a concrete, non-trivial table set
(`PEval.Dataset.exTables`: two samples, two sensors, rotated ego poses, a bus seen twice, a pedestrian
of an unregistered category) -/

example : WellFormed exTables := exTables_wellFormed

example : ∃ fs, loadDataset exTables ⟨true, "BASE_LINK", true, false⟩ = .ok fs ∧ fs.length = 2 := by
  obtain ⟨fs, h⟩ := load_total exTables ⟨true, "BASE_LINK", true, false⟩ exTables_wellFormed (Or.inl rfl) rfl
  exact ⟨fs, h, (frames_length_order_time _ _ _ h).1⟩

-- the hypotheses of `ego_pose_eq_moved` / `ego_pose_roundtrip` (a genuinely 3-D unit ego rotation)
example : lidarOf exTables exS1.token = .ok exSd1 := by decide +kernel
example : lookup EgoPose.token exTables.egoPoses exSd1.egoPoseToken = .ok exEgo1 := by decide +kernel
example : lookup CalibratedSensor.token exTables.calibratedSensors exSd1.calibratedSensorToken = .ok exCsT := by
  decide +kernel
example : exCsT.translation = Vec3.zero ∧ exCsT.rotation = Quat.one ∧ exEgo1.rotation.normSq = 1 ∧
    exEgo1.rotation ≠ Quat.one := by decide +kernel
example : annsOf exTables exS1.token = [exA0] := by decide +kernel
example : (sampleToFrame exTables ⟨true, "BASE_LINK", false, false⟩ 1 exS1).toBool = true := by
  rw [sampleToFrame, exTables_sensorFrames]; decide +kernel
example : (sampleToFrame exTables ⟨false, "MAP", true, false⟩ 1 exS1).toBool = true := by
  rw [sampleToFrame, exTables_sensorFrames]; decide +kernel

-- the object of the bus in the second sample (label and visibility are whatever the regenerated tables say)
example : ((sampleToFrame exTables ⟨false, "BASE_LINK", false, false⟩ 1 exS1).toOption.map (fun f => f.objects.map
      (fun o => [o.uuid, o.name, o.frame] ++ o.attributes))) =
    some [["i0", "Vehicle.Bus", "BASE_LINK", "vehicle.moving"]] := by
  rw [sampleToFrame, exTables_sensorFrames]; decide +kernel
example : ((sampleToFrame exTables ⟨false, "BASE_LINK", false, false⟩ 1 exS1).toOption.map (fun f => f.objects.map
      (fun o => (o.pose, o.points)))) =
    some [(⟨⟨-3, -5, 33/2⟩, ⟨16/25, -14/25, -2/25, -13/25⟩⟩, 0)] := by
  rw [sampleToFrame, exTables_sensorFrames]; decide +kernel
example : ((sampleToFrame exTables ⟨false, "BASE_LINK", true, false⟩ 1 exS1).toOption.map (fun f => f.objects.map
      (fun o => (o.label, o.visibility)))) =
    some [(convertLabel true "Vehicle.Bus", some (visibilityOfLevel "v80-100"))] := by
  rw [sampleToFrame, exTables_sensorFrames]; rfl
-- the label tables are inhabited, and some name is outside them
example : pairTable false ≠ [] ∧ pairTable true ≠ [] := by decide
example : ∀ merge, "no such category".toLower ∉ (pairTable merge).map (·.2) := by
  intro merge; cases merge <;> decide +kernel

-- tracking history: the bus's annotation in the first sample, and the `prev` hypotheses
example : pastRecords exTables exA0 = .ok [exA2] := by decide +kernel
example : exA0 ∈ exTables.annotations := by decide +kernel
example : ∀ b ∈ exTables.annotations, ∀ c, lookup Annotation.token exTables.annotations b.prev = .ok c →
    c.instanceToken = b.instanceToken := by
  have h : exTables.annotations.all (fun b =>
      match lookup Annotation.token exTables.annotations b.prev with
      | .ok c => c.instanceToken == b.instanceToken
      | .error _ => true) = true := by decide +kernel
  intro b hb c hc
  have := List.all_eq_true.1 h b hb
  simpa [hc] using this

example : loadDataset { exTables with samples := [] } ⟨false, "MAP", false, false⟩ = .error "DatasetLoadingError" :=
  no_samples_rejected _ _ rfl
example : sampleToFrame { exTables with sampleData := [] } ⟨false, "MAP", false, false⟩ 0 exS1 = .error "ValueError" :=
  no_lidar_rejected _ _ _ _ (by decide +kernel) (by decide +kernel)

-- the exact history: the chain of the bus's second annotation, and the side conditions
example : PrevChain exTables exA0 [exA2] :=
  .cons (by decide) (by decide +kernel) (.nil (by decide))
example : ∀ b ∈ exTables.annotations, b.sampleToken = exA0.sampleToken → b.instanceToken = exA0.instanceToken →
    b = exA0 := by
  decide +kernel

-- velocities: the bus moved (2, 1, 0) in 0.5 s; seen from the first record's axes (yaw with cos = 7/25, sin = 24/25)
example : velocityOf exTables false exA0 = .ok (some ⟨4, 2, 0⟩) := by decide +kernel
example : velocityOf exTables true exA0 = .ok (some ⟨76 / 25, -82 / 25, 0⟩) := by decide +kernel
example : velocityOf exTables true exA2 = velocityOf exTables true exA0 := by decide +kernel
example : (exTables.annotations.map (fun a => (velocityOf exTables true a).toOption.join.isSome)) =
    [true, false, true] := by decide +kernel

-- finding C16-N1: the example with two traffic-light cameras calibrated q and -q loads, for 3-D and
-- 2-D tasks; the second rotation is negated before the average, which is 2q (the rotation q), mean position
example : WellFormed exTablesN1 ∧ WellFormed2D exTablesN1 := ⟨exTablesN1_wellFormed, exTablesN1_wellFormed2D⟩
example : tlrRawRotations exTablesN1 ["LIDAR_TOP", "CAM_FRONT", "CAM_TRAFFIC_LIGHT_NEAR", "CAM_TRAFFIC_LIGHT_FAR"] =
    [⟨4/5, 0, 0, 3/5⟩, ⟨-4/5, 0, 0, -3/5⟩] := exTablesN1_tlrRawRotations
example : (tlrRawRotations exTablesN1 ["LIDAR_TOP", "CAM_FRONT", "CAM_TRAFFIC_LIGHT_NEAR", "CAM_TRAFFIC_LIGHT_FAR"]).foldl
    Quat.add Quat.zero = Quat.zero := by rw [exTablesN1_tlrRawRotations]; decide +kernel
example : sensorFrames exTablesN1 = .ok ["LIDAR_TOP", "CAM_FRONT", "CAM_TRAFFIC_LIGHT_NEAR", "CAM_TRAFFIC_LIGHT_FAR"] :=
  exTablesN1_sensorFrames
example : tlrAverage exTablesN1 = .ok (some ⟨⟨1, 0, 5/2⟩, ⟨8/5, 0, 0, 6/5⟩⟩) := by
  rw [tlrAverage, exTablesN1_sensorFrames]; decide +kernel
example : ∃ fs, loadDataset exTablesN1 ⟨true, "MAP", true, false⟩ = .ok fs ∧ fs.length = 2 := by
  obtain ⟨fs, h⟩ := load_total exTablesN1 ⟨true, "MAP", true, false⟩ exTablesN1_wellFormed (Or.inr rfl) rfl
  exact ⟨fs, h, (frames_length_order_time _ _ fs h).1⟩
example : (loadDataset exTablesN1 ⟨false, "BASE_LINK", false, false⟩).toBool = true := by
  obtain ⟨fs, h⟩ := load_total exTablesN1 ⟨false, "BASE_LINK", false, false⟩ exTablesN1_wellFormed (Or.inl rfl) rfl
  rw [h]; rfl
example : ∃ fs, loadDataset2D exTablesN1 ⟨"DETECTION2D", "traffic_light", false, ["CAM_FRONT", "CAM_TRAFFIC_LIGHT_NEAR"]⟩ = .ok fs :=
  load2d_total exTablesN1 _ exTablesN1_wellFormed2D (by decide)
-- nearly antipodal (dot < 0, not cancelling) and orthogonal (dot = 0: kept) rotations
example : alignSigns [⟨4/5, 0, 0, 3/5⟩, ⟨-3/5, 0, 0, -4/5⟩, ⟨-3/5, 0, 0, 4/5⟩, ⟨0, 1, 0, 0⟩] =
    [⟨4/5, 0, 0, 3/5⟩, ⟨3/5, 0, 0, 4/5⟩, ⟨-3/5, 0, 0, 4/5⟩, ⟨0, 1, 0, 0⟩] := by decide +kernel
example : isTlrCamera "CAM_TRAFFIC_LIGHT_NEAR" = true ∧ isTlrCamera "CAM_TRAFFIC_LIGHT" = true ∧
    isTlrCamera "CAM_FRONT" = false := by decide +kernel

-- FP_VALIDATION rejects the example (a bus is not a false positive)
example : (sampleToFrame exTables ⟨false, "MAP", false, true⟩ 1 exS1) = .error "ValueError" := by
  rw [sampleToFrame, exTables_sensorFrames]; decide +kernel

-- 2-D: hypotheses of `load2d_total`, the cameras found, ROIs, uuids, the merge
example : WellFormed2D exTables2D := exTables2D_wellFormed
example : (camerasOf exTables2D "s0" ["CAM_BACK", "CAM_TRAFFIC_LIGHT_NEAR", "CAM_FRONT"]).map (·.1) =
    ["CAM_TRAFFIC_LIGHT_NEAR", "CAM_FRONT"] := by decide +kernel
example : ((sampleToFrame2D exTables2D ⟨"DETECTION2D", "traffic_light", false, ["CAM_FRONT", "CAM_TRAFFIC_LIGHT_NEAR"]⟩ 0 exS0
      ).toOption.map (fun f => f.objects.map (fun o => (o.uuid, o.frame, o.roi)))) =
    some [("123", "CAM_FRONT", some ⟨10, 20, 100, -23⟩), ("123", "CAM_TRAFFIC_LIGHT_NEAR", some ⟨0, 0, 5, 5⟩),
          ("77", "CAM_TRAFFIC_LIGHT_NEAR", some ⟨1, 2, 2, 2⟩), ("77", "CAM_FRONT", some ⟨1, 1, 1, 1⟩)] := by
  rw [sampleToFrame2D, transforms2D_of_sensorFrames exTables2D_sensorFrames]; decide +kernel
example : ((sampleToFrame2D exTables2D ⟨"CLASSIFICATION2D", "traffic_light", false, ["CAM_FRONT", "CAM_TRAFFIC_LIGHT_NEAR"]⟩ 0 exS0
      ).toOption.map (fun f => f.objects.map (fun o => (o.uuid, o.frame, o.roi, o.name)))) =
    some [("123", "CAM_TRAFFIC_LIGHT", none, "green"), ("77", "CAM_TRAFFIC_LIGHT", none, "red_left")] := by
  rw [sampleToFrame2D, transforms2D_of_sensorFrames exTables2D_sensorFrames]; decide +kernel
example : ((sampleToFrame2D exTables2D ⟨"TRACKING2D", "autoware", true, ["CAM_FRONT"]⟩ 0 exS0
      ).toOption.map (fun f => (f.objects.map (fun o => (o.uuid, o.label, o.attributes)), f.ego2map.isSome))) =
    some ([("j0", "UNKNOWN", ["vehicle.moving"]), ("j3", "UNKNOWN", [])], true) := by
  rw [sampleToFrame2D, transforms2D_of_sensorFrames exTables2D_sensorFrames]; decide +kernel
example : truncInt (-7 / 2) = -3 ∧ truncInt (1109 / 10) = 110 ∧ lastSegment "a::b:" = "" ∧ lastSegment "77" = "77" := by
  decide +kernel

/-- the example tables are time-ordered -/
theorem exTables_timeOrdered : TimeOrdered exTables := timeOrderedB_sound (by decide +kernel)

/-- the example tables with both samples stamped alike: referentially intact, NOT time-ordered -/
def exTablesSameTime : Tables :=
  { exTables with samples := [⟨"s0", 1600000000000000, 1600000000⟩, ⟨"s1", 1600000000000000, 1600000000⟩] }

example : timeOrderedB exTablesSameTime = false := by decide +kernel
/-- on them Python's outcome is the division by zero (`inf`, `inf`, `nan` for the devkit's function), the
total-division model says 0: `velocityOf` alone does NOT describe the code there — `velocityPy` does -/
example : velocityPy exTablesSameTime false exA0 = .ok (.div0 ⟨2, 1, 0⟩) ∧
    Vel.div0Comps ⟨2, 1, 0⟩ = [.posInf, .posInf, .nan] ∧
    velocityOf exTablesSameTime false exA0 = .ok (some ⟨0, 0, 0⟩) ∧
    velocityPy exTablesSameTime true exA0 = .ok (.div0 ⟨38 / 25, -41 / 25, 0⟩) := by decide +kernel
/-- the statement of `velocity_no_div0` fails without `TimeOrdered` -/
example : ¬ (∀ a ∈ exTablesSameTime.annotations, ∀ v, velocityPy exTablesSameTime true a = .ok v → v.isDiv0 = false) := by
  intro h
  have := h exA0 (by decide +kernel) (.div0 ⟨38 / 25, -41 / 25, 0⟩) (by decide +kernel)
  cases this
example : velocityPy exTables false exA0 = .ok (.finite ⟨4, 2, 0⟩) := by decide +kernel
example : ∃ v, velocityPy exTables true exA0 = .ok v ∧ v.isDiv0 = false :=
  let ⟨v, h1, h2, _⟩ := velocity_no_div0 exTables exTables_wellFormed exTables_timeOrdered true exA0 (by decide +kernel)
  ⟨v, h1, h2⟩

/-- with a lidar off the ego origin the stored ego→map transform does NOT map the loaded pose back onto the annotation
(translation by (1,0,0), identity rotations everywhere): the restriction "lidar calibrated at the ego origin" of the
property text is necessary -/
example : applyPose ⟨Vec3.zero, Quat.one⟩ (moveInv ⟨1, 0, 0⟩ Quat.one (moveInv Vec3.zero Quat.one ⟨⟨5, 0, 0⟩, Quat.one⟩)) ≠
    ⟨⟨5, 0, 0⟩, Quat.one⟩ := by decide +kernel

/-- the normalising variants (what pyquaternion / the devkit compute for ANY non-zero quaternion) coincide with the
model's plain ones on unit quaternions — so on unit ego rotations `ego_pose_eq_moved` / `ego_pose_roundtrip` speak about
the devkit's computation -/
theorem nonunit_variants_agree_on_unit (t : Vec3) (q : Quat) (hq : q.normSq = 1) (p : Pose) :
    moveInvN t q p = moveInv t q p ∧ applyPoseN ⟨t, q⟩ p = applyPose ⟨t, q⟩ p :=
  ⟨moveInvN_of_unit t q hq p, applyPoseN_of_unit ⟨t, q⟩ p hq⟩

/-- for EVERY non-zero quaternion (unit or not) the normalising computation round-trips: same position, orientation
equal up to the positive factor `|q|²` (the same rotation) -/
theorem pose_roundtrip_any_nonzero (t : Vec3) (q : Quat) (hq : q.normSq ≠ 0) (p : Pose) :
    (applyPoseN ⟨t, q⟩ (moveInvN t q p)).pos = p.pos ∧
    (applyPoseN ⟨t, q⟩ (moveInvN t q p)).rot =
      ⟨q.normSq * p.rot.w, q.normSq * p.rot.x, q.normSq * p.rot.y, q.normSq * p.rot.z⟩ ∧ 0 < q.normSq :=
  have h := applyPoseN_moveInvN t q hq p
  ⟨h.1, h.2, lt_of_le_of_ne (Quat.normSq_nonneg q) hq.symm⟩

/-- the plain (non-normalising) model does NOT round-trip on a non-unit quaternion (`q = 2`: positions scale by 16): the
hypothesis `ego.rotation.normSq = 1` of `ego_pose_roundtrip` is necessary for the MODEL; the normalising variant does -/
example : applyPose ⟨Vec3.zero, ⟨2, 0, 0, 0⟩⟩ (moveInv Vec3.zero ⟨2, 0, 0, 0⟩ ⟨⟨1, 2, 3⟩, Quat.one⟩) =
      ⟨⟨16, 32, 48⟩, ⟨4, 0, 0, 0⟩⟩ ∧
    (applyPoseN ⟨Vec3.zero, ⟨2, 0, 0, 0⟩⟩ (moveInvN Vec3.zero ⟨2, 0, 0, 0⟩ ⟨⟨1, 2, 3⟩, Quat.one⟩)).pos = ⟨1, 2, 3⟩ := by
  decide +kernel
example : (⟨3/5, 0, 0, 4/5⟩ : Quat).normSq = 1 ∧ (⟨2, 0, 0, 0⟩ : Quat).normSq ≠ 0 := by decide +kernel

/-- `ego_pose_roundtrip` stated with the C18 model of `HomogeneousMatrix`: the frame's ego→map pose, read as the
transform registered under the key `(BASE_LINK, MAP)` and applied with C18's `transformPose`
(`__transform_position_and_rotation`), maps every loaded ego-frame pose onto the annotated global pose.  (The two
quaternion algebras are the same functions: `Dataset.applyPose_toT`.) -/
theorem ego2map_is_c18_transform (T : Tables) (cfg : Config) (n : Nat) (s : Sample) (f : Frame)
    (sd : SampleData) (ego : EgoPose) (cs : CalibratedSensor)
    (hb : cfg.frame = "BASE_LINK") (h : sampleToFrame T cfg n s = .ok f)
    (hsd : lidarOf T s.token = .ok sd)
    (hego : lookup EgoPose.token T.egoPoses sd.egoPoseToken = .ok ego)
    (hcs : lookup CalibratedSensor.token T.calibratedSensors sd.calibratedSensorToken = .ok cs)
    (h0 : cs.translation = Vec3.zero) (h1 : cs.rotation = Quat.one)
    (hu : ego.rotation.normSq = 1) :
    (f.ego2map.toHM.src = "BASE_LINK" ∧ f.ego2map.toHM.dst = "MAP") ∧
    List.Forall₂ (fun a o =>
        Transform.transformPose f.ego2map.toHM (o.pose.pos.toT, o.pose.rot.toT) =
          ((annPose a).pos.toT, (annPose a).rot.toT))
      (annsOf T s.token) f.objects := by
  refine ⟨⟨rfl, rfl⟩, ?_⟩
  refine forall₂_imp (ego_pose_roundtrip T cfg n s f sd ego cs hb h hsd hego hcs h0 h1 hu) ?_
  intro a o _ hao
  rw [applyPose_toT, hao]

end PEval.C16
