import PEval.Lemmas.MatchingUnique
import PEval.Lemmas.MatchingRowMajor
import PEval.Lemmas.MatchingTotal
import PEval.Properties.KernelMatchable
/-!
# C02 — matching prefers label-compatible pairs, then best score (no blocking pair)

Statements about `PEval.Matching.getObjectResults` and the table `mkTbl c sc` it is run on
(`score i j = some s` = the pair is matchable: same frame, within the threshold of the ground truth's
label — see `C01.table_score_iff`; `valid i j` = `MatchingLabelPolicy.is_matchable`). "Scores at least
as well as `s`" is `better mx s s' = false` (`s` is not strictly better than `s'`), so ties are handled
exactly as the property states. All statements hold for every scoring function, policy, mode, size.

A theorem of the form `:= lemma` gives a lemma of `Lemmas/Matching*.lean` the property's name: the harness audits a property
by the theorems of its own module (`THEOREMS` in `harness/props/c02.py`).
-/
namespace PEval.C02
open PEval PEval.Matching

/-- The pick of one step (`np.nanargmin` / `np.nanargmax`) is a candidate and no candidate is strictly
better than it. -/
theorem argBest_optimal (mx : Bool) (l : List (Nat × Nat × Rat)) (c : Nat × Nat × Rat)
    (h : argBest mx l = some c) : c ∈ l ∧ ∀ x ∈ l, better mx x.2.2 c.2.2 = false :=
  ⟨argBest_mem mx l c h, argBest_opt mx l c h⟩

/-- …and a step is taken whenever a candidate exists. -/
theorem argBest_some_of_ne_nil (mx : Bool) (l : List (Nat × Nat × Rat)) (h : l ≠ []) :
    ∃ c, argBest mx l = some c := by
  cases hb : argBest mx l with
  | none => exact absurd (argBest_none mx l hb) h
  | some c => exact ⟨c, rfl⟩

/-- No blocking pair, compatible case: every matchable label-compatible pair `(i, j)` that is not
matched together has a member that is matched **compatibly** to a partner scoring at least as well.
(`_hnot` is there for the property's wording only: when the pair IS matched together it is its own witness, so the
conclusion holds without it.) -/
theorem no_blocking_compatible {c : Cfg} {sc : Scene} {rs : List Res} (h : getObjectResults c sc = .ok rs)
    {i j : Nat} {s : Rat} (hs : (mkTbl c sc).score i j = some s) (hv : (mkTbl c sc).valid i j = true)
    (_hnot : (i, some j) ∉ rs) :
    ∃ i' j' s', (i', some j') ∈ rs ∧ (i' = i ∨ j' = j) ∧ (mkTbl c sc).valid i' j' = true ∧
      (mkTbl c sc).score i' j' = some s' ∧ better c.mode.maximize s s' = false := by
  obtain ⟨hi, hj⟩ := mkTbl_score_some_mem_range hs
  have hb := stage1_blocked (mkTbl c sc) (List.range sc.ests.length) (List.range sc.gts.length) hi hj hs hv
  obtain ⟨B, hsplit, _⟩ := matchFrom_pairs_split (mkTbl c sc) (List.range sc.ests.length) (List.range sc.gts.length)
  obtain ⟨p, hp, hm, hval, s', hs', hnw⟩ := hb
  refine ⟨p.1, p.2, s', ?_, hm, hval, hs', hnw⟩
  rw [getObjectResults_ok h, mem_resultsOf_some]
  exact hsplit ▸ List.mem_append_left B hp

/-- No blocking pair, general case (in particular label-INcompatible pairs): every matchable pair that
is not matched together has a member that is matched compatibly, or to a partner scoring at least as well.
(`_hnot`: as above, for the wording only.) -/
theorem no_blocking_incompatible {c : Cfg} {sc : Scene} {rs : List Res} (h : getObjectResults c sc = .ok rs)
    {i j : Nat} {s : Rat} (hs : (mkTbl c sc).score i j = some s) (_hnot : (i, some j) ∉ rs) :
    ∃ i' j', (i', some j') ∈ rs ∧ (i' = i ∨ j' = j) ∧
      ((mkTbl c sc).valid i' j' = true ∨
        ∃ s', (mkTbl c sc).score i' j' = some s' ∧ better c.mode.maximize s s' = false) := by
  obtain ⟨hi, hj⟩ := mkTbl_score_some_mem_range hs
  obtain ⟨p, hp, hm, hr⟩ := matchFrom_blocked (mkTbl c sc) List.nodup_range List.nodup_range hi hj hs
  refine ⟨p.1, p.2, ?_, hm, hr⟩
  rw [getObjectResults_ok h, mem_resultsOf_some]
  exact hp

/-- Stage 1 is exhaustive and comes first: the pairs of the results split into a label-compatible
prefix `A` and a label-incompatible rest `B` (so every compatible pair precedes every incompatible one),
and no matchable compatible pair has both members outside `A`. -/
theorem stage1_exhaustive {c : Cfg} {sc : Scene} {rs : List Res} (h : getObjectResults c sc = .ok rs) :
    ∃ A B : List (Nat × Nat),
      rs.filter (fun r => r.2.isSome) = pairResults (A ++ B) ∧
      (∀ p ∈ A, (mkTbl c sc).valid p.1 p.2 = true) ∧
      (∀ p ∈ B, (mkTbl c sc).valid p.1 p.2 = false) ∧
      (∀ i j s, (mkTbl c sc).score i j = some s → (mkTbl c sc).valid i j = true →
        ∃ p ∈ A, p.1 = i ∨ p.2 = j) := by
  obtain ⟨B, hsplit, hB⟩ := matchFrom_pairs_split (mkTbl c sc) (List.range sc.ests.length) (List.range sc.gts.length)
  refine ⟨(stage1State (mkTbl c sc) (List.range sc.ests.length) (List.range sc.gts.length)).pairs, B, ?_,
    fun p hp => (stage1_pairs_valid _ _ _ p hp).1, fun p hp => (hB p hp).2, ?_⟩
  · rw [getObjectResults_ok h, filter_isSome_resultsOf]
    show pairResults (matchFrom _ _ _).pairs = _
    rw [hsplit]
  · intro i j s hs hv
    obtain ⟨hi, hj⟩ := mkTbl_score_some_mem_range hs
    obtain ⟨p, hp, hm, _⟩ := stage1_blocked (mkTbl c sc) (List.range sc.ests.length) (List.range sc.gts.length)
      hi hj hs hv
    exact ⟨p, hp, hm⟩

/-- The run is a path of the documented relation: "take *a* best available label-compatible pair until
none is left, then *a* best available pair regardless of label until none is left". -/
theorem refines_greedy_spec (c : Cfg) (sc : Scene) :
    TwoStageRun (mkTbl c sc) (List.range sc.ests.length) (List.range sc.gts.length)
      (matchAll (mkTbl c sc) sc.ests.length sc.gts.length) :=
  matchFrom_refines _ _ _

/-- Other tie winners: the property leaves the winner of an exact score tie open ("a partner scoring at least as well"), the
model fixes it.  An outcome of the real code that pairs differently is accepted by the correspondence exactly when the checker
`checkTwoStage` (lean/PEval/Lemmas/MatchingUnique.lean; run by the driver on the order of picks the harness proposes)
accepts it - and an accepted certificate IS a run of the documented relation making exactly the proposed pairs. -/
theorem certificate_sound {c : Cfg} {sc : Scene} {picks1 picks2 : List (Nat × Nat)} {st : St}
    (h : checkTwoStage (mkTbl c sc) (List.range sc.ests.length) (List.range sc.gts.length) picks1 picks2 = some st) :
    TwoStageRun (mkTbl c sc) (List.range sc.ests.length) (List.range sc.gts.length) st ∧ st.pairs = picks1 ++ picks2 := by
  obtain ⟨s1, h1, h2⟩ := Option.bind_eq_some_iff.1 h
  obtain ⟨r1, p1⟩ := checkStage_sound _ true picks1 _ s1 h1
  obtain ⟨r2, p2⟩ := checkStage_sound _ false picks2 s1 st h2
  exact ⟨⟨s1, r1, r2⟩, by rw [p2, p1]; rfl⟩

/-! ## the hypotheses are satisfiable: concrete contested scenes -/

def exCfg : Cfg :=
  { policy := .default, mode := .centerDistance, targets := none, thresholds := none, fpValidation := false }

/-- estimate 0 (pedestrian) is nearest to GT 0 (car) but incompatible; estimate 1 (car) is compatible and
farther: stage 1 pairs (1,0); stage 2 pairs (0,1) although (0,0) would score better. -/
def exScene : Scene :=
  { ests := [⟨"pedestrian", "base_link"⟩, ⟨"car", "base_link"⟩, ⟨"car", "base_link"⟩],
    gts := [⟨"car", "base_link"⟩, ⟨"bus", "base_link"⟩],
    val := fun i j => (1 : Rat) + 2 * i + 7 * j + 3 * i * j }

example : getObjectResults exCfg exScene = .ok [(1, some 0), (0, some 1), (2, none)] := by decide +kernel

/-- a tie: two estimates at the same distance from one ground truth.  The model pairs estimate 0 (row-major); the other winner
is a run of the documented relation as well (accepted certificate), pairing the worse estimate 2 is not (rejected). -/
def exTieCert : Scene :=
  { ests := [⟨"car", "base_link"⟩, ⟨"car", "base_link"⟩, ⟨"car", "base_link"⟩], gts := [⟨"car", "base_link"⟩],
    val := fun i _ => if i == 2 then 5 else 1 }

example : getObjectResults exCfg exTieCert = .ok [(0, some 0), (1, none), (2, none)] := by decide +kernel
example : (checkTwoStage (mkTbl exCfg exTieCert) (List.range 3) (List.range 1) [(1, 0)] []).isSome = true := by decide +kernel
example : (checkTwoStage (mkTbl exCfg exTieCert) (List.range 3) (List.range 1) [(0, 0)] []).isSome = true := by decide +kernel
example : (checkTwoStage (mkTbl exCfg exTieCert) (List.range 3) (List.range 1) [(2, 0)] []).isSome = false := by decide +kernel
example : (checkTwoStage (mkTbl exCfg exTieCert) (List.range 3) (List.range 1) [] []).isSome = false := by decide +kernel
example : (mkTbl exCfg exScene).score 0 0 = some 1 ∧ (mkTbl exCfg exScene).valid 0 0 = false ∧
    (mkTbl exCfg exScene).score 1 0 = some 3 ∧ (mkTbl exCfg exScene).valid 1 0 = true := by decide +kernel

example : NoTies (mkTbl exCfg exScene) := noTies_of_check (by decide +kernel)

/-- with a tie (two estimates at the same distance of one ground truth) the first listed wins -/
example : getObjectResults exCfg { exScene with val := fun _ j => 1 + j } =
    .ok [(1, some 0), (0, some 1), (2, none)] := by decide +kernel

/-! ## the result WITH ties: the exact tie-breaking of the code and a characterisation without any tie hypothesis

The rule of the code, "take the first best available cell in row-major order of the remaining table", is stated on the table
alone in `Lemmas/MatchingRowMajor.lean` (`Avail`, `RowMajorLe`, `SpecPick`, `RowMajorRun`).  Here: every step of the model is
exactly such a pick, the rule is FUNCTIONAL for every table (ties or not), the results are its unique outcome.  No input is outside
these theorems; no tie hypothesis is needed for "the results are THE documented assignment". -/

/-- One step, exactly: `(i, j)` with score `s` is picked iff the cell is available (both objects remain, the cell is
scored, stage 1: label-compatible), no available cell scores strictly better, and every available cell scoring as well
is listed later in the row-major order of the remaining table. -/
theorem pick_is_first_best_row_major {t : Tbl} {s1 : Bool} {es gs : List Nat} (hE : es.Nodup) (hG : gs.Nodup)
    {i j : Nat} {s : Rat} :
    argBest t.maximize (cands t s1 es gs) = some (i, j, s) ↔ SpecPick t s1 es gs i j s :=
  argBest_cands_iff_specPick hE hG

/-- … and a loop stops exactly when no cell is available. -/
theorem loop_stops_iff_nothing_available {t : Tbl} {s1 : Bool} {es gs : List Nat} :
    argBest t.maximize (cands t s1 es gs) = none ↔ ∀ i j s, ¬ Avail t s1 es gs i j s := by
  rw [← cands_eq_nil_iff]
  exact ⟨argBest_none _ _, fun h => h ▸ rfl⟩

/-- One loop leaves increasing index lists increasing (it only deletes) … -/
theorem remaining_lists_increasing (t : Tbl) (s1 : Bool) (fuel : Nat) (st : St) (hE : st.es.Pairwise (· < ·))
    (hG : st.gs.Pairwise (· < ·)) :
    (stage t s1 fuel st).es.Pairwise (· < ·) ∧ (stage t s1 fuel st).gs.Pairwise (· < ·) :=
  have := (stage_picks t s1 fuel st).sublist
  ⟨hE.sublist this.1, hG.sublist this.2⟩

/-- … and on increasing index lists the tie-break of one step reads: best score; among equal scores the estimate with the
smallest index; among its cells the ground truth with the smallest index.  (The two are not joined into one statement about
every step of a call.) -/
theorem pick_is_lex_least {t : Tbl} {s1 : Bool} {es gs : List Nat} (hE : es.Pairwise (· < ·))
    (hG : gs.Pairwise (· < ·)) {i j : Nat} {s : Rat} :
    argBest t.maximize (cands t s1 es gs) = some (i, j, s) ↔
      Avail t s1 es gs i j s ∧ ∀ i' j' s', Avail t s1 es gs i' j' s' →
        better t.maximize s' s = false ∧ (better t.maximize s s' = false → (i < i' ∨ (i = i' ∧ j ≤ j'))) := by
  rw [argBest_cands_iff_specPick (hE.imp Nat.ne_of_lt) (hG.imp Nat.ne_of_lt)]
  refine and_congr_right fun ha => forall₃_congr fun i' j' s' => imp_congr_right fun ha' => and_congr_right fun _ =>
    imp_congr_right fun _ => rowMajorLe_iff_lex hE hG ha.1 ha'.1 ha.2.1 ha'.2.1

/-- The model's run is a run of the rule "first best available cell in row-major order, compatible pairs first" … -/
theorem refines_row_major_spec (c : Cfg) (sc : Scene) :
    TwoStageRowMajor (mkTbl c sc) (List.range sc.ests.length) (List.range sc.gts.length)
      (matchAll (mkTbl c sc) sc.ests.length sc.gts.length) :=
  matchFrom_refines_rowMajor _ List.nodup_range List.nodup_range

/-- … the rule has at most one outcome on EVERY table (no hypothesis on ties) … -/
theorem row_major_spec_functional {t : Tbl} {es gs : List Nat} {a b : St}
    (ha : TwoStageRowMajor t es gs a) (hb : TwoStageRowMajor t es gs b) : a = b := by
  obtain ⟨sa, ha1, ha2⟩ := ha
  obtain ⟨sb, hb1, hb2⟩ := hb
  cases rowMajorRun_unique ha1 hb1
  exact rowMajorRun_unique ha2 hb2

/-- … hence the results of every successful call ARE the outcome of the rule, whatever ties the scores have. -/
theorem result_is_the_row_major_greedy {c : Cfg} {sc : Scene} {rs : List Res} (h : getObjectResults c sc = .ok rs)
    {st : St}
    (hrun : TwoStageRowMajor (mkTbl c sc) (List.range sc.ests.length) (List.range sc.gts.length) st) :
    rs = resultsOf c.fpValidation st := by
  rw [getObjectResults_ok h, row_major_spec_functional hrun (refines_row_major_spec c sc)]

/-- The rule with tie-breaking refines the weaker documented relation "take *a* best available pair" (`TwoStageRun`). -/
theorem row_major_spec_refines_any_best {t : Tbl} {es gs : List Nat} {a : St} (h : TwoStageRowMajor t es gs a) :
    TwoStageRun t es gs a := by
  obtain ⟨s, h1, h2⟩ := h
  exact ⟨s, rowMajorRun_greedyRun h1, rowMajorRun_greedyRun h2⟩

/-! ### a weaker sufficient condition for uniqueness of the any-best relation

`NoTies` fails in the IoU modes as soon as two disjoint pairs both score 0.  `NoBestTies2` only asks that at the steps
the run goes through the picked score is carried by one candidate; it follows from `NoTies` and is decidable. -/

theorem noBestTies_of_noTies {c : Cfg} {sc : Scene} (hnt : NoTies (mkTbl c sc)) :
    NoBestTies2 (mkTbl c sc) (List.range sc.ests.length) (List.range sc.gts.length) :=
  noBestTies2_of_noTies hnt _ _

/-- When no STEP of the run has two best candidates, every run of "take a best available compatible pair …, then a best
available pair …" gives the results (`greedy_unique_of_no_ties` below is the corollary for `NoTies`). -/
theorem greedy_unique_of_no_best_ties {c : Cfg} {sc : Scene} {rs : List Res} (h : getObjectResults c sc = .ok rs)
    (hnt : NoBestTies2 (mkTbl c sc) (List.range sc.ests.length) (List.range sc.gts.length)) {st : St}
    (hrun : TwoStageRun (mkTbl c sc) (List.range sc.ests.length) (List.range sc.gts.length) st) :
    rs = resultsOf c.fpValidation st := by
  rw [getObjectResults_ok h, twoStageRun_eq_matchFrom_of_noBestTies hnt hrun]
  rfl

/-- Under the same local condition the pairs do not depend on the order in which the index lists are given
(`pairs_independent_of_index_order` below: under `NoTies`). -/
theorem pairs_independent_of_index_order_local {c : Cfg} {sc : Scene} {rs : List Res}
    (h : getObjectResults c sc = .ok rs)
    (hnt : NoBestTies2 (mkTbl c sc) (List.range sc.ests.length) (List.range sc.gts.length)) {es gs : List Nat}
    (hE : es.Perm (List.range sc.ests.length)) (hG : gs.Perm (List.range sc.gts.length)) :
    rs.filter (fun r => r.2.isSome) = pairResults (matchFrom (mkTbl c sc) es gs).pairs := by
  rw [getObjectResults_ok h, filter_isSome_resultsOf, matchFrom_perm_of_noBestTies hnt hE hG]
  rfl

/-! ### the same under the global hypothesis: no two scores of the table tie -/

/-- When no two scores tie the relation has exactly one path, so the results ARE the documented
two-stage greedy assignment … -/
theorem greedy_unique_of_no_ties {c : Cfg} {sc : Scene} {rs : List Res} (h : getObjectResults c sc = .ok rs)
    (hnt : NoTies (mkTbl c sc)) {st : St}
    (hrun : TwoStageRun (mkTbl c sc) (List.range sc.ests.length) (List.range sc.gts.length) st) :
    rs = resultsOf c.fpValidation st :=
  greedy_unique_of_no_best_ties h (noBestTies_of_noTies hnt) hrun

/-- … the only accepted certificate is the result itself … -/
theorem certificate_unique_of_no_ties {c : Cfg} {sc : Scene} {rs : List Res} (hr : getObjectResults c sc = .ok rs)
    (hnt : NoTies (mkTbl c sc)) {picks1 picks2 : List (Nat × Nat)} {st : St}
    (h : checkTwoStage (mkTbl c sc) (List.range sc.ests.length) (List.range sc.gts.length) picks1 picks2 = some st) :
    rs = resultsOf c.fpValidation st :=
  greedy_unique_of_no_ties hr hnt (certificate_sound h).1

/-- … and the pairs do not depend on the order in which the estimates and ground truths are listed: running the
matcher on any rearrangement of the index lists makes the same pairs in the same sequence. -/
theorem pairs_independent_of_index_order {c : Cfg} {sc : Scene} {rs : List Res}
    (h : getObjectResults c sc = .ok rs) (hnt : NoTies (mkTbl c sc)) {es gs : List Nat}
    (hE : es.Perm (List.range sc.ests.length)) (hG : gs.Perm (List.range sc.gts.length)) :
    rs.filter (fun r => r.2.isSome) = pairResults (matchFrom (mkTbl c sc) es gs).pairs :=
  pairs_independent_of_index_order_local h (noBestTies_of_noTies hnt) hE hG

/-! ### the hypotheses are satisfiable, the statements are sharp -/

/-- an IoU scene: two overlapping pairs (IoU 1/2 and 7/10) and two disjoint ones (IoU 0, a TIE) -/
def exIou : Scene :=
  { ests := [⟨"car", "base_link"⟩, ⟨"car", "base_link"⟩], gts := [⟨"car", "base_link"⟩, ⟨"car", "base_link"⟩],
    val := fun i j => if i == 0 && j == 0 then 1 / 2 else if i == 1 && j == 1 then 7 / 10 else 0 }

def exIouCfg : Cfg := { exCfg with mode := .iou2d }

/-- the global `NoTies` fails on it (cells (0,1) and (1,0) both score 0) … -/
example : ¬ NoTies (mkTbl exIouCfg exIou) := by
  intro h
  have := h 0 1 1 0 0 (by decide +kernel) (by decide +kernel)
  exact absurd this.1 (by decide)

/-- … the local condition holds (the zeros are never best while both are available) … -/
example : NoBestTies2 (mkTbl exIouCfg exIou) (List.range exIou.ests.length) (List.range exIou.gts.length) := by
  decide +kernel

example : getObjectResults exIouCfg exIou = .ok [(1, some 1), (0, some 0)] := by decide +kernel

/-- … and on a scene where the BEST score is tied (all four cells at distance 1) the local condition fails too, while
the row-major rule still determines the result: estimate 0 takes ground truth 0, then estimate 1 ground truth 1. -/
def exTie : Scene := { exIou with val := fun _ _ => 1 }

example : ¬ NoBestTies2 (mkTbl exCfg exTie) (List.range exTie.ests.length) (List.range exTie.gts.length) := by
  decide +kernel

example : getObjectResults exCfg exTie = .ok [(0, some 0), (1, some 1)] := by decide +kernel

/-- the first pick of that run is the pick of the rule (non-vacuity of `pick_is_first_best_row_major`) -/
example : SpecPick (mkTbl exCfg exTie) true [0, 1] [0, 1] 0 0 1 :=
  (pick_is_first_best_row_major (by decide) (by decide)).1 (by decide +kernel)

/-- without a tie hypothesis the pairs DO depend on the listing order (so `pairs_independent_of_index_order*` need one):
listing estimate 1 first gives it ground truth 0 -/
example : (matchFrom (mkTbl exCfg exTie) [1, 0] [0, 1]).pairs = [(1, 0), (0, 1)] ∧
    (matchFrom (mkTbl exCfg exTie) [0, 1] [0, 1]).pairs = [(0, 0), (1, 1)] := by decide +kernel

/-- A defective variant of the arg-best: the LAST occurrence of the optimum (what `len - 1 - argmin(reversed)` or a `<=`
in a hand-written scan would give). -/
def argBestLast (mx : Bool) : List (Nat × Nat × Rat) → Option (Nat × Nat × Rat)
  | [] => none
  | c :: cs =>
    match argBestLast mx cs with
    | none => some c
    | some d => if better mx c.2.2 d.2.2 then some c else some d

/-- It still returns a best candidate (so `argBest_optimal`, `no_blocking_*` and `refines_greedy_spec` could not tell it
from the real one), but `pick_is_first_best_row_major` FAILS for it: on the tied scene it picks cell (1,1), which is not
the pick of the rule. -/
example : argBestLast false (cands (mkTbl exCfg exTie) true [0, 1] [0, 1]) = some (1, 1, 1) ∧
    ¬ SpecPick (mkTbl exCfg exTie) true [0, 1] [0, 1] 1 1 1 := by
  refine ⟨by decide +kernel, fun h => ?_⟩
  have h0 : SpecPick (mkTbl exCfg exTie) true [0, 1] [0, 1] 0 0 1 :=
    (pick_is_first_best_row_major (by decide) (by decide)).1 (by decide +kernel)
  exact absurd (specPick_unique h h0).1 (by decide)

/-! non-vacuity of the remaining hypotheses, on the scenes above -/

example : ∀ i' j' s', Avail (mkTbl exCfg exTie) true [0, 1] [0, 1] i' j' s' →
    better false s' 1 = false ∧ (better false 1 s' = false → (0 < i' ∨ (0 = i' ∧ 0 ≤ j'))) :=
  ((pick_is_lex_least (t := mkTbl exCfg exTie) (s1 := true) (es := [0, 1]) (gs := [0, 1]) (by decide) (by decide)).1
    (by decide +kernel)).2

example : (stage (mkTbl exCfg exTie) true 2 { es := List.range 2, gs := List.range 2, pairs := [] }).es.Pairwise (· < ·) :=
  (remaining_lists_increasing _ true 2 _ List.pairwise_lt_range List.pairwise_lt_range).1

/-- the tied scene is covered by the characterisation: its results are the outcome of the rule -/
example : [(0, some 0), (1, some 1)] =
    resultsOf exCfg.fpValidation (matchAll (mkTbl exCfg exTie) exTie.ests.length exTie.gts.length) :=
  result_is_the_row_major_greedy (c := exCfg) (sc := exTie) (by decide +kernel) (refines_row_major_spec exCfg exTie)

/-- the IoU scene (global ties at 0) is covered by the weaker uniqueness hypothesis, also for another listing order -/
example : [(1, some 1), (0, some 0)] =
    resultsOf exIouCfg.fpValidation (matchAll (mkTbl exIouCfg exIou) exIou.ests.length exIou.gts.length) :=
  greedy_unique_of_no_best_ties (c := exIouCfg) (sc := exIou) (by decide +kernel) (by decide +kernel)
    (refines_greedy_spec exIouCfg exIou)

example : ([(1, some 1), (0, some 0)] : List Res).filter (fun r => r.2.isSome) =
    pairResults (matchFrom (mkTbl exIouCfg exIou) [1, 0] [1, 0]).pairs :=
  pairs_independent_of_index_order_local (c := exIouCfg) (sc := exIou) (by decide +kernel) (by decide +kernel)
    (by decide) (by decide)

/-! ## companions of the `.ok`-conditional statements

`no_blocking_*`, `stage1_exhaustive`, `result_is_the_row_major_greedy` … speak about successful calls.  The call succeeds
for every well-formed configuration and raises exactly when a same-frame cell of the table raises (`IndexError` of
`get_label_threshold` for a short threshold list, `AssertionError` of the IoU `is_better_than` for a threshold outside
`[0, 1]`); details in `PEval.C01` (`cell_raises_iff`, `raises_first_failing_cell`). -/

theorem total_of_wellformed {c : Cfg} (hwf : WFCfg c) (sc : Scene) : ∃ rs, getObjectResults c sc = .ok rs :=
  getObjectResults_total hwf sc

theorem raises_iff {c : Cfg} {sc : Scene} {err : Err} :
    getObjectResults c sc = .error err ↔ sc.ests ≠ [] ∧ sc.gts ≠ [] ∧ tableError c sc = some err :=
  getObjectResults_error_iff

/-- for a well-formed configuration no matchable pair is a blocking pair — unconditionally (totality + `no_blocking_incompatible`) -/
theorem no_blocking_pair_of_wellformed {c : Cfg} (hwf : WFCfg c) (sc : Scene) :
    ∃ rs, getObjectResults c sc = .ok rs ∧
      ∀ i j s, (mkTbl c sc).score i j = some s → (i, some j) ∉ rs →
        ∃ i' j', (i', some j') ∈ rs ∧ (i' = i ∨ j' = j) ∧
          ((mkTbl c sc).valid i' j' = true ∨
            ∃ s', (mkTbl c sc).score i' j' = some s' ∧ better c.mode.maximize s s' = false) := by
  obtain ⟨rs, h⟩ := getObjectResults_total hwf sc
  exact ⟨rs, h, fun i j s hs hnot => no_blocking_incompatible h hs hnot⟩

example : WFCfg exCfg := wfCfg_of_no_thresholds (Or.inl rfl)

/-! ## the label rule, for the CODE's decision table

`PEval.KernelMatchable` (decision-table translator): `is_matchable` of the current source, tabulated over all its
atoms, equals the model's `isMatchable` (`matchable_code_table_eq_isMatchable`); the table check is re-proved on every
run. `valid i j` of the statements above is therefore what the code's own table says. -/

/-- the `valid` plane of the model's table is the verdict of the CODE's decision table of `is_matchable` -/
theorem valid_is_code_table {t : DT.DTree} (ht : Gen.K.matchable.tree = some t) (c : Cfg) (sc : Scene) (i j : Nat)
    (e g : Obj) (he : sc.ests[i]? = some e) (hg : sc.gts[j]? = some g) (s : Rat)
    (hs : (mkTbl c sc).score i j = some s) :
    DT.eval t (MatchKernels.valMatchable c.policy e g) = .ret ((mkTbl c sc).valid i j) := by
  rw [KernelMatchable.matchable_code_table_eq_isMatchable t ht]
  obtain ⟨e', g', he', hg', _, _, _, hv⟩ := mkTbl_score_some hs
  rw [he] at he'; rw [hg] at hg'
  cases he'; cases hg'
  rw [hv]

end PEval.C02
