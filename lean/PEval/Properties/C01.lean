import PEval.Lemmas.MatchingResults
import PEval.Lemmas.MatchingHeap
import PEval.Lemmas.MatchingTotal
import PEval.Lemmas.MatchingDispatch
import PEval.Model.MatchDispatch
import PEval.Properties.KernelMatchable
import PEval.Properties.KernelBetter
import PEval.Properties.KernelCell
/-!
# C01 — matching is one-to-one and accounts for every estimate

The first part is about `PEval.Matching.getObjectResults` (model of `get_object_results` for objects
carrying geometry); its statements hold for every configuration (three label policies, four modes, any target /
threshold lists, both tasks), every list of estimates and ground truths of any length and **every**
scoring function `Scene.val : Nat → Nat → Rat` (so for all four matching modes and any ties; a matching value of `None` / NaN
is outside the model, DESIGN §8.3). A result is `(estimate index, some ground-truth index | none)`; indices are positions in
the caller's lists.

The later sections carry these statements to the entry point for every kind of object (`MatchDispatch.getObjectResultsX`),
say when the call returns and when it raises, treat lists with objects the mode cannot read (`getObjectResultsXE`), label
families (`cellF`, `isMatchableF`) and the list handling of the code (`MatchHeap.getObjectResultsH`: the caller's lists are
left untouched).

A theorem of the form `:= lemma` gives a lemma of `Lemmas/Matching*.lean` the property's name: the harness audits a property
by the theorems of its own module (`THEOREMS` in `harness/props/c01.py`).
-/
namespace PEval.C01
open PEval PEval.Matching

/-- Outside FP validation the estimates of the results are a rearrangement of the input estimates:
each input estimate exactly once, nothing foreign. -/
theorem results_est_perm {c : Cfg} {sc : Scene} {rs : List Res}
    (h : getObjectResults c sc = .ok rs) (hfp : c.fpValidation = false) :
    (rs.map (·.1)).Perm (List.range sc.ests.length) := by
  rw [getObjectResults_ok h, resultsOf_map_fst, hfp]
  exact (matchAll_inv _ _ _).permE List.nodup_range

/-- In both tasks no estimate appears twice and every estimate of a result is an input estimate. -/
theorem results_est_nodup {c : Cfg} {sc : Scene} {rs : List Res} (h : getObjectResults c sc = .ok rs) :
    (rs.map (·.1)).Nodup ∧ ∀ r ∈ rs, r.1 < sc.ests.length :=
  ⟨(results_one_to_one h).1, (results_one_to_one h).2.1⟩

/-- Each ground truth is used by at most one result, and only input ground truths are used. -/
theorem results_gt_nodup {c : Cfg} {sc : Scene} {rs : List Res} (h : getObjectResults c sc = .ok rs) :
    (usedGts rs).Nodup ∧ ∀ j ∈ usedGts rs, j < sc.gts.length :=
  (results_one_to_one h).2.2

/-- Every pair of the results has a score in the table built by `_get_score_table`: the two objects
exist, are in the same frame, pass the matchable-threshold gate of the ground truth's label, and the
score is the matching value of the pair. -/
theorem pair_has_score {c : Cfg} {sc : Scene} {rs : List Res} (h : getObjectResults c sc = .ok rs)
    {i j : Nat} (hp : (i, some j) ∈ rs) :
    ∃ e g, sc.ests[i]? = some e ∧ sc.gts[j]? = some g ∧
      cell c e g (sc.val i j) = .ok ⟨some (sc.val i j), isMatchable c.policy e g⟩ := by
  rw [getObjectResults_ok h, mem_resultsOf_some] at hp
  obtain ⟨s, hs⟩ := (matchAll_inv (mkTbl c sc) sc.ests.length sc.gts.length).sc (i, j) hp
  obtain ⟨e, g, he, hg, _, hf, hw, _⟩ := mkTbl_score_some hs
  exact ⟨e, g, he, hg, cell_of_within hf hw⟩

/-- Only objects expressed in the same frame are paired. -/
theorem pair_same_frame {c : Cfg} {sc : Scene} {rs : List Res} (h : getObjectResults c sc = .ok rs)
    {i j : Nat} (hp : (i, some j) ∈ rs) :
    ∃ e g, sc.ests[i]? = some e ∧ sc.gts[j]? = some g ∧ e.frame = g.frame := by
  obtain ⟨e, g, he, hg, hc⟩ := pair_has_score h hp
  exact ⟨e, g, he, hg, (cell_score_some hc rfl).2.1⟩

/-- When a threshold (maximum matchable radius) is configured for the **ground truth's** label, the
paired objects are strictly better than it (distance modes: closer than the radius). -/
theorem pair_within_radius {c : Cfg} {sc : Scene} {rs : List Res} (h : getObjectResults c sc = .ok rs)
    {i j : Nat} (hp : (i, some j) ∈ rs) {g : Obj} (hg : sc.gts[j]? = some g) {r : Rat}
    (hr : labelThreshold c.targets c.thresholds g.label = .ok (some r)) :
    better c.mode.maximize (sc.val i j) r = true := by
  obtain ⟨e, g', _, hg', hc⟩ := pair_has_score h hp
  rw [hg] at hg'; cases hg'
  obtain ⟨thr, hthr, hall⟩ := (cell_score_some hc rfl).2.2.1
  rw [hr] at hthr; cases hthr
  exact isBetterThan_ok_true (hall r rfl)

/-- In the distance modes this reads: the matching distance is smaller than the radius. -/
theorem pair_closer_than_radius {c : Cfg} {sc : Scene} {rs : List Res} (h : getObjectResults c sc = .ok rs)
    (hm : c.mode.maximize = false)
    {i j : Nat} (hp : (i, some j) ∈ rs) {g : Obj} (hg : sc.gts[j]? = some g) {r : Rat}
    (hr : labelThreshold c.targets c.thresholds g.label = .ok (some r)) :
    sc.val i j < r := by
  have := pair_within_radius h hp hg hr
  simpa [better, hm] using this

/-- The table has a score exactly for the same-frame pairs within the threshold (what "matchable"
means in C01/C02); `none` stands for the NaN entries. -/
theorem table_score_iff {c : Cfg} {sc : Scene} {i j : Nat} {e g : Obj}
    (he : sc.ests[i]? = some e) (hg : sc.gts[j]? = some g) :
    (∃ s, (mkTbl c sc).score i j = some s) ↔ e.frame = g.frame ∧ withinThreshold c g (sc.val i j) := by
  constructor
  · rintro ⟨s, hs⟩
    obtain ⟨e', g', he', hg', _, hf, hw, _⟩ := mkTbl_score_some hs
    rw [he] at he'; rw [hg] at hg'; cases he'; cases hg'
    exact ⟨hf, hw⟩
  · rintro ⟨hf, hw⟩
    exact ⟨_, (mkTbl_score_of_within he hg hf hw).1⟩

/-- Outside FP validation the results without ground truth come after all pairs and are exactly the
unpaired estimates, in input order. -/
theorem unpaired_are_leftover {c : Cfg} {sc : Scene} {rs : List Res}
    (h : getObjectResults c sc = .ok rs) (hfp : c.fpValidation = false) :
    rs = rs.filter (fun r => r.2.isSome) ++ rs.filter (fun r => r.2.isNone) ∧
    unpairedEsts rs = (List.range sc.ests.length).filter (fun i => !(pairedEsts rs).contains i) := by
  have hinv := matchAll_inv (mkTbl c sc) sc.ests.length sc.gts.length
  rw [getObjectResults_ok h]
  constructor
  · rw [filter_isSome_resultsOf, filter_isNone_resultsOf]; rfl
  · rw [unpairedEsts_resultsOf, pairedEsts_resultsOf, hfp]
    exact hinv.esEq

/-- In FP validation unpaired estimates are dropped: every result has a ground truth … -/
theorem fpval_all_paired {c : Cfg} {sc : Scene} {rs : List Res}
    (h : getObjectResults c sc = .ok rs) (hfp : c.fpValidation = true) :
    ∀ r ∈ rs, r.2.isSome = true := by
  rw [getObjectResults_ok h, hfp]
  intro r hr
  simp only [resultsOf, pairResults, if_true, List.append_nil, List.mem_map] at hr
  obtain ⟨p, _, rfl⟩ := hr
  rfl

/-- … and the call returns exactly the pairs of the ordinary task (errors included). -/
theorem fpval_drops_unpaired (c : Cfg) (sc : Scene) :
    getObjectResults { c with fpValidation := true } sc =
      (getObjectResults { c with fpValidation := false } sc).map
        (fun rs => rs.filter (fun r => r.2.isSome)) := by
  rw [getObjectResults_eq, getObjectResults_eq, tableError_fpVal c sc true, tableError_fpVal c sc false]
  cases tableError c sc with
  | some e => rfl
  | none => exact congrArg Except.ok ((List.append_nil _).trans (filter_isSome_resultsOf false _).symm)

/-- No ground truth at all: FP validation returns no result … -/
theorem fpval_empty_gt {c : Cfg} {sc : Scene} (hg : sc.gts = []) (hfp : c.fpValidation = true) :
    getObjectResults c sc = .ok [] := by
  by_cases he : sc.ests = []
  · exact getObjectResults_of_ests_nil he
  · rw [getObjectResults_of_gts_nil he hg, hfp]; rfl

/-- … the ordinary task one GT-less result per estimate, in input order. -/
theorem empty_gt_all_unpaired {c : Cfg} {sc : Scene} (hg : sc.gts = []) (hfp : c.fpValidation = false) :
    getObjectResults c sc = .ok ((List.range sc.ests.length).map fun i => (i, none)) := by
  by_cases he : sc.ests = []
  · rw [getObjectResults_of_ests_nil he, he]; rfl
  · rw [getObjectResults_of_gts_nil he hg, hfp]; rfl

/-- No estimate: no result. -/
theorem empty_est {c : Cfg} {sc : Scene} (he : sc.ests = []) : getObjectResults c sc = .ok [] :=
  getObjectResults_of_ests_nil he

/-- Result count: one per estimate outside FP validation; at most min(#estimates, #ground truths)
pairs in any task. -/
theorem results_length {c : Cfg} {sc : Scene} {rs : List Res} (h : getObjectResults c sc = .ok rs) :
    (c.fpValidation = false → rs.length = sc.ests.length) ∧
    (rs.filter (fun r => r.2.isSome)).length ≤ min sc.ests.length sc.gts.length := by
  constructor
  · intro hfp
    have := (results_est_perm h hfp).length_eq
    rwa [List.length_map, List.length_range] at this
  · have hinv := matchAll_inv (mkTbl c sc) sc.ests.length sc.gts.length
    have h1 := (hinv.permE List.nodup_range).length_eq
    have h2 := (hinv.permG List.nodup_range).length_eq
    rw [getObjectResults_ok h, filter_isSome_resultsOf, pairResults, List.length_map]
    rw [List.length_append, List.length_map, List.length_range] at h1 h2
    omega

/-! ## the hypotheses are satisfiable: a concrete contested scene

Three estimates (car, unknown, car) and two ground truths (car in `base_link`, pedestrian in `map`),
radius 3 for cars only, center distance. Estimate 0 and 2 compete for GT 0 with equal distance 1
(first wins); estimate 1 is in another frame than GT 0; GT 1 only matches in stage 2. -/

def exCfg : Cfg :=
  { policy := .default, mode := .centerDistance, targets := some ["car", "pedestrian"],
    thresholds := some [3, 2], fpValidation := false }

def exScene : Scene :=
  { ests := [⟨"car", "base_link"⟩, ⟨"unknown", "map"⟩, ⟨"car", "base_link"⟩],
    gts := [⟨"car", "base_link"⟩, ⟨"pedestrian", "map"⟩],
    val := fun i j => if i == 1 then 1 / 2 else if j == 0 then 1 else 5 }

example : getObjectResults exCfg exScene = .ok [(0, some 0), (1, some 1), (2, none)] := by decide +kernel
example : getObjectResults { exCfg with fpValidation := true } exScene = .ok [(0, some 0), (1, some 1)] := by
  decide +kernel
example : getObjectResults { exCfg with mode := .iou2d } exScene = .error "AssertionError" := by decide +kernel
example : getObjectResults { exCfg with thresholds := some [3] } exScene = .error "IndexError" := by
  decide +kernel

/-! ## every kind of object, label family and uuid setting: the dispatch of `get_object_results`

`MatchDispatch.getObjectResultsX` is the entry point for all object kinds (3-D boxes, 2-D objects with a
ROI, ROI-less 2-D objects) x label families (Autoware / traffic light) x uuids (set or `None`) x
`uuid_matching_first`.  Objects that carry geometry are served by the geometric matcher whatever their
label family, uuids and `uuid_matching_first` are, so every statement above holds for all of them. -/
section dispatch
open PEval.MatchDispatch

/-- The geometric matcher is selected exactly when the first objects carry geometry (3-D, or 2-D with
both ROIs present); the label family plays no role. -/
theorem dispatch_geometric_iff (is2d : Bool) (e0 g0 : ObjX) :
    dispatch is2d e0 g0 = .geometric ↔ (is2d = false ∨ (e0.roiNone = false ∧ g0.roiNone = false)) := by
  unfold dispatch
  cases is2d
  · simp
  · -- 2-D: geometric exactly when the guard `a ROI is missing` of the first two branches fails
    cases hg : e0.roiNone || g0.roiNone
    · simpa using hg
    · have hr : ¬ (e0.roiNone = false ∧ g0.roiNone = false) := fun h => by simp [h.1, h.2] at hg
      cases e0.tl <;> simp [hr]

/-- ROI-less 2-D objects go to the identity-based matchers (C11): traffic-light labels to the label/uuid
matcher, all others to the uuid matcher. -/
theorem dispatch_roiless (e0 g0 : ObjX) (h : e0.roiNone = true ∨ g0.roiNone = true) :
    dispatch true e0 g0 = if e0.tl then .tlr else .byId := by
  unfold dispatch
  rcases h with h | h <;> cases h' : e0.tl <;> simp [h]

/-- For objects with geometry the entry point IS the geometric matcher, for every label family, every
uuid assignment (set, shared, `None`) and both `uuid_matching_first` settings. -/
theorem withGeometry_eq_geometric (uf : Bool) (c : Cfg) (sx : SceneX) (h : hasGeometry sx) :
    getObjectResultsX uf c sx = getObjectResults c (toScene sx) := by
  unfold getObjectResultsX
  cases hE : sx.ests with
  | nil => simp [getObjectResults, toScene, hE]
  | cons e0 es =>
    cases hG : sx.gts with
    | nil => simp [getObjectResults, toScene, hE, hG]
    | cons g0 gs =>
      have hd : dispatch sx.is2d e0 g0 = .geometric := by
        rw [dispatch_geometric_iff]
        rcases h with h | ⟨h1, h2⟩
        · exact Or.inl h
        · exact Or.inr ⟨h1 e0 (by simp [hE]), h2 g0 (by simp [hG])⟩
      simp only [hd]

/-- Two calls that differ only in label family flags, uuids, `uuid_matching_first` (same member values,
frames and scores) return the same results when the objects carry geometry. -/
theorem geometric_independent_of_family_uuid {uf uf' : Bool} {c : Cfg} {sx sx' : SceneX}
    (h : hasGeometry sx) (h' : hasGeometry sx') (heq : toScene sx = toScene sx') :
    getObjectResultsX uf c sx = getObjectResultsX uf' c sx' := by
  rw [withGeometry_eq_geometric uf c sx h, withGeometry_eq_geometric uf' c sx' h', heq]

/-- C01 for every kind/family/uuid combination with geometry: outside FP validation every estimate is in
exactly one result. -/
theorem x_results_est_perm {uf : Bool} {c : Cfg} {sx : SceneX} {rs : List Res} (hgeo : hasGeometry sx)
    (h : getObjectResultsX uf c sx = .ok rs) (hfp : c.fpValidation = false) :
    (rs.map (·.1)).Perm (List.range sx.ests.length) := by
  rw [withGeometry_eq_geometric uf c sx hgeo] at h
  simpa [toScene] using results_est_perm h hfp

/-- … each ground truth is used at most once … -/
theorem x_results_gt_nodup {uf : Bool} {c : Cfg} {sx : SceneX} {rs : List Res} (hgeo : hasGeometry sx)
    (h : getObjectResultsX uf c sx = .ok rs) : (usedGts rs).Nodup := by
  rw [withGeometry_eq_geometric uf c sx hgeo] at h
  exact (results_gt_nodup h).1

/-- … a pair respects the maximum matchable radius configured for the ground truth's label … -/
theorem x_pair_within_radius {uf : Bool} {c : Cfg} {sx : SceneX} {rs : List Res} (hgeo : hasGeometry sx)
    (h : getObjectResultsX uf c sx = .ok rs) {i j : Nat} (hp : (i, some j) ∈ rs) {g : ObjX}
    (hg : sx.gts[j]? = some g) {r : Rat}
    (hr : labelThreshold c.targets c.thresholds g.label = .ok (some r)) :
    better c.mode.maximize (sx.val i j) r = true := by
  rw [withGeometry_eq_geometric uf c sx hgeo] at h
  exact pair_within_radius (sc := toScene sx) (g := toObj g) h hp (by simp [toScene, hg]) hr

/-- … and in FP validation every result has a ground truth. -/
theorem x_fpval_all_paired {uf : Bool} {c : Cfg} {sx : SceneX} {rs : List Res} (hgeo : hasGeometry sx)
    (h : getObjectResultsX uf c sx = .ok rs) (hfp : c.fpValidation = true) :
    ∀ r ∈ rs, r.2.isSome = true := by
  rw [withGeometry_eq_geometric uf c sx hgeo] at h
  exact fpval_all_paired h hfp

/-! Satisfiable and non-trivial: two detected traffic lights with ROIs and uuids, one annotated one whose
uuid and label equal those of the FAR estimate; radius 50 px. With ROIs the near estimate is paired and
the far one kept unpaired; the same objects without ROIs are paired by label/uuid (C11's matchers). -/

def exTlCfg : Cfg :=
  { policy := .default, mode := .centerDistance, targets := some ["traffic_light"],
    thresholds := some [50], fpValidation := false }

def exTl (roiNone : Bool) : SceneX :=
  { is2d := true,
    ests := [⟨"traffic_light", true, "cam_traffic_light_near", some "b", roiNone⟩,
             ⟨"traffic_light", true, "cam_traffic_light_near", some "a", roiNone⟩],
    gts := [⟨"traffic_light", true, "cam_traffic_light_near", some "a", roiNone⟩],
    val := fun i _ => if i == 0 then 500 else 2 }

example : hasGeometry (exTl false) := Or.inr ⟨by decide, by decide⟩
example : getObjectResultsX false exTlCfg (exTl false) = .ok [(1, some 0), (0, none)] := by decide +kernel
example : getObjectResultsX true exTlCfg (exTl false) = .ok [(1, some 0), (0, none)] := by decide +kernel
example : getObjectResultsX false exTlCfg (exTl true) = .ok [(0, some 0)] := by decide +kernel
example : getObjectResultsX true exTlCfg (exTl true) = .ok [(1, some 0)] := by decide +kernel

/-- the ROI-less traffic-light scene takes the traffic-light path; with a `None` uuid it raises -/
example : dispatch true ⟨"traffic_light", true, "cam_traffic_light_near", some "b", true⟩
    ⟨"traffic_light", true, "cam_traffic_light_near", some "a", true⟩ = .tlr := by decide
example : getObjectResultsX false exTlCfg
    { exTl true with gts := [⟨"traffic_light", true, "cam_traffic_light_near", none, true⟩] } =
    .error "RuntimeError" := by decide +kernel

end dispatch

/-! ## when does the matcher return, when does it raise

Every statement above is conditional on `getObjectResults c sc = .ok rs`.  The companions: the call returns for every
well-formed configuration; it raises exactly when both lists are non-empty and some SAME-frame cell raises while the
table is filled, and the exception is the one of the first such cell in row-major order; a cell raises exactly
`"IndexError"` (`matchable_thresholds[index]` in `get_label_threshold`: the ground truth's label is the `k`-th target label
and the threshold list has at most `k` entries) or `"AssertionError"` (`assert 0.0 <= threshold_value <= 1.0` in
`IOU2dMatching / IOU3dMatching.is_better_than`), in this order. -/
section totality

/-- **Totality.** With a threshold for every target label and, in the IoU modes, thresholds in `[0, 1]` (or without
thresholds / target labels at all) the matcher returns, for all lists and all scores. -/
theorem total_of_wellformed {c : Cfg} (hwf : WFCfg c) (sc : Scene) : ∃ rs, getObjectResults c sc = .ok rs :=
  getObjectResults_total hwf sc

theorem wellformed_of_no_thresholds {c : Cfg} (h : c.thresholds = none ∨ c.targets = none) : WFCfg c :=
  wfCfg_of_no_thresholds h

/-- The call raises exactly when both lists are non-empty and the table construction raises (its exception). -/
theorem raises_iff {c : Cfg} {sc : Scene} {err : Err} :
    getObjectResults c sc = .error err ↔ sc.ests ≠ [] ∧ sc.gts ≠ [] ∧ tableError c sc = some err :=
  getObjectResults_error_iff

/-- … and returns exactly when a list is empty or every cell of the table is defined. -/
theorem returns_iff {c : Cfg} {sc : Scene} :
    (∃ rs, getObjectResults c sc = .ok rs) ↔
      sc.ests = [] ∨ sc.gts = [] ∨
        ∀ i j, i < sc.ests.length → j < sc.gts.length → ∃ x, cellAt c sc i j = .ok x := by
  rw [getObjectResults_ok_iff, tableError_eq_none_iff]
  -- an empty list makes the condition on the cells vacuous
  refine ⟨fun h => .inr (.inr h), fun h i j hi hj => ?_⟩
  rcases h with e | e | h
  · rw [e] at hi; cases hi
  · rw [e] at hj; cases hj
  · exact h i j hi hj

/-- The exception is that of the FIRST failing cell in row-major order (`for i … for j …`). -/
theorem raises_first_failing_cell {c : Cfg} {sc : Scene} {err : Err} :
    tableError c sc = some err ↔
      ∃ i j, i < sc.ests.length ∧ j < sc.gts.length ∧ cellAt c sc i j = .error err ∧
        ∀ i' j', i' < sc.ests.length → j' < sc.gts.length → (i' < i ∨ (i' = i ∧ j' < j)) →
          ∃ x, cellAt c sc i' j' = .ok x :=
  tableError_eq c sc ▸ firstError_eq_some_iff (cellAt c sc) _ _ err

/-- One cell raises iff the two objects are in the same frame and the threshold lookup for the GROUND TRUTH's label
fails, or it succeeds with a threshold on which the IoU range assertion fails. -/
theorem cell_raises_iff {c : Cfg} {e g : Obj} {v : Rat} {err : Err} :
    cell c e g v = .error err ↔
      e.frame = g.frame ∧
        ((err = "IndexError" ∧ ∃ T H k, c.targets = some T ∧ c.thresholds = some H ∧
            T.findIdx? (· == g.label) = some k ∧ H.length ≤ k) ∨
          ∃ r, labelThreshold c.targets c.thresholds g.label = .ok (some r) ∧
            err = "AssertionError" ∧ c.mode.maximize = true ∧ ¬ (0 ≤ r ∧ r ≤ 1)) := by
  rw [cell_error_iff, labelThreshold_error_iff]
  simp only [isBetterThan_error_iff]

/-- No other exception kind leaves the geometric matcher. -/
theorem error_kinds {c : Cfg} {sc : Scene} {err : Err} (h : getObjectResults c sc = .error err) :
    err = "IndexError" ∨ err = "AssertionError" := by
  obtain ⟨_, _, ht⟩ := getObjectResults_error_iff.1 h
  obtain ⟨i, j, _, _, hc, _⟩ := raises_first_failing_cell.1 ht
  exact cellAt_error_kind hc

/-- When the call returns, `mkTbl` IS the table the code built: no cell of it is a totalised error (the
`none / false` that `mkTbl` puts for an erroring cell never occurs in a successful call).
(`he`, `hg` follow from `hi`, `hj`; the proof does not use them.) -/
theorem table_is_code_table_of_ok {c : Cfg} {sc : Scene} {rs : List Res} (h : getObjectResults c sc = .ok rs)
    (he : sc.ests ≠ []) (hg : sc.gts ≠ []) {i j : Nat} (hi : i < sc.ests.length) (hj : j < sc.gts.length) :
    cellAt c sc i j = .ok ⟨(mkTbl c sc).score i j, (mkTbl c sc).valid i j⟩ := by
  obtain ⟨x, hx⟩ := tableError_eq_none_iff.1 (getObjectResults_ok_iff.1 ⟨rs, h⟩) i j hi hj
  simp [mkTbl, hx]

/-- totality for every kind of object that carries geometry, every label family and uuid setting -/
theorem x_total_of_wellformed {uf : Bool} {c : Cfg} (hwf : WFCfg c) {sx : MatchDispatch.SceneX}
    (hgeo : MatchDispatch.hasGeometry sx) : ∃ rs, MatchDispatch.getObjectResultsX uf c sx = .ok rs := by
  rw [withGeometry_eq_geometric uf c sx hgeo]
  exact getObjectResults_total hwf _

/-- `exCfg` is well-formed (two target labels, two radii, a distance mode) … -/
example : WFCfg exCfg := by
  intro T H hT hH
  cases hT; cases hH
  exact ⟨by decide, fun h => absurd h (by decide)⟩

/-- … its two broken variants above are not (the examples after `exScene` show the two exceptions) -/
example : ¬ WFCfg { exCfg with thresholds := some [3] } := fun h => absurd (h _ _ rfl rfl).1 (by decide)
example : ¬ WFCfg { exCfg with mode := .iou2d } := fun h =>
  absurd ((h _ _ rfl rfl).2 rfl 3 (by decide)).2 (by decide)

/-- the traffic-light path of the entry point (ROI-less 2-D objects with traffic-light labels): returns when every uuid
is set … (the matcher itself is C11's subject: `C11.tlr_total`) -/
theorem x_tlr_total {uf : Bool} {c : Cfg} {sx : MatchDispatch.SceneX} {e0 g0 : MatchDispatch.ObjX}
    {es gs : List MatchDispatch.ObjX} (hE : sx.ests = e0 :: es) (hG : sx.gts = g0 :: gs)
    (hd : MatchDispatch.dispatch sx.is2d e0 g0 = .tlr) (hn : ∀ o ∈ sx.ests ++ sx.gts, o.uuid ≠ none) :
    ∃ rs, MatchDispatch.getObjectResultsX uf c sx = .ok rs := by
  open MatchDispatch Classification in
  obtain ⟨rs, hrs⟩ := pairTlr_total (uf := uf) ((forall_uuid_toCls (P := (· ≠ none))).2 hn)
  refine ⟨clsRes rs, ?_⟩
  unfold getObjectResultsX
  simp only [hE, hG, hd]
  rw [← hE, ← hG, hrs]
  rfl

theorem x_tlr_null_uuid_runtimeError {uf : Bool} {c : Cfg} {sx : MatchDispatch.SceneX} {e0 g0 : MatchDispatch.ObjX}
    {es gs : List MatchDispatch.ObjX} (hE : sx.ests = e0 :: es) (hG : sx.gts = g0 :: gs)
    (hd : MatchDispatch.dispatch sx.is2d e0 g0 = .tlr) (hnull : ∃ o ∈ sx.ests ++ sx.gts, o.uuid = none) :
    MatchDispatch.getObjectResultsX uf c sx = .error "RuntimeError" := by
  open MatchDispatch Classification in
  have hnull' : ∃ o ∈ toCls sx.ests ++ toCls sx.gts, o.uuid = none := by
    by_contra hcon
    obtain ⟨o, ho, hn⟩ := hnull
    exact (forall_uuid_toCls (P := (· ≠ none))).1 (fun o ho hn => hcon ⟨o, ho, hn⟩) o ho hn
  unfold getObjectResultsX
  simp only [hE, hG, hd]
  rw [← hE, ← hG, pairTlr_null_uuid_error (toCls_ne_nil (hE ▸ List.cons_ne_nil _ _))
    (toCls_ne_nil (hG ▸ List.cons_ne_nil _ _)) hnull']
  rfl

/-- … and raises when one is `None`; that the exception is the matcher's
`RuntimeError("uuid of estimation and ground truth must be set …")` is `x_tlr_null_uuid_runtimeError` -/
theorem x_tlr_null_uuid_raises {uf : Bool} {c : Cfg} {sx : MatchDispatch.SceneX} {e0 g0 : MatchDispatch.ObjX}
    {es gs : List MatchDispatch.ObjX} (hE : sx.ests = e0 :: es) (hG : sx.gts = g0 :: gs)
    (hd : MatchDispatch.dispatch sx.is2d e0 g0 = .tlr) (hnull : ∃ o ∈ sx.ests ++ sx.gts, o.uuid = none) :
    ∃ x, MatchDispatch.getObjectResultsX uf c sx = .error x :=
  ⟨_, x_tlr_null_uuid_runtimeError hE hG hd hnull⟩

end totality

/-! ## lists the dispatch does not look at: objects without the geometry the mode reads

The dispatch reads only the FIRST estimate and the FIRST ground truth.  `MatchDispatch.getObjectResultsXE` adds what the
code does for the rest of the lists: on the geometric path the constructor of the matching method raises for a
same-frame pair that lacks what the mode reads (a later 2-D object without ROI: `AttributeError` for CENTERDISTANCE,
`RuntimeError` for IOU2D; any 2-D object with PLANEDISTANCE / IOU3D: `AttributeError`), after the threshold lookup and
before the IoU range assertion.  Where every same-frame pair is readable — in particular for `hasGeometry` scenes with a
2-D mode, and for all 3-D scenes — it IS `getObjectResultsX`, so all statements above hold for it; elsewhere it raises the
exception of the first failing cell.  (The harness does not generate such lists, see ASSUMPTIONS of
`harness/props/c01.py`.) -/
section dispatchErrors
open PEval.MatchDispatch

/-- where every same-frame pair is readable by the mode, the entry point with the constructor exits is the one above -/
theorem xe_eq_x_of_readable {uf : Bool} {c : Cfg} {sx : SceneX} (h : modeReadable c sx) :
    getObjectResultsXE uf c sx = getObjectResultsX uf c sx := by
  unfold getObjectResultsXE getObjectResultsX
  cases hE : sx.ests with
  | nil => rfl
  | cons e0 es =>
    cases hG : sx.gts with
    | nil => rfl
    | cons g0 gs =>
      simp only
      cases hd : dispatch sx.is2d e0 g0 with
      | tlr => rfl
      | byId => rfl
      | geometric =>
        simp only
        rw [tableErrorXE_eq_tableError h]
        cases ht : tableError c (toScene sx) with
        | none => rfl
        | some err => rw [getObjectResults_eq, ht]

/-- 3-D boxes with any mode, and 2-D objects that all carry a ROI with a 2-D mode, are readable -/
theorem xe_readable_of_geometry {c : Cfg} {sx : SceneX} (hgeo : hasGeometry sx)
    (hmode : sx.is2d = true → c.mode = .centerDistance ∨ c.mode = .iou2d) : modeReadable c sx := by
  intro e he g hg _
  rw [valueError_eq_none_iff]
  rcases hgeo with h | ⟨h1, h2⟩
  · exact Or.inl h
  · cases h2d : sx.is2d with
    | false => exact Or.inl rfl
    | true => exact Or.inr ⟨hmode h2d, h1 e he, h2 g hg⟩

/-- which exception the constructor of the matching method raises, exactly -/
theorem xe_constructor_raises_iff {is2d : Bool} {m : Mode} {e g : ObjX} {err : Err} :
    valueError is2d m e g = some err ↔
      is2d = true ∧
        ((err = "AttributeError" ∧ (m = .planeDistance ∨ m = .iou3d)) ∨
          (err = "AttributeError" ∧ m = .centerDistance ∧ (e.roiNone = true ∨ g.roiNone = true)) ∨
          (err = "RuntimeError" ∧ m = .iou2d ∧ (e.roiNone = true ∨ g.roiNone = true))) := by
  unfold valueError
  cases is2d
  · simp
  · cases m <;> simp [eq_comm (b := err), and_comm]

/-- one cell raises iff same frame and, in this order: threshold lookup, constructor, IoU range assertion -/
theorem xe_cell_raises_iff {c : Cfg} {is2d : Bool} {e g : ObjX} {v : Rat} {err : Err} :
    cellXE c is2d e g v = .error err ↔
      e.frame = g.frame ∧
        (labelThreshold c.targets c.thresholds g.label = .error err ∨
          ((∃ thr, labelThreshold c.targets c.thresholds g.label = .ok thr) ∧
            valueError is2d c.mode e g = some err) ∨
          (valueError is2d c.mode e g = none ∧
            ∃ r, labelThreshold c.targets c.thresholds g.label = .ok (some r) ∧
              isBetterThan c.mode v r = .error err)) := by
  cases hv : valueError is2d c.mode e g with
  | none =>
    rw [cellXE_of_no_valueError fun _ => hv, cell_error_iff]
    simp only [toObj, reduceCtorEq, and_false, true_and, false_or]
  | some e' =>
    by_cases hf : e.frame = g.frame
    · rw [cellXE_of_valueError hf hv]
      cases labelThreshold c.targets c.thresholds g.label <;> simp [hf, Except.bind]
    · rw [cellXE_of_no_valueError fun h => absurd h hf, cell_error_iff]
      simp only [toObj, hf, false_and]

/-- on the geometric path the call raises exactly the exception of the first failing cell in row-major order -/
theorem xe_geometric_raises_iff {uf : Bool} {c : Cfg} {sx : SceneX} {e0 g0 : ObjX} {es gs : List ObjX}
    (hE : sx.ests = e0 :: es) (hG : sx.gts = g0 :: gs) (hd : dispatch sx.is2d e0 g0 = .geometric) {err : Err} :
    getObjectResultsXE uf c sx = .error err ↔
      ∃ i j, i < sx.ests.length ∧ j < sx.gts.length ∧ cellAtXE c sx i j = .error err ∧
        ∀ i' j', i' < sx.ests.length → j' < sx.gts.length → (i' < i ∨ (i' = i ∧ j' < j)) →
          ∃ x, cellAtXE c sx i' j' = .ok x := by
  rw [getObjectResultsXE_geometric_error_iff hE hG hd, tableErrorXE_eq]
  exact firstError_eq_some_iff (cellAtXE c sx) _ _ err

/-! the scenes: two 2-D estimates (the second without ROI, in camera `cam2`) and one ground truth with ROI -/

def exMixed (cam2 : String) : SceneX :=
  { is2d := true,
    ests := [⟨"car", false, "cam_front", some "a", false⟩, ⟨"car", false, cam2, some "b", true⟩],
    gts := [⟨"car", false, "cam_front", some "a", false⟩],
    val := fun _ _ => 0 }

def exMixedCfg (m : Mode) : Cfg :=
  { policy := .default, mode := m, targets := none, thresholds := none, fpValidation := false }

example : getObjectResultsXE false (exMixedCfg .centerDistance) (exMixed "cam_front") = .error "AttributeError" := by
  decide +kernel
example : getObjectResultsXE false (exMixedCfg .iou2d) (exMixed "cam_front") = .error "RuntimeError" := by
  decide +kernel
example : getObjectResultsXE false (exMixedCfg .iou3d) (exMixed "cam_front") = .error "AttributeError" := by
  decide +kernel
example : getObjectResultsXE false (exMixedCfg .planeDistance) (exMixed "cam_back") = .error "AttributeError" := by
  decide +kernel
/-- the ROI-less object is in another camera: its pair is never built, the call returns -/
example : getObjectResultsXE false (exMixedCfg .centerDistance) (exMixed "cam_back") =
    .ok [(0, some 0), (1, none)] := by decide +kernel
/-- the threshold lookup comes first -/
example : getObjectResultsXE false
    { exMixedCfg .iou3d with targets := some ["car"], thresholds := some [] } (exMixed "cam_front") =
    .error "IndexError" := by decide +kernel
/-- `modeReadable` is needed: without it the plain dispatch model returns where the code raises -/
example : getObjectResultsX false (exMixedCfg .centerDistance) (exMixed "cam_front") = .ok [(0, some 0), (1, none)] ∧
    ¬ modeReadable (exMixedCfg .centerDistance) (exMixed "cam_front") := by
  refine ⟨by decide +kernel, fun h => ?_⟩
  have := h ⟨"car", false, "cam_front", some "b", true⟩ (by decide) ⟨"car", false, "cam_front", some "a", false⟩
    (by decide) rfl
  exact absurd this (by decide)

/-- non-vacuity: the ROI-carrying traffic-light scene is readable (and its configuration well-formed), so the extended
entry point equals the plain one and returns -/
example : modeReadable exTlCfg (exTl false) :=
  xe_readable_of_geometry (Or.inr ⟨by decide, by decide⟩) (fun _ => Or.inl rfl)

example : WFCfg exTlCfg := by
  intro T H hT hH
  cases hT; cases hH
  exact ⟨by decide, fun h => absurd h (by decide)⟩

/-- non-vacuity of `xe_geometric_raises_iff`: the failing cell of the mixed scene is (1, 0) -/
example : cellAtXE (exMixedCfg .iou2d) (exMixed "cam_front") 1 0 = .error "RuntimeError" ∧
    dispatch (exMixed "cam_front").is2d ⟨"car", false, "cam_front", some "a", false⟩
      ⟨"car", false, "cam_front", some "a", false⟩ = .geometric := by decide +kernel

end dispatchErrors

/-! ## labels are enum MEMBERS: the one-family assumption made explicit

`Matching.Obj.label` is the member VALUE.  `MatchDispatch.isMatchableF / labelThresholdF / cellF` carry the label family
and follow `Label.__eq__` (member equality), `is_fp / is_unknown` (`CommonLabel`: both families), `label in target_labels`.
Under the assumption of the model header (one family per call) they coincide with the value-level functions all
theorems are about; for mixed families they differ (examples below). -/
section family
open PEval.MatchDispatch

theorem family_isMatchable_eq {p : Policy} {e g : ObjX} (h : e.tl = g.tl) :
    isMatchableF p e g = isMatchable p (toObj e) (toObj g) := by
  unfold isMatchableF isMatchable
  simp [sameMember, h, toObj]

/-- with estimate, ground truth and target labels in one family the member-level cell is the cell of the model -/
theorem family_cell_eq {c : Cfg} {tsF : Option (List (Bool × String))} {e g : ObjX} {v : Rat}
    (hts : c.targets = tsF.map (fun l => l.map (·.2))) (hfam : e.tl = g.tl)
    (htf : ∀ l, tsF = some l → ∀ t ∈ l, t.1 = g.tl) :
    cellF c.policy c.mode tsF c.thresholds e g v = cell c (toObj e) (toObj g) v := by
  unfold cellF cell
  have hthr : labelThresholdF tsF c.thresholds g = labelThreshold c.targets c.thresholds (toObj g).label := by
    cases tsF with
    | none => simp [hts, labelThresholdF_none, toObj]
    | some l =>
      rw [labelThresholdF_of_same_family (htf l rfl), hts]
      rfl
  simp only [hthr, family_isMatchable_eq hfam]
  rfl

/-- mixed families: `AutowareLabel.UNKNOWN` and `TrafficLightLabel.UNKNOWN` are different members (DEFAULT policy: not
compatible) although their values are equal (the value-level rule says compatible); FP and the ALLOW_UNKNOWN escape go
through `CommonLabel` and ignore the family -/
example : isMatchableF .default ⟨"unknown", false, "cam_front", none, false⟩ ⟨"unknown", true, "cam_front", none, false⟩ = false ∧
    isMatchable .default ⟨"unknown", "cam_front"⟩ ⟨"unknown", "cam_front"⟩ = true ∧
    isMatchableF .default ⟨"car", false, "cam_front", none, false⟩ ⟨"false_positive", true, "cam_front", none, false⟩ = true ∧
    isMatchableF .allowUnknown ⟨"unknown", true, "cam_front", none, false⟩ ⟨"car", false, "cam_front", none, false⟩ = true := by
  decide

/-- `label in target_labels` is member equality too -/
example : labelThresholdF (some [(false, "unknown")]) (some [1]) ⟨"unknown", true, "cam_front", none, false⟩ = .ok none ∧
    labelThresholdF (some [(true, "unknown"), (false, "unknown")]) (some [1, 2])
      ⟨"unknown", false, "cam_front", none, false⟩ = .ok (some 2) := by decide +kernel

/-- non-vacuity of `family_cell_eq`: a traffic-light estimate / ground truth and traffic-light target labels -/
example : cellF exTlCfg.policy exTlCfg.mode (some [(true, "traffic_light")]) exTlCfg.thresholds
    ⟨"traffic_light", true, "cam_traffic_light_near", some "a", false⟩
    ⟨"traffic_light", true, "cam_traffic_light_near", some "a", false⟩ 2 =
    cell exTlCfg ⟨"traffic_light", "cam_traffic_light_near"⟩ ⟨"traffic_light", "cam_traffic_light_near"⟩ 2 :=
  family_cell_eq rfl rfl (by intro l hl t ht; cases hl; simp at ht; rw [ht])

end family

/-! ## "the caller's lists are left untouched"

`MatchHeap.getObjectResultsH` is `get_object_results` with its list handling: the caller's two `list` objects are two
addresses `rE`, `rG` of a store of lists, `estimated_objects.copy()` / `ground_truth_objects.copy()` allocate two new
lists, and the loops `pop` from those at the position of the optimum in the remaining table.  A function that popped
from the caller's lists IS expressible in this model (`getObjectResultsH_noCopy`, below), so the statements say something.
The corresponding observation on the real code is `untouched` (and `frame_gt_untouched` through the manager) in
`harness/props/c01.py`: the (identity, label, frame, geometry, uuid) snapshot of both lists before and after the call. -/
section heap
open PEval.MatchHeap

/-- The call changes NO list that existed before it (every address of the heap reads the same afterwards); what it
writes are the two lists it created itself. -/
theorem existing_lists_untouched (c : Cfg) (w : World) (h : Heap) (rE rG : LRef) :
    ∀ r : Nat, r < h.cells.length → (getObjectResultsH c w h rE rG).2.read r = h.read r :=
  (runH_spec c w h rE rG).2.1

/-- **The caller's lists are left untouched**, for every configuration, every store, any two list references (also one
list handed in as both arguments), in both tasks, whether the call returns or raises.  (`runH true` writes only into the two
lists it allocates, so this holds by construction; what it says is that the variant without `.copy()` — expressible in
the same model, refuted in the examples below — is not the code.) -/
theorem caller_lists_untouched (c : Cfg) (w : World) (h : Heap) (rE rG : LRef) :
    (getObjectResultsH c w h rE rG).2.read rE = h.read rE ∧ (getObjectResultsH c w h rE rG).2.read rG = h.read rG := by
  obtain ⟨_, hold, hnil⟩ := runH_spec c w h rE rG
  -- an address outside the store reads as the empty list: an early return, the heap is unchanged
  exact ⟨(Nat.lt_or_ge rE _).elim (hold rE) fun hr => by rw [getObjectResultsH, hnil (.inl (read_of_ge hr))],
    (Nat.lt_or_ge rG _).elim (hold rG) fun hr => by rw [getObjectResultsH, hnil (.inr (read_of_ge hr))]⟩

/-- **Refinement**: the results (or the exception) of the heap-level call are those of the index-level model
`getObjectResults` on the scene read from the two lists, every index standing for the object at that position of the
caller's list.  All theorems of this file therefore transfer to the objects. -/
theorem heap_results_are_input_objects (c : Cfg) (w : World) (h : Heap) (rE rG : LRef) :
    (getObjectResultsH c w h rE rG).1 =
      (getObjectResults c (sceneOf w (h.read rE) (h.read rG))).map
        (fun rs => rs.map (deref (h.read rE) (h.read rG))) :=
  (runH_spec c w h rE rG).1

/-- a successful heap-level call, read back at the index level -/
theorem heap_ok_inv {c : Cfg} {w : World} {h : Heap} {rE rG : LRef} {rsH : List RRes}
    (hr : (getObjectResultsH c w h rE rG).1 = .ok rsH) :
    ∃ rs, getObjectResults c (sceneOf w (h.read rE) (h.read rG)) = .ok rs ∧
      rsH = rs.map (deref (h.read rE) (h.read rG)) := by
  rw [heap_results_are_input_objects] at hr
  revert hr
  cases getObjectResults c (sceneOf w (h.read rE) (h.read rG)) with
  | error e => nofun
  | ok rs => rintro ⟨⟩; exact ⟨rs, rfl, rfl⟩

/-- transfer, 1: every object of a result is an object of the caller's lists (nothing foreign, by identity) -/
theorem heap_result_objects_in_lists {c : Cfg} {w : World} {h : Heap} {rE rG : LRef} {rsH : List RRes}
    (hr : (getObjectResultsH c w h rE rG).1 = .ok rsH) :
    ∀ r ∈ rsH, r.1 ∈ h.read rE ∧ ∀ go, r.2 = some go → go ∈ h.read rG := by
  obtain ⟨rs, hok, rfl⟩ := heap_ok_inv hr
  rw [List.forall_mem_map]
  rintro ⟨i, oj⟩ hx
  have h1 := (results_est_nodup hok).2 _ hx
  rw [sceneOf_ests_length] at h1
  refine ⟨getD_mem_of_lt h1, fun go hgo => ?_⟩
  match oj, hgo with
  | some j, rfl =>
    have h2 := (results_gt_nodup hok).2 j (mem_usedGts.2 ⟨i, hx⟩)
    rw [sceneOf_gts_length] at h2
    exact getD_mem_of_lt h2

/-- transfer, 2: outside FP validation the estimate objects of the results are a rearrangement of the caller's estimate
list: every input estimate OBJECT in exactly one result -/
theorem heap_results_est_perm {c : Cfg} {w : World} {h : Heap} {rE rG : LRef} {rsH : List RRes}
    (hr : (getObjectResultsH c w h rE rG).1 = .ok rsH) (hfp : c.fpValidation = false) :
    (rsH.map (·.1)).Perm (h.read rE) := by
  obtain ⟨rs, hok, rfl⟩ := heap_ok_inv hr
  have hp := results_est_perm hok hfp
  rw [sceneOf_ests_length] at hp
  have := hp.map (fun i => (h.read rE).getD i 0)
  rw [map_getD_range] at this
  simpa [deref, Function.comp_def] using this

/-! the model run on a concrete store: list 0 = the caller's estimates (objects 10, 11, 12), list 1 = the caller's ground
truths (objects 20, 21); the scene is `exScene` above -/

def exWorld : World :=
  { obj := fun o => if o < 20 then exScene.ests.getD (o - 10) ⟨"", ""⟩ else exScene.gts.getD (o - 20) ⟨"", ""⟩,
    val := fun a b => exScene.val (a - 10) (b - 20) }

def exHeap : Heap := ⟨[[10, 11, 12], [20, 21]]⟩

/-- the code: results refer to the caller's objects, the two working lists are new cells 2 and 3, cells 0 and 1 are
as before -/
example : getObjectResultsH exCfg exWorld exHeap 0 1 =
    (.ok [(10, some 20), (11, some 21), (12, none)], ⟨[[10, 11, 12], [20, 21], [12], []]⟩) := by decide +kernel

/-- the DEFECTIVE variant without `.copy()` returns the same results but has emptied the caller's lists … -/
example : getObjectResultsH_noCopy exCfg exWorld exHeap 0 1 =
    (.ok [(10, some 20), (11, some 21), (12, none)], ⟨[[12], []]⟩) := by decide +kernel

/-- … so `caller_lists_untouched` FAILS for it: the theorem separates the code from the defect. -/
example : ¬ ((getObjectResultsH_noCopy exCfg exWorld exHeap 0 1).2.read 0 = exHeap.read 0 ∧
    (getObjectResultsH_noCopy exCfg exWorld exHeap 0 1).2.read 1 = exHeap.read 1) := by decide +kernel

end heap

end PEval.C01
