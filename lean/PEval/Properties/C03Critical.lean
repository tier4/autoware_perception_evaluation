import PEval.Lemmas.CriticalFrame
import PEval.Properties.C03Core
/-!
# C03 — "no estimate or ground truth outside the critical region is counted, in whichever frame the objects are expressed"

Model: `PEval/Model/CriticalFrame.lean`.  An object carries its frame id and its position in that frame, the
frame carries `frame_ground_truth.transforms` (per frame id an ego pose, or `None`) and the critical filter's
`filtering_params`.  The critical predicate is the C10 model `Filter.isTarget` (theorem
`C10.isTarget_iff_criteria` = `Filter.isTarget_ok_iff`: it decides exactly the declarative `Filter.Criteria`),
applied at the TWO call sites of `evaluate_frame`, which are modelled separately (`Wiring`): `wiring` is the
code, `wiringF2` the code with the `transform=` typo at the `filter_object_results` call (defect F2),
`wiringF2gt` the same typo at the `filter_objects` call.

* `critical_sound`         every entry of TP / FP / TN / FN is an object of the frame that satisfies the critical
                           criteria on its EGO-RELATIVE position (`EgoRel`: its own position in BASE_LINK, the
                           inverse ego pose applied to its position otherwise), whatever frame it is expressed in;
                           `counted_range` spells the range part out.  FAILS for `wiringF2` / `wiringF2gt`.
* `critical_sites_agree`   both call sites give the same verdict on a ground truth (hypothesis `GtConfOK`: the
                           ground truth's own confidence beats the critical confidence threshold — the one
                           difference between the two calls, `gt_conf_needed`).  FAILS for `wiringF2`.
* `critical_refines`       this model IS `PassFail.evaluateFrame` on the frame whose opaque Booleans are the
                           computed flags; `critical_conservation` / `critical_accounting_perm` /
                           `critical_num_total` transfer the counting theorems.  Conservation FAILS for `wiringF2`.
* `critical_frame_free`    a BASE_LINK frame and its MAP rendering under ANY ego pose (unit yaw, any translation)
                           yield the same four lists (C10's `frame_invariant` lifted through both filters and
                           the accounting); `egoRel_toMap`: the ego-relative position of the rendering is the
                           original position.  FAILS for `wiringF2`.
-/
namespace PEval.C03
open PEval PEval.Filter PEval.CritFrame

/-! ## the critical region -/

/-- an estimate of frame `f` satisfies the critical criteria (as `filter_object_results` applies them:
label, confidence, range on the ego-relative position) -/
def EstInCritical (f : Frame) (o : CObj) : Prop := Criteria (estParams (critP f)) (view f.transforms o)

/-- a ground truth of frame `f` satisfies the critical criteria (the part common to both call sites: label,
ignored attributes, range on the ego-relative position, point count, uuid) -/
def GtInCritical (f : Frame) (o : CObj) : Prop := Criteria (gtParams (critP f)) (view f.transforms o)

/-- every entry of the four lists is an object of the frame inside the critical region -/
def CountedInCritical (f : Frame) (p : PassFail.PassFail) : Prop :=
  (∀ r ∈ p.tp ++ p.fp, ∃ cr ∈ f.results, r.est = cr.est.id ∧ EstInCritical f cr.est ∧
    ∀ g, r.gt = some g → ∃ cg, cr.gt = some cg ∧ g.id = cg.id ∧ GtInCritical f cg) ∧
  (∀ g ∈ p.tn ++ p.fn, ∃ cg, (cg ∈ f.gts ∨ ∃ cr ∈ f.results, cr.gt = some cg) ∧ g.id = cg.id ∧ GtInCritical f cg)

/-- the statement "whatever `evaluate_frame` counts lies in the critical region" about a wiring -/
def CriticalSound (w : Wiring) : Prop :=
  ∀ f out, evaluateFrameWith w f = .ok out → CountedInCritical f out.pf

/-- **the code counts nothing outside the critical region** (any frame ids, any transforms, any critical
parameters incl. `target_uuids` / `ignore_attributes`; no hypothesis besides "the call returned") -/
theorem critical_sound : CriticalSound wiring := by
  intro f out h
  obtain ⟨k1, k2⟩ := kept_criteria h
  obtain ⟨_, _, _, e3⟩ := evaluateFrameWith_ok h
  rw [e3]
  -- what the two loops kept satisfies the criteria; the accounting hands on nothing else (`PassFail.evaluate_forall`)
  refine PassFail.evaluate_forall (List.forall_mem_map.2 fun cr hcr => ?_)
    (fun r ⟨cr, hcr, he, hc, _⟩ => ⟨cr, hcr, he, hc, fun _ hg => nomatch hg⟩) (List.forall_mem_map.2 fun cg hcg => ?_)
  · obtain ⟨hm, c1, c2⟩ := k1 cr hcr
    have hgt : ∀ g, cr.gt.map (absGT (wiring.gtSite f)) = some g →
        ∃ cg, cr.gt = some cg ∧ g.id = cg.id ∧ GtInCritical f cg :=
      fun g hg => let ⟨cg, hcg, e⟩ := Option.map_eq_some_iff.1 hg; ⟨cg, hcg, e ▸ rfl, c2 cg hcg⟩
    exact ⟨⟨cr, hm, rfl, c1, hgt⟩, fun g hg => let ⟨cg, hcg, e⟩ := hgt g hg; ⟨cg, Or.inr ⟨cr, hm, hcg⟩, e⟩⟩
  · exact ⟨cg, Or.inl (k2 cg hcg).1, rfl, criteria_drop_conf (k2 cg hcg).2⟩

/-- what "inside the critical region" says about the position: for an object that is not FP-labelled
(those pass by C10's first clause, DESIGN §7 O1), the x / y / distance / point-count criteria hold of its
ego-relative position `p` — its own position if it is given in BASE_LINK, `toEgo pose position` if it is
given in a frame with a registered pose -/
theorem counted_range {f : Frame} {o : CObj} (isGt : Bool)
    (h : if isGt then GtInCritical f o else EstInCritical f o) (hfp : ¬ IsFP o.label)
    (p : Pos) (hp : EgoRel f.transforms o p) :
    RangeOK (if isGt then gtParams (critP f) else estParams (critP f)) (view f.transforms o) p := by
  cases isGt with
  | true => exact range_of_criteria h hfp ((egoPos_view (P := gtParams (critP f)) rfl o p).2 hp)
  | false => exact range_of_criteria h hfp ((egoPos_view (P := estParams (critP f)) rfl o p).2 hp)

/-! ## both call sites apply the same predicate with the same transforms -/

theorem critical_sites_agree_every_result (f : Frame) (hc : GtConfOK f) :
    ∀ r ∈ f.results, ∀ g, r.gt = some g → gtFlagRes (wiring.resSite f) g = gtFlagList (wiring.gtSite f) g := by
  intro r hr g hg
  have h := isTarget_gt_conf (P := (wiring.gtSite f).P) (o := view f.transforms g) rfl (hc r hr g hg)
  show isOkTrue (isTarget (gtParams (wiring.resSite f).P) (view f.transforms g)) =
    isOkTrue (isTarget (wiring.gtSite f).P (view f.transforms g))
  rw [h]
  rfl

/-- for the code: on the ground truth of every result whose estimate passes, the test inside `filter_object_results` and
the test of `filter_objects` give the same verdict (on that of every result: `critical_sites_agree_every_result`) -/
theorem critical_sites_agree (f : Frame) (hc : GtConfOK f) : SitesAgree wiring f :=
  fun r hr g hg _ => critical_sites_agree_every_result f hc r hr g hg

/-! ## refinement: the opaque-flag model of `Model/PassFail.lean` -/

/-- the pass/fail result of this model is `PassFail.evaluateFrame` of the induced frame, and the stored
lists are the filtered lists of that frame -/
theorem critical_refines {f : Frame} {out : Out} (h : evaluateFrame f = .ok out) (hc : GtConfOK f) :
    out.pf = PassFail.evaluateFrame (absFrame wiring f) ∧
    out.keptResults.map (absRes (wiring.resSite f) (wiring.gtSite f)) =
      PassFail.criticalResults (absFrame wiring f).results ∧
    out.keptGts.map (absGT (wiring.gtSite f)) = PassFail.criticalGts (absFrame wiring f).gts :=
  evaluateFrameWith_refines h (critical_sites_agree f hc)

/-- the matcher's guarantee, stated on the objects, is `MatcherWF` of the induced frame -/
theorem critical_matcher_wf (f : Frame) (hw : FrameWF f) : PassFail.MatcherWF (absFrame wiring f) :=
  matcherWF_abs wiring f hw

/-- conservation transfers: ordinary critical ground truths = TP + FN, FP-labelled critical ground truths =
TN + matched FP, surviving results = TP + FP -/
theorem critical_conservation {f : Frame} {out : Out} (h : evaluateFrame f = .ok out) (hc : GtConfOK f)
    (hw : FrameWF f) :
    (out.pf.gts.filter (fun g => !g.isFP)).length = out.pf.tp.length + out.pf.fn.length ∧
    (out.pf.gts.filter (fun g => g.isFP)).length = out.pf.tn.length + (PassFail.matchedFP out.pf.fp).length ∧
    out.pf.tp.length + out.pf.fp.length = out.pf.results.length ∧
    out.pf.gts.length = out.keptGts.length ∧ out.pf.results.length = out.keptResults.length := by
  obtain ⟨e, k1, k2⟩ := critical_refines h hc
  have hcons := frame_conservation _ (critical_matcher_wf f hw)
  rw [← e] at hcons
  refine ⟨hcons.1, hcons.2.1, hcons.2.2, ?_, ?_⟩
  · rw [e]; show (PassFail.criticalGts _).length = _; rw [← k2, List.length_map]
  · rw [e]; show (PassFail.criticalResults _).length = _; rw [← k1, List.length_map]

/-- exactly-once accounting transfers -/
theorem critical_accounting_perm {f : Frame} {out : Out} (h : evaluateFrame f = .ok out) (hc : GtConfOK f)
    (hw : FrameWF f) :
    (PassFail.gtsOf out.pf.tp ++ (out.pf.fn ++ (out.pf.tn ++
      PassFail.gtsOf (PassFail.matchedFP out.pf.fp)))).Perm out.pf.gts := by
  rw [(critical_refines h hc).1]
  exact gt_accounting_perm _ _ (pipeline_wf _ (critical_matcher_wf f hw))

/-- the success / fail counters transfer -/
theorem critical_num_total {f : Frame} {out : Out} (h : evaluateFrame f = .ok out) (hc : GtConfOK f)
    (hw : FrameWF f) :
    PassFail.numSuccess out.pf + PassFail.numFail out.pf + out.pf.tp.length
        + (PassFail.matchedFP out.pf.fp).length = out.pf.results.length + out.pf.gts.length := by
  rw [(critical_refines h hc).1]
  exact num_total _ (critical_matcher_wf f hw)

/-! ## in whichever frame the objects are expressed -/

/-- ids of the four lists (the observables `pass_fail_result.{tp,fp}_object_results`, `{tn,fn}_objects`) -/
def obs (p : PassFail.PassFail) : List (Nat × Option Nat) × List (Nat × Option Nat) × List Nat × List Nat :=
  (p.tp.map (fun r => (r.est, r.gt.map (·.id))), p.fp.map (fun r => (r.est, r.gt.map (·.id))),
   p.tn.map (·.id), p.fn.map (·.id))

/-- the statement "the four lists do not depend on the frame the objects are expressed in" about a wiring -/
def FrameFree (w : Wiring) : Prop :=
  ∀ (f : Frame) (e : Pose), e.c * e.c + e.s * e.s = 1 → f.allEgo = true →
    (evaluateFrameWith w (f.toMap e)).map (fun o => obs o.pf) = (evaluateFrameWith w f).map (fun o => obs o.pf)

/-- `evaluate_frame` on the MAP rendering of a BASE_LINK frame under any ego pose keeps the renderings of the
same objects, raises the same exception if any, and produces the SAME pass/fail result (all six lists) -/
theorem evaluateFrame_toMap (f : Frame) (e : Pose) (he : e.c * e.c + e.s * e.s = 1) (hf : f.allEgo = true) :
    evaluateFrame (f.toMap e) = (evaluateFrame f).map (Out.toMap e) := by
  obtain ⟨hG, hR⟩ := (allEgo_iff f).1 hf
  unfold evaluateFrame evaluateFrameWith
  rw [show filterE (resTarget (wiring.resSite (f.toMap e))) (f.toMap e).results = _ from
      filterE_map fun r hr => resTarget_inMap (wiring.resSite f) e he (hR r hr),
    show filterE (gtTarget (wiring.gtSite (f.toMap e))) (f.toMap e).gts = _ from
      filterE_map fun g hg => gtTarget_inMap (wiring.gtSite f) e he (hG g hg)]
  cases k1 : filterE (resTarget (wiring.resSite f)) f.results with
  | error err => rfl
  | ok rs =>
    cases k2 : filterE (gtTarget (wiring.gtSite f)) f.gts with
    | error err => rfl
    | ok gs =>
      have a1 : (rs.map (CRes.toMap e)).map (absRes (wiring.resSite (f.toMap e)) (wiring.gtSite (f.toMap e))) =
          rs.map (absRes (wiring.resSite f) (wiring.gtSite f)) := by
        rw [List.map_map]
        exact List.map_congr_left fun r hr =>
          absRes_inMap (wiring.resSite f) e he (wiring.gtSite f) (hR r ((filterE_sublist k1).subset hr))
      have a2 : (gs.map (CObj.toMap e)).map (absGT (wiring.gtSite (f.toMap e))) = gs.map (absGT (wiring.gtSite f)) := by
        rw [List.map_map]
        exact List.map_congr_left fun g hg => absGT_inMap (wiring.gtSite f) e he (hG g ((filterE_sublist k2).subset hg))
      simp only [Except.map, Out.toMap]
      rw [a1, a2]

theorem critical_frame_free : FrameFree wiring := by
  intro f e he hf
  have h := evaluateFrame_toMap f e he hf
  unfold evaluateFrame at h
  rw [h]
  cases evaluateFrameWith wiring f <;> rfl

/-- the ego-relative position of the MAP rendering of a BASE_LINK object is the object's original position:
`critical_sound` on the rendering tests the very coordinates it tests on the original -/
theorem egoRel_toMap (e : Pose) (he : e.c * e.c + e.s * e.s = 1) (o : CObj) (p : Pos) :
    EgoRel (some [("map", e)]) (o.toMap e) p ↔ o.pos = some p := by
  have hego : egoOf (some [("map", e)]) (o.toMap e) = o.pos := by
    simp only [egoOf, poseOf_map, CObj.toMap, Option.map_map]
    cases o.pos with
    | none => rfl
    | some q => exact congrArg some (toEgo_toMap e he q)
  have hne : (o.toMap e).frame ≠ "base_link" := show "map" ≠ "base_link" by decide
  unfold EgoRel
  rw [← egoOf_eq_some, hego]
  exact ⟨fun h => h.elim (fun h => absurd h.1 hne) (·.2), fun h => .inr ⟨hne, h⟩⟩

/-! ## decidable refutation of the three statements on a concrete frame (for the defective variants) -/

/-- some counted estimate / ground truth id belongs only to objects of the frame that `_is_target_object`
rejects with the frame's transforms -/
def badB (f : Frame) (p : PassFail.PassFail) : Bool :=
  (p.tp ++ p.fp).any (fun r => f.results.all (fun cr =>
    cr.est.id != r.est || outB (estParams (critP f)) (view f.transforms cr.est))) ||
  (p.tn ++ p.fn).any (fun g => (f.gts ++ gtsOfC f.results).all (fun cg =>
    cg.id != g.id || outB (gtParams (critP f)) (view f.transforms cg)))

theorem not_counted_of_badB {f : Frame} {p : PassFail.PassFail} (h : badB f p = true) :
    ¬ CountedInCritical f p := by
  rintro ⟨c1, c2⟩
  rcases Bool.or_eq_true_iff.1 h with h | h
  · obtain ⟨r, hr, hall⟩ := List.any_eq_true.1 h
    obtain ⟨cr, hcr, hid, hin, _⟩ := c1 r hr
    exact not_criteria_of_all_outB hall hcr hid hin
  · obtain ⟨g, hg, hall⟩ := List.any_eq_true.1 h
    obtain ⟨cg, hcg, hid, hin⟩ := c2 g hg
    have hmem : cg ∈ f.gts ++ gtsOfC f.results :=
      List.mem_append.2 (hcg.imp_right fun ⟨cr, hcr, hrg⟩ => List.mem_filterMap.2 ⟨cr, hcr, hrg⟩)
    exact not_criteria_of_all_outB hall hmem hid hin

def unsoundB (w : Wiring) (f : Frame) : Bool :=
  match evaluateFrameWith w f with
  | .ok o => badB f o.pf
  | .error _ => false

theorem not_sound_of_unsoundB {w : Wiring} {f : Frame} (h : unsoundB w f = true) : ¬ CriticalSound w := by
  revert h
  fun_cases unsoundB w f
  case case1 o hx => exact fun h hs => not_counted_of_badB h (hs f o hx)
  case case2 => nofun

/-! ## non-vacuity and the defective variants: a concrete frame

Critical filter: cars within |x| < 10, |y| < 10.  Ego pose: yaw with (cos, sin) = (3/5, 4/5), ego at (100, 50).
Ground truths A (5,5), B (20,0), C (3,-2); estimates 1 (5, 11/2) paired with A (TP), 2 (20, 1/2) paired with B
(both outside), 3 (12, 0) unpaired outside, 4 (1, 1) unpaired inside (FP). -/
section Example

def exCrit : Params :=
  { isGt := false, targets := some ["AutowareLabel.CAR"], ignoreAttrs := none, maxX := some [10], maxY := some [10],
    maxDist := none, minDist := none, conf := none, minPts := none, uuids := none, hasTransforms := false }

def exPose : Pose := ⟨3/5, 4/5, 100, 50⟩

def exObj (i : Nat) (x y : Rat) : CObj :=
  { id := i, label := "AutowareLabel.CAR", name := "car", attributes := [], score := 1, pcNum := some 5,
    uuid := none, is2d := false, frame := "base_link", pos := some ⟨x, y⟩, eqKey := i }

def gA := exObj 101 5 5
def gB := exObj 102 20 0
def gC := exObj 103 3 (-2)

def exEgo : Frame :=
  { results := [⟨exObj 1 5 (11/2), some gA, true, some 2, some (1/2)⟩, ⟨exObj 2 20 (1/2), some gB, true, some 2, some (1/2)⟩,
                ⟨exObj 3 12 0, none, false, none, none⟩, ⟨exObj 4 1 1, none, false, none, none⟩],
    gts := [gA, gB, gC], transforms := some [("map", exPose)], critical := exCrit }

def exMap : Frame := exEgo.toMap exPose

theorem exPose_unit : exPose.c * exPose.c + exPose.s * exPose.s = 1 := by decide +kernel
theorem exEgo_allEgo : exEgo.allEgo = true := by decide +kernel

example : exPose.c * exPose.c + exPose.s * exPose.s = 1 := exPose_unit
example : exEgo.allEgo = true := exEgo_allEgo
example : FrameWF exEgo := by unfold FrameWF gtsOfC; decide +kernel
example : FrameWF exMap := by unfold FrameWF gtsOfC; decide +kernel
example : GtConfOK exEgo := fun _ _ _ _ => Or.inr (fun l hl => by cases hl)
example : GtConfOK exMap := fun _ _ _ _ => Or.inr (fun l hl => by cases hl)
/-- the map rendering really is in the map: ground truth A sits at (99, 57) -/
example : (exMap.gts.map (·.pos)) = [some ⟨99, 57⟩, some ⟨112, 66⟩, some ⟨517/5, 256/5⟩] := by decide +kernel

/-- the code, either rendering: TP = {1 ↔ A}, FP = {4}, FN = {C}; B and the estimates 2, 3 are not counted -/
example : (evaluateFrame exEgo).map (fun o => obs o.pf) = .ok ([(1, some 101)], [(4, none)], [], [103]) := by
  decide +kernel
example : (evaluateFrame exMap).map (fun o => obs o.pf) = .ok ([(1, some 101)], [(4, none)], [], [103]) := by
  decide +kernel

/-- F2 on the map rendering: `filter_object_results` sees `transforms=None`, ranges are not tested: estimate 2
is a TP on ground truth B although both are outside, estimate 3 an FP … -/
example : (evaluateFrameWith wiringF2 exMap).map (fun o => obs o.pf) =
    .ok ([(1, some 101), (2, some 102)], [(3, none), (4, none)], [], [103]) := by decide +kernel

/-- … so **F2 violates `CriticalSound`**: estimate 3, at ego-relative (12, 0), is counted -/
theorem f2_not_critical_sound : ¬ CriticalSound wiringF2 :=
  not_sound_of_unsoundB (f := exMap) (by decide +kernel)

/-- **F2 violates "both call sites apply the same predicate"**: on ground truth B of result 2 the result side
says kept, the list side dropped -/
theorem f2_sites_disagree : ¬ SitesAgree wiringF2 exMap :=
  fun h => absurd (sitesAgreeB_of h) (by decide +kernel)

/-- **F2 violates conservation**: 2 ordinary critical ground truths (A, C), but TP = 2 and FN = 1 -/
theorem f2_breaks_conservation :
    (evaluateFrameWith wiringF2 exMap).map
      (fun o => ((o.pf.gts.filter (fun g => !g.isFP)).length, o.pf.tp.length, o.pf.fn.length)) = .ok (2, 2, 1) := by
  decide +kernel

/-- **F2 violates frame independence**: the BASE_LINK rendering of the same scene gives TP = {1}, FP = {4} -/
theorem f2_not_frame_free : ¬ FrameFree wiringF2 :=
  fun h => absurd (h exEgo exPose exPose_unit exEgo_allEgo) (by decide +kernel)

/-- the mirror-image typo (at the `filter_objects` call): ground truth B, at ego-relative (20, 0), is an FN -/
example : (evaluateFrameWith wiringF2gt exMap).map (fun o => obs o.pf) =
    .ok ([(1, some 101)], [(4, none)], [], [102, 103]) := by decide +kernel
theorem f2gt_not_critical_sound : ¬ CriticalSound wiringF2gt :=
  not_sound_of_unsoundB (f := exMap) (by decide +kernel)
theorem f2gt_not_frame_free : ¬ FrameFree wiringF2gt :=
  fun h => absurd (h exEgo exPose exPose_unit exEgo_allEgo) (by decide +kernel)

/-- the checker is not trigger-happy: it accepts the code on both renderings -/
example : unsoundB wiring exMap = false ∧ unsoundB wiring exEgo = false := by decide +kernel
example : sitesAgreeB wiring exMap = true := by decide +kernel

/-! ### the hypothesis `GtConfOK` is needed (and is where the two call sites of the CODE differ)

Critical confidence threshold 1/2; the estimate has confidence 3/4, its ground truth confidence 1/4 (a loaded
ground truth has 1.0).  `filter_object_results` does not test the ground truth's confidence, `filter_objects(is_gt=True,
**filtering_params)` does: the result survives with its ground truth, the ground truth is dropped from the list. -/

def exConf : Frame :=
  { results := [⟨{ exObj 1 5 5 with score := 3/4 }, some { gA with score := 1/4 }, true, none, none⟩],
    gts := [{ gA with score := 1/4 }], transforms := none,
    critical := { exCrit with conf := some [1/2] } }

theorem gt_conf_needed : ¬ SitesAgree wiring exConf :=
  fun h => absurd (sitesAgreeB_of h) (by decide +kernel)

/-- … and conservation fails: one TP, no critical ground truth -/
theorem gt_conf_needed_conservation :
    (evaluateFrame exConf).map (fun o => (o.pf.tp.map (·.est), o.pf.fn.map (·.id), o.pf.gts.map (·.id))) =
      .ok ([1], [], []) := by
  decide +kernel

end Example

end PEval.C03
