import PEval.Lemmas.APDict
import PEval.Properties.C04Core
/-!
# C04, scene level — `get_scene_result → Map → Ap` pools the frames

The frame-level theorems of C04 (`PEval/Properties/C04Core.lean`, `Pipeline.lean`) are about
`frameMap`. This module is about the scene-level part of the model `PEval/Model/AP.lean`:
`frameBuckets`, `sceneBucketsAux`, `sceneBuckets`, `sceneMap` (the model of
`PerceptionEvaluationManager.get_scene_result`: per target label `[[]] + [bucket of frame 1, bucket of
frame 2, …]`, the ground-truth counts of the frames added up, then `Map(...)`).

Vocabulary: a frame is `(rs, gl) : List Res × List Label` (object results, labels of the ground truths);
`bucket T l rs` = the results of `rs` that `divide_objects(·, T)` files under label `l`, in input order;
`cnt l gl` = the number of ground truths of label `l` (`abbrev`s of `PEval/Lemmas/APDict.lean`).

* S1 `sceneBuckets_eq` — the two dicts in closed form, for every target list (duplicates allowed).
* S3 `scene_eq_frame_of_concat` — the scene score IS the frame-level score of the concatenated
  results and concatenated ground truths (`scene_single_frame_eq_frame`: one frame ⇒ the frame score).
* S4 `scene_ap_eq_pooled` — per label: `Ap` of the pooled bucket and the summed count.
* S5 `pooled_ap_in_unit_interval`, `scene_in_unit_interval` — every defined AP / APH / mAP / mAPH of
  a scene lies in [0,1] when the matching is one-to-one INSIDE EACH FRAME (ground-truth ids may repeat
  across the frames: no scene-wide `Nodup`).
* S6 the defective variant (stored seeded defects C04_C / C13_F: a frame whose bucket for the label is
  empty is skipped together with its ground-truth count) violates S3 on a two-frame instance.
* S7 a concrete two-frame scene.

S2 (`mapOf_congr_flatten`: `Map` reads a nested entry only through its concatenation) is in
`PEval/Lemmas/APDict.lean`.
-/

namespace PEval.C04
open PEval.AP

/-! ## S1: the dicts `get_scene_result` builds -/

/-- per target label: the empty list followed by the label's bucket of every frame, and the sum of
the label's ground-truth counts. Holds for every `T` (duplicate labels included) and never errs. -/
theorem sceneBuckets_eq (T : List Label) (frames : List (List Res × List Label)) :
    sceneBuckets T frames
      = .ok (T.map (fun l => (l, [] :: frames.map (fun f => bucket T l f.1))),
             T.map (fun l => (l, (frames.map (fun f => cnt l f.2)).sum))) := by
  unfold sceneBuckets
  exact sceneBucketsAux_eq frames T (fun l hl => by simpa using hl)

/-! ## S3: the scene score is the frame score of the concatenation -/

/-- **pooling**: `get_scene_result`'s `Map` equals the frame-level `Map` of ONE frame holding the
concatenated object results and the concatenated ground truths (in frame order) -/
theorem scene_eq_frame_of_concat (m : Mode) (is2d : Bool) (T : List Label) (th : List Rat)
    (frames : List (List Res × List Label)) :
    sceneMap m is2d T th frames
      = frameMap m is2d T th (frames.map (·.1)).flatten (frames.map (·.2)).flatten := by
  unfold sceneMap frameMap
  rw [sceneBuckets_eq]
  simp only
  apply mapOf_congr_flatten
  · intro l hl
    have hT : T.contains l = true := by simpa using hl
    rw [lookupKey_tabulate_mem (fun l => [] :: frames.map (fun f => bucket T l f.1)) hl,
      lookupKey_map (fun v => [v]), lookup_divideObjects_target _ hT]
    simp only [Except.map, List.flatten_cons, List.flatten_nil, List.nil_append, List.append_nil,
      List.filter_flatten, List.map_map]
    rfl
  · intro l hl
    have hT : T.contains l = true := by simpa using hl
    rw [lookupKey_tabulate_mem (fun l => (frames.map (fun f => cnt l f.2)).sum) hl,
      lookup_divideObjectsToNum_target _ hT, cnt, List.filter_flatten, List.length_flatten, List.map_map,
      List.map_map]
    rfl

/-- a scene of one frame scores like the frame -/
theorem scene_single_frame_eq_frame (m : Mode) (is2d : Bool) (T : List Label) (th : List Rat)
    (rs : List Res) (gl : List Label) :
    sceneMap m is2d T th [(rs, gl)] = frameMap m is2d T th rs gl := by
  rw [scene_eq_frame_of_concat]
  simp only [List.map_cons, List.map_nil, List.flatten_cons, List.flatten_nil, List.append_nil]

/-! ## S4: per label, `Ap` of the pooled bucket and the summed count -/

/-- the `Ap` calls of a scene, one per `(label, threshold)` of `zip(target_labels, thresholds)`:
results = the label's buckets of all frames concatenated, `num_ground_truth` = the label's counts added;
APH likewise in 3-D (none in 2-D); mAP / mAPH = mean of the defined ones -/
theorem scene_ap_eq_pooled {m : Mode} {is2d : Bool} {T : List Label} {th : List Rat}
    {frames : List (List Res × List Label)} {o : MapOut} (h : sceneMap m is2d T th frames = .ok o) :
    o.aps.map Except.ok
      = (T.zip th).map (fun lt => apOf .ap m [lt.1] [lt.2]
          ((frames.map (fun f => cnt lt.1 f.2)).sum)
          ((frames.map (fun f => bucket T lt.1 f.1)).flatten)) ∧
    (if is2d then o.aphs = []
     else o.aphs.map Except.ok
      = (T.zip th).map (fun lt => apOf .aph m [lt.1] [lt.2]
          ((frames.map (fun f => cnt lt.1 f.2)).sum)
          ((frames.map (fun f => bucket T lt.1 f.1)).flatten))) ∧
    o.map = meanDefined (o.aps.map (·.ap)) ∧ o.maph = meanDefined (o.aphs.map (·.ap)) := by
  unfold sceneMap at h
  rw [sceneBuckets_eq] at h
  obtain ⟨f1, f2, hmap, hmaph⟩ := mapOf_spec.1 h
  have key : ∀ (tm : TpMetric), ∀ lt ∈ T.zip th, _ = _ := fun tm lt hlt =>
    scene_apCall tm m frames (List.of_mem_zip hlt).1 lt.2
  refine ⟨(forall₂_ok_map f1).symm.trans (List.map_congr_left (key .ap)), ?_, hmap, hmaph⟩
  cases is2d with
  | true => exact List.map_eq_nil_iff.1 (forall₂_ok_map f2).symm
  | false => exact (forall₂_ok_map f2).symm.trans (List.map_congr_left (key .aph))

/-! ## S5: [0,1] at scene level under PER-FRAME one-to-one matching -/

/-- one-to-one matching inside EACH frame (ground-truth ids may repeat across frames) bounds the TPs of the
pooled list by the summed ground-truth counts: per frame the per-label evaluation finds at most as many TPs as
the frame has ground truths of the label -/
theorem countTp_frames_le (m : Mode) (l : Label) (t : Rat) (frames : List (List Res × List Gt))
    (hnd : ∀ f ∈ frames, (f.1.filterMap (·.gt)).Nodup)
    (hsub : ∀ f ∈ frames, ∀ g ∈ f.1.filterMap (·.gt), g ∈ f.2) :
    (frames.map (·.1)).flatten.countP (isCorrectAt m [l] [t])
      ≤ (frames.map (fun f => (f.2.filter (fun g => g.label == l)).length)).sum :=
  countP_flatten_map_le _ _ _ frames fun f hf => correct_count_le m l t f.1 f.2 (hnd f hf) (hsub f hf)

/-- general form: any per-frame result lists `f.1` with the frame's ground truths `f.2`. Inside each
frame no ground truth is the ground truth of two results and every matched ground truth is one of
the frame's; ids may repeat ACROSS frames. Then `Ap` of the concatenated results with the summed
per-frame counts of label `l` is in [0,1]. -/
theorem pooled_ap_in_unit_interval_lists (tm : TpMetric) (m : Mode) (l : Label) (t : Rat)
    (frames : List (List Res × List Gt))
    (hnd : ∀ f ∈ frames, (f.1.filterMap (·.gt)).Nodup)
    (hsub : ∀ f ∈ frames, ∀ g ∈ f.1.filterMap (·.gt), g ∈ f.2)
    (hw : ∀ f ∈ frames, ∀ r ∈ f.1, 0 ≤ r.hw ∧ r.hw ≤ 1) {a : ApOut}
    (h : apOf tm m [l] [t] ((frames.map (fun f => (f.2.filter (fun g => g.label == l)).length)).sum)
      (frames.map (·.1)).flatten = .ok a) (x : Rat) (hx : a.ap = some x) : 0 ≤ x ∧ x ≤ 1 := by
  refine apOf_in_unit_of_count (List.forall_mem_flatten.2 (List.forall_mem_map.2 hw)) h (fun ks hk => ?_) x hx
  rw [classifyAll_countTp hk, (sortDesc_perm Res.conf _).countP_eq]
  exact countTp_frames_le m l t frames hnd hsub

/-- the per-label core of the scene bound: `Ap` / APH of label `l` as `get_scene_result` calls it
(`scene_ap_eq_pooled`) — the label's buckets of all frames pooled, the label's ground-truth counts
added — lies in [0,1] under the per-frame hypotheses on the frames' result lists -/
theorem pooled_ap_in_unit_interval (tm : TpMetric) (m : Mode) (T : List Label) (l : Label) (t : Rat)
    (framesG : List (List Res × List Gt))
    (hnd : ∀ f ∈ framesG, (f.1.filterMap (·.gt)).Nodup)
    (hsub : ∀ f ∈ framesG, ∀ g ∈ f.1.filterMap (·.gt), g ∈ f.2)
    (hw : ∀ f ∈ framesG, ∀ r ∈ f.1, 0 ≤ r.hw ∧ r.hw ≤ 1) {a : ApOut}
    (h : apOf tm m [l] [t] ((framesG.map (fun f => cnt l (f.2.map (·.label)))).sum)
      ((framesG.map (fun f => bucket T l f.1)).flatten) = .ok a) (x : Rat) (hx : a.ap = some x) :
    0 ≤ x ∧ x ≤ 1 := by
  refine apOf_in_unit_of_count (List.forall_mem_flatten.2 <| List.forall_mem_map.2 fun f hf r hr =>
    hw f hf r (List.mem_filter.1 hr).1) h (fun ks hk => ?_) x hx
  rw [classifyAll_countTp hk, (sortDesc_perm Res.conf _).countP_eq]
  refine countP_flatten_map_le _ _ _ framesG fun f hf => ?_
  -- the label's bucket is a sublist of the frame's results, so it inherits the one-to-one matching
  have hb : ((bucket T l f.1).filterMap (·.gt)).Sublist (f.1.filterMap (·.gt)) := List.filter_sublist.filterMap _
  refine (correct_count_le m l t _ f.2 ((hnd f hf).sublist hb) fun g hg => hsub f hf g (hb.subset hg)).trans_eq ?_
  show _ = ((f.2.map (·.label)).filter _).length
  rw [List.filter_map, List.length_map]
  rfl

/-- **[0,1] at scene level.** Frames with their ground truths; in each frame every ground truth is
the ground truth of at most one object result and is one of the frame's ground truths (what C01 proves
of the matcher, frame by frame), heading weights in [0,1]. Then whenever `get_scene_result`'s `Map`
answers, every defined per-label AP and APH and the mAP / mAPH lie in [0,1]. -/
theorem scene_in_unit_interval {m : Mode} {is2d : Bool} {T : List Label} {th : List Rat}
    {framesG : List (List Res × List Gt)}
    (hnd : ∀ f ∈ framesG, (f.1.filterMap (·.gt)).Nodup)
    (hsub : ∀ f ∈ framesG, ∀ g ∈ f.1.filterMap (·.gt), g ∈ f.2)
    (hw : ∀ f ∈ framesG, ∀ r ∈ f.1, 0 ≤ r.hw ∧ r.hw ≤ 1) {o : MapOut}
    (h : sceneMap m is2d T th (framesG.map (fun f => (f.1, f.2.map (·.label)))) = .ok o) :
    (∀ a ∈ o.aps, ∀ x, a.ap = some x → 0 ≤ x ∧ x ≤ 1) ∧
    (∀ a ∈ o.aphs, ∀ x, a.ap = some x → 0 ≤ x ∧ x ≤ 1) ∧
    (∀ x, o.map = some x → 0 ≤ x ∧ x ≤ 1) ∧ (∀ x, o.maph = some x → 0 ≤ x ∧ x ≤ 1) := by
  unfold sceneMap at h
  rw [sceneBuckets_eq] at h
  refine mapOf_in_unit h fun tm lt hlt a ha => ?_
  rw [scene_apCall tm m _ (List.of_mem_zip hlt).1, List.map_map, List.map_map] at ha
  exact pooled_ap_in_unit_interval tm m T lt.1 lt.2 framesG hnd hsub hw ha

/-! ## S6: the defective variant — skipping a (frame, label) pair whose bucket is empty

Stored seeded defect C04_C changes the gathering loop of `get_scene_result` to

    for label in target_labels:
        if len(obj_result_dict[label]) == 0:
            continue                      # also skips  all_num_gt[label] += num_gt_dict[label]
        all_frame_results[label].append(obj_result_dict[label])
        all_num_gt[label] += num_gt_dict[label]

(C13_F skips a whole frame whose `object_results` is empty: `sceneMap_skipEmptyFrame`). The definitions
below are copies of `frameBuckets` / `sceneBucketsAux` / `sceneBuckets` / `sceneMap` with that one change.
S3 (`scene_eq_frame_of_concat`) FAILS for them: the ground truths of a frame without result for the
label are not counted, so the recall — and the AP — are too high. -/

def frameBuckets_skipEmpty (targets : List Label) (l : Label) :
    List (List Res × List Label) → Except Err (List (List Res) × Nat)
  | [] => .ok ([], 0)
  | fr :: rest =>
    match lookupKey l (divideObjects (some targets) fr.1) with
    | .error e => .error e
    | .ok b =>
      if b.isEmpty then frameBuckets_skipEmpty targets l rest   -- `continue`
      else
        match lookupKey l (divideObjectsToNum (some targets) fr.2) with
        | .error e => .error e
        | .ok k =>
          match frameBuckets_skipEmpty targets l rest with
          | .error e => .error e
          | .ok (bl, n) => .ok (b :: bl, k + n)

def sceneBucketsAux_skipEmpty (targets : List Label) (frames : List (List Res × List Label)) :
    List Label → Except Err (List (Label × List (List Res)) × List (Label × Nat))
  | [] => .ok ([], [])
  | l :: ls =>
    match frameBuckets_skipEmpty targets l frames with
    | .error e => .error e
    | .ok (bl, n) =>
      match sceneBucketsAux_skipEmpty targets frames ls with
      | .error e => .error e
      | .ok (bs, ns) => .ok ((l, [] :: bl) :: bs, (l, n) :: ns)

def sceneBuckets_skipEmpty (targets : List Label) (frames : List (List Res × List Label)) :
    Except Err (List (Label × List (List Res)) × List (Label × Nat)) :=
  sceneBucketsAux_skipEmpty targets frames targets

def sceneMap_skipEmpty (m : Mode) (is2d : Bool) (targets : List Label) (thrs : List Rat)
    (frames : List (List Res × List Label)) : Except Err MapOut :=
  match sceneBuckets_skipEmpty targets frames with
  | .error e => .error e
  | .ok (bs, ns) => mapOf m is2d targets thrs bs ns

/-- C13_F: a frame without any object result is skipped altogether -/
def sceneMap_skipEmptyFrame (m : Mode) (is2d : Bool) (targets : List Label) (thrs : List Rat)
    (frames : List (List Res × List Label)) : Except Err MapOut :=
  sceneMap m is2d targets thrs (frames.filter (fun f => !f.1.isEmpty))

section Defect

/-- ground truth 7 of label 2 -/
def dGt : Gt := ⟨7, 2⟩
/-- its estimate: label 2, center distance 1/2 (< threshold 1: TP) -/
def dRes : Res := ⟨1, 9/10, 2, some dGt, .val (some (1/2)), 1, .default⟩
/-- frame A: one ground truth of label 2 and its TP; frame B: one ground truth of label 2, no result -/
def dFrames : List (List Res × List Label) := [([dRes], [2]), ([], [2])]

/-- S3 fails for the variant (its hypotheses are none: S3 is an unconditional equation) … -/
theorem sceneMap_skipEmpty_ne_frame_of_concat :
    sceneMap_skipEmpty .centerDistance false [2] [1] dFrames
      ≠ frameMap .centerDistance false [2] [1] (dFrames.map (·.1)).flatten (dFrames.map (·.2)).flatten := by
  decide +kernel

theorem sceneMap_skipEmptyFrame_ne_frame_of_concat :
    sceneMap_skipEmptyFrame .centerDistance false [2] [1] dFrames
      ≠ frameMap .centerDistance false [2] [1] (dFrames.map (·.1)).flatten (dFrames.map (·.2)).flatten := by
  decide +kernel

/-- … so neither variant is the model: the real `sceneMap` differs from both on this scene -/
theorem sceneMap_ne_skipEmpty :
    sceneMap .centerDistance false [2] [1] dFrames ≠ sceneMap_skipEmpty .centerDistance false [2] [1] dFrames
    ∧ sceneMap .centerDistance false [2] [1] dFrames
        ≠ sceneMap_skipEmptyFrame .centerDistance false [2] [1] dFrames := by
  decide +kernel

/-- the values: one TP for two ground truths — AP 1/2; the variants count one ground truth — AP 1 -/
example : (sceneMap .centerDistance false [2] [1] dFrames).toOption.map
    (fun o => (o.aps.map (·.ap), o.aphs.map (·.ap), o.map, o.maph))
    = some ([some (1 / 2)], [some (1 / 2)], some (1 / 2), some (1 / 2)) := by decide +kernel
example : (frameMap .centerDistance false [2] [1] (dFrames.map (·.1)).flatten
      (dFrames.map (·.2)).flatten).toOption.map (fun o => (o.aps.map (·.ap), o.map))
    = some ([some (1 / 2)], some (1 / 2)) := by decide +kernel
example : (sceneMap_skipEmpty .centerDistance false [2] [1] dFrames).toOption.map
    (fun o => (o.aps.map (·.ap), o.aphs.map (·.ap), o.map, o.maph))
    = some ([some 1], [some 1], some 1, some 1) := by decide +kernel
example : (sceneMap_skipEmptyFrame .centerDistance false [2] [1] dFrames).toOption.map
    (fun o => (o.aps.map (·.ap), o.map)) = some ([some 1], some 1) := by decide +kernel
/-- the dicts: the real ones hold frame B's (empty) bucket and count 2, the variant's count 1 -/
example : sceneBuckets [2] dFrames = .ok ([(2, [[], [dRes], []])], [(2, 2)]) := by decide +kernel
example : sceneBuckets_skipEmpty [2] dFrames = .ok ([(2, [[], [dRes]])], [(2, 1)]) := by decide +kernel

end Defect

/-! ## S7: non-vacuity — a concrete two-frame scene

Labels 2 and 4, thresholds 1 / 1, center distance, 3-D. Frame 1: estimate 1 (label 2, ground truth 7,
distance 1/2: TP, heading weight 1/2), estimate 2 (label 4, ground truth 8, distance 2: FP), estimate 3
(label 2, no ground truth: FP, highest confidence). Frame 2: estimate 4 (label 2, ground truth 7 — the
SAME id as in frame 1 —, distance 1/4: TP); its bucket for label 4 is empty, its ground truth 9 of
label 4 is counted. -/

section Example

def g7 : Gt := ⟨7, 2⟩
def g8 : Gt := ⟨8, 4⟩
def g9 : Gt := ⟨9, 4⟩
def s1 : Res := ⟨1, 9/10, 2, some g7, .val (some (1/2)), 1/2, .default⟩
def s2 : Res := ⟨2, 8/10, 4, some g8, .val (some 2), 1, .default⟩
def s3 : Res := ⟨3, 95/100, 2, none, .val none, 0, .default⟩
def s4 : Res := ⟨4, 7/10, 2, some g7, .val (some (1/4)), 1, .default⟩
def exScene : List (List Res × List Gt) := [([s1, s2, s3], [g7, g8]), ([s4], [g7, g9])]
def exFrames : List (List Res × List Label) := exScene.map (fun f => (f.1, f.2.map (·.label)))

/-- the per-frame hypotheses of `scene_in_unit_interval` / `pooled_ap_in_unit_interval` hold … -/
example : (∀ f ∈ exScene, (f.1.filterMap (·.gt)).Nodup)
    ∧ (∀ f ∈ exScene, ∀ g ∈ f.1.filterMap (·.gt), g ∈ f.2)
    ∧ (∀ f ∈ exScene, ∀ r ∈ f.1, 0 ≤ r.hw ∧ r.hw ≤ 1) := by decide +kernel

/-- … while the scene-wide `Nodup` that `ap_in_unit_interval` would need of the pooled list fails:
ground truth 7 is matched once in each frame (in the whole scene and in the pooled bucket of label 2) -/
example : ¬ ((exScene.map (·.1)).flatten.filterMap (·.gt)).Nodup
    ∧ ¬ (((exScene.map (fun f => bucket [2, 4] 2 f.1)).flatten).filterMap (·.gt)).Nodup := by
  decide +kernel

/-- the scene evaluates (hypothesis of `scene_ap_eq_pooled` and of `scene_in_unit_interval`):
label 2 pooled = estimates 3 (FP), 1 (TP), 4 (TP) by confidence, 2 ground truths: AP 2/3, APH 3/8;
label 4 = estimate 2 (FP), 2 ground truths (one of them in the frame with the empty bucket): AP 0 -/
example : (sceneMap .centerDistance false [2, 4] [1, 1] exFrames).toOption.map
    (fun o => (o.aps.map (·.ap), o.aphs.map (·.ap), o.map, o.maph))
    = some ([some (2 / 3), some 0], [some (3 / 8), some 0], some (1 / 3), some (3 / 16)) := by
  decide +kernel

example : ∃ o, sceneMap .centerDistance false [2, 4] [1, 1] exFrames = .ok o :=
  ⟨_, scene_eq_frame_of_concat .. |>.trans (by decide +kernel :
    frameMap .centerDistance false [2, 4] [1, 1] (exFrames.map (·.1)).flatten (exFrames.map (·.2)).flatten
      = .ok ⟨[⟨some (2 / 3), [0, 1, 2], [1, 1, 1]⟩, ⟨some 0, [0], [1]⟩],
             [⟨some (3 / 8), [0, 1 / 2, 3 / 2], [1, 1, 1]⟩, ⟨some 0, [0], [1]⟩], some (1 / 3), some (3 / 16)⟩)⟩

/-- `scene_in_unit_interval` applied to the scene -/
example (o : MapOut) (h : sceneMap .centerDistance false [2, 4] [1, 1] exFrames = .ok o) :
    (∀ a ∈ o.aps, ∀ x, a.ap = some x → 0 ≤ x ∧ x ≤ 1) ∧ (∀ x, o.maph = some x → 0 ≤ x ∧ x ≤ 1) :=
  have hh := scene_in_unit_interval (framesG := exScene) (by decide +kernel) (by decide +kernel)
    (by decide +kernel) h
  ⟨hh.1, hh.2.2.2⟩

/-- S1 on the scene: frame 2's empty bucket of label 4 is there, its ground truth of label 4 is counted -/
example : sceneBuckets [2, 4] exFrames
    = .ok ([(2, [[], [s1, s3], [s4]]), (4, [[], [s2], []])], [(2, 2), (4, 2)]) := by decide +kernel

/-- the hypothesis of `pooled_ap_in_unit_interval` (label 2, both metrics) -/
example : (apOf .ap .centerDistance [2] [1] ((exScene.map (fun f => cnt 2 (f.2.map (·.label)))).sum)
      ((exScene.map (fun f => bucket [2, 4] 2 f.1)).flatten)).toOption.map (·.ap) = some (some (2 / 3))
    ∧ (apOf .aph .centerDistance [2] [1] ((exScene.map (fun f => cnt 2 (f.2.map (·.label)))).sum)
      ((exScene.map (fun f => bucket [2, 4] 2 f.1)).flatten)).toOption.map (·.ap) = some (some (3 / 8)) := by
  decide +kernel

/-- the hypotheses of S2 (`mapOf_congr_flatten`) on two DIFFERENT nested dicts (what `get_scene_result`
builds for label 2, and the single pooled list), which `mapOf_congr` cannot relate -/
example : (∀ l ∈ [2], (lookupKey l [(2, [[], [s1, s3], [s4]])]).map List.flatten
      = (lookupKey l [(2, [[s1, s3, s4]])]).map List.flatten)
    ∧ lookupKey 2 [(2, [[], [s1, s3], [s4]])] ≠ lookupKey 2 [(2, [[s1, s3, s4]])] := by decide +kernel

/-- the hypotheses of the lemmas behind S1 -/
example : ([2, 4] : List Label).contains 4 = true ∧ ∀ l ∈ ([4, 2, 4] : List Label), [2, 4].contains l = true := by
  decide

end Example

end PEval.C04

namespace PEval.AP

/-! ### non-vacuity of the hypotheses of `C04.countTp_frames_le` -/

section Example

/-- "classified TP", read off `classify` (an erroring classification counts as not TP); where `classify` answers this is
`isCorrectAt` (`classify_isTp`), the Boolean that `countTp_frames_le` counts -/
def isTpRes (tm : TpMetric) (m : Mode) (T : List Label) (th : List Rat) (r : Res) : Bool :=
  match classify tm m T th r with
  | .ok k => k.isTp
  | .error _ => false

/-- a TP (ground truth 7 of label 2, distance 1/2 < 1), an FP without ground truth, and a second TP on
the same ground truth id in another frame -/
def exR1 : Res := ⟨1, 9/10, 2, some ⟨7, 2⟩, .val (some (1/2)), 1/2, .default⟩
def exR2 : Res := ⟨2, 95/100, 2, none, .val none, 0, .default⟩
def exR3 : Res := ⟨3, 7/10, 2, some ⟨7, 2⟩, .val (some (1/4)), 1, .default⟩

example : classifyAll .aph .centerDistance [2] [1] [exR1, exR2, exR3] = .ok [.tp (1/2), .fp, .tp 1] := by
  decide +kernel
example : ∀ r ∈ [exR1, exR2, exR3], ∃ k, classify .aph .centerDistance [2] [1] r = .ok k := by
  intro r hr
  simp only [List.mem_cons, List.not_mem_nil, or_false] at hr
  rcases hr with rfl | rfl | rfl
  · exact ⟨.tp (1/2), by decide +kernel⟩
  · exact ⟨.fp, by decide +kernel⟩
  · exact ⟨.tp 1, by decide +kernel⟩
example : [exR1, exR2, exR3].countP (isTpRes .aph .centerDistance [2] [1]) = 2 := by decide +kernel
/-- per-frame hypotheses of `C04.countTp_frames_le` on two frames sharing ground-truth id 7 -/
example :
    let frames : List (List Res × List Gt) := [([exR1, exR2], [⟨7, 2⟩]), ([exR3], [⟨7, 2⟩, ⟨9, 4⟩])]
    (∀ f ∈ frames, (f.1.filterMap (·.gt)).Nodup) ∧ (∀ f ∈ frames, ∀ g ∈ f.1.filterMap (·.gt), g ∈ f.2)
      ∧ ¬ ((frames.map (·.1)).flatten.filterMap (·.gt)).Nodup := by
  decide +kernel

end Example

end PEval.AP
