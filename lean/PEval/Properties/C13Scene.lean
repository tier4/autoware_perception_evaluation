import PEval.Properties.C04Scene
import PEval.Lemmas.ManagerAPLink
import PEval.Lemmas.Manager
/-!
# C13 × C04 — the pooling machine `Manager.getSceneResult` computes the scene score of `AP.sceneMap`

`Properties/C13.lean` proves pooling for the accumulator loop of `get_scene_result` with an abstract score;
`Properties/C04Scene.lean` proves it for the model of `get_scene_result → Map → Ap` (`AP.sceneMap`).
Here the two are joined: feed the pooling machine the frames of an `AP.sceneMap` call (per label the
`divide_objects` bucket, each result carrying the TP weight `AP.classify` gives it; per label the
ground-truth count) — then its scene score under the concrete `Manager.apOf` is, label by label, the
`Ap.ap` that `AP.sceneMap` returns (`tm = .ap`: the APs, `tm = .aph`: the APHs).

`Manager.Det` / `Manager.Scene` index the labels by POSITION in the manager's label list (`bucket i`, `gt i`), `Model/AP.lean`
keys its dicts by the label itself; `detOfAP` is the translation, position `i` standing for the `i`-th pair of
`zip(target_labels, thresholds)`.
-/
namespace PEval.C13
open PEval.Manager PEval

/-- detection view (`Manager.Det`) of one frame given in the vocabulary of `Model/AP.lean`: bucket and
ground-truth count per `(label, threshold)` of `zip(target_labels, thresholds)`; TP column 0 = the weight
of metric `tm` -/
def detOfAP (tm : AP.TpMetric) (m : AP.Mode) (T : List AP.Label) (th : List Rat)
    (f : List AP.Res × List AP.Label) : Det :=
  { results := (T.zip th).map (fun lt => (AP.bucket T lt.1 f.1).map (ofAP (tpWeight tm m [lt.1] [lt.2])))
    numGt := (T.zip th).map (fun lt => AP.cnt lt.1 f.2) }

/-- a manager that has stored these frames (in order) -/
def stateOfAP (tm : AP.TpMetric) (m : AP.Mode) (T : List AP.Label) (th : List Rat)
    (frames : List (List AP.Res × List AP.Label)) : State Unit :=
  { dataset := [], frameResults := frames.map (fun f => ⟨0, detOfAP tm m T th f, ()⟩) }

theorem detOfAP_at {tm : AP.TpMetric} {m : AP.Mode} {T : List AP.Label} {th : List Rat}
    (f : List AP.Res × List AP.Label) {i : Nat} {lt : AP.Label × Rat} (h : (T.zip th)[i]? = some lt) :
    (detOfAP tm m T th f).bucket i = (AP.bucket T lt.1 f.1).map (ofAP (tpWeight tm m [lt.1] [lt.2])) ∧
    (detOfAP tm m T th f).gt i = AP.cnt lt.1 f.2 := by
  unfold Det.bucket Det.gt detOfAP
  rw [List.getD_eq_getElem?_getD, List.getD_eq_getElem?_getD, List.getElem?_map, List.getElem?_map, h]
  exact ⟨rfl, rfl⟩

theorem stateOfAP_score (tm : AP.TpMetric) (m : AP.Mode) (T : List AP.Label) (th : List Rat)
    (frames : List (List AP.Res × List AP.Label)) {i : Nat} {lt : AP.Label × Rat}
    (h : (T.zip th)[i]? = some lt) :
    (getSceneResult (T.zip th).length (stateOfAP tm m T th frames)).score (Manager.apOf 0) i
      = Manager.apOf 0 (((frames.map (fun f => AP.bucket T lt.1 f.1)).flatten).map (ofAP (tpWeight tm m [lt.1] [lt.2])))
          ((frames.map (fun f => AP.cnt lt.1 f.2)).sum) := by
  have hi : i < (T.zip th).length := (List.getElem?_eq_some_iff.1 h).1
  unfold Scene.score
  rw [scene_pooled _ _ i hi, scene_gt _ _ i hi]
  simp only [stateOfAP, List.map_map, Function.comp_def, (detOfAP_at _ h).1, (detOfAP_at _ h).2, List.map_flatten]

/-- the `i`-th of a list of `Ap`s that is given, entry by entry, as the results of calls over
`zip(target_labels, thresholds)` -/
theorem ap_at {α : Type} {aps : List AP.ApOut} {lts : List α} {f : α → Except Err AP.ApOut}
    (h : aps.map Except.ok = lts.map f) {i : Nat} {lt : α} (hi : lts[i]? = some lt) :
    ∃ a, aps[i]? = some a ∧ f lt = .ok a := by
  have e := congrArg (·[i]?) h
  simp only [List.getElem?_map, hi, Option.map_some] at e
  obtain ⟨a, ha, e⟩ := Option.map_eq_some_iff.1 e
  exact ⟨a, ha, e.symm⟩

/-- **`Manager.getSceneResult` refines to `AP.sceneMap`**: whenever the scene-level `Map` of the AP model
evaluates, its `i`-th AP is the score the pooling machine computes (with the concrete `Manager.apOf`) for
the `i`-th label from the stored per-frame buckets and counts; in 3-D the same for the APHs. -/
theorem manager_scene_eq_AP_sceneMap {m : AP.Mode} {is2d : Bool} {T : List AP.Label} {th : List Rat}
    {frames : List (List AP.Res × List AP.Label)} {o : AP.MapOut}
    (h : AP.sceneMap m is2d T th frames = .ok o) {i : Nat} {lt : AP.Label × Rat}
    (hi : (T.zip th)[i]? = some lt) :
    (∃ a, o.aps[i]? = some a ∧
      (getSceneResult (T.zip th).length (stateOfAP .ap m T th frames)).score (Manager.apOf 0) i = a.ap) ∧
    (is2d = false → ∃ a, o.aphs[i]? = some a ∧
      (getSceneResult (T.zip th).length (stateOfAP .aph m T th frames)).score (Manager.apOf 0) i = a.ap) := by
  obtain ⟨h1, h2, _, _⟩ := C04.scene_ap_eq_pooled h
  refine ⟨?_, fun h2d => ?_⟩
  · obtain ⟨a, ha, e⟩ := ap_at h1 hi
    exact ⟨a, ha, by rw [stateOfAP_score _ _ _ _ _ hi]; exact apOf_eq_AP_apOf e⟩
  · subst h2d
    obtain ⟨a, ha, e⟩ := ap_at (if_neg Bool.false_ne_true ▸ h2) hi
    exact ⟨a, ha, by rw [stateOfAP_score _ _ _ _ _ hi]; exact apOf_eq_AP_apOf e⟩

/-- a one-frame scene on the machine reproduces the FRAME-level `Map` of the AP model (`AP.frameMap`, what
`evaluate_frame` computes with flat buckets): the real content of "a one-frame scene reproduces that
frame's detection score" -/
theorem manager_single_frame_eq_AP_frameMap {m : AP.Mode} {is2d : Bool} {T : List AP.Label} {th : List Rat}
    {rs : List AP.Res} {gl : List AP.Label} {o : AP.MapOut}
    (h : AP.frameMap m is2d T th rs gl = .ok o) {i : Nat} {lt : AP.Label × Rat}
    (hi : (T.zip th)[i]? = some lt) :
    ∃ a, o.aps[i]? = some a ∧
      (getSceneResult (T.zip th).length (stateOfAP .ap m T th [(rs, gl)])).score (Manager.apOf 0) i = a.ap := by
  rw [← C04.scene_single_frame_eq_frame] at h
  exact (manager_scene_eq_AP_sceneMap h hi).1

/-! ### non-vacuity: the two-frame scene of `C04Scene.lean` (labels 2 and 4; ground truth 7 in both frames) -/

example : (AP.sceneMap .centerDistance false [2, 4] [1, 1] C04.exFrames).toOption.map
      (fun o => (o.aps.map (·.ap), o.aphs.map (·.ap)))
    = some ([(getSceneResult 2 (stateOfAP .ap .centerDistance [2, 4] [1, 1] C04.exFrames)).score (Manager.apOf 0) 0,
             (getSceneResult 2 (stateOfAP .ap .centerDistance [2, 4] [1, 1] C04.exFrames)).score (Manager.apOf 0) 1],
            [(getSceneResult 2 (stateOfAP .aph .centerDistance [2, 4] [1, 1] C04.exFrames)).score (Manager.apOf 0) 0,
             (getSceneResult 2 (stateOfAP .aph .centerDistance [2, 4] [1, 1] C04.exFrames)).score (Manager.apOf 0) 1]) := by
  decide +kernel
example : (getSceneResult 2 (stateOfAP .ap .centerDistance [2, 4] [1, 1] C04.exFrames)).score (Manager.apOf 0) 0
    = some (2 / 3) := by decide +kernel

end PEval.C13
