import PEval.Lemmas.MatchKernelsDT
import PEval.Gen.KCell
/-!
# Decision table of one cell of `_get_score_table` (serves C01)

`PEval.Gen.K.cell.tree`: the REAL `_get_score_table` run on one symbolic estimate and one symbolic ground truth, per
matching class: atoms `same_frame`, `thr[gt].none` (what `get_label_threshold` answered for the label it was called
with: the threshold term is NAMED after that label, so a lookup with the estimate's label shows as another atom), the
order atoms of the radius gate and `matchable`. Result: NaN, or (score, label flag).

What the table check fixes and what it leaves open. C01: "only pairs objects expressed in the same coordinate/camera frame, and, when a maximum matchable radius
is configured for the ground truth's label, only pairs objects closer than that radius". A radius is a threshold of the
mode's scale; the text does not say what happens for an IoU radius outside [0, 1] (today the assertion of
`is_better_than` fires). The per-run obligation is stated for the valuations avoiding `forbIoU`; in-quantifier predicate:
`thrOk (toAP c.mode) rd` (no radius, or one on the scale - `valCell_consistent`). Frame test, lookup by the GROUND TRUTH's
label, direction and strictness of the gate, and the label flag are fixed by the check; the distance classes for every
radius.

The `*_eq_skeleton` theorems give the bridges of `Lemmas/MatchKernelsDT.lean` this module's name: the `THEOREMS` lists of
`harness/props/` name them here.
-/
namespace PEval.KernelCell
open PEval PEval.DT PEval.MatchKernels PEval.Matching

/-- the per-run obligation: the table is regenerated from the source on every run and this check is evaluated again -/
theorem cell_table_check : tableOk forbIoU Gen.K.cell.tree cellTree = true := by decide +kernel

theorem cell_code_table_eq_model : ∀ t, Gen.K.cell.tree = some t →
    ∀ v : Val, consistent forbIoU v = true → eval t v = cellAtoms v :=
  fun t ht v hv => tableOk_sound cell_table_check t ht v hv

/-- the bridge: the model's `cell` is the skeleton applied to the atoms of the input (all inputs whose threshold lookup
does not raise) -/
theorem cell_eq_skeleton (c : Cfg) (e g : Obj) (v : Rat) (rd : Option Rat)
    (hr : labelThreshold c.targets c.thresholds g.label = .ok rd) :
    cellAtoms (valCell c e g v rd) = ofCell (cell c e g v) := cell_bridge c e g v rd hr

theorem cell_code_table_eq_cell :
    ∀ t, Gen.K.cell.tree = some t → ∀ (c : Cfg) (e g : Obj) (v : Rat) (rd : Option Rat),
      labelThreshold c.targets c.thresholds g.label = .ok rd → thrOk (toAP c.mode) rd →
      eval t (valCell c e g v rd) = ofCell (cell c e g v) :=
  fun t ht c e g v rd hr hv => (cell_code_table_eq_model t ht _ (valCell_consistent c e g v rd hv)).trans (cell_bridge c e g v rd hr)

/-- C01 for the code's table, strictness of the radius gate: a value EQUAL to the radius looked up for the ground truth's
label gives NaN, in every class whose scale contains the radius -/
theorem table_cell_nan_on_radius_iou {t : DTree} (ht : Gen.K.cell.tree = some t) (c : Cfg) (e g : Obj) (v : Rat)
    (hr : labelThreshold c.targets c.thresholds g.label = .ok (some v)) (hv : AP.thrValid (toAP c.mode) v = true) :
    eval t (valCell c e g v (some v)) = .other cellNan := by
  rw [cell_code_table_eq_cell t ht c e g v (some v) hr (thrOk_some hv)]
  have hb : isBetterThan c.mode v v = .ok false := by
    rw [matching_isBetterThan, isBetterThan_eq, hv]
    simp [optBetter, AP.isBetter]
  cases hf : (e.frame == g.frame)
  · rw [cell_of_frame_ne hf]; rfl
  · rw [cell_of_threshold hf hr, hb]; rfl

/-- the distance classes: every radius is on the scale -/
theorem table_cell_nan_on_radius {t : DTree} (ht : Gen.K.cell.tree = some t) (c : Cfg) (e g : Obj) (v : Rat)
    (hr : labelThreshold c.targets c.thresholds g.label = .ok (some v)) (hm : c.mode.maximize = false) :
    eval t (valCell c e g v (some v)) = .other cellNan :=
  table_cell_nan_on_radius_iou ht c e g v hr
    (thrOk_distance (by rw [toAP_isDistance, hm]; rfl) (some v) v rfl)

/-- C01 for the code's table, the frame test: objects of different frames give NaN whatever the threshold lookup for the
ground truth's label does (also where it raises), `rd` being any radius on the mode's scale -/
theorem table_cell_other_frame_any_radius {t : DTree} (ht : Gen.K.cell.tree = some t) (c : Cfg) (e g : Obj) (v : Rat)
    (rd : Option Rat) (hv : thrOk (toAP c.mode) rd) (hf : (e.frame == g.frame) = false) :
    eval t (valCell c e g v rd) = .other cellNan :=
  (cell_code_table_eq_model t ht _ (valCell_consistent c e g v rd hv)).trans (cellTree_other_frame c e g v rd hf)

/-- the case where the lookup answers (`hr` is not used: `table_cell_other_frame_any_radius`) -/
theorem table_cell_other_frame {t : DTree} (ht : Gen.K.cell.tree = some t) (c : Cfg) (e g : Obj) (v : Rat) (rd : Option Rat)
    (hr : labelThreshold c.targets c.thresholds g.label = .ok rd) (hv : thrOk (toAP c.mode) rd)
    (hf : (e.frame == g.frame) = false) :
    eval t (valCell c e g v rd) = .other cellNan :=
  table_cell_other_frame_any_radius ht c e g v rd hv hf

/-- non-vacuity of the in-quantifier predicate: no radius; a distance radius of any size; an IoU radius in [0, 1] -/
example : thrOk .iou3d none ∧ thrOk .centerDistance (some 40) ∧ thrOk .iou2d (some (1/2)) ∧ ¬ thrOk .iou2d (some 2) := by
  refine ⟨thrOk_none _, thrOk_distance rfl _, thrOk_some (by decide +kernel), ?_⟩
  intro h
  exact absurd (h 2 rfl) (by decide +kernel)

end PEval.KernelCell
