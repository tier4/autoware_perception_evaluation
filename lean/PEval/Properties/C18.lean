import PEval.Lemmas.Transform
import PEval.Lemmas.TransformMatrix
import PEval.Properties.C20
import Mathlib.Data.Rat.Sqrt
/-!
# C18 — coordinate transforms compose and invert consistently

Statements about the model `PEval.Model.Transform` of `common/transform.py`.  Rotations are
quaternions over `Rat` acting through the homogeneous rotation-matrix formula; "rigid transform"
means `normSq rot = 1`.  Composition laws are polynomial identities and need no such hypothesis;
the inverse laws need it for the transform that is inverted only (never for the pose transformed).
The registry theorems quantify over every list of registered matrices (duplicates, reverse pairs,
X-to-X entries included), every argument form and every spelling of a frame.

The file has two layers.  First the exact model `(pos, rot)`: inverse, composition, agreement with 4×4
matrices, the registry and its modifications, the access paths `get` / `[]` / `in`; there an orientation
result is an equality of quaternions.  Then the code paths of `PEval.Model.TransformMatrix`, which go
through the 4×4 matrix and re-extract the quaternion (`Quaternion(matrix=R)`): they return the model's
answer up to the sign of the quaternion (`SignEq`, `PoseEq`, `ResSignEq`) under the extraction contract
`ExtractOK`, which pyquaternion's `trace_method` meets and the closed form of seed C18_G does not.  At
the end: a registry whose keys are independent of the labels of the matrices stored under them (`KReg`).
-/
namespace PEval.C18
open PEval.Transform PEval.Enums PEval

/-- rotating by a product is rotating twice (all quaternions; polynomial identity) -/
theorem rotate_mul (q1 q2 : Quat) (v : V3) : rotate (q1 * q2) v = rotate q1 (rotate q2 v) :=
  Transform.rotate_mul q1 q2 v

/-- both signs of a quaternion are the same rotation matrix -/
theorem rotMat_neg (q : Quat) : rotMat (-q) = rotMat q := Transform.rotMat_neg q

/-- a unit quaternion acts by an isometry -/
theorem rotate_isometry (q : Quat) (h : q.normSq = 1) (v : V3) :
    (rotate q v).dot (rotate q v) = v.dot v := by
  rw [← Quat.normSq_ofV3, Quat.ofV3_rotate, Quat.normSq_mul, Quat.normSq_mul, Quat.normSq_conj, h, one_mul, mul_one,
    Quat.normSq_ofV3]

/-- transform, then the inverse transform: original position and orientation -/
theorem inv_transform (A : HM) (hA : A.rot.normSq = 1) (p : V3) (r : Quat) :
    transformPose (inv A) (transformPose A (p, r)) = (p, r) := by
  rw [← transformPose_comp, inv_comp_self A hA, transformPose_id]

/-- the inverse transform, then the transform: original position and orientation -/
theorem transform_inv (A : HM) (hA : A.rot.normSq = 1) (p : V3) (r : Quat) :
    transformPose A (transformPose (inv A) (p, r)) = (p, r) := by
  rw [← transformPose_comp, comp_inv_self A hA, transformPose_id]

/-- the round trips for position-only calls -/
theorem inv_transform_pos (A : HM) (hA : A.rot.normSq = 1) (p : V3) :
    transformPos (inv A) (transformPos A p) = p :=
  congrArg Prod.fst (inv_transform A hA p Quat.one)

theorem transform_inv_pos (A : HM) (hA : A.rot.normSq = 1) (p : V3) :
    transformPos A (transformPos (inv A) p) = p :=
  congrArg Prod.fst (transform_inv A hA p Quat.one)

/-- the inverse is labelled the other way round -/
theorem inv_frames (A : HM) : (inv A).src = A.dst ∧ (inv A).dst = A.src := ⟨rfl, rfl⟩

theorem inv_unit (A : HM) (hA : A.rot.normSq = 1) : (inv A).rot.normSq = 1 :=
  (Quat.normSq_conj _).trans hA

theorem inv_inv (A : HM) (hA : A.rot.normSq = 1) : inv (inv A) = A := by
  cases A with
  | mk pos rot src dst =>
    simp only [inv, Quat.conj_conj, rotate_vneg, rotate_rotate_conj rot hA]
    congr 1
    ext <;> simp

/-- `A.inv().dot(A)` and `A.dot(A.inv())` are the identity motion on `A.src` resp. `A.dst` -/
theorem inv_dot_self (A : HM) (hA : A.rot.normSq = 1) :
    dot (inv A) A = .ok ⟨V3.zero, Quat.one, A.src, A.src⟩ :=
  (dot_of_eq rfl).trans (congrArg Except.ok (inv_comp_self A hA))

theorem self_dot_inv (A : HM) (hA : A.rot.normSq = 1) :
    dot A (inv A) = .ok ⟨V3.zero, Quat.one, A.dst, A.dst⟩ :=
  (dot_of_eq rfl).trans (congrArg Except.ok (comp_inv_self A hA))

/-- `B.dot(A)` for `A : X→Y`, `B : Y→Z` exists and transforms like `A` followed by `B`
(position and orientation; all quaternions) -/
theorem dot_two_steps (B A : HM) (h : B.src = A.dst) :
    ∃ C, dot B A = .ok C ∧
      (∀ p r, transformPose C (p, r) = transformPose B (transformPose A (p, r))) ∧
      (∀ p, transformPos C p = transformPos B (transformPos A p)) :=
  ⟨_, dot_of_eq h, fun p r => transformPose_comp B A (p, r),
    fun p => congrArg Prod.fst (transformPose_comp B A (p, Quat.one))⟩

/-- the composite is labelled `A.src → B.dst` -/
theorem dot_frames (B A C : HM) (h : dot B A = .ok C) : C.src = A.src ∧ C.dst = B.dst := by
  obtain ⟨_, rfl⟩ := dot_ok_inv h
  exact ⟨rfl, rfl⟩

/-- composition with mismatched frames is rejected -/
theorem dot_mismatch_error (B A : HM) (h : B.src ≠ A.dst) : dot B A = .error "ValueError" :=
  if_pos h

/-- … and only then -/
theorem dot_ok_iff (B A : HM) : (∃ C, dot B A = .ok C) ↔ B.src = A.dst :=
  ⟨fun ⟨_, hC⟩ => (dot_ok_inv hC).1, fun h => ⟨_, dot_of_eq h⟩⟩

/-- composition keeps rigid motions rigid -/
theorem dot_unit (B A C : HM) (hB : B.rot.normSq = 1) (hA : A.rot.normSq = 1) (h : dot B A = .ok C) :
    C.rot.normSq = 1 := by
  obtain ⟨_, rfl⟩ := dot_ok_inv h
  exact Quat.normSq_mul_unit hB hA

/-- `A.transform(M)` is `M.dot(A)` -/
theorem transformHM_eq_dot (A M : HM) : transformHM A M = dot M A := rfl

/-- a chain of any length: folding `dot` along a well-labelled chain transforms like
the steps one after the other (`steps` lists the matrices in the order they are applied) -/
theorem chain_steps (A : HM) (steps : List HM) (C : HM)
    (h : steps.foldlM (fun acc m => dot m acc) A = .ok C) (p : V3) (r : Quat) :
    transformPose C (p, r) = steps.foldl (fun pr m => transformPose m pr) (transformPose A (p, r)) := by
  induction steps generalizing A with
  | nil => cases h; rfl
  | cons m ms ih =>
    rw [ih _ ((chain_cons A m ms C).1 h).2, transformPose_comp]
    rfl

/-- a well-labelled chain folds to `.ok`, and only a well-labelled one -/
theorem chain_ok_iff (A : HM) (steps : List HM) :
    (∃ C, steps.foldlM (fun acc m => dot m acc) A = .ok C) ↔ WellLabelled A.dst steps := by
  induction steps generalizing A with
  | nil => exact ⟨fun _ => trivial, fun _ => ⟨A, rfl⟩⟩
  | cons m ms ih => simp only [chain_cons, exists_and_left, ih, WellLabelled, HM.comp]

/-- the composite of a well-labelled chain exists and is labelled first.src → last.dst -/
theorem chain_ok (A : HM) (steps : List HM) (h : WellLabelled A.dst steps) :
    ∃ C, steps.foldlM (fun acc m => dot m acc) A = .ok C ∧ C.src = A.src ∧ C.dst = chainDst A.dst steps := by
  induction steps generalizing A with
  | nil => exact ⟨A, rfl, rfl, rfl⟩
  | cons m ms ih =>
    obtain ⟨C, hC, hs, hd⟩ := ih (m.comp A) h.2
    exact ⟨C, (chain_cons A m ms C).2 ⟨h.1, hC⟩, hs, hd⟩

/-- a chain of rigid motions composes to a rigid motion -/
theorem chain_unit (A : HM) (steps : List HM) (C : HM) (hA : A.rot.normSq = 1) (hs : ∀ m ∈ steps, m.rot.normSq = 1)
    (h : steps.foldlM (fun acc m => dot m acc) A = .ok C) : C.rot.normSq = 1 := by
  induction steps generalizing A with
  | nil => cases h; exact hA
  | cons m ms ih =>
    exact ih (m.comp A) (Quat.normSq_mul_unit (hs m List.mem_cons_self) hA)
      (fun x hx => hs x (List.mem_cons_of_mem _ hx)) ((chain_cons A m ms C).1 h).2

/-! ## agreement with 4×4 homogeneous matrices -/

/-- transforming a pose = multiplying the homogeneous matrices (all quaternions) -/
theorem transform_eq_matmul (A : HM) (p : V3) (r : Quat) :
    matOf (transformPose A (p, r)).1 (transformPose A (p, r)).2 = matMul (toMat A) (matOf p r) :=
  (matMul_matOf A.pos A.rot p r).symm

/-- the position-only call reads the translation column of `A.matrix · [[I, p], [0, 1]]` -/
theorem transformPos_eq_matmul (A : HM) (p : V3) :
    let M := matMul (toMat A) (matOf p Quat.one)
    transformPos A p = ⟨M.r0.d, M.r1.d, M.r2.d⟩ := by
  intro M
  rw [show M = _ from matMul_matOf A.pos A.rot p Quat.one]
  rfl

/-- `dot` is the matrix product -/
theorem dot_eq_matmul (B A C : HM) (h : dot B A = .ok C) : toMat C = matMul (toMat B) (toMat A) := by
  obtain ⟨_, rfl⟩ := dot_ok_inv h
  exact transform_eq_matmul B A.pos A.rot

/-- `inv` is the matrix inverse (what `numpy.linalg.inv` returns), for a rigid motion -/
theorem inv_matmul (A : HM) (hA : A.rot.normSq = 1) :
    matMul (toMat (inv A)) (toMat A) = Mat4.one ∧ matMul (toMat A) (toMat (inv A)) = Mat4.one := by
  have h1 := dot_eq_matmul _ _ _ (inv_dot_self A hA)
  have h2 := dot_eq_matmul _ _ _ (self_dot_inv A hA)
  exact ⟨h1.symm.trans matOf_one, h2.symm.trans matOf_one⟩

/-- what "registered under X-to-Y" means: the last matrix of the list labelled X-to-Y -/
theorem lookup_registered (pre post : List HM) (m : HM) (h : ∀ m' ∈ post, m'.key ≠ m.key) :
    lookup (pre ++ m :: post) m.key = some m := by
  have : post.reverse.find? (fun m' => m'.key = m.key) = none := by simpa using h
  simp [lookup_eq_find, List.find?_append, this]

theorem lookup_sound (d : List HM) (k : String × String) (m : HM) (h : lookup d k = some m) :
    m ∈ d ∧ m.src = k.1 ∧ m.dst = k.2 := by
  rw [lookup_eq_find] at h
  have hk : m.key = k := by simpa using List.find?_some h
  exact ⟨List.mem_reverse.1 (List.mem_of_find?_eq_some h), congrArg Prod.fst hk, congrArg Prod.snd hk⟩

theorem lookup_none_iff (d : List HM) (k : String × String) :
    lookup d k = none ↔ ∀ m ∈ d, (m.src, m.dst) ≠ k := by
  show _ ↔ ∀ m ∈ d, m.key ≠ k
  simp [lookup_eq_find]

/-- X-to-Y registered: answered with that matrix -/
theorem lookup_direct (d : List HM) (ks kd : Arg) (s t : String) (m : HM) (x : TArg)
    (hk : transformKey ks kd = .ok (s, t)) (hne : s ≠ t) (hm : lookup d (s, t) = some m) :
    dictTransform d ks kd x = m.transform x := by
  rw [dictTransform_key hk, if_neg hne, hm]

/-- X-to-Y not registered, Y-to-X registered: answered with the inverse of that matrix -/
theorem lookup_inverse (d : List HM) (ks kd : Arg) (s t : String) (m : HM) (x : TArg)
    (hk : transformKey ks kd = .ok (s, t)) (hne : s ≠ t) (hnone : lookup d (s, t) = none)
    (hm : lookup d (t, s) = some m) :
    dictTransform d ks kd x = (inv m).transform x := by
  rw [dictTransform_key hk, if_neg hne, hnone, hm]

/-- X-to-X: the input comes back unchanged, whatever is registered -/
theorem lookup_identity_key (d : List HM) (ks kd : Arg) (s : String) (x : TArg)
    (hk : transformKey ks kd = .ok (s, s)) (hx : x.malformed = none) :
    dictTransform d ks kd x = .ok x := by
  rw [dictTransform_key hk, if_pos rfl, hx]

/-- the three documented spellings of a frame: the member, its lower-case name, its upper-case name -/
def spellings (p : String × String) : List Arg := [.member p.1, .str p.2, .str p.2.toUpper]

theorem frameOfArg_spelling : ∀ p ∈ Gen.frameID, ∀ a ∈ spellings p, frameOfArg a = .ok p.1 := by
  intro p hp a ha
  simp only [spellings, List.mem_cons, List.mem_nil_iff, or_false] at ha
  rcases ha with rfl | rfl | rfl
  · rfl
  · exact C20.roundtrip_frame p hp
  · exact C20.roundtrip_frame_upper p hp

theorem transformKey_spelling : ∀ p ∈ Gen.frameID, ∀ r ∈ Gen.frameID, ∀ a ∈ spellings p, ∀ b ∈ spellings r,
    transformKey a b = .ok (p.1, r.1) :=
  fun p hp r hr a ha b hb => transformKey_ok_iff.2 ⟨frameOfArg_spelling p hp a ha, frameOfArg_spelling r hr b hb⟩

/-- a matrix may be constructed with either spelling of its frames -/
theorem mk_spelling : ∀ p ∈ Gen.frameID, ∀ r ∈ Gen.frameID, ∀ a ∈ spellings p, ∀ b ∈ spellings r,
    ∀ (pos : V3) (rot : Quat), HM.mk' pos rot a b = .ok ⟨pos, rot, p.1, r.1⟩ := by
  intro p hp r hr a ha b hb pos rot
  simp only [HM.mk', frameOfArg_spelling p hp a ha, frameOfArg_spelling r hr b hb, bind, Except.bind]
  rfl

/-- X-to-X for every frame and every pair of spellings (F14: `("MAP", "map")`) -/
theorem lookup_identity : ∀ p ∈ Gen.frameID, ∀ a ∈ spellings p, ∀ b ∈ spellings p,
    ∀ (d : List HM) (x : TArg), x.malformed = none → dictTransform d a b x = .ok x := by
  intro p hp a ha b hb d x hx
  exact lookup_identity_key d a b p.1 x (transformKey_spelling p hp p hp a ha b hb) hx

/-- neither direction registered: `KeyError` -/
theorem lookup_missing_keyerror (d : List HM) (ks kd : Arg) (s t : String) (x : TArg)
    (hk : transformKey ks kd = .ok (s, t)) (hne : s ≠ t)
    (h1 : ∀ m ∈ d, (m.src, m.dst) ≠ (s, t)) (h2 : ∀ m ∈ d, (m.src, m.dst) ≠ (t, s)) :
    dictTransform d ks kd x = .error "KeyError" := by
  have e1 : lookup d (s, t) = none := (lookup_none_iff d _).2 h1
  have e2 : lookup d (t, s) = none := (lookup_none_iff d _).2 h2
  rw [dictTransform_key hk, if_neg hne, e1, e2]

/-- a key spelled with members, lower-case names or upper-case names (any mixture) gives the same answer -/
theorem key_spelling_irrelevant : ∀ p ∈ Gen.frameID, ∀ r ∈ Gen.frameID, ∀ a ∈ spellings p, ∀ b ∈ spellings r,
    ∀ (d : List HM) (x : TArg), dictTransform d a b x = dictTransform d (.member p.1) (.member r.1) x :=
  fun p hp r hr a ha b hb d => (access_congr (transformKey_spelling p hp r hr a ha b hb) d).1

/-- a name that is no frame is rejected before anything is looked up -/
theorem transformKey_unknown {s : String} (h : s.toLower ∉ values Gen.frameID) (kd : Arg) :
    transformKey (.str s) kd = .error "ValueError" := by
  simp [transformKey, frameOfArg, C20.nonmember_frame s h, bind, Except.bind]

theorem key_unknown_name (d : List HM) (s : String) (kd : Arg) (x : TArg)
    (h : s.toLower ∉ values Gen.frameID) : dictTransform d (.str s) kd x = .error "ValueError" := by
  simp only [dictTransform, transformKey_unknown h]
  rfl

/-- `FrameID.from_value` lower-cases: a frame name is read through its lower-case form only -/
theorem frameOfArg_case_insensitive (s t : String) (h : s.toLower = t.toLower) :
    frameOfArg (.str s) = frameOfArg (.str t) := by
  simp only [frameOfArg, frameFromValue, h]

/-- every spelling whose lower-case form is the value of a frame names that frame ("Map", "Base_Link", "mAP", …) -/
theorem frameOfArg_any_case : ∀ p ∈ Gen.frameID, ∀ s : String, s.toLower = p.2 → frameOfArg (.str s) = .ok p.1 :=
  C20.frame_any_case

/-- all access paths give the same answer for two spellings of a key that agree after lower-casing -/
theorem key_case_irrelevant (d : List HM) (s s' t t' : String) (hs : s.toLower = s'.toLower) (ht : t.toLower = t'.toLower)
    (x : TArg) :
    dictTransform d (.str s) (.str t) x = dictTransform d (.str s') (.str t') x ∧
    dictGet d (.str s) (.str t) = dictGet d (.str s') (.str t') ∧
    dictGetItem d (.str s) (.str t) = dictGetItem d (.str s') (.str t') ∧
    dictContains d (.str s) (.str t) = dictContains d (.str s') (.str t') := by
  have e : transformKey (.str s) (.str t) = transformKey (.str s') (.str t') := by
    simp only [transformKey, frameOfArg_case_insensitive s s' hs, frameOfArg_case_insensitive t t' ht]
  exact ⟨(access_congr e d).1 x, (access_congr e d).2⟩

/-- a key written in any case mixture is the member key -/
theorem key_any_case : ∀ p ∈ Gen.frameID, ∀ r ∈ Gen.frameID, ∀ s t : String, s.toLower = p.2 → t.toLower = r.2 →
    ∀ (d : List HM) (x : TArg), dictTransform d (.str s) (.str t) x = dictTransform d (.member p.1) (.member r.1) x := by
  intro p hp r hr s t hs ht d
  exact (access_congr (transformKey_ok_iff.2 ⟨frameOfArg_any_case p hp s hs, frameOfArg_any_case r hr t ht⟩) d).1

/-- `registry_roundtrip` with the pose in between written out: it is the registered matrix applied to the pose -/
theorem registry_roundtrip_values (d : List HM) (s t : String) (m : HM) (p : V3) (r : Quat)
    (hne : s ≠ t) (hm : lookup d (s, t) = some m) (hnone : lookup d (t, s) = none) (hu : m.rot.normSq = 1) :
    dictTransform d (.member s) (.member t) (.pose p r) = .ok (.pose (transformPose m (p, r)).1 (transformPose m (p, r)).2) ∧
      dictTransform d (.member t) (.member s) (.pose (transformPose m (p, r)).1 (transformPose m (p, r)).2)
        = .ok (.pose p r) := by
  refine ⟨lookup_direct d _ _ s t m _ rfl hne hm, ?_⟩
  rw [lookup_inverse d _ _ t s m _ rfl (Ne.symm hne) hnone hm]
  exact congrArg (fun pr : V3 × Quat => Except.ok (TArg.pose pr.1 pr.2)) (inv_transform m hu p r)

/-- the registry's answers obey the group laws too: querying Y-to-X after X-to-Y (only X-to-Y
registered) returns the original pose -/
theorem registry_roundtrip (d : List HM) (s t : String) (m : HM) (p : V3) (r : Quat)
    (hne : s ≠ t) (hm : lookup d (s, t) = some m) (hnone : lookup d (t, s) = none)
    (hu : m.rot.normSq = 1) :
    ∃ p' r', dictTransform d (.member s) (.member t) (.pose p r) = .ok (.pose p' r') ∧
      dictTransform d (.member t) (.member s) (.pose p' r') = .ok (.pose p r) :=
  ⟨_, _, registry_roundtrip_values d s t m p r hne hm hnone hu⟩

/-! ## a modified registry answers from its current contents

`reg[key] = m` (`dictSet`), `del reg[key]` (`dictErase` / `dictDel`); `copy.deepcopy(reg)` is the same
list.  Whatever was registered or asked before, the answer after a modification is the one the
rule gives for the contents at the time of the query. -/

/-- after `reg[m.key] = m` the key `m.key` holds `m`; every other key holds what it held -/
theorem lookup_set (d : List HM) (m : HM) (k : String × String) :
    lookup (dictSet d m) k = if m.key = k then some m else lookup d k := by
  by_cases h : m.key = k <;> simp [lookup_eq_find, dictSet, h]

/-- after `del reg[k']` the key `k'` is not registered; every other key holds what it held -/
theorem lookup_erase (d : List HM) (k k' : String × String) :
    lookup (dictErase d k') k = if k = k' then none else lookup d k := by
  rw [lookup_eq_find, lookup_eq_find, dictErase, ← List.filter_reverse, List.find?_filter]
  split_ifs with h
  · subst h
    simp
  · congr 1
    funext m
    by_cases hm : m.key = k <;> simp [hm, h]

/-- `del reg[k]` raises `KeyError` exactly when `k` is not registered, and otherwise leaves `dictErase` -/
theorem dictDel_spec (d : List HM) (k : String × String) :
    dictDel d k = if lookup d k = none then .error "KeyError" else .ok (dictErase d k) := by
  unfold dictDel
  cases lookup d k <;> simp

/-- X-to-Y (re-)registered: answered with the NEW matrix -/
theorem query_after_set_direct (d : List HM) (m : HM) (ks kd : Arg) (s t : String) (x : TArg)
    (hk : transformKey ks kd = .ok (s, t)) (hne : s ≠ t) (hm : m.key = (s, t)) :
    dictTransform (dictSet d m) ks kd x = m.transform x :=
  lookup_direct _ ks kd s t m x hk hne (by rw [lookup_set, if_pos hm])

/-- Y-to-X (re-)registered while X-to-Y is not: X-to-Y is answered with the inverse of the NEW
matrix (not with the inverse of an earlier Y-to-X) -/
theorem query_after_set_reverse (d : List HM) (m : HM) (ks kd : Arg) (s t : String) (x : TArg)
    (hk : transformKey ks kd = .ok (s, t)) (hne : s ≠ t) (hm : m.key = (t, s))
    (hnone : lookup d (s, t) = none) :
    dictTransform (dictSet d m) ks kd x = (inv m).transform x := by
  exact lookup_inverse _ ks kd s t m x hk hne (by rw [lookup_set, if_neg (hm ▸ swap_ne (Ne.symm hne))]; exact hnone)
    (by rw [lookup_set, if_pos hm])

/-- a registration under another pair of frames does not change the answer -/
theorem query_after_set_other (d : List HM) (m : HM) (ks kd : Arg) (s t : String) (x : TArg)
    (hk : transformKey ks kd = .ok (s, t)) (h1 : m.key ≠ (s, t)) (h2 : m.key ≠ (t, s)) :
    dictTransform (dictSet d m) ks kd x = dictTransform d ks kd x := by
  simp only [dictTransform_key hk, lookup_set, if_neg h1, if_neg h2]

/-- `query_after_del` (next) for a query in either direction -/
theorem query_either_way_after_del (d : List HM) (ks kd : Arg) (s t : String) (x : TArg)
    (hk : transformKey ks kd = .ok (s, t) ∨ transformKey ks kd = .ok (t, s)) (hne : s ≠ t)
    (hnone : lookup d (s, t) = none) :
    dictTransform (dictErase d (t, s)) ks kd x = .error "KeyError" := by
  rcases hk with hk | hk
  · simp only [dictTransform_key hk, if_neg hne, lookup_erase, if_neg (swap_ne hne), hnone, if_true]
  · simp only [dictTransform_key hk, if_neg (Ne.symm hne), lookup_erase, if_neg (swap_ne hne), hnone, if_true]

/-- Y-to-X deleted while X-to-Y is not registered: X-to-Y raises `KeyError` (and so does Y-to-X:
`query_either_way_after_del`) -/
theorem query_after_del (d : List HM) (ks kd : Arg) (s t : String) (x : TArg)
    (hk : transformKey ks kd = .ok (s, t)) (hne : s ≠ t) (hnone : lookup d (s, t) = none) :
    dictTransform (dictErase d (t, s)) ks kd x = .error "KeyError" :=
  query_either_way_after_del d ks kd s t x (.inl hk) hne hnone

/-- deleting Y-to-X while X-to-Y is registered leaves Y-to-X answered with the inverse of X-to-Y -/
theorem query_after_del_falls_back (d : List HM) (m : HM) (ks kd : Arg) (s t : String) (x : TArg)
    (hk : transformKey ks kd = .ok (t, s)) (hne : s ≠ t) (hm : lookup d (s, t) = some m) :
    dictTransform (dictErase d (t, s)) ks kd x = (inv m).transform x := by
  exact lookup_inverse _ ks kd t s m x hk (Ne.symm hne) (by rw [lookup_erase, if_pos rfl])
    (by rw [lookup_erase, if_neg (swap_ne hne)]; exact hm)

/-! ## every access path of the registry reads its key the same way

`reg.get(key)`, `reg[key]` and `reg.transform(key, …)` all normalise the key (a `TransformKey`, or a pair of
members / names in either case) before the dictionary is asked, so they agree with one another for every
spelling.  The statements about `dictContains` are about the model only: the class has no `__contains__`, and
Python's fallback for `key in reg` does not normalise (see `Model/Transform.lean`). -/

/-- `get`: the spelling of the key is irrelevant -/
theorem get_spelling_irrelevant : ∀ p ∈ Gen.frameID, ∀ r ∈ Gen.frameID, ∀ a ∈ spellings p, ∀ b ∈ spellings r,
    ∀ (d : List HM), dictGet d a b = .ok (lookup d (p.1, r.1)) :=
  fun p hp r hr a ha b hb _ => dictGet_key (transformKey_spelling p hp r hr a ha b hb)

/-- `reg[key]`: the spelling of the key is irrelevant -/
theorem getitem_spelling_irrelevant : ∀ p ∈ Gen.frameID, ∀ r ∈ Gen.frameID, ∀ a ∈ spellings p, ∀ b ∈ spellings r,
    ∀ (d : List HM), dictGetItem d a b = dictGetItem d (.member p.1) (.member r.1) :=
  fun p hp r hr a ha b hb d => (access_congr (transformKey_spelling p hp r hr a ha b hb) d).2.2.1

/-- `key in reg`: the spelling of the key is irrelevant -/
theorem contains_spelling_irrelevant : ∀ p ∈ Gen.frameID, ∀ r ∈ Gen.frameID, ∀ a ∈ spellings p, ∀ b ∈ spellings r,
    ∀ (d : List HM), dictContains d a b = .ok (lookup d (p.1, r.1)).isSome :=
  fun p hp r hr a ha b hb d =>
    (access_congr (a' := .member p.1) (b' := .member r.1) (transformKey_spelling p hp r hr a ha b hb) d).2.2.2

/-- `reg[key]` is `reg.get(key)` with `KeyError` in place of `None`, for every key (unknown names included) -/
theorem getitem_eq_get (d : List HM) (ks kd : Arg) :
    dictGetItem d ks kd = (dictGet d ks kd).bind (fun o => match o with | some m => .ok m | none => .error "KeyError") := by
  unfold dictGetItem dictGet
  cases transformKey ks kd <;> rfl

/-- `key in reg` says whether `reg.get(key)` finds something -/
theorem contains_eq_get (d : List HM) (ks kd : Arg) :
    dictContains d ks kd = (dictGet d ks kd).map Option.isSome := by
  unfold dictContains dictGet
  cases transformKey ks kd <;> rfl

/-- a name that is no frame is rejected by every path before anything is looked up -/
theorem get_unknown_name (d : List HM) (s : String) (kd : Arg) (h : s.toLower ∉ values Gen.frameID) :
    dictGet d (.str s) kd = .error "ValueError" ∧ dictGetItem d (.str s) kd = .error "ValueError" ∧
    dictContains d (.str s) kd = .error "ValueError" := by
  simp only [dictGet, dictGetItem, dictContains, transformKey_unknown h]
  exact ⟨rfl, rfl, rfl⟩

/-- `transform` answers X-to-Y (X ≠ Y) from what `get` finds under the same key: the matrix itself … -/
theorem transform_of_get_direct (d : List HM) (ks kd : Arg) (s t : String) (m : HM) (x : TArg)
    (hk : transformKey ks kd = .ok (s, t)) (hne : s ≠ t) (hg : dictGet d ks kd = .ok (some m)) :
    dictTransform d ks kd x = m.transform x := by
  rw [dictGet_key hk] at hg
  exact lookup_direct d ks kd s t m x hk hne (Except.ok.inj hg)

/-- … or, when `get` finds nothing, the inverse of what `get` finds under the reversed key -/
theorem transform_of_get_reverse (d : List HM) (ks kd : Arg) (s t : String) (m : HM) (x : TArg)
    (hk : transformKey ks kd = .ok (s, t)) (hne : s ≠ t) (hg : dictGet d ks kd = .ok none)
    (hr : dictGet d kd ks = .ok (some m)) :
    dictTransform d ks kd x = (inv m).transform x := by
  have hk' : transformKey kd ks = .ok (t, s) := transformKey_ok_iff.2 (transformKey_ok_iff.1 hk).symm
  rw [dictGet_key hk] at hg
  rw [dictGet_key hk'] at hr
  exact lookup_inverse d ks kd s t m x hk hne (Except.ok.inj hg) (Except.ok.inj hr)

/-- after `reg[m.key] = m`, `get` under `m`'s key (any spelling) finds `m`; other keys are unaffected -/
theorem get_after_set (d : List HM) (m : HM) (ks kd : Arg) (k : String × String)
    (hk : transformKey ks kd = .ok k) :
    dictGet (dictSet d m) ks kd = .ok (if m.key = k then some m else lookup d k) := by
  rw [dictGet_key hk, lookup_set]

/-- after `del reg[k']`, `get` under `k'` (any spelling) finds nothing; other keys are unaffected -/
theorem get_after_del (d : List HM) (ks kd : Arg) (k k' : String × String)
    (hk : transformKey ks kd = .ok k) :
    dictGet (dictErase d k') ks kd = .ok (if k = k' then none else lookup d k) := by
  rw [dictGet_key hk, lookup_erase]

/-- rotation by the unit quaternion (1, 2, 2, 4)/5 with a translation, base_link → map -/
def exA : HM := ⟨⟨1, -2, 1/2⟩, ⟨1/5, 2/5, 2/5, 4/5⟩, "BASE_LINK", "MAP"⟩
/-- rotation by −(2, 3, 6, 0)/7, cam_front → base_link -/
def exB : HM := ⟨⟨3, 0, -1/4⟩, ⟨-2/7, -3/7, -6/7, 0⟩, "CAM_FRONT", "BASE_LINK"⟩

example : exA.rot.normSq = 1 := by decide +kernel
example : exB.rot.normSq = 1 := by decide +kernel
example : exA.src = exB.dst := rfl
example : exB.src ≠ exA.dst := by decide +kernel
example : dot exB exA = .error "ValueError" := by decide +kernel
example : ∃ C, dot exA exB = .ok C ∧ C.src = "CAM_FRONT" ∧ C.dst = "MAP" := ⟨_, rfl, rfl, rfl⟩
example : transformPos exA ⟨1, 0, 0⟩ ≠ ⟨1, 0, 0⟩ := by decide +kernel
example : transformKey (.str "MAP") (.str "map") = .ok ("MAP", "MAP") := by decide +kernel
example : ("MAP", "map") ∈ Gen.frameID := by decide +kernel
example : lookup [exA, exB] ("BASE_LINK", "MAP") = some exA := by decide +kernel
example : lookup [exA, exB] ("MAP", "BASE_LINK") = none := by decide +kernel
example : dictTransform [exA, exB] (.str "map") (.str "BASE_LINK") (.pos ⟨1, 0, 0⟩)
    = (inv exA).transform (.pos ⟨1, 0, 0⟩) := by decide +kernel
example : dictTransform [exA, exB] (.str "map") (.member "CAM_FRONT") (.pos ⟨1, 0, 0⟩) = .error "KeyError" := by
  decide +kernel
/-- a second base_link → map (the ego pose of the next frame) -/
def exA' : HM := ⟨⟨5, 3, 1⟩, ⟨0, 3/5, 4/5, 0⟩, "BASE_LINK", "MAP"⟩
example : exA'.key = ("BASE_LINK", "MAP") ∧ exA' ≠ exA := by decide +kernel
example : lookup [exA] ("MAP", "BASE_LINK") = none := by decide +kernel
example : dictTransform (dictSet [exA] exA') (.str "map") (.str "base_link") (.pos ⟨1, 0, 0⟩)
    = (inv exA').transform (.pos ⟨1, 0, 0⟩) := by decide +kernel
example : (inv exA').transform (.pos ⟨1, 0, 0⟩) ≠ (inv exA).transform (.pos ⟨1, 0, 0⟩) := by decide +kernel
example : dictDel [exA, exB] ("BASE_LINK", "MAP") = .ok [exB] := by decide +kernel
example : dictDel [exB] ("BASE_LINK", "MAP") = .error "KeyError" := by decide +kernel
example : dictTransform (dictErase [exA, exB] ("BASE_LINK", "MAP")) (.str "map") (.str "base_link") (.pos ⟨1, 0, 0⟩)
    = .error "KeyError" := by decide +kernel
example : dictGet [exA, exB] (.str "BASE_LINK") (.str "MAP") = .ok (some exA) := by decide +kernel
example : dictGet [exA, exB] (.member "MAP") (.str "base_link") = .ok none := by decide +kernel
example : dictGetItem [exA, exB] (.str "Map") (.str "base_link") = .error "KeyError" := by decide +kernel
example : dictGetItem [exA, exB] (.str "CAM_FRONT") (.member "BASE_LINK") = .ok exB := by decide +kernel
example : dictContains [exA, exB] (.str "CAM_FRONT") (.member "BASE_LINK") = .ok true := by decide +kernel
example : dictGet [exA] (.str "bogus") (.str "map") = .error "ValueError" := by decide +kernel
example : (TArg.pos ⟨1, 0, 0⟩).malformed = none := rfl
example : ("bogus" : String).toLower ∉ values Gen.frameID := by decide +kernel

/-! # Matrix input and the re-extracted quaternion: orientation results up to sign

`PEval.Model.TransformMatrix`.  Python determines an orientation result of `dot`, `inv`, `transform(position, rotation)`,
`from_matrix` and of a constructor fed with a rotation matrix only up to the sign of the quaternion (`Quaternion(matrix=R)`).
`q.SignEq q'` is that relation; for unit quaternions it is the same as `rotMat q = rotMat q'` (`rotMat_eq_iff`), which is
what the harness compares.  `ExtractOK ex` is the contract of the extraction (ONE named hypothesis; pyquaternion is in the
trusted base) and every call site below takes its own extraction function.  Exact equality is kept where the code keeps
the quaternion it was given (`mk_spelling`: constructor with a quaternion; `lookup_identity`: X-to-X returns the input
object; `get`/`[]`: the registered object). -/

/-- equality up to sign is an equivalence relation, compatible with product and conjugate, and preserves the norm -/
theorem signEq_equivalence :
    (∀ q : Quat, q.SignEq q) ∧ (∀ p q : Quat, p.SignEq q → q.SignEq p) ∧
    (∀ p q r : Quat, p.SignEq q → q.SignEq r → p.SignEq r) ∧ (∀ q : Quat, (-q).SignEq q) ∧
    (∀ p p' q q' : Quat, p.SignEq p' → q.SignEq q' → (p * q).SignEq (p' * q')) ∧
    (∀ p q : Quat, p.SignEq q → p.conj.SignEq q.conj) ∧ (∀ p q : Quat, p.SignEq q → p.normSq = q.normSq) :=
  ⟨Quat.SignEq.refl, fun _ _ h => h.symm, fun _ _ _ h1 h2 => h1.trans h2, fun _ => Or.inr rfl,
    fun _ _ _ _ h1 h2 => h1.mul h2, fun _ _ h => h.conj, fun _ _ h => h.normSq⟩

/-- `rotation_matrix(q) = rotation_matrix(q')` exactly when `q' = ±q` (unit quaternions): the class `{q, −q}` IS the rotation -/
theorem rotMat_eq_iff {p q : Quat} (hp : p.normSq = 1) (hq : q.normSq = 1) : rotMat p = rotMat q ↔ p.SignEq q :=
  ⟨fun h => (signEq_iff_contract hq).2 ⟨hp, h⟩, Quat.SignEq.rotMat_eq⟩

/-- matrix input: whatever representative the matrix was written down from, the extraction returns one of `q`, `−q` -/
theorem extract_returns_representative {ex : Mat3 → Quat} (hex : ExtractOK ex) {q : Quat} (hq : q.normSq = 1) :
    (ex (rotMat q)).SignEq q ∧ (ex (rotMat (-q))).SignEq q ∧ (ex (rotMat q)).normSq = 1 := by
  refine ⟨hex.signEq hq, ?_, (hex q hq).1⟩
  rw [Transform.rotMat_neg]; exact hex.signEq hq

/-- `HomogeneousMatrix(position, R(q), src, dst)`: the matrix is the one of `(position, q)`, the quaternion is `±q` -/
theorem ofMat3_signEq {ex : Mat3 → Quat} (hex : ExtractOK ex) (pos : V3) {q : Quat} (hq : q.normSq = 1) (s d : String) :
    (HM.ofMat3 ex pos (rotMat q) s d).SignEq ⟨pos, q, s, d⟩ ∧ toMat (HM.ofMat3 ex pos (rotMat q) s d) = matOf pos q :=
  ⟨⟨rfl, hex.signEq hq, rfl, rfl⟩, matOf_congr pos (hex q hq).2⟩

/-- `HomogeneousMatrix.from_matrix(M, src, dst)` for the 4×4 matrix of `(position, q)` -/
theorem fromMatrix_signEq {ex : Mat3 → Quat} (hex : ExtractOK ex) (pos : V3) {q : Quat} (hq : q.normSq = 1) (s d : String) :
    (HM.fromMatrix ex (matOf pos q) s d).SignEq ⟨pos, q, s, d⟩ ∧ toMat (HM.fromMatrix ex (matOf pos q) s d) = matOf pos q :=
  ofMat3_signEq hex pos hq s d

/-- `dot` as the code computes it (matrix product, then extraction) is rejected in the same cases … -/
theorem dotX_mismatch_error (ex : Mat3 → Quat) (B A : HM) (h : B.src ≠ A.dst) : dotX ex B A = .error "ValueError" :=
  if_pos h

theorem dotX_ok_iff (ex : Mat3 → Quat) (B A : HM) : (∃ C, dotX ex B A = .ok C) ↔ B.src = A.dst := by
  by_cases h : B.src = A.dst
  · exact ⟨fun _ => h, fun _ => ⟨_, dotX_of_eq ex h⟩⟩
  · simp [dotX_mismatch_error ex B A h, h]

/-- … and otherwise returns the model's composite up to the sign of the quaternion, with the same `.matrix` -/
theorem dotX_refines {ex : Mat3 → Quat} (hex : ExtractOK ex) (B A C : HM) (hB : B.rot.normSq = 1) (hA : A.rot.normSq = 1)
    (h : dot B A = .ok C) : ∃ C', dotX ex B A = .ok C' ∧ C'.SignEq C ∧ C'.rot.normSq = 1 ∧ toMat C' = toMat C := by
  obtain ⟨hsrc, rfl⟩ := dot_ok_inv h
  have hu := Quat.normSq_mul_unit hB hA
  exact ⟨_, dotX_of_eq ex hsrc, ⟨rfl, hex.signEq hu, rfl, rfl⟩, (hex _ hu).1, toMat_congr rfl (hex _ hu).2⟩

/-- `inv` as the code computes it -/
theorem invX_signEq {ex : Mat3 → Quat} (hex : ExtractOK ex) (A : HM) (hA : A.rot.normSq = 1) :
    (invX ex A).SignEq (inv A) ∧ (invX ex A).rot.normSq = 1 ∧ toMat (invX ex A) = toMat (inv A) := by
  have hu : A.rot.conj.normSq = 1 := (Quat.normSq_conj _).trans hA
  exact ⟨invX_refines hex (HM.SignEq.refl A) hA, (hex _ hu).1, toMat_congr rfl (hex _ hu).2⟩

/-- `transform(position, rotation)` as the code computes it: the model's pose up to the sign of the quaternion -/
theorem transformPoseX_poseEq {ex : Mat3 → Quat} (hex : ExtractOK ex) (A : HM) (hA : A.rot.normSq = 1) (p : V3) (r : Quat)
    (hr : r.normSq = 1) :
    PoseEq (transformPoseX ex A (p, r)) (transformPose A (p, r)) ∧ (transformPoseX ex A (p, r)).2.normSq = 1 ∧
      rotMat (transformPoseX ex A (p, r)).2 = rotMat (transformPose A (p, r)).2 := by
  have hu := Quat.normSq_mul_unit hA hr
  rw [transformPoseX_eq]
  exact ⟨⟨rfl, hex.signEq hu⟩, (hex _ hu).1, (hex _ hu).2⟩

/-- … also when the rotation of the pose is handed over as a 3×3 array -/
theorem transformPoseMatX_poseEq {ex : Mat3 → Quat} (hex : ExtractOK ex) (A : HM) (hA : A.rot.normSq = 1) (p : V3) (r : Quat)
    (hr : r.normSq = 1) : PoseEq (transformPoseMatX ex A p (rotMat r)) (transformPose A (p, r)) :=
  (transformPoseX_poseEq hex A hA p r hr).1

/-- the results do not see which representative an input was written with (they are functions of the 4×4 matrices) -/
theorem X_sign_blind (ex : Mat3 → Quat) {A A' B B' : HM} {r r' : Quat} (p : V3) (hA : A.SignEq A') (hB : B.SignEq B')
    (hr : r.SignEq r') :
    transformPoseX ex A (p, r) = transformPoseX ex A' (p, r') ∧ dotX ex B A = dotX ex B' A' ∧ invX ex A = invX ex A' :=
  ⟨transformPoseX_congr ex hA p hr, dotX_congr ex hB hA, invX_congr ex hA⟩

/-- transforming a pose agrees with multiplying the homogeneous matrices — exactly, as matrices -/
theorem transform_eq_matmul_X {ex : Mat3 → Quat} (hex : ExtractOK ex) (A : HM) (hA : A.rot.normSq = 1) (p : V3) (r : Quat)
    (hr : r.normSq = 1) :
    matOf (transformPoseX ex A (p, r)).1 (transformPoseX ex A (p, r)).2 = matMul (toMat A) (matOf p r) := by
  have h := transformPoseX_poseEq hex A hA p r hr
  rw [h.1.1, matOf_congr _ h.2.2]
  exact transform_eq_matmul A p r

/-- transform, then the inverse transform — three independent extractions: the original position, the original
orientation up to sign -/
theorem inv_transform_X {ex1 ex2 ex3 : Mat3 → Quat} (h1 : ExtractOK ex1) (h2 : ExtractOK ex2) (h3 : ExtractOK ex3)
    (A : HM) (hA : A.rot.normSq = 1) (p : V3) (r : Quat) (hr : r.normSq = 1) :
    PoseEq (transformPoseX ex3 (invX ex2 A) (transformPoseX ex1 A (p, r))) (p, r) := by
  have t1 := transformPoseX_refines h1 (HM.SignEq.refl A) hA (PoseEq.refl (p, r)) hr
  have t3 := transformPoseX_refines h3 (invX_signEq h2 A hA).1 (inv_unit A hA) t1 (Quat.normSq_mul_unit hA hr)
  rwa [inv_transform A hA p r] at t3

/-- the inverse transform, then the transform -/
theorem transform_inv_X {ex1 ex2 ex3 : Mat3 → Quat} (h1 : ExtractOK ex1) (h2 : ExtractOK ex2) (h3 : ExtractOK ex3)
    (A : HM) (hA : A.rot.normSq = 1) (p : V3) (r : Quat) (hr : r.normSq = 1) :
    PoseEq (transformPoseX ex3 A (transformPoseX ex2 (invX ex1 A) (p, r))) (p, r) := by
  have t2 := transformPoseX_refines h2 (invX_signEq h1 A hA).1 (inv_unit A hA) (PoseEq.refl (p, r)) hr
  have t3 := transformPoseX_refines h3 (HM.SignEq.refl A) hA t2 (Quat.normSq_mul_unit (inv_unit A hA) hr)
  rwa [transform_inv A hA p r] at t3

/-- inverting twice gives the matrix back, the quaternion up to sign -/
theorem inv_inv_X {ex1 ex2 : Mat3 → Quat} (h1 : ExtractOK ex1) (h2 : ExtractOK ex2) (A : HM) (hA : A.rot.normSq = 1) :
    (invX ex2 (invX ex1 A)).SignEq A := by
  have := invX_refines h2 (invX_signEq h1 A hA).1 (inv_unit A hA)
  rwa [inv_inv A hA] at this

/-- composing A-to-B with B-to-C exists, is labelled A-to-C, stays rigid, and transforms like the two steps — each of the four
calls with its own extraction; orientations up to sign -/
theorem dot_two_steps_X {ex1 ex2 ex3 ex4 : Mat3 → Quat} (h1 : ExtractOK ex1) (h2 : ExtractOK ex2) (h3 : ExtractOK ex3)
    (h4 : ExtractOK ex4) (B A : HM) (hB : B.rot.normSq = 1) (hA : A.rot.normSq = 1) (h : B.src = A.dst) :
    ∃ C, dotX ex1 B A = .ok C ∧ C.src = A.src ∧ C.dst = B.dst ∧ C.rot.normSq = 1 ∧
      ∀ p r, r.normSq = 1 →
        PoseEq (transformPoseX ex2 C (p, r)) (transformPoseX ex3 B (transformPoseX ex4 A (p, r))) := by
  obtain ⟨C, hC, hCs, hCu, _⟩ := dotX_refines h1 B A _ hB hA (dot_of_eq h)
  refine ⟨C, hC, hCs.2.2.1, hCs.2.2.2, hCu, fun p r hr => ?_⟩
  have tL := transformPoseX_refines h2 hCs (Quat.normSq_mul_unit hB hA) (PoseEq.refl (p, r)) hr
  have t4 := transformPoseX_refines h4 (HM.SignEq.refl A) hA (PoseEq.refl (p, r)) hr
  have tR := transformPoseX_refines h3 (HM.SignEq.refl B) hB t4 (Quat.normSq_mul_unit hA hr)
  rw [transformPose_comp] at tL
  exact tL.trans tR.symm

/-! ### `transform` and the registry as the code computes them: the model's answer up to the sign of the quaternion -/

theorem TArg.SignEq.malformed {x x' : TArg} (h : x.SignEq x') : x.malformed = x'.malformed := by
  -- positions, poses and matrices are well-formed; every other form is related to itself only
  revert h
  fun_cases TArg.SignEq x x' with
  | case4 => exact congrArg _
  | _ => exact fun _ => rfl

/-- `HomogeneousMatrix.transform` with any argument form: same exception, or the model's result up to sign; the matrix and the
argument may be given by any representative -/
theorem transformX_refines {ex : Mat3 → Quat} (hex : ExtractOK ex) {a a' : HM} (ha : a.SignEq a') (hu : a'.rot.normSq = 1)
    {x x' : TArg} (hx : x.SignEq x') (hr : x'.Rigid) : ResSignEq (a.transformX ex x) (a'.transform x') := by
  -- `x.SignEq x'` is `x = x'` unless both are poses or both are matrices: the 42 pairs of different forms go by `cases hx`
  cases x <;> cases x' <;> try (cases hx; done)
  case pos.pos p p' =>
    cases (hx : p = p')
    show transformPos a p = transformPos a' p
    simp only [transformPos, rotate, ha.2.1.rotMat_eq, ha.1]
  case pose.pose p r p' r' =>
    exact transformPoseX_refines hex ha hu (hx : PoseEq (p, r) (p', r')) hr
  case mat.mat m m' =>
    show ResSignEq ((dotX ex m a).map .mat) ((dot m' a').map .mat)
    rw [dotX_congr ex hx ha]
    by_cases hs : m'.src = a'.dst
    · rw [dotX_of_eq ex hs, dot_of_eq hs]
      exact ⟨rfl, hex.signEq (Quat.normSq_mul_unit hr hu), rfl, rfl⟩
    · rw [dotX_mismatch_error ex m' a' hs, dot_mismatch_error m' a' hs]
      exact rfl
  -- the malformed calls raise the same exception on both sides
  case noArgs.noArgs => exact rfl
  case tooMany.tooMany => exact rfl
  case unknownKw.unknownKw => exact rfl
  case posAndMat.posAndMat => exact rfl

/-- `TransformDict.transform` as the code computes it (`inv()` and `transform` each with their own extraction) gives the model's
answer — identity, registered matrix, inverse of the reverse entry, `KeyError`, `ValueError` — up to the sign of the quaternion,
for every registry of rigid motions, every key spelling and every argument form -/
theorem dictTransformX_refines {exI exT : Mat3 → Quat} (hI : ExtractOK exI) (hT : ExtractOK exT) (d : List HM)
    (hd : ∀ m ∈ d, m.rot.normSq = 1) (ks kd : Arg) {x x' : TArg} (hx : x.SignEq x') (hr : x'.Rigid) :
    ResSignEq (dictTransformX exI exT d ks kd x) (dictTransform d ks kd x') := by
  unfold dictTransformX dictTransform
  cases transformKey ks kd with
  | error e => exact rfl
  | ok k =>
    show ResSignEq (if k.1 = k.2 then _ else _) (if k.1 = k.2 then _ else _)
    split_ifs
    · rw [TArg.SignEq.malformed hx]
      cases x'.malformed with
      | some e => exact rfl
      | none => exact hx
    · cases h1 : lookup d (k.1, k.2) with
      | some m => exact transformX_refines hT (HM.SignEq.refl m) (hd m (lookup_sound d _ m h1).1) hx hr
      | none =>
        cases h2 : lookup d (k.2, k.1) with
        | some m =>
          have hu := hd m (lookup_sound d _ m h2).1
          exact transformX_refines hT (invX_signEq hI m hu).1 (inv_unit m hu) hx hr
        | none => exact rfl

/-- registry round trip as the code computes it: X-to-Y, then Y-to-X on what came back (four independent extractions) returns
the original position and the original orientation up to sign -/
theorem registry_roundtrip_X {eI1 eT1 eI2 eT2 : Mat3 → Quat} (h1 : ExtractOK eI1) (h2 : ExtractOK eT1) (h3 : ExtractOK eI2)
    (h4 : ExtractOK eT2) (d : List HM) (hd : ∀ m ∈ d, m.rot.normSq = 1) (s t : String) (m : HM) (p : V3) (r : Quat)
    (hr : r.normSq = 1) (hne : s ≠ t) (hm : lookup d (s, t) = some m) (hnone : lookup d (t, s) = none) :
    ∃ y, dictTransformX eI1 eT1 d (.member s) (.member t) (.pose p r) = .ok y ∧
      ∃ z, dictTransformX eI2 eT2 d (.member t) (.member s) y = .ok z ∧ z.SignEq (.pose p r) := by
  have hu := hd m (lookup_sound d _ m hm).1
  obtain ⟨e1, e2⟩ := registry_roundtrip_values d s t m p r hne hm hnone hu
  have r1 := dictTransformX_refines h1 h2 d hd (.member s) (.member t) (x := .pose p r) (x' := .pose p r)
    ⟨rfl, Quat.SignEq.refl r⟩ hr
  rw [e1] at r1
  obtain ⟨y, hy, hys⟩ := ResSignEq.ok_right r1
  have r2 := dictTransformX_refines h3 h4 d hd (.member t) (.member s) hys (Quat.normSq_mul_unit hu hr : TArg.Rigid (.pose _ _))
  rw [e2] at r2
  exact ⟨y, hy, ResSignEq.ok_right r2⟩

/-! ### the contract is satisfiable: pyquaternion's own `trace_method`, with an exact rational square root -/

theorem ratSqrt_exact : ∀ a : Rat, 0 ≤ a → Rat.sqrt (a * a) = a := Transform.ratSqrt_exact

/-- `trace_method` over `ℚ` (all four branches) satisfies `ExtractOK` -/
theorem extractTrace_contract : ExtractOK (extractTrace Rat.sqrt) := extractTrace_ok ratSqrt_exact

/-- … and returns `q` or `−q` for every rational unit quaternion `q` -/
theorem extractTrace_representative {q : Quat} (hq : q.normSq = 1) : (extractTrace Rat.sqrt (rotMat q)).SignEq q :=
  extractTrace_signEq ratSqrt_exact hq

/-! ### seed C18_G: the closed form `w = √(1 + tr)/2, (x, y, z) = antisymmetric part / 4w` fails the contract exactly on half turns -/

theorem extractG_ok_iff {q : Quat} (hq : q.normSq = 1) :
    ((extractG Rat.sqrt (rotMat q)).normSq = 1 ∧ rotMat (extractG Rat.sqrt (rotMat q)) = rotMat q) ↔ q.w ≠ 0 := by
  constructor
  · rintro ⟨hn, _⟩ hw
    rw [extractG_half_turn ratSqrt_exact hq hw] at hn
    simp [Quat.normSq] at hn
  · exact fun hw => (signEq_iff_contract hq).1 (extractG_signEq ratSqrt_exact hq hw)

/-- witness: the half turn about z (yaw π, quaternion `(0, 0, 0, 1)`) -/
theorem extractG_not_ok : ¬ ExtractOK (extractG Rat.sqrt) := by
  intro h
  have hq : (⟨0, 0, 0, 1⟩ : Quat).normSq = 1 := by decide +kernel
  exact ((extractG_ok_iff hq).1 (h _ hq)) rfl

/-- with the closed form in place of the extraction, `inv()` of an ego pose with yaw π no longer returns the inverse rotation:
the statement of `invX_signEq` FAILS for the defective variant -/
theorem invX_G_breaks :
    let A : HM := ⟨⟨1, 2, 0⟩, ⟨0, 0, 0, 1⟩, "BASE_LINK", "MAP"⟩
    A.rot.normSq = 1 ∧ ¬ (invX (extractG Rat.sqrt) A).SignEq (inv A) ∧ (invX (extractG Rat.sqrt) A).rot.normSq ≠ 1 := by
  intro A
  have hq : A.rot.conj.normSq = 1 := by decide +kernel
  have h3 : (invX (extractG Rat.sqrt) A).rot.normSq ≠ 1 := by
    rw [show (invX (extractG Rat.sqrt) A).rot = ⟨0, 0, 0, 0⟩ from extractG_half_turn ratSqrt_exact hq rfl]
    decide +kernel
  exact ⟨by decide +kernel, fun h => h3 (h.2.1.normSq.trans hq), h3⟩

/-! # A matrix stored under a key that is not its own label

`reg[key] = value` does not compare `key` with `value.src/dst`.  `KReg` keeps key and matrix apart; on registries built by the
constructor it is `dictTransform` (`kTransform_ofList`), and after `reg[k] = m` the key `k` is answered with `m` —
whose own labels play no part — and the reversed key with `inv m`. -/

/-- on a registry built by the constructor every matrix sits under its own label: `KReg` answers as the list model does -/
theorem kTransform_ofList (d : List HM) (ks kd : Arg) (x : TArg) :
    kTransform (KReg.ofList d) ks kd x = dictTransform d ks kd x := by
  simp only [kTransform, dictTransform, lookupK_ofList]
  rfl

/-- after `reg[k] = m` the key `k` is answered with `m`, whatever `m`'s labels -/
theorem kTransform_after_set (d : KReg) (k : String × String) (m : HM) (ks kd : Arg) (x : TArg)
    (hk : transformKey ks kd = .ok k) (hne : k.1 ≠ k.2) : kTransform (kSet d k m) ks kd x = m.transform x := by
  simp only [kTransform, hk, bind, Except.bind, hne, if_false, lookupK_set, if_true]

/-- … and the reversed key, when nothing is stored under it, with `inv m` -/
theorem kTransform_after_set_reverse (d : KReg) (s t : String) (m : HM) (ks kd : Arg) (x : TArg)
    (hk : transformKey ks kd = .ok (s, t)) (hne : s ≠ t) (hnone : lookupK d (s, t) = none) :
    kTransform (kSet d (t, s) m) ks kd x = (inv m).transform x := by
  simp only [kTransform, hk, bind, Except.bind, hne, if_false, lookupK_set, if_neg (swap_ne (Ne.symm hne)), hnone, if_true]

/-- the contract's hypotheses and conclusions on concrete 3-D rational unit quaternions, both signs; on these four
`trace_method` takes the branches with pivot z, y, y, x -/
example : (⟨1/5, 2/5, 2/5, 4/5⟩ : Quat).normSq = 1 ∧ (⟨-2/7, -3/7, -6/7, 0⟩ : Quat).normSq = 1 ∧
    (⟨0, 3/5, 4/5, 0⟩ : Quat).normSq = 1 ∧ (⟨2/3, -2/3, 1/3, 0⟩ : Quat).normSq = 1 := by decide +kernel
example : (⟨0, 0, 0, 1⟩ : Quat).SignEq ⟨0, 0, 0, -1⟩ ∧ ¬ (⟨0, 0, 0, 1⟩ : Quat).SignEq ⟨0, 0, 1, 0⟩ ∧
    rotMat ⟨0, 0, 0, 1⟩ = rotMat ⟨0, 0, 0, -1⟩ := by decide +kernel
/-- `trace_method` evaluated: pivot y with y < 0 (sign flipped), pivot z, pivot z with z < 0 (sign flipped), pivot y -/
example : extractTrace Rat.sqrt (rotMat ⟨-2/7, -3/7, -6/7, 0⟩) = ⟨2/7, 3/7, 6/7, 0⟩ ∧
    extractTrace Rat.sqrt (rotMat ⟨1/5, 2/5, 2/5, 4/5⟩) = ⟨1/5, 2/5, 2/5, 4/5⟩ ∧
    extractTrace Rat.sqrt (rotMat ⟨0, 0, 0, -1⟩) = ⟨0, 0, 0, 1⟩ ∧
    extractTrace Rat.sqrt (rotMat ⟨0, -3/5, 4/5, 0⟩) = ⟨0, -3/5, 4/5, 0⟩ := by decide +kernel
/-- the code-level registry on a concrete case: inverse fallback with a negative-w pose; sign-equal, NOT equal -/
example : ResSignEq (dictTransformX (extractTrace Rat.sqrt) (extractTrace Rat.sqrt) [exA, exB] (.str "map") (.str "base_link")
      (.pose ⟨1, 0, 0⟩ exB.rot))
    (dictTransform [exA, exB] (.str "map") (.str "base_link") (.pose ⟨1, 0, 0⟩ exB.rot)) ∧
    dictTransformX (extractTrace Rat.sqrt) (extractTrace Rat.sqrt) [exA, exB] (.str "map") (.str "base_link")
      (.pose ⟨1, 0, 0⟩ exB.rot) ≠ dictTransform [exA, exB] (.str "map") (.str "base_link") (.pose ⟨1, 0, 0⟩ exB.rot) ∧
    (TArg.pose ⟨1, 0, 0⟩ exB.rot).Rigid := by decide +kernel
/-- the defective closed form on the same registry with a yaw-π ego pose: not even sign-equal -/
example : ¬ ResSignEq (dictTransformX (extractG Rat.sqrt) (extractG Rat.sqrt)
      [⟨⟨1, 2, 0⟩, ⟨0, 0, 0, 1⟩, "BASE_LINK", "MAP"⟩] (.str "map") (.str "base_link") (.pose ⟨1, 0, 0⟩ ⟨1, 0, 0, 0⟩))
    (dictTransform [⟨⟨1, 2, 0⟩, ⟨0, 0, 0, 1⟩, "BASE_LINK", "MAP"⟩] (.str "map") (.str "base_link")
      (.pose ⟨1, 0, 0⟩ ⟨1, 0, 0, 0⟩)) := by decide +kernel
/-- three steps: cam → base_link → map → base_link → map -/
example : WellLabelled exB.dst [exA, inv exA, exA'] ∧ chainDst exB.dst [exA, inv exA, exA'] = "MAP" ∧
    ¬ WellLabelled exB.dst [exA, exA'] := by decide +kernel
example : ∃ C, [exA, inv exA, exA'].foldlM (fun acc m => dot m acc) exB = .ok C ∧ C.src = "CAM_FRONT" ∧ C.dst = "MAP" :=
  chain_ok exB _ (by decide +kernel)
example : ("Base_Link" : String).toLower = "base_link" ∧ ("BASE_LINK", "base_link") ∈ Gen.frameID ∧
    ("mAP" : String).toLower = "map" ∧ ("Map" : String).toLower = "map" := by decide +kernel
/-- a matrix labelled base_link → map stored under (map, cam_front): the key decides, not the label -/
example : kTransform (kSet (KReg.ofList [exB]) ("MAP", "CAM_FRONT") exA) (.str "map") (.str "cam_front") (.pos ⟨1, 0, 0⟩)
    = exA.transform (.pos ⟨1, 0, 0⟩) ∧ exA.key ≠ ("MAP", "CAM_FRONT") := by decide +kernel

end PEval.C18
