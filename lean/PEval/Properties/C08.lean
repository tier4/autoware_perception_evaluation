import PEval.Lemmas.APMono
import PEval.Lemmas.APExt
import PEval.Lemmas.APDict
import PEval.Lemmas.APPassFail
import PEval.Properties.KernelBetter
import PEval.Properties.KernelStatus
import PEval.Properties.C01
/-!
# C08 — Loosening a matching threshold never loses a TP and never lowers AP

Model: `PEval/Model/AP.lean` (`isBetterThan`, `isResultCorrect`, `getPositive`, `getNegative`, `apOf`,
`mapOf`). "Looser" is per mode: distance modes (center / plane distance) `t ≤ t'`, IoU modes `t' ≤ t`.
Every statement holds for all result lists of any length, all rational scores and thresholds.
A statement of the form "run(t) = ok x → run(t') = ok x' → …" covers exactly the runs in which the code
raises nothing (an IoU threshold outside [0,1] raises `AssertionError`, a too short threshold list
`IndexError`; `getLabelThreshold_rel` shows the two runs raise `IndexError` alike).

After the rational thresholds: the same statements with `float("inf")` among the thresholds (`EThr`), the same for the
code's decision tables of `is_result_correct` / `get_status`, then definedness of the looser
run, the pass/fail accounting and the composed pipeline, `ALLOW_ANY`, and the stored changes C08_J / C08_G as variants
for which the statements fail.  The pipeline statements are about `Pipeline.detectFrame`, whose first stage is the matcher:
`Properties.C01` is imported so that this module builds only when the matcher's table obligations (C01, `KernelCell`,
`KernelMatchable`) hold of the code as well.

Monotonicity of the interpolated AP needs no side condition on ranks: the ranking (descending
confidence, stable) does not depend on the threshold, so loosening only turns FP entries of a FIXED
ranking into TP entries (`classify_runs`), every cumulative TP sum, precision and recall grows
pointwise, and each term `(r_i − r_{i−1})·max_{j≥i} p_j` of the interpolated area grows (`apW_mono`).
-/

namespace PEval.C08
open PEval.AP

/-! ## direction per mode -/

theorem looser_distance (t t' : Rat) :
    (looser .centerDistance t t' ↔ t ≤ t') ∧ (looser .planeDistance t t' ↔ t ≤ t') := by
  simp [looser, Mode.isDistance]

theorem looser_iou (t t' : Rat) :
    (looser .iou2d t t' ↔ t' ≤ t) ∧ (looser .iou3d t t' ↔ t' ≤ t) := by
  simp [looser, Mode.isDistance]

/-- a matching score that beats a threshold beats every looser one (strict comparisons both) -/
theorem isBetter_mono (m : Mode) (v t t' : Rat) (hl : looser m t t') (h : isBetter m v t = true) :
    isBetter m v t' = true := AP.isBetter_mono hl h

/-! ## a TP stays a TP -/

/-- ordinary (non false-positive-labelled) ground truth: correct at `t` ⇒ correct at every looser
valid `t'` -/
theorem isResultCorrect_mono (m : Mode) (r : Res) (t t' : Rat)
    (hord : ∀ g, r.gt = some g → g.label ≠ fpLabel) (hl : looser m t t') (hv : thrValid m t' = true)
    (h : isResultCorrect m (some t) r = .ok true) : isResultCorrect m (some t') r = .ok true := by
  obtain ⟨b, h'⟩ := isResultCorrect_total (m := m) (some t') r fun _ h => Option.some.inj h ▸ hv
  rw [h', isResultCorrect_mono_opt (o := some t) (o' := some t') hord hl h h']

/-- the same without the validity hypothesis: if the second run returns at all, it returns "correct" -/
theorem isResultCorrect_mono_of_ok (m : Mode) (r : Res) (t t' : Rat)
    (hord : ∀ g, r.gt = some g → g.label ≠ fpLabel) (hl : looser m t t')
    (h : isResultCorrect m (some t) r = .ok true) (b : Bool)
    (h' : isResultCorrect m (some t') r = .ok b) : b = true :=
  isResultCorrect_mono_opt (o := some t) (o' := some t') hord hl h h'

/-- excluded case, documented: for a false-positive-labelled ground truth the relation is reversed -/
theorem isResultCorrect_antitone_fp_label (m : Mode) (r : Res) (g : Gt) (t t' : Rat)
    (hg : r.gt = some g) (hfp : g.label = fpLabel) (hl : looser m t t')
    (h : isResultCorrect m (some t) r = .ok false) (b : Bool)
    (h' : isResultCorrect m (some t') r = .ok b) : b = false := by
  unfold isResultCorrect at h h'
  have he : (g.label == fpLabel) = true := by simp [hfp]
  simp only [hg] at h h'
  cases hs : r.score with
  | noMethod => simp only [hs, Except.ok.injEq] at h h'; rw [← h', h]
  | val v =>
    simp only [hs] at h h'
    cases hb : isBetterThan m v t with
    | error e => simp [hb] at h
    | ok b1 =>
      cases hb' : isBetterThan m v t' with
      | error e => simp [hb'] at h'
      | ok b2 =>
        simp only [hb, hb', he, if_true, Except.ok.injEq, Bool.not_eq_false'] at h h'
        have : b2 = true := isBetterThan_mono hl (by rw [hb, h]) hb'
        rw [← h', this]; rfl

/-- `get_positive_objects`: every TP under the tighter list is a TP under the looser list (as
sub-lists of estimate ids, order kept); the FP list only shrinks. No hypothesis on the ground-truth
labels is needed: an FP-labelled ground truth never yields a TP. -/
theorem tp_never_lost (m : Mode) (T : List Label) (th th' : List Rat)
    (hth : List.Forall₂ (looser m) th th') (rs : List Res) (p p' : List Nat × List Nat)
    (h : getPositive m T (some th) rs = .ok p) (h' : getPositive m T (some th') rs = .ok p') :
    p.1.Sublist p'.1 ∧ p'.2.Sublist p.2 := (getPositive_runs hth).rel h h'

theorem tp_count_mono (m : Mode) (T : List Label) (th th' : List Rat)
    (hth : List.Forall₂ (looser m) th th') (rs : List Res) (p p' : List Nat × List Nat)
    (h : getPositive m T (some th) rs = .ok p) (h' : getPositive m T (some th') rs = .ok p') :
    p.1.length ≤ p'.1.length := ((getPositive_runs hth).rel h h').1.length_le

/-- `get_negative_objects`: every FN under the looser list is an FN under the tighter one -/
theorem fn_count_antitone (m : Mode) (T : List Label) (th th' : List Rat)
    (hth : List.Forall₂ (looser m) th th') (gts : List Gt) (rs : List Res) (n n' : List Nat × List Nat)
    (h : getNegative m T (some th) gts rs = .ok n) (h' : getNegative m T (some th') gts rs = .ok n') :
    n'.2.Sublist n.2 ∧ n'.2.length ≤ n.2.length :=
  ⟨(getNegative_runs hth).rel h h', ((getNegative_runs hth).rel h h').length_le⟩

/-! ## AP, APH, mAP -/

/-- pointwise larger (non-negative) TP weights along a fixed ranking never lower the interpolated AP
and keep it defined -/
theorem apSpec_mono (G : Nat) (ks ks' : List Kind)
    (h : List.Forall₂ (fun k k' => 0 ≤ k.tpw ∧ k.tpw ≤ k'.tpw) ks ks') :
    optLe (apOfKinds G ks).ap (apOfKinds G ks').ap := apOfKinds_mono G h

theorem kind_same_or_fp_to_tp (tm : TpMetric) (m : Mode) (T : List Label) (th th' : List Rat) (r : Res)
    (hth : List.Forall₂ (looser m) th th')
    (hfp : fpLabel ∉ T ∨ ∀ g, r.gt = some g → g.label ≠ fpLabel) (hw : 0 ≤ r.hw) (k k' : Kind)
    (h1 : classify tm m T th r = .ok k) (h2 : classify tm m T th' r = .ok k') :
    (0 ≤ k.tpw ∧ k.tpw ≤ k'.tpw) ∧ (k' = k ∨ k = .fp ∧ k'.isTp = true) :=
  (classify_runs hth hfp (tpValue_nonneg hw)).rel h1 h2

/-- one result, two thresholds: FP may become TP, TP stays TP with the same weight, ignored stays
ignored (`kind_same_or_fp_to_tp`); here what the AP needs of it: no TP weight falls -/
theorem kind_mono_threshold (tm : TpMetric) (m : Mode) (T : List Label) (th th' : List Rat) (r : Res)
    (hth : List.Forall₂ (looser m) th th')
    (hfp : fpLabel ∉ T ∨ ∀ g, r.gt = some g → g.label ≠ fpLabel) (hw : 0 ≤ r.hw) (k k' : Kind)
    (h1 : classify tm m T th r = .ok k) (h2 : classify tm m T th' r = .ok k') :
    0 ≤ k.tpw ∧ k.tpw ≤ k'.tpw := (kind_same_or_fp_to_tp tm m T th th' r hth hfp hw k k' h1 h2).1

/-- `Ap(TPMetricsAp …)` of the same results under a looser threshold list is not smaller (and defined
iff it was). `hfp`: ordinary ground truth only, or the false-positive label is no target label. -/
theorem ap_mono_threshold (m : Mode) (T : List Label) (th th' : List Rat) (G : Nat) (rs : List Res)
    (hth : List.Forall₂ (looser m) th th')
    (hfp : fpLabel ∉ T ∨ ∀ r ∈ rs, ∀ g, r.gt = some g → g.label ≠ fpLabel) (a a' : ApOut)
    (h : apOf .ap m T th G rs = .ok a) (h' : apOf .ap m T th' G rs = .ok a') : optLe a.ap a'.ap :=
  -- the AP metric weighs every TP by the constant 1: no hypothesis on the heading weights
  (apOf_runs hth hfp fun _ _ => zero_le_one).rel h h'

/-- the same for APH (heading weights non-negative, as `TPMetricsAph` clamps them) -/
theorem aph_mono_threshold (m : Mode) (T : List Label) (th th' : List Rat) (G : Nat) (rs : List Res)
    (hth : List.Forall₂ (looser m) th th')
    (hfp : fpLabel ∉ T ∨ ∀ r ∈ rs, ∀ g, r.gt = some g → g.label ≠ fpLabel)
    (hw : ∀ r ∈ rs, 0 ≤ r.hw) (a a' : ApOut)
    (h : apOf .aph m T th G rs = .ok a) (h' : apOf .aph m T th' G rs = .ok a') : optLe a.ap a'.ap :=
  (apOf_runs hth hfp fun r hr => tpValue_nonneg (hw r hr)).rel h h'

/-- `Map` over the same per-label buckets under a looser threshold list: every per-label AP and APH,
mAP and mAPH are not smaller, and each is defined iff it was (the number of defined APs is unchanged).
Here and at the frame level `hfp` is the first alternative of `ap_mono_threshold`'s; with the false-positive label
among the targets and ordinary ground truths only: `AP.mapOf_runs`, `AP.frameMap_runs` -/
theorem map_mono_threshold (m : Mode) (is2d : Bool) (T : List Label) (th th' : List Rat)
    (buckets : List (Label × List (List Res))) (nums : List (Label × Nat))
    (hth : List.Forall₂ (looser m) th th') (hfp : fpLabel ∉ T)
    (hw : ∀ l rss, lookupKey l buckets = .ok rss → ∀ r ∈ rss.flatten, 0 ≤ r.hw) (o o' : MapOut)
    (h : mapOf m is2d T th buckets nums = .ok o) (h' : mapOf m is2d T th' buckets nums = .ok o') :
    optLe o.map o'.map ∧ optLe o.maph o'.maph
      ∧ List.Forall₂ (fun a a' => optLe a.ap a'.ap) o.aps o'.aps
      ∧ List.Forall₂ (fun a a' => optLe a.ap a'.ap) o.aphs o'.aphs :=
  (mapOf_runs hth (.inl hfp) hw).rel h h'

/-- frame level (`evaluate_frame`: `divide_objects` buckets of one result list): the same for the
whole frame evaluation, with hypotheses on the result list only -/
theorem frame_map_mono_threshold (m : Mode) (is2d : Bool) (T : List Label) (th th' : List Rat)
    (rs : List Res) (gtLabels : List Label) (hth : List.Forall₂ (looser m) th th')
    (hfp : fpLabel ∉ T) (hw : ∀ r ∈ rs, 0 ≤ r.hw) (o o' : MapOut)
    (h : frameMap m is2d T th rs gtLabels = .ok o) (h' : frameMap m is2d T th' rs gtLabels = .ok o') :
    optLe o.map o'.map ∧ optLe o.maph o'.maph
      ∧ List.Forall₂ (fun a a' => optLe a.ap a'.ap) o.aps o'.aps
      ∧ List.Forall₂ (fun a a' => optLe a.ap a'.ap) o.aphs o'.aphs :=
  (frameMap_runs hth (.inl hfp) hw).rel h h'

/-! ## thresholds at the ends of the scale: `float("inf")`

`EThr` (`PEval/Model/APExt.lean`) adds `float("inf")` to the threshold values: legal for the validators,
the loosest distance threshold, rejected by the IoU modes. `looserE` extends "looser" with `inf` on top
of the numbers (so for the IoU modes `inf` is the tightest, and invalid, value). The statements above
hold verbatim on `EThr`; on numbers the extended functions are the functions above (`ext_agrees_on_numbers`).
Method of every `_ext` proof: `exists_bound` gives a number `B` above 1, above every score and at least every finite
threshold at hand; reading `inf` as `B` (`…E_real`) turns the extended run into the rational one. -/

/-- `value < inf`: under the distance modes every matching score beats `inf` -/
theorem inf_is_loosest_distance (m : Mode) (hm : m.isDistance = true) (v : Rat) :
    isBetterThanE m (some v) .posInf = .ok true := by
  simp [isBetterThanE, thrValidE, isBetterE, hm]

/-- the IoU modes' assertion `0 ≤ t ≤ 1` rejects `inf` -/
theorem inf_rejected_by_iou (m : Mode) (hm : m.isDistance = false) (v : Option Rat) :
    isBetterThanE m v .posInf = .error "AssertionError" := by
  simp [isBetterThanE, thrValidE, hm]

/-- under a distance mode with threshold `inf` a paired result with an ordinary ground truth and a score
is correct exactly when its label is -/
theorem isResultCorrect_at_inf (m : Mode) (hm : m.isDistance = true) (r : Res) (g : Gt) (x : Rat)
    (hg : r.gt = some g) (hord : g.label ≠ fpLabel) (hs : r.score = .val (some x)) :
    isResultCorrectE m (some .posInf) r = .ok (isLabelCorrect r) := by
  have : (g.label == fpLabel) = false := by simpa using hord
  simp [isResultCorrectE, hg, hs, isBetterThanE, thrValidE, isBetterE, hm, this]

/-- every number is a looser distance threshold than no number: `t ≤ inf`; `inf` is looser only than itself -/
theorem looserE_inf (m : Mode) (hm : m.isDistance = true) (e : EThr) :
    looserE m e .posInf ∧ (looserE m .posInf e ↔ e = .posInf) := by
  unfold looserE
  cases e <;> simp [hm, EThr.le]

theorem looserE_numbers (m : Mode) (t t' : Rat) : looserE m (.fin t) (.fin t') ↔ looser m t t' := by
  unfold looserE looser
  cases m.isDistance <;> simp [EThr.le]

/-- on numbers the extended functions are the functions of the model -/
theorem ext_agrees_on_numbers (tm : TpMetric) (m : Mode) (is2d : Bool) (T : List Label) (th : List Rat)
    (G : Nat) (rs : List Res) (gts : List Gt) (buckets : List (Label × List (List Res)))
    (nums : List (Label × Nat)) :
    apOfE tm m T (th.map .fin) G rs = apOf tm m T th G rs
      ∧ mapOfE m is2d T (th.map .fin) buckets nums = mapOf m is2d T th buckets nums
      ∧ getPositiveE m T (some (th.map .fin)) rs = getPositive m T (some th) rs
      ∧ getNegativeE m T (some (th.map .fin)) gts rs = getNegative m T (some th) gts rs := by
  obtain ⟨B, hB, hs, _, _⟩ := exists_bound rs [] []
  refine ⟨apOfE_fin th G, mapOfE_fin is2d th buckets nums, ?_, ?_⟩
  · rw [getPositiveE_real _ hB hs, Option.map_some, map_real_fin]
  · rw [getNegativeE_real _ gts hB hs, Option.map_some, map_real_fin]

/-- a TP stays a TP, thresholds in `EThr` -/
theorem isResultCorrect_mono_ext (m : Mode) (r : Res) (t t' : EThr)
    (hord : ∀ g, r.gt = some g → g.label ≠ fpLabel) (hl : looserE m t t') (hv : thrValidE m t' = true)
    (h : isResultCorrectE m (some t) r = .ok true) : isResultCorrectE m (some t') r = .ok true := by
  obtain ⟨B, hB, hs, h1, h2⟩ := exists_bound [r] [t] [t']
  have hr := hs r (List.mem_singleton.2 rfl)
  rw [isResultCorrectE_real _ hB hr] at h ⊢
  refine isResultCorrect_mono m r _ _ hord
    (looserE_real hl (h1 t List.mem_cons_self) (h2 t' List.mem_cons_self)) ?_ h
  cases t' with
  | fin x => exact hv
  | posInf =>
    simp only [thrValidE] at hv
    simp [thrValid, hv]

theorem tp_never_lost_ext (m : Mode) (T : List Label) (th th' : List EThr)
    (hth : List.Forall₂ (looserE m) th th') (rs : List Res) (p p' : List Nat × List Nat)
    (h : getPositiveE m T (some th) rs = .ok p) (h' : getPositiveE m T (some th') rs = .ok p') :
    p.1.Sublist p'.1 ∧ p'.2.Sublist p.2 ∧ p.1.length ≤ p'.1.length := by
  obtain ⟨B, hB, hs, h1, h2⟩ := exists_bound rs th th'
  rw [getPositiveE_real _ hB hs] at h h'
  have := (getPositive_runs (forall₂_looserE_real hth h1 h2)).rel h h'
  exact ⟨this.1, this.2, this.1.length_le⟩

theorem fn_count_antitone_ext (m : Mode) (T : List Label) (th th' : List EThr)
    (hth : List.Forall₂ (looserE m) th th') (gts : List Gt) (rs : List Res) (n n' : List Nat × List Nat)
    (h : getNegativeE m T (some th) gts rs = .ok n) (h' : getNegativeE m T (some th') gts rs = .ok n') :
    n'.2.Sublist n.2 ∧ n'.2.length ≤ n.2.length := by
  obtain ⟨B, hB, hs, h1, h2⟩ := exists_bound rs th th'
  rw [getNegativeE_real _ gts hB hs] at h h'
  exact fn_count_antitone m T _ _ (forall₂_looserE_real hth h1 h2) gts rs n n' h h'

theorem ap_mono_threshold_ext (m : Mode) (T : List Label) (th th' : List EThr) (G : Nat) (rs : List Res)
    (hth : List.Forall₂ (looserE m) th th')
    (hfp : fpLabel ∉ T ∨ ∀ r ∈ rs, ∀ g, r.gt = some g → g.label ≠ fpLabel) (a a' : ApOut)
    (h : apOfE .ap m T th G rs = .ok a) (h' : apOfE .ap m T th' G rs = .ok a') : optLe a.ap a'.ap := by
  obtain ⟨B, hB, hs, h1, h2⟩ := exists_bound rs th th'
  rw [apOfE_real _ G hB hs] at h h'
  exact ap_mono_threshold m T _ _ G rs (forall₂_looserE_real hth h1 h2) hfp a a' h h'

theorem aph_mono_threshold_ext (m : Mode) (T : List Label) (th th' : List EThr) (G : Nat) (rs : List Res)
    (hth : List.Forall₂ (looserE m) th th')
    (hfp : fpLabel ∉ T ∨ ∀ r ∈ rs, ∀ g, r.gt = some g → g.label ≠ fpLabel)
    (hw : ∀ r ∈ rs, 0 ≤ r.hw) (a a' : ApOut)
    (h : apOfE .aph m T th G rs = .ok a) (h' : apOfE .aph m T th' G rs = .ok a') : optLe a.ap a'.ap := by
  obtain ⟨B, hB, hs, h1, h2⟩ := exists_bound rs th th'
  rw [apOfE_real _ G hB hs] at h h'
  exact aph_mono_threshold m T _ _ G rs (forall₂_looserE_real hth h1 h2) hfp hw a a' h h'

/-- `Map` on any per-label dicts (frame level, scene level, or handed over directly), thresholds in `EThr` -/
theorem map_mono_threshold_ext (m : Mode) (is2d : Bool) (T : List Label) (th th' : List EThr)
    (buckets : List (Label × List (List Res))) (nums : List (Label × Nat))
    (hth : List.Forall₂ (looserE m) th th') (hfp : fpLabel ∉ T)
    (hw : ∀ l rss, lookupKey l buckets = .ok rss → ∀ r ∈ rss.flatten, 0 ≤ r.hw) (o o' : MapOut)
    (h : mapOfE m is2d T th buckets nums = .ok o) (h' : mapOfE m is2d T th' buckets nums = .ok o') :
    optLe o.map o'.map ∧ optLe o.maph o'.maph
      ∧ List.Forall₂ (fun a a' => optLe a.ap a'.ap) o.aps o'.aps
      ∧ List.Forall₂ (fun a a' => optLe a.ap a'.ap) o.aphs o'.aphs := by
  obtain ⟨B, hB, hs, h1, h2⟩ := exists_bound (allRes buckets) th th'
  rw [mapOfE_real _ hB (bucketsLt_of_all hs)] at h h'
  exact map_mono_threshold m is2d T _ _ buckets nums (forall₂_looserE_real hth h1 h2) hfp hw o o' h h'

/-- frame level, the dicts keyed by any label list `divT` (the critical-object filter's), `Map` walking `T` -/
theorem frame_map_mono_threshold_ext (m : Mode) (is2d : Bool) (divT T : List Label) (th th' : List EThr)
    (rs : List Res) (gtLabels : List Label) (hth : List.Forall₂ (looserE m) th th')
    (hfp : fpLabel ∉ T) (hw : ∀ r ∈ rs, 0 ≤ r.hw) (o o' : MapOut)
    (h : frameMapE m is2d divT T th rs gtLabels = .ok o)
    (h' : frameMapE m is2d divT T th' rs gtLabels = .ok o') :
    optLe o.map o'.map ∧ optLe o.maph o'.maph
      ∧ List.Forall₂ (fun a a' => optLe a.ap a'.ap) o.aps o'.aps
      ∧ List.Forall₂ (fun a a' => optLe a.ap a'.ap) o.aphs o'.aphs :=
  map_mono_threshold_ext m is2d T th th' _ _ hth hfp (fun _ _ hl r hr => hw r (frameBucket_mem hl r hr)) o o' h h'

/-! ## a concrete instance: the hypotheses are satisfiable and the inequality can be strict -/

/-- estimate 0 (car, confidence 1/2) paired with car ground truth 0 at center distance 3/2 -/
def r0 : Res :=
  { id := 0, conf := 1/2, label := 2, gt := some { id := 0, label := 2 }, score := .val (some (3/2)),
    hw := 3/4, policy := .default }

example : looser .centerDistance 1 2 := by simp [looser, Mode.isDistance]

example : List.Forall₂ (looser .centerDistance) [1] [2] :=
  .cons (by simp [looser, Mode.isDistance]) .nil

example : ∀ g, r0.gt = some g → g.label ≠ fpLabel := by
  intro g hg; simp [r0] at hg; subst hg; decide

/-- FP at threshold 1, TP at threshold 2 (weight 1 for AP, heading weight 3/4 for APH) -/
example : isResultCorrect .centerDistance (some 1) r0 = .ok false
    ∧ isResultCorrect .centerDistance (some 2) r0 = .ok true := by
  constructor <;>
    simp [isResultCorrect, r0, isBetterThan, thrValid, Mode.isDistance, isBetter, isLabelCorrect,
      isMatchable, fpLabel] <;> norm_num

/-- the whole constructor on that result with one car ground truth: AP 0 → 1, APH 0 → 9/16
(recall 3/4 · precision 3/4) when the threshold goes from 1 to 2 -/
example : apOf .ap .centerDistance [2] [1] 1 [r0] = .ok { ap := some 0, tpList := [0], fpList := [1] }
    ∧ apOf .ap .centerDistance [2] [2] 1 [r0] = .ok { ap := some 1, tpList := [1], fpList := [0] }
    ∧ apOf .aph .centerDistance [2] [1] 1 [r0] = .ok { ap := some 0, tpList := [0], fpList := [1] }
    ∧ apOf .aph .centerDistance [2] [2] 1 [r0]
        = .ok { ap := some (9/16), tpList := [3/4], fpList := [0] } := by
  decide +kernel

/-- the same result under `1 → inf`: FP at 1, TP at `inf`; AP 0 → 1 -/
example : List.Forall₂ (looserE .centerDistance) [.fin 1] [.posInf]
    ∧ apOfE .ap .centerDistance [2] [.fin 1] 1 [r0] = .ok { ap := some 0, tpList := [0], fpList := [1] }
    ∧ apOfE .ap .centerDistance [2] [.posInf] 1 [r0] = .ok { ap := some 1, tpList := [1], fpList := [0] }
    ∧ apOfE .ap .iou3d [2] [.posInf] 1 [r0] = .error "AssertionError" := by
  refine ⟨.cons (by simp [looserE, Mode.isDistance, EThr.le]) .nil, ?_, ?_, ?_⟩ <;> decide +kernel

/-! ## the same for the CODE's decision tables (decision-table translator, `PEval.KernelBetter`, `PEval.KernelStatus`) -/

theorem ofBool_ret {x : Except Err Bool} {b : Bool} (h : MatchKernels.ofBool x = .ret b) : x = .ok b := by
  cases x with
  | error e => simp [MatchKernels.ofBool] at h
  | ok c => simp only [MatchKernels.ofBool, DT.Res.ret.injEq] at h; rw [h]

/-- a TP stays a TP, read off the code's decision table of `is_result_correct`: if the table answers `True` at `t`
(ordinary ground truth, `t` on the mode's scale: the in-quantifier predicate `thrValid`), it answers `True` at every
looser `t'` on the scale; what the kernels do with an IoU threshold outside [0, 1] is left open by C08's text -/
theorem table_isResultCorrect_mono {tr : DT.DTree} (ht : Gen.K.resultCorrect.tree = some tr) (m : Mode) (r : Res)
    (t t' : Rat) (hord : ∀ g, r.gt = some g → g.label ≠ fpLabel) (hl : looser m t t')
    (hvt : thrValid m t = true) (hv : thrValid m t' = true)
    (h : DT.eval tr (MatchKernels.valAP m (some t) r) = .ret true) :
    DT.eval tr (MatchKernels.valAP m (some t') r) = .ret true := by
  rw [KernelStatus.resultCorrect_code_table_eq_isResultCorrect tr ht _ _ _ (MatchKernels.thrOk_some hvt)] at h
  rw [KernelStatus.resultCorrect_code_table_eq_isResultCorrect tr ht _ _ _ (MatchKernels.thrOk_some hv)]
  rw [isResultCorrect_mono m r t t' hord hl hv (ofBool_ret h)]
  rfl

/-- the status pair of the code's table of `get_status`: (TP, TP) at `t` stays (TP, TP) at every looser valid `t'` -/
theorem table_status_tp_mono {tr : DT.DTree} (ht : Gen.K.status.tree = some tr) (m : Mode) (r : Res)
    (t t' : Rat) (hord : ∀ g, r.gt = some g → g.label ≠ fpLabel) (hl : looser m t t')
    (hvt : thrValid m t = true) (hv : thrValid m t' = true)
    (h : DT.eval tr (MatchKernels.valAP m (some t) r) = .other MatchKernels.sTpTp) :
    DT.eval tr (MatchKernels.valAP m (some t') r) = .other MatchKernels.sTpTp := by
  rw [KernelStatus.status_code_table_eq_getStatus tr ht _ _ _ (MatchKernels.thrOk_some hvt)] at h
  rw [KernelStatus.status_code_table_eq_getStatus tr ht _ _ _ (MatchKernels.thrOk_some hv)]
  unfold getStatus at h ⊢
  cases hg : r.gt with
  | none => simp [hg, MatchKernels.ofStatusAP, MatchKernels.statusCodeAP, MatchKernels.sFpNone, MatchKernels.sTpTp] at h
  | some g =>
    rw [hg] at h
    dsimp only at h ⊢
    have hne : (g.label == fpLabel) = false := by simpa using hord g hg
    cases hc : isResultCorrect m (some t) r with
    | error e => simp [hc, MatchKernels.ofStatusAP] at h
    | ok b =>
      cases b
      · simp [hc, hne, MatchKernels.ofStatusAP, MatchKernels.statusCodeAP, MatchKernels.sFpFn, MatchKernels.sTpTp] at h
      · rw [isResultCorrect_mono m r t t' hord hl hv hc]
        simp [hne, MatchKernels.ofStatusAP, MatchKernels.statusCodeAP]

/-! ## definedness of the looser run, the pass/fail pipeline, `ALLOW_ANY`, defective variants

* every theorem above assumes that BOTH runs return.  `*_total` below: if every entry of the looser list is valid for
  the mode (the IoU modes' assertion `0 ≤ t ≤ 1`; always true for the distance modes), the looser run returns whenever
  the tighter one does — and the conclusion of the monotonicity theorem holds for what it returns (each pair is the two
  halves of one `AP.…_runs` theorem of `Lemmas/APMono.lean`).  "Loosening an IoU
  threshold from 0.1 to −0.1" stays outside: the looser run raises `AssertionError` (`looser_iou_invalid_raises`).
* TP / FN monotonicity for the pass/fail accounting of C03 (`PassFail.evaluate`, the model `PassFailResult.evaluate`
  is checked against) and for the composed pipeline `Pipeline.detectFrame` under two pass/fail threshold lists.
* every theorem of this file quantifies over the result's `policy`; `allow_any_instance` instantiates the hypotheses with
  an `ALLOW_ANY` cross-label pair, and `mono_fails_C08J` shows that the TP statement is violated by the stored change
  C08_J (inverted branch under `ALLOW_ANY`), `apMono_fails_C08G` that the AP statement is violated by C08_G (`break`). -/

/-! ## the looser run returns -/

/-- AP / APH: tight run returns, looser list valid ⇒ the loose run returns, a value not smaller, defined iff it was -/
theorem ap_mono_threshold_total (tm : TpMetric) (m : Mode) (T : List Label) (th th' : List Rat) (G : Nat)
    (rs : List Res) (hth : List.Forall₂ (looser m) th th') (hv : ∀ t ∈ th', thrValid m t = true)
    (hfp : fpLabel ∉ T ∨ ∀ r ∈ rs, ∀ g, r.gt = some g → g.label ≠ fpLabel)
    (hw : ∀ r ∈ rs, 0 ≤ r.hw) (a : ApOut) (h : apOf tm m T th G rs = .ok a) :
    ∃ a', apOf tm m T th' G rs = .ok a' ∧ optLe a.ap a'.ap :=
  (apOf_runs hth hfp fun r hr => tpValue_nonneg (hw r hr)).total hv h

/-- `Map` (frame or scene level: any nested buckets) -/
theorem map_mono_threshold_total (m : Mode) (is2d : Bool) (T : List Label) (th th' : List Rat)
    (buckets : List (Label × List (List Res))) (nums : List (Label × Nat))
    (hth : List.Forall₂ (looser m) th th') (hv : ∀ t ∈ th', thrValid m t = true) (hfp : fpLabel ∉ T)
    (hw : ∀ l rss, lookupKey l buckets = .ok rss → ∀ r ∈ rss.flatten, 0 ≤ r.hw) (o : MapOut)
    (h : mapOf m is2d T th buckets nums = .ok o) :
    ∃ o', mapOf m is2d T th' buckets nums = .ok o' ∧ optLe o.map o'.map ∧ optLe o.maph o'.maph
      ∧ List.Forall₂ (fun a a' => optLe a.ap a'.ap) o.aps o'.aps
      ∧ List.Forall₂ (fun a a' => optLe a.ap a'.ap) o.aphs o'.aphs :=
  (mapOf_runs hth (.inl hfp) hw).total hv h

/-- frame level -/
theorem frame_map_mono_threshold_total (m : Mode) (is2d : Bool) (T : List Label) (th th' : List Rat)
    (rs : List Res) (gtLabels : List Label) (hth : List.Forall₂ (looser m) th th')
    (hv : ∀ t ∈ th', thrValid m t = true) (hfp : fpLabel ∉ T) (hw : ∀ r ∈ rs, 0 ≤ r.hw) (o : MapOut)
    (h : frameMap m is2d T th rs gtLabels = .ok o) :
    ∃ o', frameMap m is2d T th' rs gtLabels = .ok o' ∧ optLe o.map o'.map ∧ optLe o.maph o'.maph
      ∧ List.Forall₂ (fun a a' => optLe a.ap a'.ap) o.aps o'.aps
      ∧ List.Forall₂ (fun a a' => optLe a.ap a'.ap) o.aphs o'.aphs :=
  (frameMap_runs hth (.inl hfp) hw).total hv h

/-- `get_positive_objects` / `get_negative_objects` -/
theorem tp_fn_mono_total (m : Mode) (T : List Label) (th th' : List Rat)
    (hth : List.Forall₂ (looser m) th th') (hv : ∀ t ∈ th', thrValid m t = true) (gts : List Gt) (rs : List Res)
    (p n : List Nat × List Nat) (h : getPositive m T (some th) rs = .ok p)
    (hn : getNegative m T (some th) gts rs = .ok n) :
    ∃ p' n', getPositive m T (some th') rs = .ok p' ∧ getNegative m T (some th') gts rs = .ok n'
      ∧ p.1.Sublist p'.1 ∧ p'.2.Sublist p.2 ∧ n'.2.Sublist n.2 := by
  obtain ⟨p', hp', i1, i2⟩ := (getPositive_runs hth).total hv h
  obtain ⟨n', hn', i3⟩ := (getNegative_runs hth).total hv hn
  exact ⟨p', n', hp', hn', i1, i2, i3⟩

/-- the hypothesis is needed: an IoU threshold "loosened" below 0 makes the looser run raise -/
theorem looser_iou_invalid_raises :
    looser .iou3d (1/10) (-1/10)
      ∧ apOf .ap .iou3d [2] [1/10] 1 [{ r0 with score := .val (some (1/2)) }]
          = .ok { ap := some 1, tpList := [1], fpList := [0] }
      ∧ apOf .ap .iou3d [2] [-1/10] 1 [{ r0 with score := .val (some (1/2)) }] = .error "AssertionError" := by
  refine ⟨by simp [looser, Mode.isDistance]; norm_num, by decide +kernel, by decide +kernel⟩

/-- non-vacuity of the `*_total` hypotheses (distance mode: every threshold is valid) -/
example : (∀ t ∈ [(2 : Rat)], thrValid .centerDistance t = true)
    ∧ apOf .ap .centerDistance [2] [1] 1 [r0] = .ok { ap := some 0, tpList := [0], fpList := [1] } :=
  ⟨by decide +kernel, by decide +kernel⟩

/-! ## the pass/fail accounting and the composed pipeline -/

/-- `PassFailResult.evaluate` (model of C03) on the same object results under pointwise looser thresholds: the TP list
(estimate ids, order kept) only grows and the FN list only shrinks -/
theorem passfail_tp_fn_mono (rs rs' : List PassFail.Res) (gts : List PassFail.GT)
    (h : List.Forall₂ PassFail.ThrLooser rs rs') :
    ((PassFail.evaluate rs gts).tp.map (·.est)).Sublist ((PassFail.evaluate rs' gts).tp.map (·.est))
      ∧ (PassFail.evaluate rs' gts).fn.Sublist (PassFail.evaluate rs gts).fn
      ∧ (PassFail.evaluate rs gts).tp.length ≤ (PassFail.evaluate rs' gts).tp.length
      ∧ (PassFail.evaluate rs' gts).fn.length ≤ (PassFail.evaluate rs gts).fn.length := by
  obtain ⟨h1, h2⟩ := PassFail.evaluate_mono gts h
  refine ⟨h1, h2, ?_, h2.length_le⟩
  simpa using h1.length_le

/-- `evaluate_frame` (critical filter first) -/
theorem passfail_frame_tp_fn_mono (f f' : PassFail.Frame) (hg : f'.gts = f.gts)
    (h : List.Forall₂ PassFail.ThrLooser f.results f'.results) :
    ((PassFail.evaluateFrame f).tp.map (·.est)).Sublist ((PassFail.evaluateFrame f').tp.map (·.est))
      ∧ (PassFail.evaluateFrame f').fn.Sublist (PassFail.evaluateFrame f).fn := by
  unfold PassFail.evaluateFrame
  rw [hg]
  exact PassFail.evaluate_mono _ (PassFail.criticalResults_rel h)

/-- The composed pipeline (matcher → critical filter → pass/fail) run on the same frame with a pointwise larger
pass/fail (plane-distance) threshold list: same matching, TP estimates a sub-list, FN ground truths a super-list;
TP count non-decreasing, FN count non-increasing. -/
theorem pipeline_tp_fn_mono (f : Pipeline.Frame) (th th' : List Rat) (hf : f.pfThrs = some th)
    (hth : List.Forall₂ (· ≤ ·) th th') (o o' : Pipeline.Out) (h : Pipeline.detectFrame f = .ok o)
    (h' : Pipeline.detectFrame (Pipeline.withPfThrs f th') = .ok o') :
    o'.matched = o.matched
      ∧ (o.pf.tp.map (·.est)).Sublist (o'.pf.tp.map (·.est)) ∧ o'.pf.fn.Sublist o.pf.fn
      ∧ o.pf.tp.length ≤ o'.pf.tp.length ∧ o'.pf.fn.length ≤ o.pf.fn.length := by
  obtain ⟨rs, hr, hm, hpf, _⟩ := Pipeline.detectFrame_ok h
  obtain ⟨rs', hr', hm', hpf', _⟩ := Pipeline.detectFrame_ok h'
  obtain rfl : rs' = rs := Except.ok.inj (hr'.symm.trans hr)
  have hmono := passfail_frame_tp_fn_mono (Pipeline.pfFrame f rs') (Pipeline.pfFrame (Pipeline.withPfThrs f th') rs')
    rfl (Pipeline.map_toPFRes_rel f hf hth rs')
  rw [hpf, hpf']
  refine ⟨by rw [hm, hm'], hmono.1, hmono.2, ?_, hmono.2.length_le⟩
  simpa using hmono.1.length_le

/-- non-vacuity, on a frame on which the inequality is strict: one car estimate at plane distance 3 from its ground truth is FP /
its ground truth FN at threshold 2, TP / no FN at threshold 4 -/
def exLoose : Pipeline.Frame :=
  { cfg := { policy := .default, mode := .centerDistance, targets := some ["car"],
             thresholds := some [5], fpValidation := false },
    scene := { ests := [⟨"car", "base_link"⟩], gts := [⟨"car", "base_link"⟩], val := fun _ _ => 1 },
    est := fun i => ⟨1 + i, 2, 1, true⟩,
    gt := fun j => ⟨101 + j, 2, true, 101 + j⟩,
    pfTargets := [2], pfThrs := some [2],
    pfScore := fun _ _ => some 3,
    apScore := fun _ _ _ => some 1,
    hw := fun _ _ => 1,
    critTargets := [2], mapTargets := [2], maps := [] }

example : exLoose.pfThrs = some [2] ∧ List.Forall₂ (· ≤ ·) [(2 : Rat)] [4] :=
  ⟨rfl, .cons (by norm_num) .nil⟩

example :
    (Pipeline.detectFrame exLoose).toOption.map (fun o => (o.pf.tp.map (·.est), o.pf.fn.map (·.id))) = some ([], [101])
      ∧ (Pipeline.detectFrame (Pipeline.withPfThrs exLoose [4])).toOption.map
          (fun o => (o.pf.tp.map (·.est), o.pf.fn.map (·.id))) = some ([1], []) := by
  decide +kernel

/-! ## `ALLOW_ANY`, and the stored changes C08_J / C08_G as defective variants -/

/-- a car estimate paired with a PEDESTRIAN ground truth under `ALLOW_ANY`, center distance 3/2 -/
def rAny : Res :=
  { id := 0, conf := 1/2, label := 2, gt := some { id := 0, label := 4 }, score := .val (some (3/2)),
    hw := 1, policy := .allowAny }

/-- the hypotheses of the theorems above instantiated with an `ALLOW_ANY` cross-label pair: FP at threshold 1, TP at 2
(pedestrian AP 0 → 1; TP list [] → [0]; FN list [0] → []) -/
theorem allow_any_instance :
    (∀ g, rAny.gt = some g → g.label ≠ fpLabel)
      ∧ isResultCorrect .centerDistance (some 1) rAny = .ok false
      ∧ isResultCorrect .centerDistance (some 2) rAny = .ok true
      ∧ (apOf .ap .centerDistance [4] [1] 1 [rAny]).toOption.map (·.ap) = some (some 0)
      ∧ (apOf .ap .centerDistance [4] [2] 1 [rAny]).toOption.map (·.ap) = some (some 1)
      ∧ getPositive .centerDistance [4] (some [1]) [rAny] = .ok ([], [0])
      ∧ getPositive .centerDistance [4] (some [2]) [rAny] = .ok ([0], [])
      ∧ getNegative .centerDistance [4] (some [1]) [⟨0, 4⟩] [rAny] = .ok ([], [0])
      ∧ getNegative .centerDistance [4] (some [2]) [⟨0, 4⟩] [rAny] = .ok ([], []) := by
  refine ⟨?_, ?_⟩
  · intro g hg; simp [rAny] at hg; subst hg; decide
  · decide +kernel

/-- "a TP stays a TP" for an arbitrary `is_result_correct` -/
def TpMonoStmt (irc : Mode → Option Rat → Res → Except Err Bool) : Prop :=
  ∀ (m : Mode) (r : Res) (t t' : Rat), (∀ g, r.gt = some g → g.label ≠ fpLabel) → looser m t t' →
    thrValid m t' = true → irc m (some t) r = .ok true → irc m (some t') r = .ok true

theorem tpMono_isResultCorrect : TpMonoStmt isResultCorrect :=
  fun m r t t' hord hl hv h => isResultCorrect_mono m r t t' hord hl hv h

/-- stored change C08_J: under `ALLOW_ANY` the inverted branch makes a result "correct" iff it does NOT beat the
threshold — `rAny` is correct at 1 and no longer at 2 -/
theorem mono_fails_C08J : ¬ TpMonoStmt isResultCorrectC08J := by
  intro h
  have := h .centerDistance rAny 1 2 (by intro g hg; simp [rAny] at hg; subst hg; decide)
    (by simp [looser, Mode.isDistance]) (by decide +kernel) (by decide +kernel)
  revert this
  decide +kernel

/-- "pointwise larger TP weights never lower the AP" for an arbitrary ranking → `Ap` step -/
def ApMonoStmt (K : Nat → List Kind → ApOut) : Prop :=
  ∀ (G : Nat) (ks ks' : List Kind), List.Forall₂ (fun k k' => 0 ≤ k.tpw ∧ k.tpw ≤ k'.tpw) ks ks' →
    optLe (K G ks).ap (K G ks').ap

theorem apMono_apOfKinds : ApMonoStmt apOfKinds := fun G _ _ h => apOfKinds_mono G h

/-- stored change C08_G (`break` in the interpolation scan): ranking [TP, FP, FP, FP, x] with 5 ground truths — turning
the last FP into a TP lowers the "AP" from 1/5 to 4/25 (the real value is 7/25) -/
theorem apMono_fails_C08G : ¬ ApMonoStmt apOfKindsC08G := by
  intro h
  have hF : List.Forall₂ (fun k k' : Kind => 0 ≤ k.tpw ∧ k.tpw ≤ k'.tpw)
      [.tp 1, .fp, .fp, .fp, .fp] [.tp 1, .fp, .fp, .fp, .tp 1] := by
    refine .cons ?_ (.cons ?_ (.cons ?_ (.cons ?_ (.cons ?_ .nil)))) <;> simp [Kind.tpw]
  have := h 5 _ _ hF
  have e1 : (apOfKindsC08G 5 [.tp 1, .fp, .fp, .fp, .fp]).ap = some (1/5) := by decide +kernel
  have e2 : (apOfKindsC08G 5 [.tp 1, .fp, .fp, .fp, .tp 1]).ap = some (4/25) := by decide +kernel
  rw [e1, e2] at this
  simp only [optLe] at this
  norm_num at this

/-- the unchanged scan on the same two rankings: 1/5 → 7/25 -/
example : (apOfKinds 5 [.tp 1, .fp, .fp, .fp, .fp]).ap = some (1/5)
    ∧ (apOfKinds 5 [.tp 1, .fp, .fp, .fp, .tp 1]).ap = some (7/25) := by decide +kernel

end PEval.C08
