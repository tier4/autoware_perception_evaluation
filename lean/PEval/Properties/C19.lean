import PEval.Lemmas.AnalyzerRates
import PEval.Lemmas.AnalyzerSelect
import PEval.Lemmas.AnalyzerErrors
import PEval.Lemmas.AnalyzerAreas
import PEval.Lemmas.AnalyzerPassFail
import PEval.Lemmas.AnalyzerDT
import PEval.Lemmas.AnalyzerConfusion
import PEval.Lemmas.AnalyzerFrames
import PEval.Lemmas.AnalyzerStatusRates
import PEval.Gen.AnalyzerDT
/-!
# C19 — analysis tables are a faithful tabulation of the frame results

All statements are about the model `PEval.Analyzer` (`Model/Analyzer.lean`), for **all** lists of scenes,
frames and pass/fail lists (no size bound), every area function and every selection.

Notation: `T = (addAll area scenes).table` is the DataFrame after one `add` per scene on a fresh
analyzer; `sumN (scenes.flatten.map c)` is the sum of `c` over all frames; `Frame.WF` is what
`PassFailResult.evaluate` guarantees (`passFail_wf`); `f.fpOrd` are the ORDINARY ground truths carried by
FP results of `f` — the objects of known finding F11.

The property text asks `num_ground_truth = #critical ground truths` and "each ground truth once per
frame".  The code does not satisfy that (F11); the model follows the code and the pairs
`num_gt_exact` / `num_gt_eq_critical_partial` and `object_status_total_exact` /
`object_status_once_partial` characterise the deviation exactly.  Likewise `rates_in_unit_label_partial`
/ `label_tp_rate_exact` for finding N1 (per-label TP rate above one) and `num_props_empty` for N2.

Further sections: the decision tables extracted from the real code on every run (`analyzer_table_check` is the per-run
obligation); the confusion matrix with labels outside `target_labels + ["unknown"]` (finding N3, repaired and pre-fix
code); rows of objects given in `base_link` or `map`; which rows feed `summarize_error`; the status rates of
`common/status.py`.
-/

namespace PEval.C19
open PEval.Analyzer

variable (area : Rat → Rat → Option Nat) (scenes : List (List Frame))

/-! ## row layout -/

/-- Forgetting the index, the table is exactly the concatenation, scene by scene and
frame by frame, of one row pair per TP result, FP result, TN object and FN object (`allItemsFrom`,
spelled out by `frame_block`); in particular its length is the number of items. -/
theorem rows_per_item :
    (addAll area scenes).table.map RowPair.strip = allItemsFrom area 0 scenes ∧
    (addAll area scenes).table.length = sumN (scenes.flatten.map Frame.items) ∧
    (addAll area scenes).numScene = scenes.length :=
  ⟨addAll_strip area scenes, table_length area scenes, addAll_numScene area scenes⟩

/-- The block of one frame: a TP/FP result gives the pair (ground-truth row if the
result has one — else the NaN row —, estimate row), both with the list's status and the area of the
estimate; a TN/FN object gives (ground-truth row, NaN row). -/
theorem frame_block (k : Nat) (f : Frame) :
    frameItems area k f =
      f.tp.map (fun p => (p.gt.map fun g => (⟨.TP, g, area p.est.x p.est.y, f.frameNum, k⟩ : Cell),
                          some ⟨.TP, p.est, area p.est.x p.est.y, f.frameNum, k⟩)) ++
      f.fp.map (fun p => (p.gt.map fun g => (⟨.FP, g, area p.est.x p.est.y, f.frameNum, k⟩ : Cell),
                          some ⟨.FP, p.est, area p.est.x p.est.y, f.frameNum, k⟩)) ++
      f.tn.map (fun o => (some ⟨.TN, o, area o.x o.y, f.frameNum, k⟩, none)) ++
      f.fn.map (fun o => (some ⟨.FN, o, area o.x o.y, f.frameNum, k⟩, none)) := rfl

/-- Row pairs are numbered `0, 1, 2, …` in table order. -/
theorem index_range :
    (addAll area scenes).table.map (·.index) = List.range (addAll area scenes).table.length := by
  rw [addAll_table, format2df_index, format2df_length, List.range_eq_range']

/-- The DataFrame has two rows per pair: `(i, ground_truth)` then `(i, estimation)`. -/
theorem rows_per_item_flat (t : Table) :
    t.rows.length = 2 * t.length ∧
    t.rows.map (fun r => (r.1, r.2.1)) = t.flatMap fun r => [(r.index, Side.groundTruth), (r.index, Side.estimation)] := by
  constructor
  · simp only [Table.rows, List.length_flatMap, List.length_cons, List.length_nil, List.map_const', List.sum_replicate_nat,
      Nat.mul_comm]
  · simp [Table.rows, List.map_flatMap]

/-! ## counts -/

/-- the `num_*` properties return (rather than raise, finding N2) -/
def Returns (er : Bool) : Prop := er = false ∨ 0 < sumN (scenes.flatten.map Frame.items)

theorem numProp_ok (er : Bool) (h : Returns scenes er) (v : Nat) :
    numProp er (addAll area scenes).table v = .ok v := by
  unfold numProp
  rcases h with h | h
  · simp [h]
  · simp [Bool.eq_false_iff.mpr fun he => h.ne' ((table_isEmpty_iff area scenes).mp he)]

/-- Per-status counts are the sizes of the frames' pass/fail lists. -/
theorem status_counts_eq_lists (er : Bool) (h : Returns scenes er) :
    numTP er (addAll area scenes).table = .ok (sumN (scenes.flatten.map fun f => f.tp.length)) ∧
    numFP er (addAll area scenes).table = .ok (sumN (scenes.flatten.map fun f => f.fp.length)) ∧
    numTN er (addAll area scenes).table = .ok (sumN (scenes.flatten.map fun f => f.tn.length)) ∧
    numFN er (addAll area scenes).table = .ok (sumN (scenes.flatten.map fun f => f.fn.length)) := by
  refine ⟨?_, ?_, ?_, ?_⟩
  · rw [numTP, numProp_ok area scenes er h, getNumTP_table]
  · rw [numFP, numProp_ok area scenes er h, getNumFP_table]
  · rw [numTN, numProp_ok area scenes er h, getNumTN_table]
  · rw [numFN, numProp_ok area scenes er h, getNumFN_table]

/-- The estimate count is the number of evaluated estimates, |TP| + |FP|. -/
theorem num_estimation_eq (er : Bool) (h : Returns scenes er) :
    numEstimation er (addAll area scenes).table = .ok (sumN (scenes.flatten.map fun f => f.tp.length + f.fp.length)) := by
  rw [numEstimation, numProp_ok area scenes er h, getNumEstimation_table]

/-- (F11, exact) With well-formed pass/fail lists the ground-truth count is the number
of critical ground truths PLUS the number of FP results carrying an ordinary (not FP-labelled) ground
truth: each of those objects sits in its FP row pair and again in an FN row. -/
theorem num_gt_exact (er : Bool) (h : Returns scenes er) (hwf : ∀ f ∈ scenes.flatten, f.WF) :
    numGroundTruth er (addAll area scenes).table =
      .ok (sumN (scenes.flatten.map fun f => f.critical.length) + sumN (scenes.flatten.map fun f => f.fpOrd.length)) := by
  rw [numGroundTruth, numProp_ok area scenes er h, getNumGroundTruth_table, sumN_gtRows hwf]

/-- The property's count `num_ground_truth = #critical ground truths`
holds when no FP result carries an ordinary ground truth that also appears in FN.
(Full statement — the same conclusion without that hypothesis — is FALSE for the code: `num_gt_exact`,
`example_f11`.) -/
theorem num_gt_eq_critical_partial (er : Bool) (h : Returns scenes er) (hwf : ∀ f ∈ scenes.flatten, f.WF)
    (hno : ∀ f ∈ scenes.flatten, ∀ g ∈ f.fpOrd, g ∉ f.fn) :
    numGroundTruth er (addAll area scenes).table = .ok (sumN (scenes.flatten.map fun f => f.critical.length)) := by
  rw [num_gt_exact area scenes er h hwf, sumN_map_zero _ _ fun f hf => List.length_eq_zero_iff.mpr
    (List.eq_nil_iff_forall_not_mem.mpr fun g hg => hno f hf g hg ((hwf f hf).fpOrd_sub_fn g hg))]
  rfl

/-- The lists produced by `PassFailResult.evaluate` (model `passFail`) are well formed
whenever the object results' ground truths are pairwise distinct critical ground truths; and the ordinary
ground truths it keeps in FP results are precisely the FN objects of its first loop (F11 at the source). -/
theorem passFail_wf (n : Nat) (critical : List Obj) (results : List (Pair × Bool))
    (hnd : critical.Nodup) (hres : (resGts results).Nodup) (hsub : ∀ g ∈ resGts results, g ∈ critical) :
    (passFail n critical results).WF ∧
    (passFail n critical results).fpOrd = gtsWith (· == some .FN) results :=
  ⟨Frame.WF.of_passFail n critical results hnd hres hsub, passFail_fpOrd n critical results⟩

/-- one evaluated frame: frame number, critical ground truths, object results with `is_result_correct` -/
abbrev Evaluated := Nat × List Obj × List (Pair × Bool)

def Evaluated.ok (i : Evaluated) : Prop :=
  i.2.1.Nodup ∧ (resGts i.2.2).Nodup ∧ ∀ g ∈ resGts i.2.2, g ∈ i.2.1

instance (i : Evaluated) : Decidable i.ok := by unfold Evaluated.ok; infer_instance

def Evaluated.frame (i : Evaluated) : Frame := passFail i.1 i.2.1 i.2.2

/-- End to end over `PassFailResult.evaluate`: the tabulated ground-truth
count is the number of critical ground truths plus the number of object results whose ground truth is
ordinary and whose estimate fails the threshold (GT status FN). -/
theorem num_gt_exact_passFail (inputs : List (List Evaluated)) (er : Bool)
    (hok : ∀ i ∈ inputs.flatten, i.ok)
    (h : Returns (inputs.map (·.map Evaluated.frame)) er) :
    numGroundTruth er (addAll area (inputs.map (·.map Evaluated.frame))).table =
      .ok (sumN (inputs.flatten.map fun i => i.2.1.length) +
           sumN (inputs.flatten.map fun i => (gtsWith (· == some .FN) i.2.2).length)) := by
  have hflat : (inputs.map (·.map Evaluated.frame)).flatten = inputs.flatten.map Evaluated.frame :=
    (List.map_flatten (f := Evaluated.frame) (L := inputs)).symm
  rw [num_gt_exact area _ er h, hflat, List.map_map, List.map_map]
  · simp only [Function.comp_def, Evaluated.frame, passFail_fpOrd]
    rfl
  · rw [hflat]
    exact List.forall_mem_map.mpr fun i hi => Frame.WF.of_passFail _ _ _ (hok i hi).1 (hok i hi).2.1 (hok i hi).2.2

/-! ## per-object tallies (`get_object_status`) -/

/-- `get_object_status` is a group-by: one record per ground-truth uuid, in
order of first appearance, holding exactly the frame numbers of the events of that uuid — TP ground
truths, ground truths carried by FP results, TN objects, FN objects, frame by frame. -/
theorem object_status_tallies (frames : List Frame) :
    getObjectStatus frames = (keysOf (allEvents frames)).map (evSummary (allEvents frames)) ∧
    ((getObjectStatus frames).map (·.uuid)).Nodup ∧
    (∀ e ∈ allEvents frames, ∃ s ∈ getObjectStatus frames, s.uuid = e.1) := by
  refine ⟨getObjectStatus_eq frames, ?_, ?_⟩
  · rw [getObjectStatus_eq, List.map_map, List.map_id'' (f := _ ∘ _) fun _ => rfl]
    exact keysOf_nodup _
  · intro e he
    rw [getObjectStatus_eq]
    exact ⟨evSummary (allEvents frames) e.1, List.mem_map_of_mem (mem_keysOf _ e he), rfl⟩

/-- (F11, exact) With well-formed lists, the record of a uuid lists frame
number `n` once per frame numbered `n` in which that ground truth is critical, plus once more per FP
result of such a frame that carries it as an ordinary ground truth; summed over all records the tallies
are `#critical + #FP results carrying an ordinary ground truth`. -/
theorem object_status_total_exact (frames : List Frame) (hwf : ∀ f ∈ frames, f.WF) :
    (∀ s ∈ getObjectStatus frames, ∀ n : Nat,
      s.total.count n = sumN (frames.map fun f =>
        if f.frameNum = n then (f.critical.map (·.uuid)).count s.uuid + (f.fpOrd.map (·.uuid)).count s.uuid else 0)) ∧
    sumN ((getObjectStatus frames).map fun s => s.total.length) =
      sumN (frames.map fun f => f.critical.length) + sumN (frames.map fun f => f.fpOrd.length) := by
  constructor
  · rw [getObjectStatus_eq]
    refine List.forall_mem_map.mpr fun u _ n => ?_
    show (((allEvents frames).filter (fun e => e.1 == u)).map (·.2.2)).count n = _
    rw [count_flatMap_events]
    apply sumN_map_congr
    intro f hf
    split
    · exact (hwf f hf).gtUuids_count u
    · rfl
  · rw [sum_records_total, allEvents_length, sumN_gtRows hwf]

/-- The property's "each ground truth once per frame" holds when frame
numbers are distinct, critical uuids are distinct within a frame, and no FP result carries an ordinary
ground truth.  (Full statement — without the last hypothesis — is FALSE for the code:
`object_status_total_exact`, `example_f11`.) -/
theorem object_status_once_partial (frames : List Frame) (hwf : ∀ f ∈ frames, f.WF)
    (hnum : (frames.map (·.frameNum)).Nodup) (huu : ∀ f ∈ frames, (f.critical.map (·.uuid)).Nodup)
    (hno : ∀ f ∈ frames, f.fpOrd = []) :
    ∀ f ∈ frames, ∀ g ∈ f.critical, ∃ s ∈ getObjectStatus frames, s.uuid = g.uuid ∧ s.total.count f.frameNum = 1 := by
  intro f hf g hg
  have hg' : g.uuid ∈ f.gtUuids :=
    List.mem_map_of_mem ((hwf f hf).gtRows_perm.mem_iff.mpr (List.mem_append_left _ hg))
  obtain ⟨e, he, heq⟩ := List.mem_map.mp (frameEvents_map_fst f ▸ hg')
  obtain ⟨s, hs, hsu⟩ := (object_status_tallies frames).2.2 e (List.mem_flatMap.mpr ⟨f, hf, he⟩)
  refine ⟨s, hs, hsu.trans heq, ?_⟩
  rw [(object_status_total_exact frames hwf).1 s hs f.frameNum]
  have h1 := sumN_indicator frames (·.frameNum)
    (fun f' => (f'.critical.map (·.uuid)).count s.uuid + (f'.fpOrd.map (·.uuid)).count s.uuid) f hnum hf
  rw [h1, hno f hf, hsu, heq]
  have hc : (f.critical.map (·.uuid)).count g.uuid ≤ 1 := List.nodup_iff_count.mp (huu f hf) _
  have hpos : 0 < (f.critical.map (·.uuid)).count g.uuid := List.count_pos_iff.mpr (List.mem_map_of_mem hg)
  rw [List.map_nil, List.count_nil]
  omega

/-! ## errors and summaries -/

/-- The paired rows (both sides present) are the frames' TP results followed by the
FP results that carry a ground truth, in table order; the status filter `[TP, FP, TN]` of `calculate_error` drops none
of them. -/
theorem pairs_eq_lists :
    (getPairResults (addAll area scenes).table).map (fun p => (p.1.obj, p.2.obj)) = scenes.flatten.flatMap Frame.pairs ∧
    (getPairResults (addAll area scenes).table).filter (inStatus [.TP, .FP, .TN]) = getPairResults (addAll area scenes).table := by
  exact ⟨pairs_table area scenes, List.filter_eq_self.mpr (pairsIn_table area scenes)⟩

/-- `calculate_error` lists, for every paired row in table order, the
ground-truth value minus the estimate's value of the column (NaN when a velocity is missing), computed on
the ego-frame columns of the objects of the frames' pass/fail lists. -/
theorem errors_eq_gt_minus_est (col : Col) :
    calculateError col (addAll area scenes).table =
      (scenes.flatten.flatMap Frame.pairs).map (fun p => objError col p.1 p.2) ∧
    (∀ (g e : Obj) (a b : Rat), col ≠ .yaw → col.get g = some a → col.get e = some b → objError col g e = some (a - b)) ∧
    (∀ (g e : Obj), (col.get g = none ∨ col.get e = none) → objError col g e = none) := by
  refine ⟨?_, ?_, ?_⟩
  · rw [calculateError_eq, List.filter_eq_self.mpr (pairsIn_table area scenes), ← pairs_table, List.map_map]
    rfl
  · intro g e a b hc hg he
    simp [objError, hg, he, hc]
  · intro g e h
    rcases h with h | h
    · simp [objError, h]
    · cases hg : col.get g <;> simp [objError, hg, h]

/-- The yaw error is GT − estimate brought back by one full turn at most; for yaws
in [−1, 1] half-turns (= [−π, π]) it lies in [−1, 1] and differs from the raw difference by −2, 0 or 2
half-turns. -/
theorem yaw_error_wrapped (g e : Obj) (hg : -1 ≤ g.yaw ∧ g.yaw ≤ 1) (he : -1 ≤ e.yaw ∧ e.yaw ≤ 1) :
    ∃ w : Rat, objError .yaw g e = some w ∧ -1 ≤ w ∧ w ≤ 1 ∧
      (w = g.yaw - e.yaw ∨ w = g.yaw - e.yaw - 2 ∨ w = g.yaw - e.yaw + 2) ∧
      (-1 ≤ g.yaw - e.yaw → g.yaw - e.yaw ≤ 1 → w = g.yaw - e.yaw) := by
  have hr := Heading.clip_range (x := g.yaw - e.yaw) ⟨by linarith [hg.1, he.2], by linarith [hg.2, he.1]⟩
  rw [← wrapYaw_eq_clip] at hr
  refine ⟨wrapYaw (g.yaw - e.yaw), by simp [objError, Col.get], hr.1, hr.2, ?_, wrapYaw_id _⟩
  rw [wrapYaw_eq_clip]
  exact (Heading.clip_cases _).imp_right Or.symm

/-- mean·n = Σe, RMS²·n = Σe², variance = RMS² − mean²; NaN exactly for no errors. -/
theorem summary_defs (errs : List Rat) :
    (summarize errs = none ↔ errs = []) ∧
    ∀ s, summarize errs = some s →
      s.average * (errs.length : Rat) = sumR errs ∧
      s.rms2 * (errs.length : Rat) = sumR (errs.map fun v => v * v) ∧
      s.var = s.rms2 - s.average * s.average := by
  refine ⟨by cases errs <;> simp [summarize], fun s h => ?_⟩
  cases errs with
  | nil => simp [summarize] at h
  | cons e es =>
    simp only [summarize, Option.some.injEq] at h
    subst h
    have hn : ((e :: es).length : Rat) ≠ 0 := Nat.cast_ne_zero.mpr (Nat.succ_ne_zero _)
    refine ⟨?_, ?_, ?_⟩
    · dsimp only; field_simp
    · dsimp only; field_simp
    · simp only [sumR_var]
      field_simp
      ring

/-- `max` / `min` are the largest / smallest absolute error, attained. -/
theorem summary_max_min (errs : List Rat) (s : Summary) (h : summarize errs = some s) :
    (∀ v ∈ errs, v.abs ≤ s.max) ∧ (∃ v ∈ errs, s.max = v.abs) ∧
    (∀ v ∈ errs, s.min ≤ v.abs) ∧ (∃ v ∈ errs, s.min = v.abs) := by
  cases errs with
  | nil => simp [summarize] at h
  | cons e es =>
    simp only [summarize, Option.some.injEq] at h
    subst h
    obtain ⟨a1, a2⟩ := foldl_pick (fun a b : Rat => a < b) Rat.abs (fun _ _ => lt_asymm)
      (fun _ _ _ h1 h2 => not_lt.mpr (le_trans (not_lt.mp h1) (not_lt.mp h2))) es e
    obtain ⟨b1, b2⟩ := foldl_pick (fun a b : Rat => b < a) Rat.abs (fun _ _ => lt_asymm)
      (fun _ _ _ h1 h2 => not_lt.mpr (le_trans (not_lt.mp h2) (not_lt.mp h1))) es e
    exact ⟨fun v hv => not_lt.mp (a1 v hv), a2, fun v hv => not_lt.mp (b1 v hv), b2⟩

/-! ## `analyze`: rates and confusion matrix on every selection -/

/-- On every selection (keywords, distance) the "ALL" row of the TP/FP/TN/FN rates
lies in [0,1], as soon as TP results carry a ground truth (`Frame.WF.tp_has_gt`). -/
theorem rates_in_unit_all (labels : List String) (s : Sel) (d : Option (Rat × Rat)) (A : Analysis)
    (htp : ∀ f ∈ scenes.flatten, ∀ p ∈ f.tp, p.gt.isSome = true)
    (h : analyze labels (addAll area scenes).table s d = .ok (some A)) :
    ∃ r, A.ratio.head? = some ("ALL", r) ∧ r.inUnit := by
  obtain ⟨df, hdf, _, cm, _, rfl⟩ := (analyze_some_iff labels _ s d A).mp h
  exact ⟨ratioOf df {}, rfl, ratioOf_inUnit {} df (table_TPCovered_all area scenes htp df (selectTable_subset hdf))⟩

/-- Every row (ALL and each label) lies in [0,1] when, in addition, the
two objects of a TP result have the same label (what the DEFAULT label policy guarantees).
(Full statement — without the same-label hypothesis — is FALSE for the code: finding N1,
`label_tp_rate_exact`, `example_n1`.) -/
theorem rates_in_unit_label_partial (labels : List String) (s : Sel) (d : Option (Rat × Rat)) (A : Analysis)
    (hsame : ∀ f ∈ scenes.flatten, ∀ p ∈ f.tp, ∃ g, p.gt = some g ∧ g.label = p.est.label)
    (h : analyze labels (addAll area scenes).table s d = .ok (some A)) :
    ∀ lr ∈ A.ratio, lr.2.inUnit := by
  obtain ⟨df, hdf, _, cm, _, rfl⟩ := (analyze_some_iff labels _ s d A).mp h
  have hsub := selectTable_subset hdf
  have htp : ∀ f ∈ scenes.flatten, ∀ p ∈ f.tp, p.gt.isSome = true := fun f hf p hp =>
    Option.isSome_iff_exists.mpr ((hsame f hf p hp).imp fun _ => And.left)
  exact List.forall_mem_cons.mpr ⟨ratioOf_inUnit {} df (table_TPCovered_all area scenes htp df hsub),
    List.forall_mem_map.mpr fun L _ => ratioOf_inUnit _ df (table_TPCovered_label area scenes hsame df hsub L)⟩

/-- (N1, exact) On the whole table the TP rate reported for label `L` is the
number of TP results whose ESTIMATE has label `L` over the number of ground-truth rows whose GROUND TRUTH
has label `L` (0 when there is none) — above one exactly when the former exceeds the latter. -/
theorem label_tp_rate_exact (L : String) :
    let num := sumN (scenes.flatten.map fun f => f.tp.countP fun p => decide (p.est.label = L))
    let den := sumN (scenes.flatten.map fun f => (f.tpGts ++ f.fpGts ++ f.tn ++ f.fn).countP fun g => decide (g.label = L))
    (ratioOf (addAll area scenes).table { labels := some [L] }).tp = (if den > 0 then (num : Rat) / (den : Rat) else 0) ∧
    (1 < (ratioOf (addAll area scenes).table { labels := some [L] }).tp ↔ 0 < den ∧ den < num) := by
  intro num den
  have h : ∀ (s : Sel) (t : Table), (ratioOf t s).tp =
      if getNumGroundTruth t s > 0 then (getNumTP t s : Rat) / (getNumGroundTruth t s : Rat) else 0 := by
    intro s t
    unfold ratioOf
    dsimp only
    split <;> rfl
  have h := h { labels := some [L] } (addAll area scenes).table
  rw [getNumTP_label_table, getNumGT_label_table] at h
  refine ⟨h, ?_⟩
  rw [h]
  by_cases hd : den > 0
  · rw [if_pos hd, one_lt_div (by exact_mod_cast hd), Nat.cast_lt]
    exact (and_iff_right hd).symm
  · rw [if_neg hd]
    exact ⟨fun h => absurd h (by norm_num), fun h => absurd h.1 hd⟩

/-- Whenever a confusion matrix is returned (any table, any label list, hence any
selection of `analyze`), its entries sum to the number of paired rows, which is positive; the matrix is square of
the size of its index `confusionIndex` (`target_labels`, `"unknown"`, then the other labels met in the paired rows). -/
theorem confusion_sum (labels : List String) (t : Table) (m : List (List Nat))
    (h : getConfusionMatrix labels t = .ok (some m)) :
    sumN (m.map sumN) = (getPairResults t).length ∧ 0 < (getPairResults t).length ∧
    m.length = (confusionIndex labels t).length ∧ ∀ row ∈ m, row.length = (confusionIndex labels t).length := by
  obtain ⟨h1, h2⟩ := confusionWith_some _ t m h
  exact ⟨h1, h2, confusionWith_shape _ t m h⟩

/-- No matrix is returned exactly when no row is paired. -/
theorem confusion_none_iff (labels : List String) (t : Table) :
    getConfusionMatrix labels t = .ok none ↔ getPairResults t = [] :=
  confusionWith_none_iff _ t

/-! ## selections: `get(**kwargs)` / `filter`, `filter_by_distance`, `analyze(**kwargs, distance=(d0, d1))`

The property's statements about counts, rates, errors and the confusion matrix are made "for label / scene /
area / distance selections": they are statements about the selected SUB-TABLE.  The theorems below say which
sub-table that is (exactly the row pairs satisfying one pair predicate, in table order, pairs never split), what
the predicate says, and that counts over it are the counts of the selected items of the pass/fail lists. -/

/-- The table a selection yields is the full table filtered by the pair predicate
`RowPair.selected` — nothing else is kept, nothing satisfying it is dropped, order, indices and both rows of every
kept pair are preserved; an inverted or empty distance range is refused; and `analyze` reports nothing on an empty
selection and otherwise computes rates, errors and the confusion matrix on exactly that sub-table. -/
theorem selection_exact (labels : List String) (full : Table) (s : Sel) (d : Option (Rat × Rat)) :
    ((∀ dd, d = some dd → dd.1 < dd.2) →
      selectTable full s d = .ok (full.filter (RowPair.selected s d)) ∧
      (∀ r, r ∈ full.filter (RowPair.selected s d) ↔ r ∈ full ∧ r.selected s d = true) ∧
      (full.filter (RowPair.selected s d)).Sublist full ∧
      (full.filter (RowPair.selected s d) = [] → analyze labels full s d = .ok none) ∧
      (∀ A, analyze labels full s d = .ok (some A) →
        A.ratio = summarizeRatio labels (full.filter (RowPair.selected s d)) ∧
        A.error = summarizeError labels full (full.filter (RowPair.selected s d)) ∧
        getConfusionMatrix labels (full.filter (RowPair.selected s d)) = .ok A.confusion)) ∧
    (∀ dd, d = some dd → ¬ dd.1 < dd.2 →
      selectTable full s d = .error "AssertionError" ∧ analyze labels full s d = .error "AssertionError") := by
  constructor
  · intro hd
    have hsel := selectTable_ok full s d hd
    refine ⟨hsel, fun r => by simp [List.mem_filter], List.filter_sublist, ?_, ?_⟩
    · intro he
      rw [analyze_eq_selectTable, analyzeWith_ok_iff]
      exact ⟨_, hsel, (if_pos he).mpr rfl⟩
    · intro A hA
      obtain ⟨df, hdf, _, cm, hcm, rfl⟩ := (analyze_some_iff labels full s d A).mp hA
      obtain rfl := Except.ok.inj (hsel.symm.trans hdf)
      exact ⟨rfl, rfl, hcm⟩
  · rintro dd rfl hn
    have := selectTable_err full s dd hn
    exact ⟨this, analyze_eq_selectTable .. ▸ analyzeWith_error_iff.mpr (.inl this)⟩

/-- A pair is selected iff EVERY given keyword (label, scene, frame, area, status, uuid —
a scalar is a singleton list) is matched by SOME row of the pair — ground-truth row or estimate row, possibly
different rows for different keywords — and, if a distance range is given, SOME row of the pair lies in it;
"lies in `(d0, d1)`" is `d0 ≤ ρ < d1` for the ego-frame distance `ρ = √(x² + y²)` of the row (lower bound
inclusive, upper bound exclusive). -/
theorem selection_predicate (s : Sel) (d : Option (Rat × Rat)) (r : RowPair) :
    (r.selected s d = true ↔
      ((∀ l, s.labels = some l → ∃ c, r.HasRow c ∧ c.obj.label ∈ l) ∧
       (∀ l, s.scenes = some l → ∃ c, r.HasRow c ∧ c.scene ∈ l) ∧
       (∀ l, s.frames = some l → ∃ c, r.HasRow c ∧ c.frame ∈ l) ∧
       (∀ l, s.areas = some l → ∃ c, r.HasRow c ∧ ∃ a, c.area = some a ∧ a ∈ l) ∧
       (∀ l, s.statuses = some l → ∃ c, r.HasRow c ∧ c.status ∈ l) ∧
       (∀ l, s.uuids = some l → ∃ c, r.HasRow c ∧ c.obj.uuid ∈ l)) ∧
      ∀ dd, d = some dd → ∃ c, r.HasRow c ∧ inDistance dd c = true) ∧
    (∀ (dd : Rat × Rat) (c : Cell) (ρ : Rat), 0 ≤ ρ → ρ * ρ = c.obj.x * c.obj.x + c.obj.y * c.obj.y →
      (inDistance dd c = true ↔ dd.1 ≤ ρ ∧ ρ < dd.2)) :=
  ⟨by rw [selected_iff, keep_iff], fun dd c ρ h0 hρ => inDistance_iff dd c ρ h0 hρ⟩

/-- Counts over a selection are the counts of the selected items: for the table of any
scenes and any valid selection, the TP / FP / TN / FN counts, the estimate count and the number of paired rows of
the selected sub-table are the numbers of TP results, FP results, TN objects, FN objects (resp. TP+FP results,
resp. TP / FP results carrying a ground truth) of the frames' pass/fail lists whose row pair satisfies the
selection predicate (`tpSel` … `pairedSel`, summed over scenes `0, 1, …` and their frames). -/
theorem selection_counts (s : Sel) (d : Option (Rat × Rat)) (hd : ∀ dd, d = some dd → dd.1 < dd.2) :
    ∃ df, selectTable (addAll area scenes).table s d = .ok df ∧
      getNumTP df = sumScenesFrom (tpSel area (Item.selected s d)) 0 scenes ∧
      getNumFP df = sumScenesFrom (fpSel area (Item.selected s d)) 0 scenes ∧
      getNumTN df = sumScenesFrom (tnSel area (Item.selected s d)) 0 scenes ∧
      getNumFN df = sumScenesFrom (fnSel area (Item.selected s d)) 0 scenes ∧
      getNumEstimation df =
        sumScenesFrom (fun k f => tpSel area (Item.selected s d) k f + fpSel area (Item.selected s d) k f) 0 scenes ∧
      (getPairResults df).length = sumScenesFrom (pairedSel area (Item.selected s d)) 0 scenes := by
  refine ⟨_, selectTable_ok _ s d hd, ?_⟩
  have e : (addAll area scenes).table.filter (RowPair.selected s d) =
      (addAll area scenes).table.filter (fun r => Item.selected s d r.strip) := rfl
  rw [e]
  exact ⟨selection_numTP area scenes _, selection_numFP area scenes _, selection_numTN area scenes _,
    selection_numFN area scenes _, selection_numEstimation area scenes _, selection_paired area scenes _⟩

/-- On every selection the confusion matrix `analyze` reports sums to the number of
selected TP / FP results that carry a ground truth. -/
theorem selection_confusion_sum (labels : List String) (s : Sel) (d : Option (Rat × Rat)) (A : Analysis)
    (m : List (List Nat)) (h : analyze labels (addAll area scenes).table s d = .ok (some A))
    (hm : A.confusion = some m) :
    sumN (m.map sumN) = sumScenesFrom (pairedSel area (Item.selected s d)) 0 scenes := by
  obtain ⟨df, hdf, _, cm, hcm, rfl⟩ := (analyze_some_iff labels _ s d A).mp h
  obtain ⟨hd, rfl⟩ := selectTable_eq_ok hdf
  obtain rfl : cm = some m := hm
  obtain ⟨df, hdf', _, _, _, _, _, hp⟩ := selection_counts area scenes s d hd
  obtain rfl := Except.ok.inj (hdf.symm.trans hdf')
  rw [(confusion_sum labels _ m hcm).1, hp]

/-- the whole-table TP count is the TP count of the selection that keeps everything -/
theorem selection_counts_whole :
    sumScenesFrom (tpSel area (fun _ => true)) 0 scenes = sumN (scenes.flatten.map fun f => f.tp.length) := by
  rw [tpSel_true, sumScenesFrom_const]

/-! ## areas -/

/-- For the 1/3/9 divisions of any `max_x`, `max_y`, at most one area contains a
point, so `get_area_idx` never raises and equals the total function used by the table. -/
theorem area_idx_unique (n : Nat) (mx my x y : Rat) (a : Areas) (h : generateAreaPoints n mx my = .ok a) :
    (areaHits a x y).length ≤ 1 ∧ getAreaIdx a x y = .ok (areaOf a x y) ∧ (n = 1 ∨ n = 3 ∨ n = 9) :=
  ⟨areaHits_le_one n mx my x y a h, getAreaIdx_generated n mx my x y a h, generateAreaPoints_ok n mx my a h⟩

/-- The index returned is that of a rectangle strictly containing the ego-frame
position; `None` means no rectangle contains it (e.g. a position on a boundary). -/
theorem area_idx_inside (a : Areas) (x y : Rat) :
    (∀ i, getAreaIdx a x y = .ok (some i) →
      ∃ ur bl, a.upperRights[i]? = some ur ∧ a.bottomLefts[i]? = some bl ∧
        bl.1 < x ∧ x < ur.1 ∧ ur.2 < y ∧ y < bl.2) ∧
    (getAreaIdx a x y = .ok none → ∀ (i : Nat) (ur bl : Rat × Rat), a.upperRights[i]? = some ur →
        a.bottomLefts[i]? = some bl → insideArea ur bl x y = false) := by
  fun_cases getAreaIdx a x y with
  | case1 hh =>
    refine ⟨(fun i h => nomatch h), fun _ i ur bl h1 h2 => Bool.eq_false_iff.mpr fun hin => ?_⟩
    exact List.not_mem_nil (hh ▸ (mem_areaHits a x y i).mpr ⟨ur, bl, h1, h2, hin⟩)
  | case2 j hh =>
    refine ⟨fun i h => ?_, fun h => nomatch h⟩
    obtain rfl : j = i := Option.some.inj (Except.ok.inj h)
    obtain ⟨ur, bl, h1, h2, h3⟩ := (mem_areaHits a x y j).mp (hh ▸ List.mem_singleton_self j)
    simp only [insideArea, Bool.and_eq_true, decide_eq_true_eq] at h3
    exact ⟨ur, bl, h1, h2, h3.1.2, h3.1.1, h3.2.1, h3.2.2⟩
  | case3 => exact ⟨(fun i h => nomatch h), fun h => nomatch h⟩

/-! ## empty table (finding N2) -/

/-- (N2, exact) The `num_*` properties raise `TypeError` exactly on the empty table
of an unrepaired analyzer (`emptyRaises = true`); the table is empty exactly when no frame has an item. -/
theorem num_props_empty (er : Bool) (v : Nat) :
    (numProp er (addAll area scenes).table v = .error "TypeError" ↔
      er = true ∧ sumN (scenes.flatten.map Frame.items) = 0) ∧
    (numProp er (addAll area scenes).table v ≠ .error "TypeError" → numProp er (addAll area scenes).table v = .ok v) := by
  have hiff := table_isEmpty_iff area scenes
  unfold numProp
  cases er <;> cases he : (addAll area scenes).table.isEmpty <;> simp [he] at hiff ⊢
  · omega
  · exact hiff

section Examples

def car (u : String) (x : Rat) : Obj := ⟨u, "car", x, 0, 0, 2, 4, some 1, none⟩
def unk (u : String) (x : Rat) : Obj := ⟨u, "unknown", x, 0, 0, 2, 4, some 1, none⟩

/-- the F11 frame of the corpus: g1 matched, g2 paired with a failing estimate, g3 unmatched -/
def f11Input : Evaluated :=
  (0, [car "g1" 10, car "g2" 30, car "g3" 50],
   [(⟨car "e1" (81/8), some (car "g1" 10)⟩, true), (⟨car "e2" 34, some (car "g2" 30)⟩, false)])

example : f11Input.ok := by decide +kernel

/-- three critical ground truths, four ground-truth rows: `num_ground_truth = 4` -/
theorem example_f11 :
    numGroundTruth true (addAll (fun _ _ => none) [[f11Input.frame]]).table = .ok 4 ∧
    f11Input.frame.critical.length = 3 ∧ f11Input.frame.fpOrd.length = 1 ∧
    (getObjectStatus [f11Input.frame]).map (fun s => (s.uuid, s.total)) = [("g1", [0]), ("g2", [0, 0]), ("g3", [0])] := by
  decide +kernel

/-- a frame without F11 satisfies the hypotheses of the `_partial` theorems non-trivially -/
def cleanInput : Evaluated :=
  (3, [car "g1" 10, car "g2" 30], [(⟨car "e1" (81/8), some (car "g1" 10)⟩, true), (⟨car "e9" 70, none⟩, false)])

example : cleanInput.ok ∧ cleanInput.frame.fpOrd = [] ∧ cleanInput.frame.tp.length = 1 ∧
    cleanInput.frame.fp.length = 1 ∧ cleanInput.frame.fn.length = 1 := by decide +kernel

/-- N1: two unknown estimates matched as TP to car ground truths, one unknown ground truth missed -/
def n1Frame : Frame :=
  { frameNum := 0
    tp := [⟨unk "e1" (81/8), some (car "g1" 10)⟩, ⟨unk "e2" (121/4), some (car "g2" 30)⟩]
    fp := [], tn := [], fn := [unk "g3" 50]
    critical := [car "g1" 10, car "g2" 30, unk "g3" 50] }

theorem example_n1 :
    (ratioOf (addAll (fun _ _ => none) [[n1Frame]]).table { labels := some ["unknown"] }).tp = 2 ∧
    (ratioOf (addAll (fun _ _ => none) [[n1Frame]]).table {}).tp = 2 / 3 := by
  decide +kernel

/-- a pair that STRADDLES a distance range (ground truth at 14 m, estimate at 17 m, range [15, 16)): one row is at
or above the lower bound, the other below the upper bound, but neither lies in the range — not selected; with the
range [15, 18) the estimate lies inside and the pair is kept as a whole (both rows); a bound equal to a row's
distance: lower bound inclusive, upper bound exclusive; a label carried by one row only selects the pair -/
def straddleFrame : Frame :=
  { frameNum := 0, tp := [⟨unk "e1" 17, some (car "g1" 14)⟩], fp := [⟨car "e2" 40, none⟩], tn := [], fn := [car "g3" 15]
    critical := [car "g1" 14, car "g3" 15] }

theorem example_straddle :
    let T := (addAll (fun _ _ => none) [[straddleFrame]]).table
    (selectTable T {} (some (15, 16))).map (·.map (·.index)) = .ok [2] ∧
    (selectTable T {} (some (15, 18))).map (·.map (·.index)) = .ok [0, 2] ∧
    (selectTable T {} (some (14, 15))).map (·.map (·.index)) = .ok [0] ∧
    (selectTable T {} (some (17, 40))).map (·.map (·.index)) = .ok [0] ∧
    (selectTable T {} (some (17, 41))).map (·.map (·.index)) = .ok [0, 1] ∧
    (selectTable T {} (some (20, 30))).map (·.map (·.index)) = .ok [] ∧
    (selectTable T {} (some (16, 16))).map (·.map (·.index)) = .error "AssertionError" ∧
    (selectTable T { labels := some ["unknown"] } none).map (·.map (·.index)) = .ok [0] ∧
    (selectTable T { labels := some ["car"], statuses := some [.TP, .FN] } (some (15, 18))).map (·.map (·.index)) = .ok [0, 2] ∧
    (selectTable T { labels := some ["car"] } (some (15, 18))).map (fun df => (getNumTP df, getNumFN df, (getPairResults df).length)) = .ok (1, 1, 1) := by
  decide +kernel

/-- errors and summaries on a concrete pair list -/
example : summarize [3, -4] = some ⟨-1/2, 25/2, 49/4, 4, 3⟩ := by decide +kernel

example : wrapYaw (15/8) = -1/8 ∧ wrapYaw (-2) = 0 ∧ wrapYaw 1 = 1 := by decide +kernel

/-- the 9-division of a 96 × 48 field: (40, -20) lies in area 6, a boundary point in none -/
example : (generateAreaPoints 9 96 48).map (fun a => (getAreaIdx a 40 (-20), getAreaIdx a 32 0)) =
    .ok (.ok (some 6), .ok none) := by decide +kernel

end Examples

/-! ## tie to the source: decision tables extracted from the real code (regenerated on every run)

`harness/dt_c19.py` runs the REAL `tool/utils.get_area_idx` (on the grid the REAL `generate_area_points` builds from symbolic
bounds) and the REAL `PerceptionAnalyzer3D.add` on symbolic inputs, over every assignment of the decision atoms they query
(`PEval/Gen/AnalyzerDT.lean`).  `AnalyzerDT.areaSkel` / `rowsSkel` are the hand-written skeletons of the model over the same
atoms; `DT.agree` decides, completely for the finite decision space and by kernel evaluation, that table and skeleton give
the same result (area tables) resp. results related by `rowsRel` (row tables: same multiset of row pairs whatever their numbering and
order, both layouts on F11's signature) under EVERY valuation (order atoms of different grid lines are treated as independent: an
over-approximation of the input space).  A shape the translator cannot follow has `tree = none` (the statements are vacuous
for it; the evidence says so and the correspondence runs carry the tie alone). -/
section Table
open PEval.DT PEval.AnalyzerDT

def skelOfKey (k1 k2 : Nat) : DTree := if k1 = 0 then areaSkel (divisionsOf k2) else rowsSkel k2
def atomsOfKey (k1 k2 : Nat) (v : Val) : Res := if k1 = 0 then areaAtoms (divisionsOf k2) v else rowsAtoms k2 v

/-- what a table has to satisfy against its skeleton.  Area tables (key1 = 0): EQUAL results.  Row tables: the relation `rowsRel` —
the table's row pairs as a multiset (the translator reads the pairs from the index and sorts them: C19 states neither a numbering nor an
order of the pairs) equal the model's, except that an FP pair carrying a ground truth may show the estimate only (the table-layout
repair of known finding F11; the model shows F11's layout). -/
def relOfKey (k1 : Nat) (c m : Res) : Bool := if k1 = 0 then c == m else rowsRel c m

def analyzerTablesOk : Bool :=
  Gen.AnalyzerDT.tables.all fun row =>
    match row.2.2 with
    | some t =>
      if row.1 = 0 then agree [] [] t (areaSkel (divisionsOf row.2.1)) PA.empty
      else agree [] [] (relTree rowsRel t (rowsSkel row.2.1)) (.leaf (.ret true)) PA.empty
    | none => true

/-- THE per-run obligation: the checker accepts every regenerated table -/
theorem analyzer_table_check : analyzerTablesOk = true := by decide +kernel

/-- the code's decision tables (area index: 1, 3, 9 divisions; row status: every frame shape with at most two items) agree with the
model's skeletons under every valuation of the atoms: area tables give the SAME result, row tables a result related by `rowsRel` -/
theorem analyzer_code_table_eq_model :
    ∀ row ∈ Gen.AnalyzerDT.tables, ∀ t, row.2.2 = some t → ∀ v : Val,
      relOfKey row.1 (eval t v) (atomsOfKey row.1 row.2.1 v) = true := by
  intro row hrow t ht v
  have h2 := List.all_eq_true.mp analyzer_table_check row hrow
  rw [ht] at h2
  unfold relOfKey atomsOfKey
  by_cases hk : row.1 = 0
  · simp only [hk, if_true] at h2 ⊢
    rw [agree_sound h2 v (by simp [consistent]), eval_areaSkel]
    exact beq_self_eq_true _
  · simp only [hk, if_false] at h2 ⊢
    have h3 := agree_sound h2 v (by simp [consistent])
    rw [eval_relTree, eval_rowsSkel] at h3
    simpa [eval] using h3

/-- area tables: equality -/
theorem area_code_table_eq_atoms {key : Nat} {t : DTree} (ht : (0, key, some t) ∈ Gen.AnalyzerDT.tables) (v : Val) :
    eval t v = areaAtoms (divisionsOf key) v := by
  have h := analyzer_code_table_eq_model _ ht t rfl v
  simpa [relOfKey, atomsOfKey] using h

/-- row tables: the relation; and equality wherever the skeleton's number has no FP pair holding a ground truth -/
theorem rows_code_table_rel_atoms {key : Nat} {t : DTree} (ht : (1, key, some t) ∈ Gen.AnalyzerDT.tables) (v : Val) :
    rowsRel (eval t v) (rowsAtoms key v) = true := by
  have h := analyzer_code_table_eq_model _ ht t rfl v
  simpa [relOfKey, atomsOfKey] using h

theorem rowsRel_eq_of_noF11 {c : Res} {m : Nat} (hn : noF11Code 4 m = true) (h : rowsRel c (.other m) = true) : c = .other m := by
  obtain ⟨k, rfl, hk⟩ := rowsRel_other h
  rw [relCode_eq_of_noF11 4 k m hn hk]

/-- the CODE's area table, read at the order atoms of a concrete input (positive bounds, ego-frame position `(x, y)`), is
the MODEL's `getAreaIdx` on the MODEL's `generateAreaPoints` grid -/
theorem area_code_table_eq_getAreaIdx {key : Nat} {t : DTree} (ht : (0, key, some t) ∈ Gen.AnalyzerDT.tables)
    (hn : divisionsOf key = 1 ∨ divisionsOf key = 3 ∨ divisionsOf key = 9)
    (mX mY x y : Rat) (_hX : 0 < mX) (_hY : 0 < mY) :
    eval t (areaValuation mX mY x y) = areaResOfModel (divisionsOf key) mX mY x y := by
  rw [area_code_table_eq_atoms ht]
  exact areaAtoms_valuation _ hn mX mY x y

/-- C19's area clause for the code's table: the table never answers with an exception; an index `i` means the ego-frame
position lies strictly inside rectangle `i` of the grid; `None` means it lies strictly inside no rectangle -/
theorem table_area_spec {key : Nat} {t : DTree} (ht : (0, key, some t) ∈ Gen.AnalyzerDT.tables)
    (hn : divisionsOf key = 1 ∨ divisionsOf key = 3 ∨ divisionsOf key = 9)
    (mX mY x y : Rat) (hX : 0 < mX) (hY : 0 < mY) :
    ∃ a, generateAreaPoints (divisionsOf key) mX mY = .ok a ∧
      (∀ e, eval t (areaValuation mX mY x y) ≠ .raise e) ∧
      (∀ i, eval t (areaValuation mX mY x y) = .other (i + 1) →
        ∃ ur bl, a.upperRights[i]? = some ur ∧ a.bottomLefts[i]? = some bl ∧ bl.1 < x ∧ x < ur.1 ∧ ur.2 < y ∧ y < bl.2) ∧
      (eval t (areaValuation mX mY x y) = .other 0 → ∀ (i : Nat) (ur bl : Rat × Rat), a.upperRights[i]? = some ur →
        a.bottomLefts[i]? = some bl → insideArea ur bl x y = false) := by
  rw [area_code_table_eq_getAreaIdx ht hn mX mY x y hX hY]
  have ha := generate_eq _ hn mX mY
  refine ⟨_, ha, ?_⟩
  have hu := getAreaIdx_generated _ mX mY x y _ ha
  obtain ⟨hin, hout⟩ := area_idx_inside _ x y
  rw [hu] at hin hout
  simp only [areaResOfModel, ha, hu]
  generalize areaOf _ x y = r at hin hout ⊢
  cases r with
  | none => exact ⟨fun e h => (by cases h), fun i h => (by cases h), fun _ => hout rfl⟩
  | some j =>
    refine ⟨fun e h => (by cases h), fun i h => ?_, fun h => (by cases h)⟩
    obtain rfl : j = i := Nat.succ.inj (Res.other.inj h)
    exact hin j rfl

/-- a position exactly ON a grid line (x on a line of the x-grid: the outer lines, and the inner ones for 3 / 9 divisions;
likewise y, inner lines for 9 divisions) is answered `None` by the code's table — the guard the seeded `np.any(..) is False`
turns into a `ValueError` -/
theorem table_on_grid_line {key : Nat} {t : DTree} (ht : (0, key, some t) ∈ Gen.AnalyzerDT.tables)
    (hn : divisionsOf key = 1 ∨ divisionsOf key = 3 ∨ divisionsOf key = 9)
    (mX mY : Rat) (hX : 0 < mX) (hY : 0 < mY) (k : Nat) :
    (divisionsOf key ≠ 1 ∨ k = 0 ∨ 3 ≤ k → ∀ y, eval t (areaValuation mX mY (lineVal mX k) y) = .other 0) ∧
    (divisionsOf key = 9 ∨ k = 0 ∨ 3 ≤ k → ∀ x, eval t (areaValuation mX mY x (lineVal mY k)) = .other 0) := by
  constructor
  · intro hg y
    rw [area_code_table_eq_getAreaIdx ht hn mX mY _ y hX hY]
    exact model_on_x_line _ hn mX mY y hX k hg
  · intro hg x
    rw [area_code_table_eq_getAreaIdx ht hn mX mY x _ hX hY]
    exact model_on_y_line _ hn mX mY x hY k hg

/-- `rows_code_table_eq_model` (next) without its hypothesis on `b`, which every `b` meets (`mem_allBits`) -/
theorem rows_code_table_eq_model_all_bits {key : Nat} {t : DTree} (ht : (1, key, some t) ∈ Gen.AnalyzerDT.tables)
    (hk : key ∈ rowKeys) (b : Bool × Bool × Bool × Bool) :
    rowsRel (eval t (valOfBits b)) (rowsModel key (valOfBits b)) = true ∧
    (noFPwithGT key (valOfBits b) = true → eval t (valOfBits b) = rowsModel key (valOfBits b)) := by
  have he := rows_skel_eq_model hk b
  have hr := he ▸ rows_code_table_rel_atoms ht (valOfBits b)
  refine ⟨hr, fun hno => ?_⟩
  have hn := rows_noF11 hk hno
  rw [he] at hn
  unfold rowsModel at hn hr ⊢
  exact rowsRel_eq_of_noF11 hn hr

/-- the CODE's row-status table, for every tabulated frame shape and every assignment of its atoms, is RELATED (`rowsRel`: same
multiset of row pairs; an FP pair carrying a ground truth may show the estimate only) to the number computed from the MODEL's
`Analyzer.add` run on index objects (item `j` has estimate `e<j>`, ground truth `g<j>`) — and EQUAL to it on every valuation outside
F11's signature (`noFPwithGT`: no FP result of the frame carries a ground truth) -/
theorem rows_code_table_eq_model {key : Nat} {t : DTree} (ht : (1, key, some t) ∈ Gen.AnalyzerDT.tables)
    (hk : key ∈ rowKeys) (b : Bool × Bool × Bool × Bool) (hb : b ∈ allBits) :
    rowsRel (eval t (valOfBits b)) (rowsModel key (valOfBits b)) = true ∧
    (noFPwithGT key (valOfBits b) = true → eval t (valOfBits b) = rowsModel key (valOfBits b)) :=
  rows_code_table_eq_model_all_bits ht hk b

/-- C19's row clause for the code's table: the DataFrame the table describes has the row pairs of the model's (as a multiset; FP pairs
carrying a ground truth with or without it), whose rows are — forgetting the index — exactly one pair per TP result, FP result, TN
object and FN object of the frame (`frame_block`); the model numbers them 0, 1, … (a numbering the code's table is NOT held to) -/
theorem table_rows_per_item {key : Nat} {t : DTree} (ht : (1, key, some t) ∈ Gen.AnalyzerDT.tables)
    (hk : key ∈ rowKeys) (b : Bool × Bool × Bool × Bool) (hb : b ∈ allBits) :
    let T := (addAll (fun _ _ => some 0) [[frameOf key (valOfBits b)]]).table
    rowsRel (eval t (valOfBits b)) (.other (tableCode T)) = true ∧
    (noFPwithGT key (valOfBits b) = true → eval t (valOfBits b) = .other (tableCode T)) ∧
    T.map RowPair.strip = frameItems (fun _ _ => some 0) 0 (frameOf key (valOfBits b)) ∧
    T.map (·.index) = List.range T.length := by
  have h0 := rows_code_table_eq_model ht hk b hb
  refine ⟨h0.1, h0.2, ?_, index_range _ _⟩
  have := (rows_per_item (fun _ _ => some 0) [[frameOf key (valOfBits b)]]).1
  simpa [allItemsFrom, sceneItems] using this

/-- readable instances: one TP result and one GT-less FP result give the pairs (TP, TP) of item 0 and (all-None, FP) of item 1; when
the FP result carries a ground truth, item 1's pair is (FP, FP) — F11's layout — or (all-None, FP) — its repair; one FN object gives
(FN, all-None); one TN object (TN, all-None) -/
theorem table_rows_examples {t4 t27 t9 : DTree} (h4 : (1, 4, some t4) ∈ Gen.AnalyzerDT.tables)
    (h27 : (1, 27, some t27) ∈ Gen.AnalyzerDT.tables) (h9 : (1, 9, some t9) ∈ Gen.AnalyzerDT.tables) :
    eval t4 (valOfBits (false, false, true, false)) = .other ((rowDigit 1 1 0 + 1) + (rowDigit 0 2 1 + 1) * 64) ∧
    (eval t4 (valOfBits (false, false, false, false)) = .other ((rowDigit 1 1 0 + 1) + (rowDigit 2 2 1 + 1) * 64) ∨
      eval t4 (valOfBits (false, false, false, false)) = .other ((rowDigit 1 1 0 + 1) + (rowDigit 0 2 1 + 1) * 64)) ∧
    (∀ v, eval t27 v = .other (rowDigit 4 0 0 + 1)) ∧ (∀ v, eval t9 v = .other (rowDigit 3 0 0 + 1)) := by
  refine ⟨?_, ?_, fun v => ?_, fun v => ?_⟩
  · have h := rows_code_table_rel_atoms h4 (valOfBits (false, false, true, false))
    have e : rowsAtoms 4 (valOfBits (false, false, true, false)) = .other ((rowDigit 1 1 0 + 1) + (rowDigit 0 2 1 + 1) * 64) := by
      decide +kernel
    rw [e] at h
    exact rowsRel_eq_of_noF11 (by decide) h
  · have h := rows_code_table_rel_atoms h4 (valOfBits (false, false, false, false))
    have e : rowsAtoms 4 (valOfBits (false, false, false, false)) = .other (7 + 38 * 64) := by decide +kernel
    obtain ⟨k, hk, h⟩ := rowsRel_other (e ▸ h)
    -- cell 0 of the model's number is 7 and has to be equal; cell 1 is 38 = 13 + 25 (the FP pair showing its ground truth), for
    -- which `cellRel` also admits 36 (the estimate only); there are no further cells
    obtain ⟨h0, h⟩ := relCode_succ h
    obtain ⟨h1, h⟩ := relCode_succ h
    have h2 := relCode_eq_of_noF11 2 _ _ (by decide) h
    simp only [cellRel, Bool.or_eq_true, Bool.and_eq_true, beq_iff_eq] at h0 h1
    have : k = 7 + 38 * 64 ∨ k = 7 + 36 * 64 := by omega
    exact hk ▸ this.imp (congrArg Res.other) (congrArg Res.other)
  · have h := rows_code_table_rel_atoms h27 v
    exact rowsRel_eq_of_noF11 (m := rowDigit 4 0 0 + 1) (by decide) h
  · have h := rows_code_table_rel_atoms h9 v
    exact rowsRel_eq_of_noF11 (m := rowDigit 3 0 0 + 1) (by decide) h

/-- the per-run relation distinguishes: against the skeleton of one TP + one FP result, a table that writes the FP pair's ground truth
where there is none, or that of another shape, is rejected; F11's layout and its repair are both accepted where the FP carries a ground
truth (built from the skeleton itself by rewriting that leaf) -/
example : agree [] [] (relTree rowsRel (rowsSkel 4) (rowsSkel 4)) (.leaf (.ret true)) PA.empty = true := by decide +kernel
example : agree [] [] (relTree rowsRel (rowsSkel 10) (rowsSkel 4)) (.leaf (.ret true)) PA.empty = false := by decide +kernel
example : agree [] [] (relTree rowsRel (mapT (fun r => if r = .other (7 + 38 * 64) then .other (7 + 36 * 64) else r) (rowsSkel 4))
    (rowsSkel 4)) (.leaf (.ret true)) PA.empty = true := by decide +kernel
example : agree [] [] (relTree rowsRel (mapT (fun r => if r = .other (7 + 36 * 64) then .other (7 + 38 * 64) else r) (rowsSkel 4))
    (rowsSkel 4)) (.leaf (.ret true)) PA.empty = false := by decide +kernel

/-- non-vacuity: the skeleton on concrete atoms (9 divisions of a 96 × 48 field: (40, -20) lies in area 6, (32, 0) on a
grid line in none), the tables exist, and the checker distinguishes skeletons -/
example : areaAtoms 9 (areaValuation 96 48 40 (-20)) = .other 7 ∧ areaAtoms 9 (areaValuation 96 48 32 0) = .other 0 := by
  decide +kernel
example : agree [] [] (areaSkel 3) (areaSkel 3) PA.empty = true := by decide +kernel
example : agree [] [] (areaSkel 3) (areaSkel 9) PA.empty = false := by decide +kernel
example : agree [] [] (rowsSkel 4) (rowsSkel 10) PA.empty = false := by decide +kernel

end Table

/-! ## `get_confusion_matrix` / `analyze` and paired rows with other labels (finding N3)

The property says "the confusion matrix sums to the number of paired rows".  The PRE-FIX code built the index of the
matrix from `target_labels + ["unknown"]` only and looked every paired row's two labels up with `list.index`; a paired
row with another label (an FP result that keeps a "false_positive"-labelled ground truth — status (FP, FP), reachable
when the pass/fail target labels hold "false_positive" but the evaluation config's do not) made it raise `ValueError`.
The repair appends the labels met in the paired rows to the index.  `getConfusionMatrix` / `analyze` model the repaired
code; `getConfusionMatrixOld` / `analyzeOld` the pre-fix behaviour, characterised exactly below. -/

/-- For EVERY table and label list the repaired `get_confusion_matrix`
returns: nothing exactly when no row is paired; otherwise a square matrix over the index `confusionIndex` whose entries
sum to the number of paired rows, entry `(i, j)` being the number of paired rows with the `i`-th label on the
ground-truth row and the `j`-th on the estimate row.  The index starts with `target_labels + ["unknown"]` and holds
besides exactly the other labels of the paired rows (appended in order of first occurrence, ground-truth column first:
`confusionIndex`, `example_n3`).  Whenever the pre-fix function returned a result, the index is the old one and the
result is the same. -/
theorem confusion_total (labels : List String) (t : Table) :
    (∃ m, getConfusionMatrix labels t = .ok m ∧ (m = none ↔ getPairResults t = []) ∧
      ∀ mm, m = some mm →
        sumN (mm.map sumN) = (getPairResults t).length ∧
        mm.length = (confusionIndex labels t).length ∧ (∀ row ∈ mm, row.length = (confusionIndex labels t).length) ∧
        ∀ i j, i < (confusionIndex labels t).length → j < (confusionIndex labels t).length →
          entry mm i j = (getPairResults t).countP (fun p =>
            decide ((confusionIndex labels t).idxOf p.1.obj.label = i) &&
            decide ((confusionIndex labels t).idxOf p.2.obj.label = j))) ∧
    (confusionLabels labels <+: confusionIndex labels t ∧
      ∀ x, x ∈ confusionIndex labels t ↔
        x ∈ confusionLabels labels ∨ ∃ p ∈ getPairResults t, x = p.1.obj.label ∨ x = p.2.obj.label) ∧
    (∀ r, getConfusionMatrixOld labels t = .ok r →
      confusionIndex labels t = confusionLabels labels ∧ getConfusionMatrix labels t = .ok r) := by
  refine ⟨?_, confusionIndex_spec labels t, confusion_old_ok_eq labels t⟩
  obtain ⟨m, hm⟩ := confusion_ok labels t
  refine ⟨m, hm, confusionWith_ok_none_iff hm, ?_⟩
  intro mm h; subst h
  obtain ⟨h3, h4⟩ := confusionWith_shape _ t mm hm
  exact ⟨(confusionWith_some _ t mm hm).1, h3, h4, confusionWith_entry _ t mm hm⟩

/-- The repaired `analyze` fails only with `AssertionError`, and only for an inverted distance
range; whatever the pre-fix `analyze` returned, it returns. -/
theorem analyze_total (labels : List String) (full : Table) (s : Sel) (d : Option (Rat × Rat)) :
    (∀ e, analyze labels full s d = .error e → e = "AssertionError" ∧ ∃ dd, d = some dd ∧ ¬ dd.1 < dd.2) ∧
    (∀ r, analyzeOld labels full s d = .ok r → analyze labels full s d = .ok r) := by
  refine ⟨fun e h => ?_, fun r h => ?_⟩
  · obtain h | ⟨df, _, _, h⟩ := analyzeWith_error_iff.mp (analyze_eq_selectTable .. ▸ h)
    · exact selectTable_error h
    · obtain ⟨m, hm⟩ := confusion_ok labels df
      cases hm.symm.trans h
  · obtain ⟨df, hdf, h⟩ := analyzeWith_ok_iff.mp (analyzeOld_eq .. ▸ h)
    rw [analyze_eq_selectTable, analyzeWith_ok_iff]
    refine ⟨df, hdf, ?_⟩
    split
    · next he => exact (if_pos he).mp h
    · next he =>
      obtain ⟨cm, hcm, rfl⟩ := (if_neg he).mp h
      exact ⟨cm, (confusion_old_ok_eq labels df cm hcm).2, rfl⟩

/-- (N3, exact) The pre-fix `get_confusion_matrix` raised exactly when some
PAIRED row carries — on its ground-truth row or on its estimate row — a label outside `target_labels + ["unknown"]`;
the exception was always `ValueError`; otherwise a result was returned: no matrix exactly when no row is paired, else a
matrix whose entries sum to the number of paired rows. -/
theorem confusion_error_iff (labels : List String) (t : Table) :
    ((∃ e, getConfusionMatrixOld labels t = .error e) ↔ ∃ p ∈ getPairResults t, OutsideLabel labels p) ∧
    (∀ e, getConfusionMatrixOld labels t = .error e → e = "ValueError") ∧
    ((∀ p ∈ getPairResults t, ¬ OutsideLabel labels p) →
      ∃ m, getConfusionMatrixOld labels t = .ok m ∧ (m = none ↔ getPairResults t = []) ∧
        ∀ mm, m = some mm → sumN (mm.map sumN) = (getPairResults t).length) := by
  refine ⟨confusionWith_error_iff _ t, confusionWith_error_kind _ t, ?_⟩
  intro hin
  cases hc : getConfusionMatrixOld labels t with
  | error e =>
    obtain ⟨p, hp, ho⟩ := (confusionWith_error_iff _ t).mp ⟨e, hc⟩
    exact absurd ho (hin p hp)
  | ok m =>
    exact ⟨m, rfl, confusionWith_ok_none_iff hc, fun mm hm => (confusionWith_some _ t mm (hm ▸ hc)).1⟩

/-- (N3) The pre-fix `analyze` raised `ValueError` exactly when the selected
sub-table has a paired row with an outside label. -/
theorem analyze_error_iff (labels : List String) (full : Table) (s : Sel) (d : Option (Rat × Rat)) :
    analyzeOld labels full s d = .error "ValueError" ↔
      ∃ df, selectTable full s d = .ok df ∧ ∃ p ∈ getPairResults df, OutsideLabel labels p := by
  rw [analyzeOld_eq, analyzeWith_error_iff]
  constructor
  · rintro (h | ⟨df, hdf, _, h⟩)
    · exact absurd (selectTable_error h).1 (by decide)
    · exact ⟨df, hdf, (confusionWith_error_iff _ df).mp ⟨_, h⟩⟩
  · rintro ⟨df, hdf, hp⟩
    obtain ⟨e, he⟩ := (confusionWith_error_iff _ df).mpr hp
    refine .inr ⟨df, hdf, ?_, confusionWith_error_kind _ df e he ▸ he⟩
    rintro rfl
    obtain ⟨p, hp, _⟩ := hp
    cases hp

/-- In terms of the frames' pass/fail lists: on the table of any scenes the old
matrix could not be built exactly when some TP result, or some FP result that carries a ground truth, has a
ground-truth label or an estimate label outside `target_labels + ["unknown"]`. -/
theorem confusion_error_frames (labels : List String) :
    (∃ e, getConfusionMatrixOld labels (addAll area scenes).table = .error e) ↔
      ∃ f ∈ scenes.flatten, ∃ p ∈ f.pairs,
        p.1.label ∉ confusionLabels labels ∨ p.2.label ∉ confusionLabels labels := by
  rw [(confusion_error_iff labels _).1]
  have h : ∀ q, q ∈ scenes.flatten.flatMap Frame.pairs ↔
      ∃ p ∈ getPairResults (addAll area scenes).table, (p.1.obj, p.2.obj) = q := by
    intro q; rw [← pairs_table area scenes, List.mem_map]
  constructor
  · rintro ⟨p, hp, ho⟩
    obtain ⟨f, hf, hpf⟩ := List.mem_flatMap.mp ((h _).mpr ⟨p, hp, rfl⟩)
    exact ⟨f, hf, _, hpf, ho⟩
  · rintro ⟨f, hf, q, hq, ho⟩
    obtain ⟨p, hp, rfl⟩ := (h q).mp (List.mem_flatMap.mpr ⟨f, hf, hq⟩)
    exact ⟨p, hp, ho⟩

/-- When every TP result and every FP result carrying a ground truth has both
labels in `target_labels + ["unknown"]`, no selection made the old `analyze` raise `ValueError`. -/
theorem analyze_total_of_labels (labels : List String) (s : Sel) (d : Option (Rat × Rat))
    (hin : ∀ f ∈ scenes.flatten, ∀ p ∈ f.pairs,
      p.1.label ∈ confusionLabels labels ∧ p.2.label ∈ confusionLabels labels) :
    analyzeOld labels (addAll area scenes).table s d ≠ .error "ValueError" := by
  intro herr
  obtain ⟨df, hdf, p, hp, ho⟩ := (analyze_error_iff labels _ s d).mp herr
  have hp' : p ∈ getPairResults (addAll area scenes).table := getPairResults_subset (selectTable_subset hdf) hp
  obtain ⟨f, hf, q, hq, hoq⟩ := (confusion_error_frames area scenes labels).mp
    ((confusion_error_iff labels _).1.mpr ⟨p, hp', ho⟩)
  exact hoq.elim (· (hin f hf q hq).1) (· (hin f hf q hq).2)

section ExamplesN3

def fpl (u : String) (x : Rat) : Obj := ⟨u, "false_positive", x, 0, 0, 2, 4, some 1, none⟩
def bike (u : String) (x : Rat) : Obj := ⟨u, "bicycle", x, 0, 0, 2, 4, some 1, none⟩

/-- the reproduction: one TP pair, one FP result that keeps its FP-labelled ground truth (status (FP, FP)) -/
def n3Frame : Frame :=
  { frameNum := 0, tp := [⟨car "e1" (151/5), some (car "g1" 30)⟩], fp := [⟨car "e0" (51/5), some (fpl "g0" 10)⟩]
    tn := [], fn := [], critical := [car "g1" 30, fpl "g0" 10] }

/-- the ORDER of the appended labels: the estimate column meets "bicycle" in row 0, the ground-truth column
"false_positive" in row 1 — the ground-truth column's labels come first -/
def n3OrderFrame : Frame :=
  { frameNum := 0, tp := [⟨bike "e1" (151/5), some (car "g1" 30)⟩], fp := [⟨car "e0" (51/5), some (fpl "g0" 10)⟩]
    tn := [], fn := [], critical := [car "g1" 30, fpl "g0" 10] }

def n3Table : Table := (addAll (fun _ _ => none) [[n3Frame]]).table

/-- with target labels `["car"]` the PRE-FIX `get_confusion_matrix()` and `analyze()` raised `ValueError`; the repaired
ones return the 3×3 matrix over `car, unknown, false_positive` summing to the 2 paired rows; selecting the TP row only
gives the old 2×2 matrix; with "false_positive" a target label old and new agree -/
theorem example_n3 :
    getConfusionMatrixOld ["car"] n3Table = .error "ValueError" ∧
    (analyzeOld ["car"] n3Table {} none).map (·.map (·.confusion)) = .error "ValueError" ∧
    confusionIndex ["car"] n3Table = ["car", "unknown", "false_positive"] ∧
    getConfusionMatrix ["car"] n3Table = .ok (some [[1, 0, 0], [0, 0, 0], [1, 0, 0]]) ∧
    (analyze ["car"] n3Table {} none).map (·.map (·.confusion)) = .ok (some (some [[1, 0, 0], [0, 0, 0], [1, 0, 0]])) ∧
    (analyze ["car"] n3Table { statuses := some [.TP] } none).map (·.map (·.confusion)) = .ok (some (some [[1, 0], [0, 0]])) ∧
    getConfusionMatrixOld ["car", "false_positive"] n3Table = .ok (some [[1, 0, 0], [1, 0, 0], [0, 0, 0]]) ∧
    getConfusionMatrix ["car", "false_positive"] n3Table = .ok (some [[1, 0, 0], [1, 0, 0], [0, 0, 0]]) ∧
    (getPairResults n3Table).length = 2 ∧
    confusionIndex ["car"] (addAll (fun _ _ => none) [[n3OrderFrame]]).table = ["car", "unknown", "false_positive", "bicycle"] := by
  refine ⟨by decide +kernel, by decide +kernel, by decide +kernel, by decide +kernel, by decide +kernel,
    by decide +kernel, by decide +kernel, by decide +kernel, by decide +kernel, by decide +kernel⟩

/-- non-vacuity of `analyze_total_of_labels`: its hypothesis holds for the F11 frame, fails for `n3Frame` -/
example : (∀ f ∈ [[f11Input.frame]].flatten, ∀ p ∈ f.pairs,
      p.1.label ∈ confusionLabels ["car"] ∧ p.2.label ∈ confusionLabels ["car"]) ∧
    ¬ (∀ f ∈ [[n3Frame]].flatten, ∀ p ∈ f.pairs,
      p.1.label ∈ confusionLabels ["car"] ∧ p.2.label ∈ confusionLabels ["car"]) := by
  decide +kernel

/-- the headline statement has content: for the DEFECTIVE variant that silently drops rows with an outside label,
"a returned matrix sums to the number of paired rows" FAILS (and for the pre-fix function "a result is returned"
fails, `example_n3`); the repair spelled as "old function on the extended label list" is the repaired function -/
theorem confusion_skip_fails :
    let T := (addAll (fun _ _ => none) [[n3Frame]]).table
    (∃ m, getConfusionMatrixSkip ["car"] T = some m ∧ sumN (m.map sumN) ≠ (getPairResults T).length) ∧
    (∀ labels t, getConfusionMatrixExt labels t = getConfusionMatrix labels t) := by
  refine ⟨⟨[[1, 0], [0, 0]], by decide +kernel, by decide +kernel⟩, getConfusionMatrixExt_eq⟩

end ExamplesN3

/-! ## rows are expressed in the ego frame, for objects given in `base_link` or in `map`

`RawObj` / `RawFrame` (Model/Analyzer.lean) are the objects as handed to the analyzer, in the frame of the evaluation,
with the frame's ego pose; `addAllRaw` follows `format2dict` and `get_area_idx`, each with its own
`transforms.transform(TransformKey(frame_id, BASE_LINK), …)` step. -/

/-- The table built from objects given in either frame is the table of the ego-frame model built
from their ego-frame views (so every theorem above about `addAll` holds for it), and the columns of one object's row
are: `x`, `y` the planar part of `transform((frame, BASE_LINK), position)` (the height is dropped), `yaw` the
principal value of the yaw relative to the ego, the area index that of this ego-frame position, the `distance` column
(squared) `x² + y²`; velocities, sizes, uuid and label are copied. -/
theorem rows_from_raw (a : Areas) (rscenes : List (List RawFrame)) :
    addAllRaw a rscenes = addAll (areaOf a) (rscenes.map (·.map RawFrame.toFrame)) ∧
    ∀ (e : FrameChange.Pose) (o : RawObj),
      (o.frame = .baseLink → (o.toRow e).x = o.pos.x ∧ (o.toRow e).y = o.pos.y ∧ (o.toRow e).yaw = o.yaw) ∧
      (o.frame = .map → (o.toRow e).x = (FrameChange.toEgo3 e o.pos).x ∧ (o.toRow e).y = (FrameChange.toEgo3 e o.pos).y ∧
        (o.toRow e).yaw = Heading.toEgoYaw e.tau o.yaw) ∧
      areaOfRaw a e o = areaOf a (o.toRow e).x (o.toRow e).y ∧
      (o.toRow e).dist2 = (o.toRow e).x * (o.toRow e).x + (o.toRow e).y * (o.toRow e).y ∧
      ((o.toRow e).uuid, (o.toRow e).label, (o.toRow e).width, (o.toRow e).length, (o.toRow e).vx, (o.toRow e).vy) =
        (o.uuid, o.label, o.width, o.length, o.vx, o.vy) := by
  refine ⟨addAllRaw_eq a rscenes, fun e o => ⟨?_, ?_, rfl, rfl, rfl⟩⟩
  · intro hf; simp [RawObj.toRow, egoPosition, egoYaw, hf]
  · intro hf; simp [RawObj.toRow, egoPosition, egoYaw, hf]

/-- One physical object with ego-frame position `(x, y, z)` and yaw `τ ∈ (−1, 1]`, rendered
into the map frame by an ego pose (unit rotation, ANY translation incl. the ego's height; the hypothesis on the ego yaw is
not used), is
tabulated with exactly the same row as its base_link rendering: `x`, `y`, `τ`, the area index of `(x, y)`, squared
distance `x² + y²` — whatever the heights, and for the base_link rendering whatever transform is registered. -/
theorem ego_row_of_rendering (a : Areas) (e e' : FrameChange.Pose) (o : RawObj) (hu : e.rot.IsUnit)
    (he : Heading.InDom e.tau) (ho : Heading.InDom o.yaw) (hf : o.frame = .baseLink) :
    (o.renderMap e).toRow e = o.toRow e' ∧
    ((o.renderMap e).toRow e).x = o.pos.x ∧ ((o.renderMap e).toRow e).y = o.pos.y ∧
    ((o.renderMap e).toRow e).yaw = o.yaw ∧
    areaOfRaw a e (o.renderMap e) = areaOf a o.pos.x o.pos.y ∧ areaOfRaw a e' o = areaOf a o.pos.x o.pos.y ∧
    ((o.renderMap e).toRow e).dist2 = o.pos.x * o.pos.x + o.pos.y * o.pos.y := by
  have h1 := toRow_renderMap e o hu ho
  have h2 := toRow_baseLink e' o hf
  refine ⟨h1.trans h2.symm, by rw [h1], by rw [h1], by rw [h1], ?_, ?_, by rw [h1]; rfl⟩
  · rw [areaOfRaw_eq, h1]
  · rw [areaOfRaw_eq, h2]

/-- The whole table (every column, every row pair, every index) is the same for the map
rendering and for the base_link rendering of the same physical scenes, frame by frame with the frame's own ego pose;
hence so is everything computed from the table (counts, errors, summaries, rates, confusion matrix, selections by
area and distance). -/
theorem ego_frame_invariance (a : Areas) (rscenes : List (List RawFrame))
    (h : ∀ f ∈ rscenes.flatten, f.ego.rot.IsUnit ∧ Heading.InDom f.ego.tau ∧ f.EgoGiven) :
    addAllRaw a (rscenes.map (·.map RawFrame.renderMap)) = addAllRaw a rscenes := by
  rw [addAllRaw_eq, addAllRaw_eq]
  congr 1
  rw [List.map_map]
  apply List.map_congr_left
  intro fs hfs
  simp only [Function.comp_apply, List.map_map]
  apply List.map_congr_left
  intro f hf
  have := h f (List.mem_flatten.mpr ⟨fs, hfs, hf⟩)
  exact toFrame_renderMap f this.1 this.2.2

section ExamplesEgo

/-- ego at (10, 20, 3) in the map, heading a quarter turn left (yaw 1/2 half-turns) -/
def egoQuarter : FrameChange.Pose := ⟨⟨0, 1⟩, 1 / 2, ⟨10, 20, 3⟩⟩

def rawCar (u : String) (x y z yaw : Rat) : RawObj := ⟨.baseLink, u, "car", ⟨x, y, z⟩, yaw, 2, 4, some 1, none⟩

def rawFrame : RawFrame :=
  { ego := egoQuarter, frameNum := 0
    tp := [⟨rawCar "e1" 41 (-19) 0 (3 / 4), some (rawCar "g1" 40 (-20) 2 (7 / 8))⟩]
    fp := [⟨rawCar "e2" (-50) 30 0 0, none⟩], tn := [], fn := [rawCar "g3" 5 5 (-1) 1]
    critical := [rawCar "g1" 40 (-20) 2 (7 / 8), rawCar "g3" 5 5 (-1) 1] }

/-- non-vacuity of `ego_frame_invariance` and a look at the numbers: the map rendering of g1 sits at (30, 60, 5) with
yaw −5/8; both renderings are tabulated at (40, −20) with yaw 7/8 in area 6 (that of the estimate at (41, −19)) of the 9-division of (96, 48) -/
theorem example_ego_rows :
    (∀ f ∈ [[rawFrame]].flatten, f.ego.rot.IsUnit ∧ Heading.InDom f.ego.tau ∧ f.EgoGiven) ∧
    (rawCar "g1" 40 (-20) 2 (7 / 8)).renderMap egoQuarter =
      ⟨.map, "g1", "car", ⟨30, 60, 5⟩, -5 / 8, 2, 4, some 1, none⟩ ∧
    (generateAreaPoints 9 96 48).map (fun a =>
      ((addAllRaw a [[rawFrame.renderMap]]).table.map fun r => (r.gt.map fun c => ([c.obj.x, c.obj.y, c.obj.yaw], c.area)))) =
      .ok [some ([40, -20, 7 / 8], some 6), none, some ([5, 5, 1], some 4)] ∧
    (generateAreaPoints 9 96 48).map (fun a => (addAllRaw a [[rawFrame.renderMap]]).table == (addAllRaw a [[rawFrame]]).table) = .ok true := by
  refine ⟨List.forall_mem_singleton.mpr ⟨by simp [Geometry.Rot2.IsUnit, rawFrame, egoQuarter], by decide +kernel, ?_⟩,
    by decide +kernel, by decide +kernel, by decide +kernel⟩
  -- membership in the frame's concrete lists spelt out, `p.gt = some g` resolved: what is left is decidable
  simp only [RawFrame.EgoGiven, rawFrame, List.cons_append, List.nil_append, List.mem_cons, List.not_mem_nil, or_false,
    forall_eq_or_imp, forall_eq, Option.some.injEq, forall_eq', reduceCtorEq, false_imp_iff, implies_true, and_true]
  decide +kernel

/-- the statement has content: for the DEFECTIVE variant that tabulates the object's own coordinates (no transform
applied to map-frame objects) the two renderings of one object get DIFFERENT rows -/
theorem toRow_noTransform_fails :
    ¬ (∀ (e : FrameChange.Pose) (o : RawObj), e.rot.IsUnit → Heading.InDom e.tau → Heading.InDom o.yaw →
        o.frame = .baseLink → (o.renderMap e).toRowNoTransform = o.toRowNoTransform) := by
  intro h
  have := h egoQuarter (rawCar "g1" 40 (-20) 2 (7 / 8)) (by simp [Geometry.Rot2.IsUnit, egoQuarter]) (by decide +kernel) (by decide +kernel) rfl
  revert this
  decide +kernel

end ExamplesEgo

/-! ## which rows feed `summarize_error`

`Summary.rms2` and `Summary.var` are the SQUARES of the reported `rms` (`sqrt(mean(e²))`) and `std` (`np.std`); the
square roots are taken by numpy and compared by the harness. -/

/-- On every selection of the table of any scenes, `analyze().error` is: the block "ALL" =
one summary per column of the per-row errors of ALL paired rows of the selected sub-table `df` (TP results and FP
results carrying a ground truth; GT − estimate, yaw wrapped, NaN dropped); the block of target label `L` = the same
over the paired rows of `df` whose GROUND-TRUTH row has label `L` — the estimate's label does not matter (unlike the
per-label TP rate, N1). -/
theorem error_summary_rows (labels : List String) (s : Sel) (d : Option (Rat × Rat)) (A : Analysis)
    (h : analyze labels (addAll area scenes).table s d = .ok (some A)) :
    let df := (addAll area scenes).table.filter (RowPair.selected s d)
    A.error = ("ALL", errCols df) :: labels.map (fun L => (L, errCols (df.filter (gtLabelIs L)))) ∧
    (∀ c, pairErrors c df = (getPairResults df).filterMap (pairError c)) ∧
    (∀ c L, pairErrors c (df.filter (gtLabelIs L)) =
      ((getPairResults df).filter (fun p => p.1.obj.label == L)).filterMap (pairError c)) ∧
    (∀ p ∈ getPairResults df, (p.1.status = .TP ∧ p.2.status = .TP) ∨ (p.1.status = .FP ∧ p.2.status = .FP)) := by
  intro df
  obtain ⟨df', hdf, _, cm, _, rfl⟩ := (analyze_some_iff labels _ s d A).mp h
  obtain ⟨_, rfl⟩ := selectTable_eq_ok hdf
  have hnd : ((addAll area scenes).table.map (·.index)).Nodup := by
    rw [index_range]; exact List.nodup_range
  have hp := pairsIn_table area scenes
  refine ⟨?_, fun c => rfl, fun c L => pairErrors_gtLabel df (hp.filter _) L c, fun p hpm => ?_⟩
  · exact summarizeError_eq labels _ _ hnd hp
  · exact table_pair_status area scenes (getPairResults_subset (fun _ hr => (List.mem_filter.mp hr).1) hpm)

/-- On the whole table, in terms of the frames' pass/fail lists: the per-row errors behind
"ALL" are GT − estimate of every TP result and every FP result carrying a ground truth, in table order; those behind
label `L` are the same restricted to results whose ground truth has label `L`. -/
theorem error_summary_whole (c : Col) (L : String) :
    pairErrors c (addAll area scenes).table =
      (scenes.flatten.flatMap Frame.pairs).filterMap (fun p => objError c p.1 p.2) ∧
    pairErrors c ((addAll area scenes).table.filter (gtLabelIs L)) =
      ((scenes.flatten.flatMap Frame.pairs).filter (fun p => p.1.label == L)).filterMap (fun p => objError c p.1 p.2) := by
  have h := (pairs_eq_lists area scenes).1
  have hp := pairsIn_table area scenes
  constructor
  · rw [← h, List.filterMap_map]; rfl
  · rw [pairErrors_gtLabel _ hp, ← h, List.filter_map, List.filterMap_map]; rfl

/-- Every summary reported for a column is the stated function of the per-row errors
`e₁ … eₙ` of its block: NaN exactly when there is none; otherwise `average·n = Σ eᵢ`, `rms2·n = Σ eᵢ²` (`rms2` = SQUARE
of the reported RMS), `var = rms2 − average²` (`var` = SQUARE of the reported std), `max` / `min` the largest /
smallest `|eᵢ|`, attained. -/
theorem error_summary_functions (t : Table) (c : Col) (o : Option Summary) (h : (c, o) ∈ errCols t) :
    (o = none ↔ pairErrors c t = []) ∧
    ∀ sm, o = some sm →
      sm.average * ((pairErrors c t).length : Rat) = sumR (pairErrors c t) ∧
      sm.rms2 * ((pairErrors c t).length : Rat) = sumR ((pairErrors c t).map fun v => v * v) ∧
      sm.var = sm.rms2 - sm.average * sm.average ∧
      (∀ v ∈ pairErrors c t, v.abs ≤ sm.max) ∧ (∃ v ∈ pairErrors c t, sm.max = v.abs) ∧
      (∀ v ∈ pairErrors c t, sm.min ≤ v.abs) ∧ (∃ v ∈ pairErrors c t, sm.min = v.abs) := by
  simp only [errCols, List.mem_map, Prod.mk.injEq] at h
  obtain ⟨c', _, rfl, rfl⟩ := h
  refine ⟨(summary_defs _).1, fun sm hs => ?_⟩
  obtain ⟨h1, h2, h3⟩ := (summary_defs _).2 sm hs
  exact ⟨h1, h2, h3, summary_max_min _ sm hs⟩

section ExamplesSummary

/-- a TP pair with different labels (GT car at 10, estimate "unknown" at 9), an FP pair carrying a car GT (30 vs 34),
a GT-less FP, an FN -/
def sumFrame : Frame :=
  { frameNum := 0, tp := [⟨unk "e1" 9, some (car "g1" 10)⟩], fp := [⟨car "e2" 34, some (car "g2" 30)⟩, ⟨car "e3" 70, none⟩]
    tn := [], fn := [car "g2" 30, unk "g4" 50], critical := [car "g1" 10, car "g2" 30, unk "g4" 50] }

/-- ALL and "car": x errors [1, −4] (mean −3/2, RMS² 17/2, max 4, min 1); "unknown": no paired row with an unknown
GROUND TRUTH, NaN — although an estimate is labelled unknown -/
theorem example_error_summary :
    let T := (addAll (fun _ _ => none) [[sumFrame]]).table
    (analyze ["car", "unknown"] T {} none).map (·.map fun A => A.error.map fun b => (b.1, b.2.head?.map (·.2))) =
      .ok (some [("ALL", some (some ⟨-3 / 2, 17 / 2, 25 / 4, 4, 1⟩)),
                 ("car", some (some ⟨-3 / 2, 17 / 2, 25 / 4, 4, 1⟩)), ("unknown", some none)]) ∧
    pairErrors .x T = [1, -4] := by
  decide +kernel

/-- the statement has content: for the DEFECTIVE variant that picks a label's rows by the ESTIMATE's label, the label
blocks are not those of `error_summary_rows` -/
theorem summary_by_est_fails :
    let T := (addAll (fun _ _ => none) [[sumFrame]]).table
    summarizeErrorByEst ["car", "unknown"] T T ≠
      ("ALL", errCols T) :: ["car", "unknown"].map (fun L => (L, errCols (T.filter (gtLabelIs L)))) ∧
    summarizeError ["car", "unknown"] T T =
      ("ALL", errCols T) :: ["car", "unknown"].map (fun L => (L, errCols (T.filter (gtLabelIs L)))) := by
  decide +kernel

end ExamplesSummary

/-! ## `GroundTruthStatus.get_status_rates`, `StatusRate.rate`, `get_scene_rates` (`common/status.py`)

`none` models `float("inf")`, which `StatusRate.rate` returns when the status count OR the total is 0 — i.e. also for
a status that simply never occurred for that ground truth. -/

/-- For every record of `get_object_status`: the record is balanced (`total` has one entry
per entry of the four status lists) and non-empty; a rate is `inf` exactly for a status that never occurred; every
defined rate is `#frames with that status / #tally entries`, lies in (0, 1]; reading `inf` as 0 the four rates sum to 1. -/
theorem status_rates_unit (frames : List Frame) :
    ∀ s ∈ getObjectStatus frames,
      s.total.length = s.tp.length + s.fp.length + s.tn.length + s.fn.length ∧ 0 < s.total.length ∧
      (∀ st, (st, none) ∈ s.statusRates ↔ (statusField st s).length = 0) ∧
      (∀ st r, (st, some r) ∈ s.statusRates →
        r = ((statusField st s).length : Rat) / (s.total.length : Rat) ∧ 0 < r ∧ r ≤ 1) ∧
      ((s.statusRates.map fun p => rateOr0 p.2).foldr (· + ·) 0 = 1) := by
  intro s hs
  have hb := getObjectStatus_balanced frames s hs
  have hn : s.total.length ≠ 0 := hb.2.ne'
  refine ⟨hb.1, hb.2, ?_, ?_, ?_⟩
  · intro st
    rw [mem_statusRates, eq_comm, statusRate_none_iff]
    exact ⟨fun h => h.resolve_right hn, Or.inl⟩
  · intro st r hr
    have hmem := ((mem_statusRates s st _).mp hr).symm
    have hle : (statusField st s).length ≤ s.total.length := by
      have := hb.1
      cases st <;> simp only [statusField] <;> omega
    exact ⟨(statusRate_some _ _ _ hmem).2.2, statusRate_unit _ _ _ hle hmem⟩
  · have := statusRates_sum s hb
    simp only [GtStatus.statusRates, List.map_cons, List.map_nil, List.foldr_cons, List.foldr_nil]
    linarith

/-- `get_scene_rates` returns the four `inf` exactly when nothing was tallied; otherwise
each of the four rates lies in [0, 1] and they sum to 1 — with or without F11, because `add_status` appends to `total`
and to one status list together. -/
theorem scene_rates_unit_sum (frames : List Frame) :
    (sceneRates (getObjectStatus frames) = none ↔ sumN (frames.map Frame.gtRows) = 0) ∧
    ∀ a b c d, sceneRates (getObjectStatus frames) = some (a, b, c, d) →
      (0 ≤ a ∧ a ≤ 1) ∧ (0 ≤ b ∧ b ≤ 1) ∧ (0 ≤ c ∧ c ≤ 1) ∧ (0 ≤ d ∧ d ≤ 1) ∧ a + b + c + d = 1 := by
  refine ⟨?_, fun a b c d h => sceneRates_unit_sum _ (getObjectStatus_balanced frames) a b c d h⟩
  rw [sceneRates_none_iff, sceneCounts_frames]

/-- With well-formed pass/fail lists, writing `D` = number of (critical ground truth,
frame) incidences — the denominator the property's "once per evaluated frame" asks for — and `X` = number of FP
results carrying an ordinary ground truth (F11): the tallies behind the scene rates are `total = D + X`, `TP`,
`FP = FPL + X`, `TN`, `FN` with `D = TP + FPL + TN + FN`.  So the code's rates are
`TP/(D+X), (FPL+X)/(D+X), TN/(D+X), FN/(D+X)` (sum 1), every rate is scaled by `D/(D+X)` against the per-evaluated-frame
rate and the FP rate additionally holds the `X` doubly counted frames; over the intended denominator `D` the four
tallies would sum to `1 + X/D`. -/
theorem scene_rates_f11_exact (frames : List Frame) (hwf : ∀ f ∈ frames, f.WF) :
    let D := sumN (frames.map fun f => f.critical.length)
    let X := sumN (frames.map fun f => f.fpOrd.length)
    let TP := sumN (frames.map fun f => f.tpGts.length)
    let FPL := sumN (frames.map fun f => f.fpFpl.length)
    let TN := sumN (frames.map fun f => f.tn.length)
    let FN := sumN (frames.map fun f => f.fn.length)
    sceneCounts (getObjectStatus frames) = ⟨D + X, TP, FPL + X, TN, FN⟩ ∧ D = TP + FPL + TN + FN ∧
    (0 < D → ((TP : Rat) + ((FPL + X : Nat) : Rat) + TN + FN) / D = 1 + (X : Rat) / D) := by
  intro D X TP FPL TN FN
  have hfp : sumN (frames.map fun f => f.fpGts.length) = FPL + X := sumN_map_eq_add frames fun f _ => f.fpGts_length
  have hD : D = TP + FPL + TN + FN := by
    show sumN (frames.map fun f => f.critical.length) = _
    rw [sumN_map_congr _ _ _ fun f hf => (hwf f hf).critical_length, sumN_map_add, sumN_map_add, sumN_map_add]
  refine ⟨?_, hD, ?_⟩
  · rw [sceneCounts_frames, sumN_gtRows hwf, hfp]
  · intro hpos
    have hD' : (D : Rat) ≠ 0 := by exact_mod_cast hpos.ne'
    have hnum : (TP : Rat) + ((FPL + X : Nat) : Rat) + TN + FN = D + X := by
      rw [hD]; push_cast; ring
    rw [hnum, add_div, div_self hD']

section ExamplesStatusRates

/-- the F11 frame: g2 is tallied twice in frame 0 (FP and FN): its rates are FP 1/2, FN 1/2, TP and TN `inf`;
scene tallies total 4 = D 3 + X 1; scene rates 1/4, 1/4, 0, 1/2 -/
theorem example_status_rates :
    (getObjectStatus [f11Input.frame]).map (fun s => (s.uuid, s.statusRates.map (·.2))) =
      [("g1", [some 1, none, none, none]), ("g2", [none, some (1 / 2), none, some (1 / 2)]),
       ("g3", [none, none, none, some 1])] ∧
    sceneCounts (getObjectStatus [f11Input.frame]) = ⟨4, 1, 1, 0, 2⟩ ∧
    sceneRates (getObjectStatus [f11Input.frame]) = some (1 / 4, 1 / 4, 0, 1 / 2) ∧
    sceneRates (getObjectStatus []) = none := by
  decide +kernel

/-- the statements have content: a record that is not balanced (a status list longer than `total`: what an `add_status`
that forgot `total` would produce) has a rate above 1 -/
example : statusRate 2 1 = some 2 ∧ ¬ ((2 : Rat) ≤ 1) := by decide +kernel

example : ∀ f ∈ [f11Input.frame], f.WF :=
  List.forall_mem_singleton.mpr (passFail_wf _ _ _ (by decide +kernel) (by decide +kernel) (by decide +kernel)).1

end ExamplesStatusRates

end PEval.C19
