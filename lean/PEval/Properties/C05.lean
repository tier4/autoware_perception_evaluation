import PEval.Lemmas.ClearScenario
import PEval.Lemmas.ClearSum
import PEval.Lemmas.ClearDT
import PEval.Lemmas.ClearDTHist
import PEval.Gen.ClearDT
import PEval.Lemmas.ClearPipeline
/-!
# C05 — CLEAR tracking scores follow their definitions for every history

Model: `PEval/Model/Clear.lean` (`clear` = the accumulation of `CLEAR.__init__`, `evalClear` = `CLEAR.results`,
`sumClear` = `TrackingMetricsScore._sum_clear`). Vocabulary of the statements: `PEval/Lemmas/ClearSpec.lean`
(`events` = every result after the initial frame with the frame before it; `evaluated`; `conflict` / `samePair`;
`outcome` and the `counts…` predicates; `bookedScore`; `Perfect`; renamings).

Every theorem is over ALL histories (lists of frames of any length, any ids, labels, scores, thresholds, both
matching directions); the proofs write `clear` as a sum over the events (`clear_eq_total`) and argue per event.
A theorem that is just `:= lemma` gives the name the property is listed under to a lemma other modules use too.
Carry-over convention (DESIGN B1): a result with the pairing of a previous-frame TP is booked as TP with the
PREVIOUS result's TP value and matching score; it is explicit in `outcome`/`bookedScore` and in `motp_mean`.
-/

namespace PEval.C05
open PEval.Clear Function

/-- One result: if its key label is a target label it adds exactly (tp,fp) = (1,0) or (0,1); otherwise it adds nothing.
(unit TP weights = `TPMetricsAp`) -/
theorem each_result_once (cfg : Cfg) (prev : List Res) (c : Res) (hc : c.w = 1) (hp : ∀ p ∈ prev, p.w = 1) :
    (evaluated cfg c = true →
      ((resStep cfg prev c).tp = 1 ∧ (resStep cfg prev c).fp = 0) ∨
      ((resStep cfg prev c).tp = 0 ∧ (resStep cfg prev c).fp = 1)) ∧
    (evaluated cfg c = false → resStep cfg prev c = Acc.zero) := by
  obtain ⟨h1, h2⟩ := counts_iff cfg prev c
  rw [resStep_tp_unit cfg prev c hc hp, resStep_fp]
  constructor
  · intro he
    rcases h1.2 he with h | h
    · exact Or.inl ⟨if_pos h, if_neg fun h' => h2 ⟨h, h'⟩⟩
    · exact Or.inr ⟨if_neg fun h' => h2 ⟨h', h⟩, if_pos h⟩
  · exact resStep_of_not_evaluated prev

/-- tp + fp = number of results of the evaluated label(s) in the frames after the initial one. -/
theorem tp_fp_count (cfg : Cfg) (hist : List (List Res)) (hu : UnitWeights hist) :
    (clear cfg hist).tp + ((clear cfg hist).fp : Rat)
      = (((events hist).countP (fun e => evaluated cfg e.2) : Nat) : Rat) := by
  rw [clear_eq_total, total_tp_unit cfg _ (unitEvents_of_unitWeights hu), total_fp, ← counts_sum, Nat.cast_add]

/-- the split: tp counts the results booked TP (by carry-over or own test), fp those booked FP; no result is both,
every evaluated result is one of them. `predict_num` counts all results after the initial frame. -/
theorem tp_fp_split (cfg : Cfg) (hist : List (List Res)) (hu : UnitWeights hist) :
    (clear cfg hist).tp = (((events hist).countP (fun e => countsTp cfg e.1 e.2) : Nat) : Rat) ∧
    (clear cfg hist).fp = (events hist).countP (fun e => countsFp cfg e.1 e.2) ∧
    (∀ prev c, ¬ (countsTp cfg prev c = true ∧ countsFp cfg prev c = true)) ∧
    (∀ prev c, evaluated cfg c = true → (countsTp cfg prev c = true ∨ countsFp cfg prev c = true)) ∧
    predictNum hist = (events hist).length := by
  refine ⟨?_, ?_, ?_, ?_, ?_⟩
  · rw [clear_eq_total, total_tp_unit cfg _ (unitEvents_of_unitWeights hu)]
  · rw [clear_eq_total, total_fp]
  · exact fun prev c => (counts_iff cfg prev c).2
  · exact fun prev c he => (counts_iff cfg prev c).1.2 he
  · rw [predictNum_eq, events_length]

/-- a switch is booked only together with a TP: IDsw ≤ TP -/
theorem switch_le_tp (cfg : Cfg) (hist : List (List Res)) (hu : UnitWeights hist) :
    ((clear cfg hist).sw : Rat) ≤ (clear cfg hist).tp := by
  rw [clear_eq_total, total_tp_unit cfg _ (unitEvents_of_unitWeights hu), total_sw]
  have := switch_le_counts cfg (events hist)
  exact_mod_cast this

/-- the switch total is the number of results with which a switch is booked (once each), and a switch is booked with
`c` iff `c` is evaluated with threshold `t`, passes its own TP test, and the FIRST previous-frame TP that either
conflicts with or has the pairing of `c` is a conflicting one -/
theorem switch_count_def (cfg : Cfg) (hist : List (List Res)) :
    (clear cfg hist).sw = (events hist).countP (fun e => countsSwitch cfg e.1 e.2) ∧
    ∀ prev c, countsSwitch cfg prev c = true ↔
      ∃ t, labelThreshold cfg (keyLabel c) = some t ∧ isTp cfg t c = true ∧
        ∃ pre p post, prev = pre ++ p :: post ∧ isTp cfg t p = true ∧ conflict c p = true ∧
          ∀ q ∈ pre, isTp cfg t q = true → conflict c q = false ∧ samePair c q = false := by
  constructor
  · rw [clear_eq_total, total_sw]
  · intro prev c
    simp only [countsSwitch_iff, scan_switched_iff, isIdSwitched_eq_conflict, isSameMatch_eq_samePair]

/-- THE PROPERTY'S READING, order-free: when every previous frame pairs estimated and ground-truth tracks one-to-one
(among its TPs), a switch is counted exactly once for each TP whose pairing differs from the pairing a TP had in the
previous frame — no matter in which order the previous frame is scanned. -/
theorem switch_once_per_tp (cfg : Cfg) (hist : List (List Res)) (h11 : PrevOneToOne cfg hist) :
    (clear cfg hist).sw = (events hist).countP (fun e => switchedTp cfg e.1 e.2) := by
  rw [clear_eq_total, total_sw]
  apply List.countP_congr
  intro e he
  have h1 := events_prev_oneToOne cfg hist h11 e he
  rw [countsSwitch_eq_switchedTp cfg e.1 e.2 (fun t ht => by
    obtain ⟨lt, hm, rfl⟩ := labelThreshold_mem ht
    exact h1 lt hm)]

/-- MOTA = max(0, (TP − FP − IDsw) / G); undefined (`inf` in the code) exactly when there is no ground truth -/
theorem mota_def (cfg : Cfg) (g : Nat) (hist : List (List Res)) :
    (g = 0 → (evalClear cfg g hist).mota = none) ∧
    (g ≠ 0 → (evalClear cfg g hist).mota =
      some (max 0 (((clear cfg hist).tp - ((clear cfg hist).fp : Rat) - ((clear cfg hist).sw : Rat)) / (g : Rat)))) :=
  ⟨fun h => if_pos h, fun h => if_neg h⟩

theorem mota_nonneg (cfg : Cfg) (g : Nat) (hist : List (List Res)) (m : Rat)
    (h : (evalClear cfg g hist).mota = some m) : 0 ≤ m :=
  Clear.mota_nonneg g (clear cfg hist) m h

/-- MOTA ≤ 1 as soon as no more TPs are counted than there are ground truths -/
theorem mota_le_one (cfg : Cfg) (g : Nat) (hist : List (List Res)) (m : Rat)
    (h : (evalClear cfg g hist).mota = some m) (htp : (clear cfg hist).tp ≤ (g : Rat)) : m ≤ 1 :=
  Clear.mota_le_one g (clear cfg hist) m h htp

/-- MOTP = tp_matching_score / TP; undefined (`inf`) exactly when TP = 0 -/
theorem motp_def (cfg : Cfg) (g : Nat) (hist : List (List Res)) :
    ((clear cfg hist).tp = 0 → (evalClear cfg g hist).motp = none) ∧
    ((clear cfg hist).tp ≠ 0 → (evalClear cfg g hist).motp = some ((clear cfg hist).score / (clear cfg hist).tp)) :=
  ⟨fun h => if_pos h, fun h => if_neg h⟩

/-- MOTP is the MEAN of the matching scores booked for the TPs, with the carry-over convention explicit in
`bookedScore`: a result that keeps the pairing of a previous-frame TP is booked with the PREVIOUS result's score. -/
theorem motp_mean (cfg : Cfg) (g : Nat) (hist : List (List Res)) (hu : UnitWeights hist) :
    let booked := (events hist).filterMap (fun e => bookedScore cfg e.1 e.2)
    (clear cfg hist).score = ratSum booked ∧ (clear cfg hist).tp = (booked.length : Rat) ∧
    (booked.length ≠ 0 → (evalClear cfg g hist).motp = some (ratSum booked / (booked.length : Rat))) := by
  intro booked
  have h1 : (clear cfg hist).score = ratSum booked := by rw [clear_eq_total, total_score]
  have h2 : (clear cfg hist).tp = (booked.length : Rat) := by
    rw [clear_eq_total, total_tp_unit cfg _ (unitEvents_of_unitWeights hu), booked_length]
  refine ⟨h1, h2, ?_⟩
  intro hne
  have : (clear cfg hist).tp ≠ 0 := by
    rw [h2]; exact_mod_cast hne
  rw [(motp_def cfg g hist).2 this, h1, h2]

/-- any injective renaming of the estimate ids and any injective renaming of the ground-truth ids leaves every
accumulated number unchanged -/
theorem rename_invariant (cfg : Cfg) (f g : Nat → Nat) (hf : Injective f) (hg : Injective g) (hist : List (List Res)) :
    clear cfg (renameHist f g hist) = clear cfg hist :=
  clear_rename hf hg cfg hist

/-- hence such renamings leave every output unchanged: `CLEAR.results` per label and the totals of `_sum_clear` -/
theorem rename_invariant_scores (f g : Nat → Nat) (hf : Injective f) (hg : Injective g) :
    (∀ cfg n hist, evalClear cfg n (renameHist f g hist) = evalClear cfg n hist) ∧
    (∀ mx (ls : List LabelInput),
      trackingScore mx (ls.map (fun l => { l with hist := renameHist f g l.hist })) = trackingScore mx ls) := by
  refine ⟨evalClear_rename hf hg, ?_⟩
  intro mx ls
  simp only [trackingScore, trackingClears, List.map_map, Function.comp_def, evalClear_rename hf hg]

/-- a perfect tracker (constant one-to-one pairing, every result TP, ground-truth number = number of tracked
results) has no switch, no FP, and MOTA = 1 -/
theorem perfect_tracker (cfg : Cfg) (hist : List (List Res)) (g : Nat) (hP : Perfect cfg hist)
    (hg : g = resultCount hist) (hpos : g ≠ 0) :
    (clear cfg hist).sw = 0 ∧ (clear cfg hist).fp = 0 ∧ (clear cfg hist).tp = (g : Rat) ∧
    (evalClear cfg g hist).mota = some 1 := by
  obtain ⟨h1, h2, h3⟩ := perfect_totals cfg hist hP
  refine ⟨h3, h2, by rw [h1, hg], ?_⟩
  have := mota_of_counts g 0 (clear cfg hist) (by rw [h1, hg]) h2 h3 (Nat.zero_le _) hpos
  simp only [Nat.cast_zero, zero_div, sub_zero] at this
  exact this

/-- a NEW id on a continuing target costs exactly one switch: take a perfect history, and from frame `cur` on replace
the estimate id `a` by an id `b` that is not used from there on; if exactly one result of `cur` carries `a` and its
target was tracked in the previous frame, then exactly one switch is counted, TP and FP are unchanged, and
MOTA drops from 1 to 1 − 1/G -/
theorem new_id_costs_one (cfg : Cfg) (pre : List (List Res)) (prev cur : List Res) (rest : List (List Res))
    (a b g : Nat)
    (hP : Perfect cfg (pre ++ prev :: cur :: rest))
    (hg : g = resultCount (pre ++ prev :: cur :: rest))
    (hfresh : ∀ f ∈ cur :: rest, ∀ r ∈ f, r.est ≠ b)
    (hone : cur.countP (fun c => c.est == a) = 1)
    (hcont : ∀ c ∈ cur, c.est = a → ∃ p ∈ prev, sameGt c p = true) :
    (clear cfg (pre ++ prev :: renameHist (replaceId a b) id (cur :: rest))).sw = 1 ∧
    (clear cfg (pre ++ prev :: renameHist (replaceId a b) id (cur :: rest))).fp = 0 ∧
    (clear cfg (pre ++ prev :: renameHist (replaceId a b) id (cur :: rest))).tp = (g : Rat) ∧
    (evalClear cfg g (pre ++ prev :: renameHist (replaceId a b) id (cur :: rest))).mota = some (1 - 1 / (g : Rat)) := by
  have hab : a ≠ b := by
    rintro rfl
    obtain ⟨c, hc, hca⟩ := List.countP_pos_iff.mp (by omega : 0 < cur.countP (fun c => c.est == a))
    exact hfresh cur (by simp) c hc (by simpa using hca)
  rw [renameHist_replaceId a b id _ hfresh]
  have hb : cur.countP (·.est == b) = 0 :=
    List.countP_eq_zero.2 fun c hc => by simpa using hfresh cur (by simp) c hc
  have := relabel_scores cfg pre prev cur rest (swapId a b) (swapId_injective a b) hP
    (fun c hc hne => ((swapId_ne_iff a b c.est hab).mp hne).elim (hcont c hc)
      (fun h => absurd h (hfresh cur (by simp) c hc)))
    hg (k := 1) (by rw [countP_swapId_ne hab, hone, hb]) one_ne_zero
  rwa [Nat.cast_one] at this

/-- EXCHANGING two track identities mid-sequence costs exactly two switches: take a perfect history, and from frame
`cur` on exchange the estimate ids `a ≠ b`; if exactly one result of `cur` carries `a`, exactly one carries `b`, and
both targets were tracked in the previous frame, then exactly two switches are counted, TP and FP are unchanged,
and MOTA drops from 1 to 1 − 2/G -/
theorem swap_costs_two (cfg : Cfg) (pre : List (List Res)) (prev cur : List Res) (rest : List (List Res))
    (a b g : Nat) (hab : a ≠ b)
    (hP : Perfect cfg (pre ++ prev :: cur :: rest))
    (hg : g = resultCount (pre ++ prev :: cur :: rest))
    (hone_a : cur.countP (fun c => c.est == a) = 1)
    (hone_b : cur.countP (fun c => c.est == b) = 1)
    (hcont : ∀ c ∈ cur, (c.est = a ∨ c.est = b) → ∃ p ∈ prev, sameGt c p = true) :
    (clear cfg (pre ++ prev :: renameHist (swapId a b) id (cur :: rest))).sw = 2 ∧
    (clear cfg (pre ++ prev :: renameHist (swapId a b) id (cur :: rest))).fp = 0 ∧
    (clear cfg (pre ++ prev :: renameHist (swapId a b) id (cur :: rest))).tp = (g : Rat) ∧
    (evalClear cfg g (pre ++ prev :: renameHist (swapId a b) id (cur :: rest))).mota = some (1 - 2 / (g : Rat)) := by
  have := relabel_scores cfg pre prev cur rest (swapId a b) (swapId_injective a b) hP
    (fun c hc hne => hcont c hc ((swapId_ne_iff a b c.est hab).mp hne)) hg (k := 2)
    (by rw [countP_swapId_ne hab, hone_a, hone_b]) (by decide)
  rwa [Nat.cast_ofNat] at this

/-! ## totals over labels (`TrackingMetricsScore._sum_clear`) -/

/-- with a single target label the totals are that label's scores -/
theorem sumClear_single (cfg : Cfg) (g : Nat) (hist : List (List Res)) (hu : UnitWeights hist) :
    sumClear [evalClear cfg g hist] =
      ((evalClear cfg g hist).mota, (evalClear cfg g hist).motp, (clear cfg hist).sw) := by
  obtain ⟨n, hn⟩ : ∃ n : Nat, (clear cfg hist).tp = (n : Rat) :=
    ⟨_, (tp_fp_split cfg hist hu).1⟩
  exact sumClear_single_of_natTp cfg g hist n hn

/-- with several target labels, as long as no label is clamped or without ground truth (G_l > 0, TP_l − FP_l − IDsw_l ≥ 0):
the total MOTA is the POOLED (ΣTP − ΣFP − ΣIDsw) / ΣG — i.e. the ground-truth-weighted mean of the per-label MOTAs —,
the total MOTP is Σ score / Σ TP — the TP-weighted mean of the per-label MOTPs, undefined iff there is no TP —,
and the switches add up -/
theorem sumClear_pooled (mx : Bool) (ls : List LabelInput) (hne : ls ≠ [])
    (hu : ∀ l ∈ ls, UnitWeights l.hist) (hg : ∀ l ∈ ls, l.g ≠ 0)
    (hnum : ∀ l ∈ ls, 0 ≤ (evalClear ⟨mx, [(l.label, l.thr)]⟩ l.g l.hist).num) :
    sumClear (trackingClears mx ls) =
      (some (ratSum ((trackingClears mx ls).map Out.num) / ((((trackingClears mx ls).map (·.g)).sum : Nat) : Rat)),
       (if ratSum ((trackingClears mx ls).map (fun o => o.acc.tp)) = 0 then none
        else some (ratSum ((trackingClears mx ls).map (fun o => o.acc.score)) /
          ratSum ((trackingClears mx ls).map (fun o => o.acc.tp)))),
       ((trackingClears mx ls).map (fun o => o.acc.sw)).sum) := by
  apply sumClear_regular
  · unfold trackingClears
    intro h
    exact hne (List.map_eq_nil_iff.mp h)
  · intro o ho
    unfold trackingClears at ho
    obtain ⟨l, hl, rfl⟩ := List.mem_map.mp ho
    have hsplit := tp_fp_split ⟨mx, [(l.label, l.thr)]⟩ l.hist (hu l hl)
    have hmean := motp_mean ⟨mx, [(l.label, l.thr)]⟩ l.g l.hist (hu l hl)
    refine ⟨hg l hl, hnum l hl, rfl, rfl, ⟨_, hsplit.1⟩, ?_⟩
    intro h0
    have hlen := Nat.cast_eq_zero.1 (hmean.2.1.symm.trans h0)
    exact hmean.1.trans (by rw [List.length_eq_zero_iff.mp hlen]; rfl)

/-! ## the hypotheses are satisfiable: concrete non-trivial instances -/

section Examples

def cfgEx : Cfg := ⟨false, [(0, 1)]⟩
/-- estimate `e` (label 0) on ground truth `g` (label 0) at distance `d` -/
def rEx (e g : Nat) (d : Rat) : Res := ⟨e, 0, some ⟨g, 0, false⟩, d, true, 1⟩
/-- three frames after an empty initial one, two targets tracked perfectly -/
def perfectEx : List (List Res) :=
  [[], [rEx 1 1 (1/2), rEx 2 2 (1/4)], [rEx 2 2 (1/4), rEx 1 1 (1/2)], [rEx 1 1 (3/4), rEx 2 2 (1/4)]]

example : UnitWeights perfectEx := by unfold UnitWeights; decide +kernel
example : PrevOneToOne cfgEx perfectEx := by
  refine ⟨?_, ?_, ?_, trivial⟩ <;> (unfold OneToOne; decide +kernel)
example : Perfect cfgEx perfectEx := ⟨by unfold Good; decide +kernel, by decide +kernel⟩
example : resultCount perfectEx = 6 := by decide +kernel
example : (evalClear cfgEx 6 perfectEx).mota = some 1 ∧ (clear cfgEx perfectEx).sw = 0 := by decide +kernel

/-- the hypotheses of `new_id_costs_one`: id 1 replaced by the new id 9 from the third frame on -/
example :
    Perfect cfgEx ([[], [rEx 1 1 (1/2), rEx 2 2 (1/4)]].dropLast ++ [rEx 1 1 (1/2), rEx 2 2 (1/4)] ::
      [rEx 2 2 (1/4), rEx 1 1 (1/2)] :: [[rEx 1 1 (3/4), rEx 2 2 (1/4)]]) ∧
    (∀ f ∈ [rEx 2 2 (1/4), rEx 1 1 (1/2)] :: [[rEx 1 1 (3/4), rEx 2 2 (1/4)]], ∀ r ∈ f, r.est ≠ 9) ∧
    [rEx 2 2 (1/4), rEx 1 1 (1/2)].countP (fun c => c.est == 1) = 1 ∧
    (∀ c ∈ [rEx 2 2 (1/4), rEx 1 1 (1/2)], c.est = 1 → ∃ p ∈ [rEx 1 1 (1/2), rEx 2 2 (1/4)], sameGt c p = true) ∧
    (clear cfgEx ([[]] ++ [rEx 1 1 (1/2), rEx 2 2 (1/4)] ::
      renameHist (replaceId 1 9) id ([rEx 2 2 (1/4), rEx 1 1 (1/2)] :: [[rEx 1 1 (3/4), rEx 2 2 (1/4)]]))).sw = 1 := by
  refine ⟨⟨by unfold Good; decide +kernel, by decide +kernel⟩, by decide +kernel, by decide +kernel, by decide +kernel,
    by decide +kernel⟩

/-- the hypotheses of `swap_costs_two`: ids 1 and 2 exchanged from the third frame on -/
example :
    [rEx 2 2 (1/4), rEx 1 1 (1/2)].countP (fun c => c.est == 1) = 1 ∧
    [rEx 2 2 (1/4), rEx 1 1 (1/2)].countP (fun c => c.est == 2) = 1 ∧
    (∀ c ∈ [rEx 2 2 (1/4), rEx 1 1 (1/2)], (c.est = 1 ∨ c.est = 2) →
      ∃ p ∈ [rEx 1 1 (1/2), rEx 2 2 (1/4)], sameGt c p = true) ∧
    (clear cfgEx ([[]] ++ [rEx 1 1 (1/2), rEx 2 2 (1/4)] ::
      renameHist (swapId 1 2) id ([rEx 2 2 (1/4), rEx 1 1 (1/2)] :: [[rEx 1 1 (3/4), rEx 2 2 (1/4)]]))).sw = 2 := by
  refine ⟨by decide +kernel, by decide +kernel, by decide +kernel, by decide +kernel⟩

/-- the carry-over convention is observable: the second frame's result fails its own test (distance 5 ≥ 1) but keeps
the pairing of a previous TP, so it is booked TP with the previous score 1/2 -/
example : clear cfgEx [[], [rEx 1 1 (1/2)], [rEx 1 1 5]] = ⟨2, 0, 0, 1⟩ := by decide +kernel

/-- the hypotheses of `sumClear_pooled`: two per-label entries (both under label 0), the second with an FP and a switch -/
def labelsEx : List LabelInput :=
  [⟨0, 1, 6, perfectEx⟩, ⟨0, 1, 4, [[], [rEx 1 1 (1/2), rEx 2 2 (1/4)], [rEx 2 1 (1/2), rEx 1 2 3]]⟩]
example : (∀ l ∈ labelsEx, UnitWeights l.hist) ∧ (∀ l ∈ labelsEx, l.g ≠ 0) ∧
    (∀ l ∈ labelsEx, 0 ≤ (evalClear ⟨false, [(l.label, l.thr)]⟩ l.g l.hist).num) ∧
    sumClear (trackingClears false labelsEx) = (some (7/10), some (7/18), 1) := by
  refine ⟨by unfold UnitWeights; decide +kernel, by decide +kernel, by decide +kernel, by decide +kernel⟩

/-- injective renamings exist and act non-trivially -/
example : Injective (swapId 1 2) ∧ swapId 1 2 1 = 2 := ⟨swapId_injective 1 2, by decide⟩

end Examples

/-! ## the CODE's decision tables (regenerated from the source on every run)

`PEval/Gen/ClearDT.lean` holds, for each kernel of `clear.py`, the decision tree obtained by running the REAL function on
stub objects over every assignment of its decision atoms (`harness/dt_clear.py`). Each `…_code_table_eq_model` below is the
per-run obligation: the regenerated tree and the hand-written skeleton of the model agree on EVERY consistent valuation.
It is discharged by kernel evaluation of the agreement check `tableOk` (sound by `table_eq_model`, complete for the finite
space of valuations of the atoms the two trees ask; atoms of different pairs are treated as independent, which only
enlarges the space), so a rewrite of the source that keeps the decisions leaves it provable with no edits, and a rewrite
that changes a decision makes the build fail at that theorem. A table the translator could not express is `none`; the
theorems then say nothing about it and the correspondence run alone ties model and code.
`table_pair_predicates` and the second half of `StepTableSound` compose this with the bridges
`Model.f input = skeleton (valOf input)` (proved for all inputs in `PEval/Lemmas/ClearDT.lean`); the `table_…` theorems
restate the property for what the code's table says. -/

section DecisionTables
open PEval.ClearDT

/-- `CLEAR._is_id_switched`: table = skeleton -/
theorem isIdSwitched_code_table_eq_model :
    ∀ t, Gen.ClearDT.isIdSwitchedTree = some t → ∀ v : Val, v.consistent → t.eval v = .ok (isIdSwitchedAtoms 0 0 v) := by
  intro t ht v hc
  rw [table_eq_model (gen := Gen.ClearDT.isIdSwitchedTree) (sk := isIdSwitchedSkTree) (by decide +kernel) t ht v hc]
  exact eval_pairSk switchF 0 0 _ v

/-- `CLEAR._is_same_match`: table = skeleton -/
theorem isSameMatch_code_table_eq_model :
    ∀ t, Gen.ClearDT.isSameMatchTree = some t → ∀ v : Val, v.consistent → t.eval v = .ok (isSameMatchAtoms 0 0 v) := by
  intro t ht v hc
  rw [table_eq_model (gen := Gen.ClearDT.isSameMatchTree) (sk := isSameMatchSkTree) (by decide +kernel) t ht v hc]
  exact eval_pairSk sameF 0 0 _ v

/-- on every pair of results the code's table answers what the model answers, which is: the pairing changed
(same estimated track XOR same ground-truth track, both with ground truth) resp. the pairing is the same -/
theorem table_pair_predicates (cfg : Cfg) (c p : Res) :
    (∀ t, Gen.ClearDT.isIdSwitchedTree = some t →
      t.eval (valOf cfg [p] [c]) = .ok (isIdSwitched c p) ∧ t.eval (valOf cfg [p] [c]) = .ok (conflict c p)) ∧
    (∀ t, Gen.ClearDT.isSameMatchTree = some t →
      t.eval (valOf cfg [p] [c]) = .ok (isSameMatch c p) ∧ t.eval (valOf cfg [p] [c]) = .ok (samePair c p)) := by
  constructor
  · intro t ht
    have h := isIdSwitched_code_table_eq_model t ht _ (valOf_consistent cfg [p] [c])
    rw [← isIdSwitched_bridge] at h
    exact ⟨h, by rw [h, isIdSwitched_eq_conflict]⟩
  · intro t ht
    have h := isSameMatch_code_table_eq_model t ht _ (valOf_consistent cfg [p] [c])
    rw [← isSameMatch_bridge] at h
    exact ⟨h, by rw [h, isSameMatch_eq_samePair]⟩

/-- what the obligation on a step table says: the table (if the translator produced one) (i) equals the skeleton on every
consistent valuation and (ii) on every input of that shape credits exactly the model's accumulators -/
def StepTableSound (gen : Option (DTree (Except String SOut))) (nc np : Nat) : Prop :=
  ∀ t, gen = some t →
    (∀ v : Val, v.consistent → t.eval v = .ok (enc (stepAtoms nc np v))) ∧
    (∀ (cfg : Cfg) (prev cur : List Res), cur.length = nc → prev.length = np →
      ∃ m, t.eval (valOf cfg prev cur) = .ok (enc m) ∧ interp prev cur m = frameStep cfg prev cur)

/-- `_calculate_tp_fp` on `nc` current and `np` previous results: a table that passes the check is sound -/
theorem step_table_sound {gen : Option (DTree (Except String SOut))} {nc np : Nat}
    (h : tableOk gen (stepSkTree nc np) = true) : StepTableSound gen nc np := by
  intro t ht
  have h1 : ∀ v : Val, v.consistent → t.eval v = .ok (enc (stepAtoms nc np v)) := by
    intro v hc
    rw [table_eq_model h t ht v hc]
    exact eval_frameStepSk v np nc 0 MOut.zero _
  refine ⟨h1, ?_⟩
  intro cfg prev cur hcl hpl
  refine ⟨stepAtoms nc np (valOf cfg prev cur), h1 _ (valOf_consistent cfg prev cur), ?_⟩
  rw [frameStep_bridge, hcl, hpl]

theorem step_0_1_code_table_eq_model : StepTableSound Gen.ClearDT.stepTree_0_1 0 1 :=
  step_table_sound (by decide +kernel)
theorem step_1_0_code_table_eq_model : StepTableSound Gen.ClearDT.stepTree_1_0 1 0 :=
  step_table_sound (by decide +kernel)
theorem step_1_1_code_table_eq_model : StepTableSound Gen.ClearDT.stepTree_1_1 1 1 :=
  step_table_sound (by decide +kernel)
theorem step_1_2_code_table_eq_model : StepTableSound Gen.ClearDT.stepTree_1_2 1 2 :=
  step_table_sound (by decide +kernel)
theorem step_2_0_code_table_eq_model : StepTableSound Gen.ClearDT.stepTree_2_0 2 0 :=
  step_table_sound (by decide +kernel)
theorem step_2_1_code_table_eq_model : StepTableSound Gen.ClearDT.stepTree_2_1 2 1 :=
  step_table_sound (by decide +kernel)

/-- what every step table that passes the check says, symbolically (no input needed): a current result whose key label has
no threshold is ignored; otherwise exactly one of (one TP weight, one FP) is booked; a switch only together with a TP of
the CURRENT result; the matching score booked is that of the result whose weight is booked (the previous one on a same match) -/
theorem table_symbolic_accounting (v : Val) (j np : Nat) :
    let m := resStepAtoms v j np
    (v.b (.inTargets j (v.b (.hasGt (.cur j)))) = false → m = MOut.zero) ∧
    (v.b (.inTargets j (v.b (.hasGt (.cur j)))) = true → m.tp.length + m.fp = 1) ∧
    (m.sw = 1 → m.tp = [.cur j]) ∧ m.sw ≤ m.tp.length ∧ m.score = m.tp := by
  intro m
  show _ ∧ _ ∧ _ ∧ _ ∧ _
  simp only [m, resStepAtoms]
  cases v.b (.inTargets j (v.b (.hasGt (.cur j))))
  · exact ⟨fun _ => rfl, nofun, nofun, Nat.le_refl _, rfl⟩
  · obtain ⟨h1, h2, h3, h4⟩ := tailOut_accounting j (scanAtoms v j (v.b (.hasGt (.cur j))) 0 np)
      (v.b (.isTp (.cur j) j (v.b (.hasGt (.cur j)))))
    exact ⟨nofun, fun _ => h1, h2, h3, h4⟩

/-- "every evaluated result is counted exactly once", for the code's table of one current result against any previous
frame of the tabulated size (unit TP weights = `TPMetricsAp`) -/
theorem table_each_result_once {gen : Option (DTree (Except String SOut))} {np : Nat}
    (h : tableOk gen (stepSkTree 1 np) = true) (t : DTree (Except String SOut)) (ht : gen = some t)
    (cfg : Cfg) (prev : List Res) (c : Res) (hl : prev.length = np) (hc : c.w = 1) (hp : ∀ p ∈ prev, p.w = 1) :
    ∃ m, t.eval (valOf cfg prev [c]) = .ok (enc m) ∧
      (evaluated cfg c = true →
        ((interp prev [c] m).tp = 1 ∧ (interp prev [c] m).fp = 0) ∨ ((interp prev [c] m).tp = 0 ∧ (interp prev [c] m).fp = 1)) ∧
      (evaluated cfg c = false → interp prev [c] m = Acc.zero) := by
  obtain ⟨m, hm, hi⟩ := (step_table_sound h t ht).2 cfg prev [c] rfl hl
  refine ⟨m, hm, ?_⟩
  have hfs : frameStep cfg prev [c] = resStep cfg prev c := by
    simp [frameStep, Acc.add, Acc.zero]
  rw [hi, hfs]
  exact each_result_once cfg prev c hc hp

/-- `_calculate_score`: table = skeleton -/
theorem score_code_table_eq_model :
    ∀ t, Gen.ClearDT.scoreTree = some t → ∀ v : Val, v.consistent → t.eval v = .ok (scoreAtoms v) := by
  intro t ht v hc
  rw [table_eq_model (gen := Gen.ClearDT.scoreTree) (sk := scoreSkTree) (by decide +kernel) t ht v hc, eval_scoreSkTree]

/-- the formulas the code's score table selects, read on concrete totals, are the model's MOTA and MOTP — i.e.
MOTA = inf without ground truth and max(0, (TP − FP − IDsw)/G) otherwise; MOTP = inf when TP = 0 and score/TP otherwise -/
theorem table_score_def (g : Nat) (a : Acc) :
    ∀ t, Gen.ClearDT.scoreTree = some t → ∃ s, t.eval (scoreVal g a) = .ok s ∧
      scoreTerm g a s.1 = mota g a ∧ scoreTerm g a s.2 = motp a := by
  intro t ht
  exact ⟨_, score_code_table_eq_model t ht _ (scoreVal_consistent g a), score_bridge g a⟩

/-- `CLEAR.__init__` on histories of n ≤ 3 frames: the frame pairs handed to `_calculate_tp_fp` with a non-empty current
frame are exactly the consecutive ones (previous = the frame IMMEDIATELY before, empty or not) -/
def InitTableSound (gen : Option (DTree (Except String (List (Option Nat × Option Nat) × Nat)))) (n : Nat) : Prop :=
  ∀ t, gen = some t → ∀ v : Val, v.consistent → t.eval v = .ok (initAtoms v 1 (n - 1) [] 0)

theorem init_table_sound {gen : Option (DTree (Except String (List (Option Nat × Option Nat) × Nat)))} {n : Nat}
    (h : tableOk gen (initSkTree n) = true) : InitTableSound gen n := by
  intro t ht v hc
  rw [table_eq_model h t ht v hc]
  exact eval_initSk v (n - 1) 1 [] 0 _

/-- every pair the skeleton counts is a consecutive one -/
theorem initAtoms_consecutive (v : Val) : ∀ (n i : Nat) (ps : List (Option Nat × Option Nat)) (c : Nat),
    (∀ p ∈ ps, ∃ k, p = (some k, some (k + 1))) → 1 ≤ i →
    ∀ p ∈ (initAtoms v i n ps c).1, ∃ k, p = (some k, some (k + 1)) := by
  intro n i ps c h hi p hp
  rw [initAtoms_eq] at hp
  rcases List.mem_append.1 hp with hp | hp
  · exact h p hp
  · obtain ⟨k, rfl, _⟩ := mem_selPairs hi hp
    exact ⟨k, rfl⟩

theorem init_0_code_table_eq_model : InitTableSound Gen.ClearDT.initTree_0 0 :=
  init_table_sound (by decide +kernel)
theorem init_1_code_table_eq_model : InitTableSound Gen.ClearDT.initTree_1 1 :=
  init_table_sound (by decide +kernel)
theorem init_2_code_table_eq_model : InitTableSound Gen.ClearDT.initTree_2 2 :=
  init_table_sound (by decide +kernel)
theorem init_3_code_table_eq_model : InitTableSound Gen.ClearDT.initTree_3 3 :=
  init_table_sound (by decide +kernel)

/-- the agreement check is not vacuous: the two pair predicates are told apart -/
example : tableOk (some isIdSwitchedSkTree) isSameMatchSkTree = false := by decide +kernel
example : tableOk (some (stepSkTree 1 1)) (stepSkTree 1 2) = false := by decide +kernel

end DecisionTables

/-! ## the frame loop of `CLEAR.__init__`, histories of any length (bridge of the `init` skeleton) -/

section DecisionTablesHistory
open PEval.ClearDT

/-- BRIDGE of the frame loop, for histories of ANY length: at the valuation the history induces (`empty i` ⇔ frame `i` has no
result) the skeleton of `CLEAR.__init__` selects exactly the pairs `(i-1, i)` with a non-empty frame `i ≥ 1`, in order
(an empty frame is skipped as current frame but still is the previous frame of the next one), and the model folds the
history exactly that way: `clear cfg hist` is the sum of `_calculate_tp_fp` (`frameStep`) over the selected pairs,
`objects_results_num` the sum of the sizes of their current frames, and the skeleton's count the number of pairs. -/
theorem init_loop_bridge (cfg : Cfg) (hist : List (List Res)) :
    let r := initAtoms (histVal hist) 1 (hist.length - 1) [] 0
    r.1 = selPairs (histVal hist) 1 (hist.length - 1) ∧ r.2 = r.1.length ∧
    clear cfg hist = sumPairs cfg hist r.1 ∧ predictNum hist = lenPairsFrom hist 0 r.1 := by
  intro r
  refine ⟨?_, ?_, clear_bridge cfg hist, predictNum_bridge hist⟩ <;> simp [r, initAtoms_eq]

/-- the same with every pair's increment read through the step skeleton (`frameStep_bridge`): the model of the whole
of `CLEAR.__init__` = the `init` skeleton's pairs, each interpreted by the `_calculate_tp_fp` skeleton at its valuation -/
theorem init_loop_bridge_symbolic (cfg : Cfg) (hist : List (List Res)) :
    clear cfg hist =
      (initAtoms (histVal hist) 1 (hist.length - 1) [] 0).1.foldl (fun a p => a.add (pairAccSym cfg hist p)) Acc.zero := by
  have hp : ∀ p, pairAccSym cfg hist p = pairAcc cfg hist p := by
    rintro ⟨a | a, b | b⟩ <;> simp [pairAccSym, pairAcc, frameStep_bridge]
  rw [clear_bridge]
  simp only [sumPairs, sumPairsFrom, hp]

/-- composition with the table theorem: a generated `__init__` table that passes the check, read at the valuation of ANY
history of the tabulated length, names pairs whose `_calculate_tp_fp` sum is the model's `clear`, whose current-frame sizes
sum to `objects_results_num`, and as many pairs as it counts -/
theorem init_table_history {gen : Option (DTree (Except String (List (Option Nat × Option Nat) × Nat)))} {n : Nat}
    (h : InitTableSound gen n) (cfg : Cfg) (hist : List (List Res)) (hl : hist.length = n) :
    ∀ t, gen = some t → ∃ ps c, t.eval (histVal hist) = .ok (ps, c) ∧
      clear cfg hist = sumPairs cfg hist ps ∧ predictNum hist = lenPairsFrom hist 0 ps ∧ c = ps.length ∧
      ∀ p ∈ ps, ∃ k, p = (some k, some (k + 1)) ∧ k + 1 < n ∧ frameAt hist (k + 1) ≠ [] := by
  intro t ht
  subst hl
  obtain ⟨h1, h2, h3, h4⟩ := init_loop_bridge cfg hist
  refine ⟨_, _, h t ht _ (histVal_consistent hist), h3, h4, h2, ?_⟩
  intro p hp
  rw [h1] at hp
  obtain ⟨k, rfl, hk, he⟩ := mem_selPairs (Nat.le_refl 1) hp
  refine ⟨k, rfl, by omega, fun h0 => ?_⟩
  simp [histVal, h0] at he

/-- the four generated tables of `CLEAR.__init__` (histories of 0 … 3 frames) on every concrete history of that length -/
theorem init_code_tables_history (cfg : Cfg) (hist : List (List Res)) :
    (hist.length = 0 → ∀ t, Gen.ClearDT.initTree_0 = some t → ∃ ps c, t.eval (histVal hist) = .ok (ps, c) ∧
      clear cfg hist = sumPairs cfg hist ps ∧ predictNum hist = lenPairsFrom hist 0 ps ∧ c = ps.length) ∧
    (hist.length = 1 → ∀ t, Gen.ClearDT.initTree_1 = some t → ∃ ps c, t.eval (histVal hist) = .ok (ps, c) ∧
      clear cfg hist = sumPairs cfg hist ps ∧ predictNum hist = lenPairsFrom hist 0 ps ∧ c = ps.length) ∧
    (hist.length = 2 → ∀ t, Gen.ClearDT.initTree_2 = some t → ∃ ps c, t.eval (histVal hist) = .ok (ps, c) ∧
      clear cfg hist = sumPairs cfg hist ps ∧ predictNum hist = lenPairsFrom hist 0 ps ∧ c = ps.length) ∧
    (hist.length = 3 → ∀ t, Gen.ClearDT.initTree_3 = some t → ∃ ps c, t.eval (histVal hist) = .ok (ps, c) ∧
      clear cfg hist = sumPairs cfg hist ps ∧ predictNum hist = lenPairsFrom hist 0 ps ∧ c = ps.length) := by
  have key : ∀ {gen n}, InitTableSound gen n → hist.length = n → ∀ t, gen = some t →
      ∃ ps c, t.eval (histVal hist) = .ok (ps, c) ∧
        clear cfg hist = sumPairs cfg hist ps ∧ predictNum hist = lenPairsFrom hist 0 ps ∧ c = ps.length :=
    fun h hl t ht => by
      obtain ⟨ps, c, a, b, d, e, _⟩ := init_table_history h cfg hist hl t ht
      exact ⟨ps, c, a, b, d, e⟩
  exact ⟨key init_0_code_table_eq_model, key init_1_code_table_eq_model, key init_2_code_table_eq_model,
    key init_3_code_table_eq_model⟩

/-- non-vacuity: a history with an empty middle frame — the pair (1, 2) IS counted, with the empty frame as previous -/
example : (initAtoms (histVal [[], [], [⟨1, 0, none, 0, true, 1⟩]]) 1 2 [] 0) = ([(some 1, some 2)], 1) := by decide

end DecisionTablesHistory

/-! ## histories PRODUCED BY THE PIPELINE: `PrevOneToOne` is discharged

`switch_once_per_tp` needs `PrevOneToOne` (without it the count depends on the scan order, see the example below).
A frame that is the translation `toClearFrame` of an answer of the matcher model (`Matching.getObjectResults`, C01/C02)
over object lists with unique track ids (`MatcherFrame`), and every sub-list of one (the critical filter, the manager's
per-label buckets), pairs estimated and ground-truth tracks one-to-one; so the hypothesis holds for such histories
(`PipelineHist`) under every configuration.  Not proved: that the CLEAR input of the composed frame model
(`FrameChange.FrameOut.tracks`, built by `FrameChange.trackRes`) is such a frame. -/
section PipelineHistories

/-- every frame of the history is (contained in) a frame produced by the matcher over unique track ids -/
def PipelineHist (hist : List (List Res)) : Prop := ∀ f ∈ hist, ∃ f', MatcherFrame f' ∧ f ⊆ f'

theorem prevOneToOne_pipeline (cfg : Cfg) (hist : List (List Res)) (h : PipelineHist hist) :
    PrevOneToOne cfg hist :=
  prevOneToOne_of_track cfg hist fun f hf => by
    obtain ⟨f', hm, hs⟩ := h f hf
    exact hm.trackOneToOne.subset hs

/-- `switch_once_per_tp` with its hypothesis discharged: for `PipelineHist` histories a switch is counted
exactly once for each TP whose pairing differs from the pairing a (own-test) TP had in the previous frame,
whatever the order of the previous frame -/
theorem switch_once_per_tp_pipeline (cfg : Cfg) (hist : List (List Res)) (h : PipelineHist hist) :
    (clear cfg hist).sw = (events hist).countP (fun e => switchedTp cfg e.1 e.2) :=
  switch_once_per_tp cfg hist (prevOneToOne_pipeline cfg hist h)

/-- the per-label histories `get_scene_result` builds out of matcher-produced frames are pipeline histories -/
theorem sceneInputs_pipeline (targets : List (Nat × Rat)) (frames : List (List Res)) (gts : List (List Nat))
    (h : ∀ f ∈ frames, MatcherFrame f) : ∀ li ∈ sceneInputs targets frames gts, PipelineHist li.hist := by
  intro li hli
  obtain ⟨lt, _, _, _, hh⟩ := mem_sceneInputs hli
  rw [hh, PipelineHist, List.forall_mem_cons, List.forall_mem_map]
  exact ⟨⟨[], MatcherFrame.nil, fun _ hx => hx⟩, fun fr hfr => ⟨fr, h fr hfr, bucket_subset _ _ _⟩⟩

/-- scene level: every per-label CLEAR instance of `TrackingMetricsScore` over matcher-produced frames counts
its switches in the order-free way -/
theorem switch_once_per_tp_scene (mx : Bool) (targets : List (Nat × Rat)) (frames : List (List Res))
    (gts : List (List Nat)) (h : ∀ f ∈ frames, MatcherFrame f) :
    ∀ li ∈ sceneInputs targets frames gts,
      (clear ⟨mx, [(li.label, li.thr)]⟩ li.hist).sw =
        (events li.hist).countP (fun e => switchedTp ⟨mx, [(li.label, li.thr)]⟩ e.1 e.2) :=
  fun li hli => switch_once_per_tp_pipeline _ _ (sceneInputs_pipeline targets frames gts h li hli)

/-- a matcher-produced frame: the contested scene of C01 (three estimates, two ground truths, answer
`[(0, some 0), (1, some 1), (2, none)]`) with track ids `i+1` / `j+1` -/
def mCfg : Matching.Cfg :=
  { policy := .default, mode := .centerDistance, targets := some ["car", "pedestrian"],
    thresholds := some [3, 2], fpValidation := false }
def mScene : Matching.Scene :=
  { ests := [⟨"car", "base_link"⟩, ⟨"unknown", "map"⟩, ⟨"car", "base_link"⟩],
    gts := [⟨"car", "base_link"⟩, ⟨"pedestrian", "map"⟩],
    val := fun i j => if i == 1 then 1 / 2 else if j == 0 then 1 / 4 else 5 }
def mAttrs : TrackAttrs :=
  ⟨fun i => (i + 1, 0), fun j => ⟨j + 1, 0, false⟩, fun i j => mScene.val i j, fun _ _ => true, fun _ _ => 1⟩
def mFrame : List Res := toClearFrame mAttrs [(0, some 0), (1, some 1), (2, none)]

theorem mFrame_matcher : MatcherFrame mFrame :=
  ⟨mCfg, mScene, [(0, some 0), (1, some 1), (2, none)], mAttrs, by decide +kernel,
    ⟨fun i _ i' _ e => by simpa [mAttrs] using congrArg Prod.fst e,
     fun j _ j' _ e => by simpa [mAttrs] using e⟩, rfl⟩

/-- non-vacuity of `switch_once_per_tp_pipeline` / `_scene`: a three-frame pipeline history with results -/
example : PipelineHist [[], mFrame, mFrame] ∧ (clear cfgEx [[], mFrame, mFrame]).tp = 4 := by
  refine ⟨?_, by decide +kernel⟩
  intro f hf
  simp only [List.mem_cons, List.not_mem_nil, or_false] at hf
  rcases hf with rfl | rfl | rfl
  · exact ⟨mFrame, mFrame_matcher, fun _ hx => by cases hx⟩
  · exact ⟨mFrame, mFrame_matcher, fun _ hx => hx⟩
  · exact ⟨mFrame, mFrame_matcher, fun _ hx => hx⟩

/-- A DEFECTIVE matcher that hands one ground truth to two estimates breaks the statement: the previous frame
`[1→1, 2→1]` is not one-to-one, the operational count is 0 in this order and 1 in the reversed order, the
order-free count is 1.  So `switch_once_per_tp_pipeline` is about the matcher, not true of every frame. -/
example :
    ¬ TrackOneToOne [rEx 1 1 (1/2), rEx 2 1 (1/2)] ∧
    (clear cfgEx [[], [rEx 1 1 (1/2), rEx 2 1 (1/2)], [rEx 1 1 (1/4)]]).sw = 0 ∧
    (clear cfgEx [[], [rEx 2 1 (1/2), rEx 1 1 (1/2)], [rEx 1 1 (1/4)]]).sw = 1 ∧
    (events [[], [rEx 1 1 (1/2), rEx 2 1 (1/2)], [rEx 1 1 (1/4)]]).countP
      (fun e => switchedTp cfgEx e.1 e.2) = 1 := by
  refine ⟨fun h => ?_, by decide +kernel, by decide +kernel, by decide +kernel⟩
  have := h (rEx 1 1 (1/2)) (by simp) (rEx 2 1 (1/2)) (by simp) (by decide +kernel)
  revert this
  decide +kernel

/-- the result list of the defective matcher uses ground truth 0 twice: it violates what
`matcher_results_one_to_one` proves of the real matcher model -/
example : ¬ (Matching.usedGts [(0, some 0), (1, some 0)]).Nodup := by decide

end PipelineHistories

/-! ## the carry-over convention and "a TP in the previous frame"

`switchedTp` reads "a TP in the previous frame" as "a previous result that passes ITS OWN test under the current
result's threshold" – that is what `_calculate_tp_fp` tests (`scan_reads_own_test_only`).  It is NOT "a previous
result that was BOOKED TP in its frame": a result booked TP by carry-over (same pairing as a TP before it) whose own
score fails is invisible to the next frame.  Consequence (DESIGN B1 declares the carry-over for counts and scores
only): a new id on a target that is booked TP only by carry-over costs NO switch. -/
section CarryOver

/-- the scan of the previous frame reads it through the filter "passes its own test under the current threshold" -/
theorem scan_reads_own_test_only (cfg : Cfg) (t : Rat) (c : Res) (prev : List Res) :
    scan cfg t c prev = scan cfg t c (prev.filter (isTp cfg t)) := by
  rw [scan_eq_find, scan_eq_find, List.find?_filter]
  congr 2; funext p; simp [decisive]

/-- THE CONVENTION: if no result of the previous frame passes its own test under the current result's threshold,
the current result is booked by its own test alone and no switch is booked with it – even when previous results were
booked TP in their own frame by carry-over (`outcome cfg pp p = .carried q`) and conflict with the current one -/
theorem carried_over_target_new_id_no_switch (cfg : Cfg) (prev : List Res) (c : Res) (t : Rat)
    (ht : labelThreshold cfg (keyLabel c) = some t) (h : ∀ p ∈ prev, isTp cfg t p = false) :
    outcome cfg prev c = (if isTp cfg t c then .tp false else .fp) ∧ countsSwitch cfg prev c = false ∧
    switchedTp cfg prev c = false := by
  have hs : scan cfg t c prev = .nothing :=
    (scan_nothing_iff cfg t c prev).2 fun p hp htp => by rw [h p hp] at htp; cases htp
  have ho : outcome cfg prev c = (if isTp cfg t c then .tp false else .fp) := by
    unfold outcome
    rw [ht]
    simp only [hs]
  refine ⟨ho, ?_, ?_⟩
  · rw [countsSwitch, ho]
    cases isTp cfg t c <;> rfl
  · rw [switchedTp, ht]
    simp only [Bool.and_eq_false_imp, List.any_eq_false]
    intro _ p hp
    simp [h p hp]

/-- the two readings of "a TP in the previous frame" agree when, on the previous frame, "booked TP" and "passes its
own test under the current threshold" coincide -/
theorem switch_readings_agree (cfg : Cfg) (pp prev : List Res) (c : Res)
    (h : ∀ t, labelThreshold cfg (keyLabel c) = some t → ∀ p ∈ prev, countsTp cfg pp p = isTp cfg t p) :
    switchedTp cfg prev c = switchedTpBooked cfg pp prev c := by
  unfold switchedTp switchedTpBooked
  cases ht : labelThreshold cfg (keyLabel c) with
  | none => rfl
  | some t =>
    dsimp only
    congr 1
    exact any_congr_mem fun p hp => by rw [h t ht p hp]

/-- the example: threshold 1 (distance).  Frame 1: track 1 on target 1 at distance 1/2 (TP).  Frame 2: same pairing
at distance 5 – fails its own test, booked TP by carry-over.  Frame 3: NEW id 2 on target 1 at distance 1/4: TP by
its own test, its pairing conflicts with the booked TP of frame 2, yet NO switch: totals TP 3, FP 0, switches 0;
the "booked TP" reading would count 1. -/
theorem carry_over_new_id_example :
    let f1 := [rEx 1 1 (1/2)]; let f2 := [rEx 1 1 5]; let f3 := [rEx 2 1 (1/4)]
    outcome cfgEx f1 (rEx 1 1 5) = .carried (rEx 1 1 (1/2)) ∧ isTp cfgEx 1 (rEx 1 1 5) = false ∧
    conflict (rEx 2 1 (1/4)) (rEx 1 1 5) = true ∧
    outcome cfgEx f2 (rEx 2 1 (1/4)) = .tp false ∧
    switchedTp cfgEx f2 (rEx 2 1 (1/4)) = false ∧ switchedTpBooked cfgEx f1 f2 (rEx 2 1 (1/4)) = true ∧
    clear cfgEx [[], f1, f2, f3] = ⟨3, 0, 0, 1/2 + 1/2 + 1/4⟩ := by decide +kernel

/-- non-vacuity of `carried_over_target_new_id_no_switch` (the instance above) -/
example : labelThreshold cfgEx (keyLabel (rEx 2 1 (1/4))) = some 1 ∧ ∀ p ∈ [rEx 1 1 5], isTp cfgEx 1 p = false := by
  decide +kernel

/-- a DEFECTIVE variant of the scan that reads "booked TP" instead (does not skip failing previous results) books
the switch on the example: the convention theorem distinguishes the two -/
def scan_noSkip (c : Res) : List Res → Scan
  | [] => .nothing
  | p :: ps => if isIdSwitched c p then .switched else if isSameMatch c p then .same p else scan_noSkip c ps

example : scan_noSkip (rEx 2 1 (1/4)) [rEx 1 1 5] = .switched ∧ scan cfgEx 1 (rEx 2 1 (1/4)) [rEx 1 1 5] = .nothing := by
  decide +kernel

end CarryOver

/-! ## the manager's per-label buckets: known finding C05-N1, exactly

Through the manager a result is filed by `divide_objects` under its ESTIMATE's label (if that is a target label),
while the CLEAR instance of that label (singleton target list) looks the threshold up under the GROUND TRUTH's label:
a result whose ground truth has another label is in the bucket (it counts in `predict_num`) and adds nothing. -/
section Buckets

/-- where `divide_objects` files a result -/
theorem bucket_files_by_estimate_label (labels : List Nat) (l : Nat) (rs : List Res) (r : Res) :
    r ∈ bucket labels l rs ↔ r ∈ rs ∧
      ((r.estLabel ∈ labels ∧ r.estLabel = l) ∨ (r.estLabel ∉ labels ∧ ∃ g, r.gt = some g ∧ g.label = l)) := by
  -- known to `simp`, whose lemmas about `∃ g` otherwise search for this instance at 0.3 M heartbeats a time
  have : Nonempty Gt := ⟨⟨0, 0, false⟩⟩
  rw [bucket, List.mem_filter]
  fun_cases bucketLabel labels r <;> simp_all

/-- a result with a target estimate label whose ground truth has ANOTHER label is counted by no per-label CLEAR
instance: it is filed only in the bucket of its estimate's label, and there it adds neither TP nor FP nor switch
nor score -/
theorem cross_label_result_counted_nowhere (mx : Bool) (labels : List Nat) (r : Res) (g : Gt)
    (he : r.estLabel ∈ labels) (hg : r.gt = some g) (hne : g.label ≠ r.estLabel) (l : Nat) (thr : Rat) :
    (∀ rs, r ∈ bucket labels l rs → l = r.estLabel) ∧
    (l = r.estLabel → ∀ prev, resStep ⟨mx, [(l, thr)]⟩ prev r = Acc.zero) := by
  constructor
  · intro rs hr
    rcases ((bucket_files_by_estimate_label _ _ _ _).1 hr).2 with ⟨_, h⟩ | ⟨h, _⟩
    · exact h.symm
    · exact absurd he h
  · intro hl prev
    apply resStep_of_not_evaluated
    rw [evaluated_single, keyLabel, hg, hl]
    exact beq_eq_false_iff_ne.2 hne

/-- C05-N1 at scene level, exactly: for every target label, `predict_num` − (TP + FP) is the number of results in
that label's buckets whose key label (ground truth's label) differs from the bucket label -/
theorem scene_cross_label_exact (mx : Bool) (targets : List (Nat × Rat)) (frames : List (List Res))
    (gts : List (List Nat)) (hu : ∀ f ∈ frames, ∀ r ∈ f, r.w = 1) :
    ∀ li ∈ sceneInputs targets frames gts,
      ((predictNum li.hist : Nat) : Rat) =
        (clear ⟨mx, [(li.label, li.thr)]⟩ li.hist).tp + ((clear ⟨mx, [(li.label, li.thr)]⟩ li.hist).fp : Rat) +
        (((frames.map (bucket (targets.map (·.1)) li.label)).flatten.countP (crossLabel li.label) : Nat) : Rat) := by
  intro li hli
  obtain ⟨lt, _, hl, _, hh⟩ := mem_sceneInputs hli
  have hu' : UnitWeights li.hist := by
    rw [hh, UnitWeights, List.forall_mem_cons, List.forall_mem_map]
    exact ⟨(fun _ h => nomatch h), fun fr hfr r hr => hu fr hfr r (bucket_subset _ _ _ hr)⟩
  rw [tp_fp_count _ _ hu', single_label_accounting mx li.label li.thr li.hist, hh, hl]
  simp only [List.drop_succ_cons, List.drop_zero]
  push_cast
  rfl

/-- the same for the per-frame scores (`evaluate_frame`: history `[previous bucket, current bucket]`) -/
theorem frame_cross_label_exact (mx : Bool) (targets : List (Nat × Rat)) (prev cur : List Res) (gt : List Nat)
    (hp : ∀ r ∈ prev, r.w = 1) (hc : ∀ r ∈ cur, r.w = 1) :
    ∀ li ∈ frameInputs targets prev cur gt,
      ((predictNum li.hist : Nat) : Rat) =
        (clear ⟨mx, [(li.label, li.thr)]⟩ li.hist).tp + ((clear ⟨mx, [(li.label, li.thr)]⟩ li.hist).fp : Rat) +
        (((bucket (targets.map (·.1)) li.label cur).countP (crossLabel li.label) : Nat) : Rat) := by
  intro li hli
  obtain ⟨lt, _, hl, _, hh⟩ := mem_frameInputs hli
  have hu' : UnitWeights li.hist := by
    rw [hh, UnitWeights, List.forall_mem_cons, List.forall_mem_cons]
    exact ⟨fun r hr => hp r (bucket_subset _ _ _ hr), fun r hr => hc r (bucket_subset _ _ _ hr), fun _ h => nomatch h⟩
  rw [tp_fp_count _ _ hu', single_label_accounting mx li.label li.thr li.hist, hh, hl]
  simp only [List.drop_succ_cons, List.drop_zero, List.flatten_cons, List.flatten_nil, List.append_nil]
  push_cast
  rfl

/-- the instance of the finding: targets car (0) and bus (1); an estimate labelled car matched to a BUS ground truth.
It is filed under car, not under bus, and the car instance ignores it: predict_num 1, TP + FP = 0. -/
def xRes : Res := ⟨7, 0, some ⟨9, 1, false⟩, 1/2, false, 1⟩

example : bucket [0, 1] 0 [xRes] = [xRes] ∧ bucket [0, 1] 1 [xRes] = [] ∧ crossLabel 0 xRes = true ∧
    (sceneInputs [(0, 1), (1, 1)] [[xRes]] [[0, 1]]).map (fun li =>
      (predictNum li.hist, (clear ⟨false, [(li.label, li.thr)]⟩ li.hist).tp,
        (clear ⟨false, [(li.label, li.thr)]⟩ li.hist).fp)) = [(1, 0, 0), (0, 0, 0)] := by decide +kernel

/-- for comparison: filing by the KEY label (ground truth's label) would make the
cross-label count 0 for every bucket – the deviation term of `scene_cross_label_exact` is specific to filing by the
estimate's label -/
example : ([xRes].filter (fun r => keyLabel r == 1)).countP (crossLabel 1) = 0 ∧
    ([xRes].filter (fun r => keyLabel r == 0)) = [] := by decide +kernel

end Buckets

/-! ## `UniqueTracks` is an input assumption: what the code counts when two estimates share a uuid

`switch_once_per_tp_pipeline` / `_scene` need `PipelineHist` ⇒ `MatcherFrame` ⇒ `UniqueTracks` (estimates of a frame
pairwise different in (uuid, label), ground-truth uuids pairwise different).  The one-to-one half is discharged from
the matcher (`prevOneToOne_pipeline`); `UniqueTracks` is not checked anywhere in Python: `DynamicObject.uuid` defaults
to `None` and `None == None` makes all uuid-less estimates of a label the same track (see the doc comment of
`Clear.UniqueTracks`).  The smallest instance: two estimates WITHOUT uuid (harness id 0 for `None`), label car, matched
by the one-to-one matcher to the two targets 1 and 2 in frame 1, and the very same pairing again in frame 2 — nothing
switched.  The code: the first current result meets its own previous pairing first (`same`, carried over), the
second meets the OTHER previous result first — same estimated id, other target — and is booked TP **with a switch**.
Whatever the order of the previous frame, 1 switch is booked (for the one or the other result); the order-free count
of `switch_once_per_tp` is 2; the true number of identity switches is 0. -/
section SharedUuid

/-- the frame: estimates (uuid `None` ↦ 0, label 0) on targets 1 and 2, both within the threshold -/
def noUuidFrame : List Res := [rEx 0 1 (1/2), rEx 0 2 (1/4)]

/-- it IS the translation of a one-to-one matcher answer (positions (0,0), (1,1)) — only the track ids are shared -/
example : noUuidFrame = toClearFrame ⟨fun _ => (0, 0), fun j => ⟨j + 1, 0, false⟩, fun i _ => if i == 0 then 1/2 else 1/4,
    fun _ _ => true, fun _ _ => 1⟩ [(0, some 0), (1, some 1)] := by decide +kernel

/-- **the code's count with a shared uuid**: not `TrackOneToOne` (so no `MatcherFrame` with `UniqueTracks` contains it);
identical pairing in consecutive frames, yet `clear` books 1 switch (TP 4, FP 0) in either order of the previous
frame, while the order-free count of `switch_once_per_tp` is 2 — its conclusion fails — and with distinct uuids the
same scene costs 0 switches -/
theorem shared_uuid_counts_a_switch :
    ¬ TrackOneToOne noUuidFrame ∧
    clear cfgEx [[], noUuidFrame, noUuidFrame] = ⟨4, 0, 1, 1/2 + 1/4 + 1/2 + 1/4⟩ ∧
    clear cfgEx [[], noUuidFrame.reverse, noUuidFrame] = ⟨4, 0, 1, 1/2 + 1/4 + 1/4 + 1/2⟩ ∧
    (events [[], noUuidFrame, noUuidFrame]).countP (fun e => switchedTp cfgEx e.1 e.2) = 2 ∧
    (clear cfgEx [[], [rEx 1 1 (1/2), rEx 2 2 (1/4)], [rEx 1 1 (1/2), rEx 2 2 (1/4)]]).sw = 0 := by
  refine ⟨fun h => ?_, by decide +kernel, by decide +kernel, by decide +kernel, by decide +kernel⟩
  have := h (rEx 0 1 (1/2)) (by simp [noUuidFrame]) (rEx 0 2 (1/4)) (by simp [noUuidFrame]) (by decide +kernel)
  revert this
  decide +kernel

/-- which result carries the switch depends on the order of the previous frame (per-result outcomes) -/
example :
    (noUuidFrame.map (fun c => countsSwitch cfgEx noUuidFrame c)) = [false, true] ∧
    (noUuidFrame.map (fun c => countsSwitch cfgEx noUuidFrame.reverse c)) = [true, false] := by decide +kernel

end SharedUuid

/-! ## the accumulation is local in time: cutting a history, the last frame's order, the first frame, untracked labels

Structural laws of `CLEAR.__init__` that hold for every history and that any hidden state
carried from frame to frame (beyond "the previous frame") or any dependence on the position of a result in the
current frame would break. -/
section LocalInTime

/-- **cutting a history at any frame**: the totals of the whole history are the totals of the part up to and including the
cut frame plus the totals of the part that starts with the cut frame as its initial "previous" frame — the accumulation
carries nothing from frame to frame except the previous frame itself -/
theorem history_split (cfg : Cfg) (pre : List (List Res)) (f : List Res) (post : List (List Res)) :
    clear cfg (pre ++ f :: post) = (clear cfg (pre ++ [f])).add (clear cfg (f :: post)) := by
  rw [clear_eq_total, clear_eq_total, clear_eq_total, events_append_cons, total_append]

/-- `objects_results_num` (all results after the initial frame, evaluated or not) splits the same way -/
theorem predictNum_split (pre : List (List Res)) (f : List Res) (post : List (List Res)) :
    predictNum (pre ++ f :: post) = predictNum (pre ++ [f]) + predictNum (f :: post) := by
  rw [predictNum_eq, predictNum_eq, predictNum_eq, resultCount_append_cons]

/-- MOTA's numerator of a history is the sum of the numerators of the two parts of any cut -/
theorem mota_numerator_split (cfg : Cfg) (pre : List (List Res)) (f : List Res) (post : List (List Res)) :
    let n := fun (a : Acc) => a.tp - (a.fp : Rat) - (a.sw : Rat)
    n (clear cfg (pre ++ f :: post)) = n (clear cfg (pre ++ [f])) + n (clear cfg (f :: post)) := by
  intro n
  rw [history_split]
  simp only [n, Acc.add_tp, Acc.add_fp, Acc.add_sw, Nat.cast_add]
  ring

/-- a frame's increment does not depend on the order of the CURRENT results (the previous frame's order can
matter when two previous TPs qualify: `SharedUuid`) -/
theorem frameStep_perm (cfg : Cfg) (prev : List Res) {cur cur' : List Res} (h : cur.Perm cur') :
    frameStep cfg prev cur = frameStep cfg prev cur' :=
  h.foldl_eq' (fun _ _ _ _ _ => Acc.ext' (add_right_comm ..) (Nat.add_right_comm ..) (Nat.add_right_comm ..)
    (add_right_comm ..)) _

/-- **the order of the results inside the last frame of a history changes nothing** of `CLEAR.results` -/
theorem last_frame_order_irrelevant (cfg : Cfg) (g : Nat) (pre : List (List Res)) (prev : List Res)
    {cur cur' : List Res} (h : cur.Perm cur') :
    evalClear cfg g (pre ++ [prev, cur]) = evalClear cfg g (pre ++ [prev, cur']) := by
  have hc : clear cfg (pre ++ [prev, cur]) = clear cfg (pre ++ [prev, cur']) := by
    rw [history_split cfg pre prev [cur], history_split cfg pre prev [cur'], clear_cons_cons, clear_cons_cons,
      frameStep_perm cfg prev h]
    rfl
  have hp : predictNum (pre ++ [prev, cur]) = predictNum (pre ++ [prev, cur']) := by
    rw [predictNum_split pre prev [cur], predictNum_split pre prev [cur']]
    simp [predictNum, h.length_eq]
  unfold evalClear
  rw [hc, hp]

/-- a history that consists of the initial "previous" frame alone scores nothing: no result is evaluated, MOTP is
undefined, MOTA is 0 (undefined without ground truth) -/
theorem initial_frame_alone (cfg : Cfg) (g : Nat) (f0 : List Res) :
    evalClear cfg g [f0] = ⟨0, g, Acc.zero, if g = 0 then none else some 0, none⟩ := by
  unfold evalClear
  have hc : clear cfg [f0] = Acc.zero := rfl
  rw [hc]
  by_cases hg : g = 0
  · simp [predictNum, mota, motp, hg]
  · simp [predictNum, mota, motp, hg, Acc.zero]

/-- results of the current frame whose key label is not a target label of the instance add nothing: the frame's
increment is that of the current frame restricted to the keyed results (the previous frame is scanned as given) -/
theorem unkeyed_current_results_add_nothing (cfg : Cfg) (prev cur : List Res) :
    frameStep cfg prev cur =
      frameStep cfg prev (cur.filter (fun c => (labelThreshold cfg (keyLabel c)).isSome)) := by
  rw [frameStep_eq, frameStep_eq]
  show _ = accSum ((cur.filter (evaluated cfg)).map _)
  induction cur with
  | nil => rfl
  | cons c cur ih => cases hk : evaluated cfg c <;> simp [hk, ih, resStep_of_not_evaluated]

/-- non-vacuity / concrete instance: a cut in the middle of a 4-frame history with a switch on either side -/
example :
    let a := rEx 1 1 (1/2); let b := rEx 2 2 (1/4); let a' := rEx 3 1 (1/2); let b' := rEx 4 2 (1/4)
    clear cfgEx [[], [a, b], [a', b], [a', b']] = ⟨6, 0, 2, 1/2 + 1/4 + 1/2 + 1/4 + 1/2 + 1/4⟩ ∧
    clear cfgEx [[], [a, b], [a', b]] = ⟨4, 0, 1, 1/2 + 1/4 + 1/2 + 1/4⟩ ∧
    clear cfgEx [[a', b], [a', b']] = ⟨2, 0, 1, 1/2 + 1/4⟩ := by decide +kernel

/-- with an empty previous frame every result is judged by its own test alone: no carry-over, no switch -/
theorem frameStep_after_empty (cfg : Cfg) (cur : List Res) :
    (frameStep cfg [] cur).sw = 0 ∧
    frameStep cfg [] cur = accSum (cur.map (fun c =>
      match labelThreshold cfg (keyLabel c) with
      | none => Acc.zero
      | some t => if isTp cfg t c then ⟨c.w, 0, 0, c.value⟩ else ⟨0, 1, 0, 0⟩)) := by
  constructor
  · rw [frameStep_eq, accSum_sw]
    apply List.sum_eq_zero
    simp only [List.map_map, List.mem_map, Function.comp]
    rintro _ ⟨c, _, rfl⟩
    have : countsSwitch cfg [] c = false := by
      rw [Bool.eq_false_iff, Ne, countsSwitch_iff]
      rintro ⟨t, _, _, h⟩
      cases h
    rw [resStep_sw, this]
    rfl
  · rw [frameStep_eq]
    exact congrArg accSum (List.map_congr_left fun c _ => by
      unfold resStep
      cases labelThreshold cfg (keyLabel c) <;> rfl)

/-- **an empty frame in the middle of a history cuts it**: the frame after it books no switch (and no carry-over:
`frameStep_after_empty`), and the totals are those of the two parts -/
theorem empty_frame_cuts_history (cfg : Cfg) (pre post : List (List Res)) (cur : List Res) :
    clear cfg (pre ++ [] :: cur :: post) =
      ((clear cfg (pre ++ [[]])).add (frameStep cfg [] cur)).add (clear cfg (cur :: post)) ∧
    (frameStep cfg [] cur).sw = 0 := by
  refine ⟨?_, (frameStep_after_empty cfg cur).1⟩
  rw [history_split cfg pre [] (cur :: post), clear_cons_cons, Acc.add_assoc]

end LocalInTime

end PEval.C05
