import PEval.Lemmas.Threshold
import PEval.Lemmas.ThresholdConfig
import PEval.Lemmas.ThresholdTargets
import PEval.Gen.Enums
/-!
# C15 — configurations are validated; thresholds normalised to one value per label

Theorems about the models `PEval.Threshold.setThresholds` (`common/threshold.py`) and
`PEval.Config.*` (the configuration classes).  The specification predicates (`IsFlatNorm`,
`IsNestedNorm`, `RowOf`, `RowsOf`, `FlatOK`, `NestedOK`) are defined in `PEval/Lemmas/Threshold.lean`.
All statements quantify over every `PyVal` tree and every number of labels (no size bound).  A theorem that is
`:= lemma …` is a lemma that other proofs use as well, under the name the property is registered with.
-/
namespace PEval.C15
open PEval PEval.Threshold PEval.Config

/-- an accepted flat result is a list of exactly `n` entries -/
theorem setThresholds_shape_flat {v : PyVal} {n : Nat} {r : PyVal}
    (h : setThresholds v n false = .ok r) : ∃ xs, r = .list xs ∧ xs.length = n := by
  obtain ⟨xs, e, hl, _⟩ := flat_result_norm h
  exact ⟨xs, e, hl⟩

/-- an accepted nested result is a non-empty list of rows of exactly `n` entries (and then `n ≥ 1`) -/
theorem setThresholds_shape_nested {v : PyVal} {n : Nat} {r : PyVal}
    (h : setThresholds v n true = .ok r) :
    1 ≤ n ∧ ∃ rows, r = .list rows ∧ rows ≠ [] ∧ ∀ row ∈ rows, ∃ ys, row = .list ys ∧ ys.length = n := by
  obtain ⟨rows, e, hne, hrows⟩ := nested_result_norm h
  rw [setThresholds_nested, ok_ite_iff] at h
  refine ⟨Nat.pos_of_ne_zero h.1.1, rows, e, hne, fun row hr => ?_⟩
  obtain ⟨ys, e', hl, _⟩ := hrows row hr
  exact ⟨ys, e', hl⟩

/-- every leaf of an accepted result is a number in Python's sense (`numbers.Real`, `bool` included):
the result is a flat / nested *normal form* -/
theorem setThresholds_numeric {v : PyVal} {n : Nat} {nest : Bool} {r : PyVal}
    (h : setThresholds v n nest = .ok r) :
    (nest = false → IsFlatNorm n r) ∧ (nest = true → IsNestedNorm n r) :=
  ⟨fun hn => flat_result_norm (hn ▸ h), fun hn => nested_result_norm (hn ▸ h)⟩

/-- flat: the result is the input unchanged, or the broadcast of a scalar / singleton -/
theorem no_pad_no_truncate_flat {v : PyVal} {n : Nat} {r : PyVal}
    (h : setThresholds v n false = .ok r) :
    r = v ∨ ∃ x, isReal x = true ∧ (v = x ∨ v = .list [x]) ∧ r = .list (List.replicate n x) := by
  rw [setThresholds_flat, ok_ite_iff] at h
  obtain ⟨⟨-, hr⟩, rfl⟩ := h
  by_cases hv : isReal v = true
  · exact Or.inr ⟨v, hv, Or.inl rfl, by simp [rowIn, hv]⟩
  · rw [rowIn, if_neg hv] at hr ⊢
    rcases normRow_rowOf n v with h | ⟨x, rfl, h⟩
    · exact Or.inl h
    · exact Or.inr ⟨x, by simpa using hr, Or.inr rfl, h⟩

/-- nested: a scalar gives one broadcast row; a flat list of numbers gives itself as the single row
(when it has exactly `n` entries) or one broadcast row per entry; a list of rows gives, position by
position, each row unchanged or the broadcast of a singleton row (`RowsOf`: same number of rows, same
order) -/
theorem no_pad_no_truncate_nested {v : PyVal} {n : Nat} {r : PyVal}
    (h : setThresholds v n true = .ok r) :
    (isReal v = true ∧ r = .list [.list (List.replicate n v)]) ∨
    (∃ xs, v = .list xs ∧ (∀ x ∈ xs, isReal x = true) ∧
        ((xs.length = n ∧ r = .list [v]) ∨ r = .list (xs.map fun x => .list (List.replicate n x)))) ∨
    (∃ xs rows, v = .list xs ∧ r = .list rows ∧ RowsOf n xs rows) := by
  rw [setThresholds_nested, ok_ite_iff] at h
  obtain ⟨⟨-, h0, -⟩, rfl⟩ := h
  cases v with
  | list xs =>
    by_cases h1 : ∀ x ∈ xs, isReal x = true
    · refine Or.inr (Or.inl ⟨xs, rfl, h1, ?_⟩)
      rw [rowsIn_numbers n h1]
      split
      · rename_i hl; exact Or.inl ⟨hl, by simp [normRow_full hl]⟩
      · exact Or.inr (by simp [List.map_map, Function.comp_def])
    · rw [rowsIn_rows n h1]
      exact Or.inr (Or.inr ⟨xs, _, rfl, rfl, normRows_rowsOf n xs⟩)
  | num q | bool b => exact Or.inl ⟨rfl, by simp [rowsIn, isReal]⟩
  | _ => exact absurd rfl h0

/-- normalising an accepted result again returns it unchanged (for at least one target label) -/
theorem setThresholds_idem {v : PyVal} {n : Nat} {nest : Bool} {r : PyVal}
    (h : setThresholds v n nest = .ok r) (hn : 1 ≤ n) : setThresholds r n nest = .ok r := by
  cases nest
  · exact flat_norm_fixed (flat_result_norm h) hn
  · exact nested_norm_fixed (nested_result_norm h) hn

/-- flat: accepted exactly for the well-formed specifications -/
theorem setThresholds_accepts_iff_flat (v : PyVal) (n : Nat) :
    (∃ r, setThresholds v n false = .ok r) ↔ FlatOK v n := by
  simp only [setThresholds_flat, ok_ite_iff, exists_and_left, exists_eq, and_true]
  refine Iff.symm ?_
  unfold FlatOK rowIn
  by_cases hv : isReal v = true
  · rw [if_pos hv, rowOK_singleton]
    exact ⟨fun _ => ⟨nofun, hv⟩, fun _ => Or.inl hv⟩
  · rw [if_neg hv, rowOK_iff]
    constructor
    · rintro (h | ⟨xs, rfl, h0, hr, hl⟩)
      · exact absurd h hv
      · exact ⟨fun h => h0 (PyVal.list.inj h), xs, rfl, hl, hr⟩
    · rintro ⟨h0, xs, rfl, hl, hr⟩
      exact Or.inr ⟨xs, rfl, fun h => h0 (h ▸ rfl), hr, hl⟩

/-- nested: accepted exactly for the well-formed specifications (with at least one label) -/
theorem setThresholds_accepts_iff_nested (v : PyVal) (n : Nat) :
    (∃ r, setThresholds v n true = .ok r) ↔ NestedOK v n := by
  simp only [setThresholds_nested, ok_ite_iff, exists_and_left, exists_eq, and_true]
  refine Iff.symm ?_
  simp only [NestedOK, ← rowOK_iff, Nat.one_le_iff_ne_zero]
  refine and_congr_right fun hn => ?_
  cases v with
  | list xs =>
    by_cases hall : ∀ x ∈ xs, isReal x = true
    · constructor
      · rintro (⟨⟨⟩⟩ | ⟨_, ⟨⟩, h0, -⟩)
        exact rowOK_rowsIn_numbers n h0 hall
      · rintro ⟨h0, -⟩
        refine Or.inr ⟨xs, rfl, ?_, Or.inl hall⟩
        rintro rfl
        exact h0 (rowsIn_nil hn)
    · rw [rowsIn_rows n hall]
      constructor
      · rintro (⟨⟨⟩⟩ | ⟨_, ⟨⟩, h0, h⟩)
        exact ⟨h0, h.resolve_left hall⟩
      · exact fun ⟨h0, h⟩ => Or.inr ⟨xs, rfl, h0, Or.inr h⟩
  | num q | bool b =>
    exact ⟨fun _ => ⟨List.cons_ne_nil _ _, fun t ht => List.mem_singleton.mp ht ▸ rfl⟩, fun _ => Or.inl rfl⟩
  | _ => exact ⟨fun h => by rcases h with ⟨⟨⟩⟩ | ⟨_, ⟨⟩, -⟩, fun h => absurd rfl h.1⟩

/-- the only error kinds: `ThresholdError`, and `TypeError` exactly for `None` and for objects
without a length (`len(None)`, `len(Decimal(1))`) -/
theorem rejects_only_errors (v : PyVal) (n : Nat) (nest : Bool) :
    (∃ r, setThresholds v n nest = .ok r) ∨ setThresholds v n nest = thresholdError ∨
      ((v = .none ∨ ∃ t, v = .other t) ∧ setThresholds v n nest = typeError) := by
  refine (setThresholds_cases v n nest).imp_right fun h => ?_
  cases v with
  | none => exact Or.inr ⟨Or.inl rfl, h⟩
  | other t => exact Or.inr ⟨Or.inr ⟨t, rfl⟩, h⟩
  | _ => exact Or.inl h

/-- `None` and strings are rejected -/
theorem rejects_none_str (n : Nat) (nest : Bool) :
    setThresholds .none n nest = typeError ∧ ∀ s, setThresholds (.str s) n nest = thresholdError :=
  ⟨by cases nest <;> rfl, fun s => by cases nest <;> rfl⟩

/-- empty lists are rejected: the empty specification, and any empty row -/
theorem rejects_empty (n : Nat) (nest : Bool) :
    setThresholds (.list []) n nest = thresholdError ∧
    ∀ xs, .list [] ∈ xs → setThresholds (.list xs) n true = thresholdError := by
  constructor
  · cases nest
    · rw [setThresholds_flat, if_neg fun h => h.1 rfl]
      rfl
    · rw [setThresholds_nested, if_neg fun h => h.2.1 (rowsIn_nil h.1)]
      rfl
  · intro xs hmem
    rw [setThresholds_nested, rowsIn_rows n (fun h => by cases h _ hmem), if_neg]
    · rfl
    · -- an empty row has neither length 1 nor (for `n ≠ 0`) length `n`
      rintro ⟨hn, -, h⟩
      rcases (rowOK_list.mp (h _ hmem)).2 with h | h
      · cases h
      · exact hn h.symm

/-- flat: a list whose length is neither 1 nor `n` is rejected (no padding, no truncation) -/
theorem rejects_wrong_length_flat (xs : List PyVal) (n : Nat)
    (h1 : xs.length ≠ 1) (hn : xs.length ≠ n) : setThresholds (.list xs) n false = thresholdError :=
  flat_list_rejected (not_rowOK_of_length h1 hn)

/-- nested: a row whose length is neither 1 nor `n` is rejected -/
theorem rejects_wrong_length_nested (xs ys : List PyVal) (n : Nat) (hmem : .list ys ∈ xs)
    (h1 : ys.length ≠ 1) (hn : ys.length ≠ n) : setThresholds (.list xs) n true = thresholdError :=
  nested_list_rejected hmem rfl hmem (not_rowOK_of_length h1 hn)

/-- mixed nesting (a list next to a non-list) is rejected in both modes -/
theorem rejects_mixed_nesting (xs : List PyVal) (x y : PyVal) (n : Nat) (nest : Bool)
    (hx : x ∈ xs) (hy : y ∈ xs) (hxl : isList x = true) (hyl : isList y = false) :
    setThresholds (.list xs) n nest = thresholdError := by
  cases nest
  · exact flat_list_rejected (not_rowOK_of_mem hx (not_real_of_isList hxl))
  · exact nested_list_rejected hx (not_real_of_isList hxl) hy (not_rowOK_of_not_list hyl)

/-- flat: a nested list is rejected -/
theorem rejects_nested_in_flat (xs : List PyVal) (x : PyVal) (n : Nat)
    (hx : x ∈ xs) (hxl : isList x = true) : setThresholds (.list xs) n false = thresholdError :=
  flat_list_rejected (not_rowOK_of_mem hx (not_real_of_isList hxl))

/-- nested: nesting deeper than two levels is rejected -/
theorem rejects_too_deep (xs ys : List PyVal) (z : PyVal) (n : Nat)
    (hmem : .list ys ∈ xs) (hz : z ∈ ys) (hzl : isList z = true) :
    setThresholds (.list xs) n true = thresholdError :=
  nested_list_rejected hmem rfl hmem (not_rowOK_of_mem hz (not_real_of_isList hzl))

/-- flat: a non-numeric entry (str, None, list) is rejected -/
theorem rejects_non_numeric_flat (xs : List PyVal) (x : PyVal) (n : Nat)
    (hx : x ∈ xs) (hxr : isReal x = false) : setThresholds (.list xs) n false = thresholdError :=
  flat_list_rejected (not_rowOK_of_mem hx hxr)

/-- nested: a non-numeric leaf — at the top level or inside a row — is rejected -/
theorem rejects_non_numeric_nested (xs : List PyVal) (n : Nat)
    (h : (∃ x ∈ xs, isReal x = false ∧ isList x = false) ∨
         (∃ ys y, .list ys ∈ xs ∧ y ∈ ys ∧ isReal y = false)) :
    setThresholds (.list xs) n true = thresholdError := by
  rcases h with ⟨x, hx, hxr, hxl⟩ | ⟨ys, y, hmem, hy, hyr⟩
  · exact nested_list_rejected hx hxr hx (not_rowOK_of_not_list hxl)
  · exact nested_list_rejected hmem rfl hmem (not_rowOK_of_mem hy hyr)

/-! ## both modes in one statement (conjunctions of the above) -/

/-- shape: an accepted flat result has exactly `n` entries; an accepted nested result is a non-empty
list of rows of exactly `n` entries -/
theorem setThresholds_shape {v : PyVal} {n : Nat} {nest : Bool} {r : PyVal}
    (h : setThresholds v n nest = .ok r) :
    (nest = false → ∃ xs, r = .list xs ∧ xs.length = n) ∧
    (nest = true → ∃ rows, r = .list rows ∧ rows ≠ [] ∧ ∀ row ∈ rows, ∃ ys, row = .list ys ∧ ys.length = n) :=
  ⟨fun hn => setThresholds_shape_flat (hn ▸ h), fun hn => (setThresholds_shape_nested (hn ▸ h)).2⟩

/-- each output row is an input row unchanged or the broadcast of a scalar / singleton -/
theorem no_pad_no_truncate {v : PyVal} {n : Nat} {nest : Bool} {r : PyVal}
    (h : setThresholds v n nest = .ok r) :
    (nest = false →
      r = v ∨ ∃ x, isReal x = true ∧ (v = x ∨ v = .list [x]) ∧ r = .list (List.replicate n x)) ∧
    (nest = true →
      (isReal v = true ∧ r = .list [.list (List.replicate n v)]) ∨
      (∃ xs, v = .list xs ∧ (∀ x ∈ xs, isReal x = true) ∧
          ((xs.length = n ∧ r = .list [v]) ∨ r = .list (xs.map fun x => .list (List.replicate n x)))) ∨
      (∃ xs rows, v = .list xs ∧ r = .list rows ∧ RowsOf n xs rows)) :=
  ⟨fun hn => no_pad_no_truncate_flat (hn ▸ h), fun hn => no_pad_no_truncate_nested (hn ▸ h)⟩

/-- every specification that is not well-formed (wrong lengths, empty lists, mixed nesting, non-numeric
leaves, `None`, strings, too deep) is rejected with an error -/
theorem rejects_malformed (v : PyVal) (n : Nat) :
    (¬ FlatOK v n → ∃ e, setThresholds v n false = .error e) ∧
    (¬ NestedOK v n → ∃ e, setThresholds v n true = .error e) := by
  -- what does not answer raises
  have key : ∀ {x : Except Err PyVal} {P : Prop}, ((∃ r, x = .ok r) ↔ P) → ¬ P → ∃ e, x = .error e := by
    intro x P hiff hbad
    cases x with
    | ok r => exact absurd (hiff.mp ⟨r, rfl⟩) hbad
    | error e => exact ⟨e, rfl⟩
  exact ⟨key (setThresholds_accepts_iff_flat v n), key (setThresholds_accepts_iff_nested v n)⟩

/-- `check_thresholds` (called directly by the frame configs) accepts only a flat normal form and
returns it unchanged — for at least one target label: with `n = 0` it also lets the empty string through -/
theorem checkThresholds_sound {v : PyVal} {n : Nat} {r : PyVal} (h : checkThresholds v n = .ok r)
    (hn : 1 ≤ n) : r = v ∧ IsFlatNorm n v := checkThresholds_ok h hn

/-- `check_nested_thresholds` accepts only a list of flat normal forms (or the empty string, which has
nothing to iterate over) and returns it unchanged -/
theorem checkNestedThresholds_sound {v : PyVal} {n : Nat} {r : PyVal}
    (h : checkNestedThresholds v n = .ok r) :
    r = v ∧ (v = .str "" ∨ ∃ rows, v = .list rows ∧ ∀ row ∈ rows, IsFlatNorm n row) := by
  cases v with
  | str s =>
    rcases ite_cases h with ⟨-, ⟨⟩⟩ | ⟨hs, ⟨⟩⟩
    exact ⟨rfl, Or.inl (congrArg _ (String.length_eq_zero_iff.mp (by simpa using hs)))⟩
  | list rows =>
    rw [checkNested_eq, thresholdError, ok_ite_iff] at h
    exact ⟨h.2, Or.inr ⟨rows, rfl, fun row hr => ((normedRow_iff n row).mp (h.1 row hr)).2⟩⟩
  | _ => cases h

/-- entries that are not real numbers — strings (also numeric-looking ones such as `"0.5"`), `None`,
nested lists, and every other kind of object (`bytes`, `Decimal`, `complex`, arrays …) — are never `Real` -/
theorem non_numbers_not_real :
    (∀ s, isReal (.str s) = false) ∧ isReal .none = false ∧ (∀ xs, isReal (.list xs) = false) ∧
    (∀ t, isReal (.other t) = false) := ⟨fun _ => rfl, rfl, fun _ => rfl, fun _ => rfl⟩

/-- the direct checks reject every list that holds an entry that is not a real number, with
`ThresholdError`, whatever the shape -/
theorem check_rejects_non_numeric (xs : List PyVal) (x : PyVal) (n : Nat) (hx : x ∈ xs) (hxr : isReal x = false) :
    checkThresholds (.list xs) n = thresholdError ∧
    ∀ rows, .list xs ∈ rows → checkNestedThresholds (.list rows) n = thresholdError := by
  constructor
  · rw [checkThresholds_list, if_neg]
    rintro ⟨h, -⟩
    rw [h x hx] at hxr
    cases hxr
  · intro rows hrow
    rw [checkNested_eq, if_neg]
    intro h
    have := (isFlatNorm_list.mp ((normedRow_iff n _).mp (h _ hrow)).2).2 x hx
    rw [this] at hxr
    cases hxr

/-- an object without a length is rejected by every entry point (as a specification: `TypeError`) -/
theorem rejects_other (t : String) (n : Nat) :
    (∀ nest, setThresholds (.other t) n nest = typeError) ∧ checkThresholds (.other t) n = typeError ∧
    checkNestedThresholds (.other t) n = typeError :=
  ⟨fun nest => by cases nest <;> rfl, rfl, rfl⟩

/-- an optional per-label filter parameter is `None` exactly when it is not given, else a flat normal form -/
theorem optFlat_sound {v : PyVal} {n : Nat} {r : PyVal} (h : optFlat v n = .ok r) :
    (v = .none ∧ r = .none) ∨ (given v = true ∧ IsFlatNorm n r) := optFlat_ok h

/-- a metric threshold list is empty (parameter missing or falsy) or a nested normal form -/
theorem optNested_sound {v : PyVal} {n : Nat} {r : PyVal} (h : optNested v n = .ok r) :
    r = .list [] ∨ IsNestedNorm n r := optNested_ok h

/-- An accepted `PerceptionEvaluationConfig`: the task is one of the supported tasks (and is the string
given under `evaluation_task`; never `prediction`, whose metrics config is not implemented); for a 3-D
task exactly one complete kind of range bound is given and there is exactly one frame id; the mandatory
parameters are present (`label_prefix`; `min_point_numbers` for detection); the keys handed to the
metrics config are parameters of it; every per-label filter list is `None` or holds exactly `nLabels`
numbers; every metric list is empty or a non-empty list of rows of exactly `nLabels` numbers.

The clause of the property text "no unknown metric parameter is supplied" does NOT hold of the code
(finding F8) and is therefore absent here; `config_ignores_unread_key` states the exact deviation. -/
theorem config_accept_sound {d : Dict} {frames : List String} {a : Accepted}
    (h : perceptionConfig d frames = .ok a) :
    a.task ∈ Gen.perceptionSupportTasks ∧ d.lookup "evaluation_task" = some (.str a.task) ∧
    a.task ≠ "prediction" ∧
    (is3d a.task = true → OneRangeKind d) ∧
    (is3d a.task = true → frames.length = 1) ∧
    (d.lookup "label_prefix").isSome = true ∧
    (a.task = "detection" → given (get d "min_point_numbers") = true) ∧
    (∀ valid, metricParamNames a.task = some valid → ∀ k ∈ metricParamKeys, k ∈ valid) ∧
    (∀ k ∈ perLabelFilterKeys, ∃ v, a.filtering.lookup k = some v ∧ (v = .none ∨ IsFlatNorm a.nLabels v)) ∧
    (∀ m, a.metrics = some m →
        m.map (·.1) = metricThresholdKeys ∧ ∀ kv ∈ m, kv.2 = .list [] ∨ IsNestedNorm a.nLabels kv.2) := by
  obtain ⟨pre, nAll, m, S⟩ := perceptionConfig_inv h
  obtain ⟨ht1, ht2⟩ := checkTasks_ok S.task
  have E := extractParams_ok S.params
  obtain ⟨m1, m2, m3⟩ := metricsScoreConfig_ok S.metrics
  refine ⟨ht2, ht1, m1, ?_, S.oneFrame, by rw [S.labelPrefix]; rfl, E.minPts, ?_, E.perLabel, m3⟩
  · intro h3
    obtain ⟨xl, yl, dl, ml, R, -⟩ := E.range
    rcases R.kinds with ⟨a1, a2, a3, a4, -⟩ | ⟨a1, a2, a3, a4, -⟩ | ⟨a1, -⟩
    · exact Or.inl ⟨a1, a2, a3, a4⟩
    · exact Or.inr ⟨a1, a2, a3, a4⟩
    · rw [h3] at a1; cases a1
  · intro valid hv k hk
    have := m2 valid hv
    rw [E.metrics] at this
    exact this k (by simpa [metricParamKeys, metricThresholdKeys] using hk)


/-- Finding F8, characterised exactly: a key the configuration does not read (e.g. `foo_thresholds`) has
no influence whatsoever — it is neither rejected nor does it change any exposed parameter. -/
theorem config_ignores_unread_key (d : Dict) (frames : List String) (k : String) (v : PyVal)
    (hk : k ∉ readKeys) : perceptionConfig ((k, v) :: d) frames = perceptionConfig d frames := by
  apply perceptionConfig_congr
  intro k' hk'
  have hne : (k' == k) = false := by
    simp only [beq_eq_false_iff_ne, ne_eq]
    intro e; exact hk (e ▸ hk')
  simp [List.lookup, hne]


/-- An accepted `CriticalObjectFilterConfig` (of an evaluator whose label enum is not empty): there is at least one
target label; every filter list is `None` or the argument as given, a list of exactly `n` numbers (`check_thresholds`
does not broadcast); for a 3-D evaluator the two lists of one kind of range bound are present. -/
theorem critical_accept_sound {is2d : Bool} {nAll : Nat} {args : Dict} {n : Nat} {f : Dict}
    (h : criticalFilterConfig is2d nAll args = .ok (n, f)) (hAll : 1 ≤ nAll) :
    1 ≤ n ∧
    (∀ kv ∈ f, kv.2 = .none ∨ (kv.2 = get args kv.1 ∧ IsFlatNorm n kv.2)) ∧
    (is2d = false →
      (∃ xl yl, f.lookup "max_x_position_list" = some xl ∧ f.lookup "max_y_position_list" = some yl ∧
         IsFlatNorm n xl ∧ IsFlatNorm n yl) ∨
      (∃ dl ml, f.lookup "max_distance_list" = some dl ∧ f.lookup "min_distance_list" = some ml ∧
         IsFlatNorm n dl ∧ IsFlatNorm n ml)) := by
  obtain ⟨xl, yl, dl, ml, minPts, conf, S⟩ := criticalFilterConfig_inv h hAll
  obtain ⟨-, hn, R, hmp, hconf, rfl⟩ := S
  have P := optCheck_ok hmp hn
  have C := optCheck_ok hconf hn
  refine ⟨hn, ?_, fun h2 => ?_⟩
  · simp only [List.forall_mem_cons, List.not_mem_nil, false_imp_iff, implies_true, and_true]
    rcases R with ⟨rfl, rfl, c, e, rfl, rfl⟩ | ⟨rfl, rfl, rfl, rfl, g, i⟩ | ⟨-, rfl, rfl, rfl, rfl⟩
    · exact ⟨Or.inr ⟨rfl, c⟩, Or.inr ⟨rfl, e⟩, Or.inl rfl, Or.inl rfl, P, C⟩
    · exact ⟨Or.inl rfl, Or.inl rfl, Or.inr ⟨rfl, g⟩, Or.inr ⟨rfl, i⟩, P, C⟩
    · exact ⟨Or.inl rfl, Or.inl rfl, Or.inl rfl, Or.inl rfl, P, C⟩
  · rcases R with ⟨-, -, c, e, -⟩ | ⟨-, -, -, -, g, i⟩ | ⟨a, -⟩
    · exact Or.inl ⟨xl, yl, by simp [List.lookup], by simp [List.lookup], c, e⟩
    · exact Or.inr ⟨dl, ml, by simp [List.lookup], by simp [List.lookup], g, i⟩
    · rw [h2] at a; cases a

/-- An accepted `PerceptionPassFailConfig`: both threshold lists are `None` or the argument as given, a list of exactly
`n` numbers. -/
theorem passfail_accept_sound {nAll : Nat} {args : Dict} {n : Nat} {f : Dict}
    (h : passFailConfig nAll args = .ok (n, f)) (hAll : 1 ≤ nAll) :
    1 ≤ n ∧ ∀ kv ∈ f, kv.2 = .none ∨ (kv.2 = get args kv.1 ∧ IsFlatNorm n kv.2) := by
  obtain ⟨mt, conf, hcnt, hmt, hconf, rfl⟩ := passFailConfig_inv h
  have hn := targetLabelCount_pos hcnt hAll
  simp only [List.forall_mem_cons, List.not_mem_nil, false_imp_iff, implies_true, and_true]
  exact ⟨hn, optCheck_ok hmt hn, optCheck_ok hconf hn⟩

/-- An accepted `SensingEvaluationConfig`: the task is a supported one and is the string given under
`evaluation_task`; a 3-D task has exactly one frame id. -/
theorem sensing_accept_sound {d : Dict} {frames : List String} {a : Accepted}
    (h : sensingConfig d frames = .ok a) :
    a.task ∈ Gen.sensingSupportTasks ∧ d.lookup "evaluation_task" = some (.str a.task) ∧
    (is3d a.task = true → frames.length = 1) := by
  obtain ⟨htask, h1⟩ := sensingConfig_inv h
  obtain ⟨ht1, ht2⟩ := checkTasks_ok htask
  exact ⟨ht2, ht1, h1⟩

/-- the regenerated support lists: every task the perception config supports is an `EvaluationTask`
value other than `sensing`; the sensing config supports exactly `sensing` -/
theorem support_tasks_wellformed :
    (∀ t ∈ Gen.perceptionSupportTasks, t ∈ Gen.evaluationTask.map (·.2) ∧ t ≠ "sensing") ∧
    Gen.sensingSupportTasks = ["sensing"] := by decide +kernel

/-- the keys `_extract_params` hands to `MetricsScoreConfig` are parameters of every metrics config
class (re-checked against the regenerated signatures): `_check_parameters` can never fire -/
theorem metric_param_keys_valid :
    ∀ valid ∈ [Gen.detectionMetricsParams, Gen.trackingMetricsParams, Gen.predictionMetricsParams,
               Gen.classificationMetricsParams],
      checkParameters valid metricParamKeys = .ok () := by decide +kernel

/-- `_check_parameters` passes exactly when every key handed over is a parameter name of the metrics config class -/
theorem checkParameters_sound (valid keys : List String) :
    checkParameters valid keys = .ok () ↔ ∀ k ∈ keys, k ∈ valid := checkParameters_iff valid keys


/-! ## the hypotheses are satisfiable: concrete instances -/

example : setThresholds (.num 2) 3 false = .ok (.list [.num 2, .num 2, .num 2]) := by decide +kernel
example : setThresholds (.list [.num 1, .bool true]) 3 true =
    .ok (.list [.list [.num 1, .num 1, .num 1], .list [.bool true, .bool true, .bool true]]) := by
  decide +kernel
example : setThresholds (.list [.list [.num 1], .list [.num 2, .num 3]]) 2 true =
    .ok (.list [.list [.num 1, .num 1], .list [.num 2, .num 3]]) := by decide +kernel
example : setThresholds (.list [.list [.num 1, .num 2, .num 3]]) 2 true = thresholdError := by decide +kernel
example : setThresholds (.list [.list [.str "a", .str "b"]]) 2 true = thresholdError := by decide +kernel
example : setThresholds (.list [.num 1, .list [.num 2]]) 2 true = thresholdError := by decide +kernel
example : setThresholds (.list [.list [.str "0.5", .num 1]]) 2 true = thresholdError := by decide +kernel
example : setThresholds (.list [.list [.num 1, .num 2], .list [.other "bytes:b'2'"]]) 2 true = thresholdError := by
  decide +kernel
example : setThresholds (.list [.other "Decimal:1", .num 1]) 2 false = thresholdError := by decide +kernel
example : checkNestedThresholds (.list [.list [.num 1, .num 2]]) 2 = .ok (.list [.list [.num 1, .num 2]]) := by
  decide +kernel
example : checkNestedThresholds (.list [.list [.num 1, .str "2"]]) 2 = thresholdError := by decide +kernel
example : NestedOK (.list [.list [.num 1], .list [.num 2, .num 3]]) 2 :=
  (setThresholds_accepts_iff_nested _ _).mp
    ⟨.list [.list [.num 1, .num 1], .list [.num 2, .num 3]], by decide +kernel⟩


example : "foo_thresholds" ∉ readKeys := by simp [readKeys, metricThresholdKeys]
example : "iou_bev_thresholds" ∉ readKeys := by simp [readKeys, metricThresholdKeys]

/-- a concrete accepted detection configuration (2 labels, x/y range) -/
def exampleConfig : Dict :=
  [("evaluation_task", .str "detection"), ("target_labels", .list [.str "car", .str "bicycle"]),
   ("max_x_position", .num 100), ("max_y_position", .list [.num 50]),
   ("min_point_numbers", .list [.num 0, .num 0]), ("label_prefix", .str "autoware"),
   ("center_distance_thresholds", .list [.num 1, .num 2, .num 3]), ("iou_3d_thresholds", .num (1/2))]

example : (perceptionConfig exampleConfig ["base_link"]).toOption.map
      (fun a => (a.nLabels, a.filtering.lookup "max_y_position_list", a.metrics.map (·.lookup "iou_3d_thresholds"))) =
    some (2, some (.list [.num 50, .num 50]), some (some (.list [.list [.num (1/2), .num (1/2)]]))) := by
  decide +kernel
example : perceptionConfig (("max_distance", .num 10) :: exampleConfig) ["base_link"] = .error "RuntimeError" := by
  decide +kernel
example : perceptionConfig (exampleConfig.filter (·.1 != "min_point_numbers")) ["base_link"] =
    .error "RuntimeError" := by decide +kernel

/-! ## tie to the source: tables regenerated from the code's AST / enums on every run -/

/-- the model's `is3d` agrees with `EvaluationTask.is_3d()` of the current tree, for every task value -/
theorem is3d_agrees_with_source : ∀ p ∈ Gen.taskValueIs3d, is3d p.1 = (p.2 == "true") := by decide +kernel

/-- keys the real configuration reads but that cannot influence any modelled output (label merging is
C14's subject; the other two only select counting/legacy-policy behaviour) -/
def readWithoutEffect : List String := ["allow_matching_unknown", "merge_similar_labels", "count_label_number"]

/-- the set of dictionary keys the model reads is the set of keys the code reads (taken from the AST of
`_check_tasks`, `_extract_label_params`, `_extract_params` on every run), up to `readWithoutEffect`:
a change that makes the code consult another key (or stop consulting one) breaks this theorem -/
theorem readKeys_match_source :
    (∀ k ∈ Gen.perceptionConfigReadKeys, k ∈ readKeys ∨ k ∈ readWithoutEffect) ∧
    (∀ k ∈ readKeys, k ∈ Gen.perceptionConfigReadKeys) := by decide +kernel

/-! ## `nLabels` is the number of target labels OF THE CONFIGURATION

`configTargetLabels d` is the model of `PerceptionEvaluationConfig(..).target_labels`: the `target_labels` entry of
the dictionary converted by the configuration's own label converter (`label_prefix`, `merge_similar_labels`, task),
through the converter model of C14 (`PEval.Label.setTargetLists` / `convertName`). -/

/-- the count an accepted configuration works with is the length of ITS converted target-label list; that list is
not empty -/
theorem config_nLabels_is_target_count {d : Dict} {frames : List String} {a : Accepted}
    (h : perceptionConfig d frames = .ok a) :
    ∃ L, configTargetLabels d = .ok L ∧ a.nLabels = L.length ∧ L ≠ [] := by
  obtain ⟨pre, nAll, m, S⟩ := perceptionConfig_inv h
  obtain ⟨_, _, _, _, _, _, _, E⟩ := extractParams_inv S.params
  have hsz := labelTypeSize_eq_converterOf a.task S.labelPrefix
  rw [S.size] at hsz
  split at hsz
  · rename_i r hconv
    obtain ⟨t, fam⟩ := r
    cases hsz
    obtain ⟨L, hL, hn, hne⟩ := targetLabelList_of_count t E.count
    exact ⟨L, by simp [configTargetLabels, S.task, S.policy, hconv, hL], hn, hne⟩
  · cases hsz

/-- what the target-label list of a configuration is, in closed form: every member of the label family of
`label_prefix` (in definition order) when `target_labels` is absent / `None` / empty; otherwise the entries converted
one by one by `convert_name` of the configuration's converter — by `C14.targets_same_mapping` the label an OBJECT
with that name receives -/
theorem config_targets_closed_form {d : Dict} {L : List String} (h : configTargetLabels d = .ok L) :
    ∃ task t fam, checkTasks Gen.perceptionSupportTasks d = .ok task ∧ converterOf task d = .ok (t, fam) ∧
      ((get d "target_labels" = .none ∨ get d "target_labels" = .list [] ∨ get d "target_labels" = .str "") →
        L = Label.familyMembers fam) ∧
      (∀ xs, get d "target_labels" = .list xs → xs ≠ [] →
        (∀ x ∈ xs, isStr x = true) ∧ L = xs.map (fun x => Label.convertName t (strOf x))) := by
  revert h
  fun_cases configTargetLabels d with
  | case4 task htask _ t fam hconv =>
    intro h
    refine ⟨task, t, fam, htask, hconv, fun hv => ?_, fun xs e hne => ?_⟩
    · rw [targetLabelList_all t fam hv] at h
      cases h
      rfl
    · rw [e, targetLabelList_eq, targetNames] at h
      obtain ⟨x, xs, rfl⟩ := List.exists_cons_of_ne_nil hne
      split at h
      · rename_i ha
        cases h
        exact ⟨List.all_eq_true.mp ha, by simp [Label.setTargetLists, List.map_map, Function.comp_def]⟩
      · cases h
  | _ => nofun

/-- **accepted configurations, restated with the configuration's own target labels.**  `L` is the converted
target-label list of `d`.  Every per-label filter list has exactly `L.length` numbers — and is `None` exactly when its
parameter is not given (`max_matchable_radii`, `min_point_numbers`, `confidence_threshold`); the four range lists
follow the one range kind that is given (x/y given ⇒ the two position lists are normal forms of length `L.length` and
the distance lists are `None`, and vice versa; all `None` only for a 2-D task); every metric list is empty or a
non-empty list of rows of exactly `L.length` numbers.  (The "no unknown metric parameter" clause is absent: F8.) -/
theorem config_accept_sound_targets {d : Dict} {frames : List String} {a : Accepted}
    (h : perceptionConfig d frames = .ok a) :
    ∃ L, configTargetLabels d = .ok L ∧ L ≠ [] ∧ a.nLabels = L.length ∧
      (∀ k ∈ perLabelFilterKeys, ∃ v, a.filtering.lookup k = some v ∧ (v = .none ∨ IsFlatNorm L.length v)) ∧
      (∀ kk ∈ [("max_matchable_radii", "max_matchable_radii"), ("min_point_numbers", "min_point_numbers"),
                ("confidence_threshold_list", "confidence_threshold")],
        ∃ v, a.filtering.lookup kk.1 = some v ∧
          ((get d kk.2 = .none ∧ v = .none) ∨ (given (get d kk.2) = true ∧ IsFlatNorm L.length v))) ∧
      (∃ xl yl dl ml, RangeFacts a.task d L.length xl yl dl ml ∧
        a.filtering.lookup "max_x_position_list" = some xl ∧ a.filtering.lookup "max_y_position_list" = some yl ∧
        a.filtering.lookup "max_distance_list" = some dl ∧ a.filtering.lookup "min_distance_list" = some ml) ∧
      (∀ m, a.metrics = some m →
        m.map (·.1) = metricThresholdKeys ∧ ∀ kv ∈ m, kv.2 = .list [] ∨ IsNestedNorm L.length kv.2) := by
  obtain ⟨L, hL, hn, hne⟩ := config_nLabels_is_target_count h
  obtain ⟨pre, nAll, m, S⟩ := perceptionConfig_inv h
  obtain ⟨_, _, _, _, radii, minPts, conf, E⟩ := extractParams_inv S.params
  have F := extractParams_ok S.params
  refine ⟨L, hL, hne, hn, ?_⟩
  rw [← hn]
  refine ⟨F.perLabel, ?_, F.range, (metricsScoreConfig_ok S.metrics).2.2⟩
  simp only [List.forall_mem_cons, List.not_mem_nil, false_imp_iff, implies_true, and_true]
  exact ⟨⟨radii, E.atRadii, optFlat_ok E.radiiOk⟩, ⟨minPts, E.atMinPts, optFlat_ok E.minPtsOk⟩,
    ⟨conf, E.atConf, optFlat_ok E.confOk⟩⟩

/-- clause 8 as the code implements it (finding F8, stated about the dictionary): whatever keys the user supplies,
the keys handed to the metrics configuration are the four fixed threshold names — which is why `_check_parameters`
can never reject a user-supplied key -/
theorem metrics_params_keys_fixed {task : String} {nAll : Nat} {d : Dict} {n : Nat} {f m : Dict}
    (h : extractParams task nAll d = .ok (n, f, m)) :
    m.map (·.1) = metricThresholdKeys ∧ ∀ k ∈ metricThresholdKeys, m.lookup k = some (get d k) := by
  obtain rfl := (extractParams_ok h).metrics
  simp [metricThresholdKeys, List.lookup]

/-- whatever makes the target-label list of the configuration fail — unsupported task, bad policy, missing or
unknown `label_prefix`, a `target_labels` value that is not a list of strings — makes the configuration fail with
that same exception -/
theorem config_rejects_bad_targets {d : Dict} (frames : List String) {e : Err}
    (h : configTargetLabels d = .error e) : perceptionConfig d frames = .error e := by
  have := perceptionConfig_via_targets d frames
  rwa [h] at this

/-- the error exits of `set_target_lists` on the `target_labels` value: `AttributeError` exactly for a non-empty list
with an entry that is not a string, `TypeError` exactly for a number / bool / other object; nothing else fails -/
theorem target_list_error_iff (v : PyVal) (t : Label.Table) (fam : String) :
    (targetLabelList v t fam = .error "AttributeError" ↔
      ∃ xs, v = .list xs ∧ xs ≠ [] ∧ ∃ x ∈ xs, isStr x = false) ∧
    (targetLabelList v t fam = .error "TypeError" ↔ ((∃ q, v = .num q) ∨ (∃ b, v = .bool b) ∨ ∃ s, v = .other s)) ∧
    (∀ e, targetLabelList v t fam = .error e → e = "AttributeError" ∨ e = "TypeError") := by
  apply error_exits (by simp)
  rw [targetLabelList_eq]
  cases v with
  | none => exact Or.inl ⟨⟨_, rfl⟩, nofun, nofun⟩
  | str s => exact Or.inl ⟨⟨_, rfl⟩, nofun, nofun⟩
  | num q => exact Or.inr (Or.inr ⟨rfl, nofun, Or.inl ⟨q, rfl⟩⟩)
  | bool b => exact Or.inr (Or.inr ⟨rfl, nofun, Or.inr (Or.inl ⟨b, rfl⟩)⟩)
  | other s => exact Or.inr (Or.inr ⟨rfl, nofun, Or.inr (Or.inr ⟨s, rfl⟩)⟩)
  | list xs =>
    have hq : ¬ ((∃ q, PyVal.list xs = .num q) ∨ (∃ b, PyVal.list xs = .bool b) ∨ ∃ s, PyVal.list xs = .other s) :=
      nofun
    simp only [PyVal.list.injEq, exists_eq_left', targetNames]
    cases ha : xs.all isStr
    · obtain ⟨x, hx, hxs⟩ := List.all_eq_false.mp ha
      exact Or.inr (Or.inl ⟨rfl, ⟨List.ne_nil_of_mem hx, x, hx, Bool.eq_false_iff.mpr hxs⟩, hq⟩)
    · refine Or.inl ⟨⟨_, rfl⟩, ?_, hq⟩
      rintro ⟨-, x, hx, hxs⟩
      rw [List.all_eq_true.mp ha x hx] at hxs
      cases hxs

/-- a bound of BOTH range kinds given (partly or completely): no configuration is accepted, for every task — 2-D
tasks included; and when the stages before the range block pass, the exception is `RuntimeError` -/
theorem config_rejects_both_range_kinds (d : Dict) (frames : List String)
    (hb : ((given (get d "max_x_position") || given (get d "max_y_position")) &&
           (given (get d "max_distance") || given (get d "min_distance"))) = true) :
    (∀ a, perceptionConfig d frames ≠ .ok a) ∧
    (∀ L, configTargetLabels d = .ok L → perceptionConfig d frames = .error "RuntimeError") := by
  constructor
  · intro a h
    obtain ⟨pre, nAll, m, S⟩ := perceptionConfig_inv h
    obtain ⟨xl, yl, dl, ml, _, _, _, E⟩ := extractParams_inv S.params
    have hr := E.range
    rw [rangeParams_both_kinds _ d _ hb] at hr
    cases hr
  · intro L hL
    have := perceptionConfig_via_targets d frames
    rw [hL] at this
    obtain ⟨task, pre, nAll, htask, hpol, hpre, hnAll, hcnt⟩ := this
    simp only [perceptionConfig, htask, hpol, hpre, hnAll, extractParams, hcnt, rangeParams_both_kinds _ d _ hb]

/-- a 3-D task without a complete kind of range bound is never accepted -/
theorem config_rejects_incomplete_range_3d (d : Dict) (frames : List String)
    (hxy : (given (get d "max_x_position") && given (get d "max_y_position")) = false)
    (hd : (given (get d "max_distance") && given (get d "min_distance")) = false) :
    ∀ a, perceptionConfig d frames = .ok a → is3d a.task = false := by
  intro a h
  obtain ⟨pre, nAll, m, S⟩ := perceptionConfig_inv h
  obtain ⟨xl, yl, dl, ml, _, _, _, E⟩ := extractParams_inv S.params
  cases h3d : is3d a.task with
  | false => rfl
  | true =>
    have hr := E.range
    rw [rangeParams_3d_incomplete _ d _ h3d hxy hd] at hr
    cases hr

/-! ### the frame configurations: the hypothesis `1 ≤ nAll` discharged, `n` tied to the target labels -/

/-- the regenerated label enums are not empty, so `labelTypeSize` never answers 0 -/
theorem label_enum_sizes_pos : 1 ≤ Gen.autowareLabel.length ∧ 1 ≤ Gen.trafficLightLabel.length ∧
    ∀ p n, labelTypeSize p = .ok n → 1 ≤ n := by
  refine ⟨by decide, by decide, ?_⟩
  intro p n h
  revert h
  fun_cases labelTypeSize p with
  | case1 | case2 => rintro ⟨⟩; decide
  | _ => nofun

/-- `CriticalObjectFilterConfig` / `PerceptionPassFailConfig` of an evaluator whose converter is `(t, fam)`: the `n`
of `critical_accept_sound` / `passfail_accept_sound` is the length of the converted `target_labels` argument -/
theorem frame_config_n_is_target_count (t : Label.Table) (fam : String) (args : Dict) :
    (∀ is2d n f, criticalFilterConfig is2d (Label.familyMembers fam).length args = .ok (n, f) →
      ∃ L, targetLabelList (get args "target_labels") t fam = .ok L ∧ n = L.length ∧ L ≠ []) ∧
    (∀ n f, passFailConfig (Label.familyMembers fam).length args = .ok (n, f) →
      ∃ L, targetLabelList (get args "target_labels") t fam = .ok L ∧ n = L.length ∧ L ≠ []) := by
  constructor
  · intro is2d n f h
    obtain ⟨_, _, _, _, _, _, S⟩ := criticalFilterConfig_inv h (familyMembers_length_pos fam)
    exact targetLabelList_of_count t S.count
  · intro n f h
    obtain ⟨_, _, hcnt, -⟩ := passFailConfig_inv h
    exact targetLabelList_of_count t hcnt

/-- the exact range of idempotence: an accepted result is a fixed point exactly when there is at least one target
label.  For `n = 0` the flat mode accepts a scalar (result `[]`) and then rejects its own result ("empty list is
invalid"); the nested mode accepts nothing for `n = 0`.  Configurations always have `n ≥ 1`
(`config_nLabels_is_target_count`). -/
theorem setThresholds_idem_iff {v : PyVal} {n : Nat} {nest : Bool} {r : PyVal}
    (h : setThresholds v n nest = .ok r) : setThresholds r n nest = .ok r ↔ 1 ≤ n := by
  constructor
  · intro h2
    cases nest
    · obtain ⟨xs, rfl, hl⟩ := setThresholds_shape_flat h
      refine Nat.pos_of_ne_zero ?_
      rintro rfl
      -- the result for `n = 0` is the empty list, which is rejected
      rw [List.length_eq_zero_iff.mp hl, (rejects_empty 0 false).1] at h2
      cases h2
    · exact (setThresholds_shape_nested h).1
  · exact setThresholds_idem h

example : setThresholds (.num 1) 0 false = .ok (.list []) ∧ setThresholds (.list []) 0 false = thresholdError := by
  decide +kernel

/-! ### defective variants and instances that these statements tell apart -/

/-- a configuration with two target labels and scalar thresholds only -/
def exampleConfig2 : Dict :=
  [("evaluation_task", .str "detection"), ("target_labels", .list [.str "Car", .str "trailer"]),
   ("max_x_position", .num 100), ("max_y_position", .num 50), ("min_point_numbers", .num 0),
   ("label_prefix", .str "autoware"), ("merge_similar_labels", .bool true)]

example : configTargetLabels exampleConfig2 = .ok ["CAR", "CAR"] := by decide +kernel
example : configTargetLabels (exampleConfig2.filter (·.1 != "merge_similar_labels")) = .ok ["CAR", "TRUCK"] := by
  decide +kernel
example : (perceptionConfig exampleConfig2 ["base_link"]).toOption.map (·.nLabels) = some 2 := by decide +kernel
/-- the defective variant that sizes everything by the label enum: its lists all share ONE length (so a statement
that only ties them to `nLabels`, as `config_accept_sound` does, holds of it), but that length is not the number of target
labels of the configuration -/
example : (extractParams_ignoreTargets "detection" Gen.autowareLabel.length exampleConfig2).toOption.map
      (fun r => (r.1, (r.2.1.lookup "max_x_position_list").map lenOf, (r.2.1.lookup "min_point_numbers").map lenOf)) =
    some (9, some 9, some 9) := by decide +kernel
example : ¬ ∃ r L, extractParams_ignoreTargets "detection" Gen.autowareLabel.length exampleConfig2 = .ok r ∧
    configTargetLabels exampleConfig2 = .ok L ∧ r.1 = L.length := by
  rintro ⟨r, L, h1, h2, h3⟩
  have e2 : configTargetLabels exampleConfig2 = .ok ["CAR", "CAR"] := by decide +kernel
  rw [e2] at h2; cases h2
  have : (extractParams_ignoreTargets "detection" Gen.autowareLabel.length exampleConfig2).toOption.map (·.1) = some 9 := by
    decide +kernel
  rw [h1] at this
  simp [Except.toOption] at this
  rw [this] at h3
  simp at h3
example : configTargetLabels (("target_labels", .list [.str "car", .num 1]) :: exampleConfig2) = .error "AttributeError" ∧
    perceptionConfig (("target_labels", .list [.str "car", .num 1]) :: exampleConfig2) ["base_link"] =
      .error "AttributeError" := by decide +kernel
example : perceptionConfig (("min_distance", .num 1) :: exampleConfig2) ["base_link"] = .error "RuntimeError" := by
  decide +kernel
/-- a 2-D task with both kinds is rejected as well -/
example : perceptionConfig [("evaluation_task", .str "detection2d"), ("label_prefix", .str "autoware"),
      ("max_x_position", .num 1), ("max_distance", .num 2)] ["cam_front"] = .error "RuntimeError" := by
  decide +kernel
example : criticalFilterConfig false (Label.familyMembers "autoware").length
      [("target_labels", .list [.str "car", .str "bus"]), ("max_x_position_list", .list [.num 1, .num 2]),
       ("max_y_position_list", .list [.num 1, .num 2])] =
    .ok (2, [("max_x_position_list", .list [.num 1, .num 2]), ("max_y_position_list", .list [.num 1, .num 2]),
             ("max_distance_list", .none), ("min_distance_list", .none), ("min_point_numbers", .none),
             ("confidence_threshold_list", .none)]) := by decide +kernel

end PEval.C15
