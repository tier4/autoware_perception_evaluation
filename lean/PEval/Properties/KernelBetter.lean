import PEval.Lemmas.MatchKernelsDT
import PEval.Lemmas.APMono
import PEval.Gen.KBetter
/-!
# Decision table of `is_better_than` of the four `MatchingMethod` classes (serves C01, C08)

`PEval.Gen.K.better.tree`: the REAL `is_better_than` of CenterDistanceMatching, PlaneDistanceMatching, IOU2dMatching and
IOU3dMatching run on a symbolic `value` (possibly `None`) and a symbolic threshold, over every outcome of the order
atoms (`lt / eq / gt`, so `<` and `<=` differ exactly on `eq`). The table shows the DIRECTION per class and that
equality is not better (`table_distance_direction`, `table_iou_direction`, `table_equal_not_better`).

What the table check fixes and what it leaves open. C08: "a result that is a TP at some matching threshold is still a TP at every looser
threshold (larger distance, smaller IoU)"; C01: "only pairs objects closer than that radius". Both speak about thresholds
on the mode's scale; neither says what an IoU class does with a threshold outside [0, 1] (today: an assertion). The
per-run obligation is therefore stated for the valuations avoiding `forbIoU` (IoU class ∧ (`0 > thr` ∨ `1 < thr`)): on
them the code's table must equal the skeleton (direction, strictness, `None` value); on the forbidden ones it may raise
anything or return anything. In-quantifier predicate: `AP.thrValid m t` (`valBetter_consistent`). The distance classes
are fixed for EVERY threshold.

The `*_eq_skeleton` theorems give the bridges of `Lemmas/MatchKernelsDT.lean` this module's name: the `THEOREMS` lists of
`harness/props/` name them here.
-/
namespace PEval.KernelBetter
open PEval PEval.DT PEval.MatchKernels

/-- the per-run obligation: the table is regenerated from the source on every run and this check is evaluated again -/
theorem better_table_check : tableOk forbIoU Gen.K.better.tree betterTree = true := by decide +kernel

/-- the code's decision table equals the model's skeleton under every valuation of the atoms that does not stand for an
IoU threshold outside [0, 1] -/
theorem better_code_table_eq_model : ∀ t, Gen.K.better.tree = some t →
    ∀ v : Val, consistent forbIoU v = true → eval t v = betterAtoms v :=
  fun t ht v hv => tableOk_sound better_table_check t ht v hv

/-- the bridge: the metrics model's `isBetterThan` is the skeleton applied to the atoms of the input (all inputs) -/
theorem better_eq_skeleton (m : AP.Mode) (x : Option Rat) (t : Rat) :
    betterAtoms (valBetter m x t) = ofBool (AP.isBetterThan m x t) := better_bridge m x t

/-- the CODE's table at the atoms of a concrete (value, threshold on the mode's scale) gives the model's verdict -/
theorem better_code_table_eq_isBetterThan :
    ∀ tr, Gen.K.better.tree = some tr → ∀ (m : AP.Mode) (x : Option Rat) (t : Rat), AP.thrValid m t = true →
      eval tr (valBetter m x t) = ofBool (AP.isBetterThan m x t) :=
  fun tr ht m x t hv => (better_code_table_eq_model tr ht _ (valBetter_consistent m x t hv)).trans (better_bridge m x t)

/-- the same against the matcher's `isBetterThan` (the radius gate of the score table) -/
theorem better_code_table_eq_isBetterThan_matcher :
    ∀ tr, Gen.K.better.tree = some tr → ∀ (m : Matching.Mode) (v t : Rat), AP.thrValid (toAP m) t = true →
      eval tr (valBetter (toAP m) (some v) t) = ofBool (Matching.isBetterThan m v t) :=
  fun tr ht m v t hv => (better_code_table_eq_model tr ht _ (valBetter_consistent _ _ t hv)).trans (better_bridge_M m v t)

/-- for the code's table: the distance classes are smaller-is-better, strictly (every threshold) -/
theorem table_distance_direction {tr : DTree} (ht : Gen.K.better.tree = some tr) (m : AP.Mode)
    (hm : m.isDistance = true) (x t : Rat) : eval tr (valBetter m (some x) t) = .ret (decide (x < t)) := by
  rw [better_code_table_eq_isBetterThan tr ht m _ t (by simp [AP.thrValid, hm])]
  simp [AP.isBetterThan, AP.thrValid, AP.isBetter, hm, ofBool]

/-- for the code's table: the IoU classes are larger-is-better, strictly, for thresholds in [0, 1] (outside: open) -/
theorem table_iou_direction {tr : DTree} (ht : Gen.K.better.tree = some tr) (m : AP.Mode)
    (hm : m.isDistance = false) (x t : Rat) (h0 : 0 ≤ t) (h1 : t ≤ 1) :
    eval tr (valBetter m (some x) t) = .ret (decide (t < x)) := by
  rw [better_code_table_eq_isBetterThan tr ht m _ t (by simp [AP.thrValid, hm, h0, h1])]
  simp [AP.isBetterThan, AP.thrValid, AP.isBetter, hm, ofBool, h0, h1]

theorem table_equal_false {tr : DTree} (ht : Gen.K.better.tree = some tr) (m : AP.Mode) (x : Rat)
    (hv : AP.thrValid m x = true) : eval tr (valBetter m (some x) x) = .ret false := by
  rw [better_code_table_eq_isBetterThan tr ht m _ x hv]
  unfold AP.isBetterThan
  rw [if_pos hv]
  cases hm : m.isDistance <;> simp [ofBool, AP.isBetter, hm]

/-- for the code's table: a value equal to the threshold is never better, in any class (the table answers `false`:
`table_equal_false`) -/
theorem table_equal_not_better {tr : DTree} (ht : Gen.K.better.tree = some tr) (m : AP.Mode) (x : Rat)
    (hv : AP.thrValid m x = true) : eval tr (valBetter m (some x) x) ≠ .ret true :=
  table_equal_false ht m x hv ▸ nofun

theorem table_none_false {tr : DTree} (ht : Gen.K.better.tree = some tr) (m : AP.Mode) (t : Rat)
    (hv : AP.thrValid m t = true) : eval tr (valBetter m none t) = .ret false := by
  rw [better_code_table_eq_isBetterThan tr ht m _ t hv]
  unfold AP.isBetterThan
  rw [if_pos hv]
  rfl

/-- for the code's table: no value (`None`) is never better (the table answers `false`: `table_none_false`) -/
theorem table_none_not_better {tr : DTree} (ht : Gen.K.better.tree = some tr) (m : AP.Mode) (t : Rat)
    (hv : AP.thrValid m t = true) : eval tr (valBetter m none t) ≠ .ret true :=
  table_none_false ht m t hv ▸ nofun

/-- C08 for the code's table: a value that beats a threshold (on the scale) beats every looser threshold on the scale -/
theorem table_better_mono {tr : DTree} (ht : Gen.K.better.tree = some tr) (m : AP.Mode) (x : Option Rat) (t t' : Rat)
    (hl : AP.looser m t t') (hvt : AP.thrValid m t = true) (hv : AP.thrValid m t' = true)
    (h : eval tr (valBetter m x t) = .ret true) : eval tr (valBetter m x t') = .ret true := by
  rw [better_code_table_eq_isBetterThan tr ht m x t hvt, ofBool_eq_ret_iff] at h
  have h' : AP.isBetterThan m x t' = .ok (optBetter m x t') := by rw [isBetterThan_eq, hv]; rfl
  rw [better_code_table_eq_isBetterThan tr ht m x t' hv, h', AP.isBetterThan_mono hl h h']
  rfl

/-- non-vacuity (that the table exists on an unchanged tree: `Properties/TablesPresent.lean`); 1 < 2 is better for a distance (also for a distance threshold
outside [0, 1]), not for an IoU; equality is not; the in-quantifier predicate holds for IoU thresholds 0, 1/2, 1 -/
example : ∀ tr, Gen.K.better.tree = some tr →
    eval tr (valBetter .centerDistance (some 1) 2) = .ret true ∧ eval tr (valBetter .planeDistance (some 2) 2) = .ret false
    ∧ eval tr (valBetter .iou2d (some (1/4)) (1/2)) = .ret false ∧ eval tr (valBetter .iou3d (some (3/4)) (1/2)) = .ret true
    ∧ eval tr (valBetter .iou3d (some 1) 1) = .ret false ∧ eval tr (valBetter .iou2d (some (1/4)) 0) = .ret true := by
  intro tr ht
  rw [better_code_table_eq_isBetterThan tr ht _ _ _ (by decide +kernel), better_code_table_eq_isBetterThan tr ht _ _ _ (by decide +kernel),
    better_code_table_eq_isBetterThan tr ht _ _ _ (by decide +kernel), better_code_table_eq_isBetterThan tr ht _ _ _ (by decide +kernel),
    better_code_table_eq_isBetterThan tr ht _ _ _ (by decide +kernel), better_code_table_eq_isBetterThan tr ht _ _ _ (by decide +kernel)]
  decide +kernel

example : AP.thrValid .iou2d 0 = true ∧ AP.thrValid .iou3d 1 = true ∧ AP.thrValid .centerDistance 7 = true
    ∧ AP.thrValid .iou3d (3/2) = false := by decide +kernel

end PEval.KernelBetter
