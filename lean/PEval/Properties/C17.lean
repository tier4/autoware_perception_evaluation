import PEval.Lemmas.LookupArith
import PEval.Lemmas.LookupTable
import PEval.Lemmas.LookupLin
import PEval.Gen.LookupTables
import Mathlib.Tactic.FieldSimp
/-!
# C17 — ground-truth lookup picks the nearest frame in tolerance; interpolation is exact

Model: `PEval.Model.Lookup` (`getNowFrame`, `neighbours`/`getInterpolated`, `interpolateFrames`,
`interpolateObjectList`, `globalOf`, `managerLookup`).  All statements are over arbitrary frame
lists, query times and tolerances (integers), arbitrary rational poses; where the property speaks
of time-ordered lists the hypothesis is `List.Pairwise (·.time ≤ ·.time)`.

Headings are yaw angles in half-turns (DESIGN 4.2); `arc τ₁ τ₂` is the signed shortest arc.

The last two sections are about the CODE rather than the model: the decision tables of the two lookups and the
expression trees of the interpolation formulas, both generated from the source (`PEval.Gen.LookupTables`), are
held to the same statements (`getNow_code_table_*`, `getInterp_code_table_*`, `interpList_code_*`,
`interpState_code_*`; checkers and their soundness in `Lemmas/LookupTable`, `Lemmas/LookupLin`).
-/
namespace PEval.C17
open PEval PEval.Lookup

/-- The result is a frame of the list that minimises `|dt|` and lies within the tolerance
(`|dt| ≤ thr`); it is `None` exactly when every frame is farther than the tolerance. -/
theorem getNow_spec (fs : List Frame) (t thr : Int) (ht : t ≤ maxTime) (hne : fs ≠ []) :
    (∃ f, getNowFrame fs t thr = .ok (some f) ∧ f ∈ fs ∧ (∀ g ∈ fs, absDt t f ≤ absDt t g) ∧
        (absDt t f : Int) ≤ thr) ∨
    (getNowFrame fs t thr = .ok none ∧ ∀ g ∈ fs, thr < (absDt t g : Int)) :=
  getNowFrame_spec thr ht hne

/-- About the MODEL only (inputs outside the property's quantifier; the code's table is not held to
these classes): the two error branches, the nano-second guard and the empty list -/
theorem getNow_errors (fs : List Frame) (t thr : Int) :
    (maxTime < t → getNowFrame fs t thr = .error "DatasetLoadingError") ∧
    (t ≤ maxTime → getNowFrame [] t thr = .error "IndexError") := by
  constructor
  · intro h; unfold getNowFrame; rw [if_pos h]
  · intro h; unfold getNowFrame; rw [if_neg (by omega)]

/-- About the MODEL only (the scan as written; the property leaves the choice among equidistant frames open and
nothing about the code is derived from this): among frames at the same minimal distance the first one
in list order is returned: every frame before the returned one is strictly farther. -/
theorem getNow_first_tie (fs : List Frame) (t thr : Int) (f : Frame)
    (h : getNowFrame fs t thr = .ok (some f)) :
    ∃ pre post, fs = pre ++ f :: post ∧ ∀ g ∈ pre, absDt t f < absDt t g := by
  by_cases ht : t ≤ maxTime
  · cases fs with
    | nil => rw [(getNow_errors [] t thr).2 ht] at h; cases h
    | cons f0 rest =>
      rw [getNowFrame_cons ht] at h
      split at h
      · cases h
      · cases h
        obtain ⟨pre, post, hsp, hpre, _⟩ := argminLoop_spec t rest f0
        exact ⟨pre, post, hsp, hpre⟩
  · rw [(getNow_errors fs t thr).1 (by omega)] at h; cases h

/-- For ANY list the scan splits it as `pre ++ post`: everything in `pre` is not later than the
query, the head of `post` (if any) is later; `before` is the last frame of `pre`, `after` the first
of `post`, and the recorded gaps are the true gaps (0 when the neighbour is missing). -/
theorem neighbours_split (fs : List Frame) (t : Int) :
    ∃ pre post, fs = pre ++ post ∧ (∀ g ∈ pre, g.time ≤ t) ∧
      (∀ a, post.head? = some a → t < a.time) ∧
      (neighbours fs t).before = pre.getLast? ∧
      (neighbours fs t).dtBefore = ((pre.getLast?).map (fun f => t - f.time)).getD 0 ∧
      (neighbours fs t).after = post.head? ∧
      (neighbours fs t).dtAfter = ((post.head?).map (fun a => a.time - t)).getD 0 := by
  obtain ⟨pre, post, h1, h2, h3, h4, h5, h6, h7⟩ := scan_split t fs none 0
  exact ⟨pre, post, h1, h2, h3, by rw [neighbours, h4]; simp, h5, h6, h7⟩

/-- Time-ordered list: `pre` is exactly the frames not later than the query and `post` exactly the
later ones, so `before` = the LAST frame with `time ≤ t` and `after` = the FIRST frame with
`time > t`. -/
theorem neighbours_spec (fs : List Frame) (t : Int)
    (hs : fs.Pairwise (fun x y => x.time ≤ y.time)) :
    ∃ pre post, fs = pre ++ post ∧ (∀ g ∈ pre, g.time ≤ t) ∧ (∀ g ∈ post, t < g.time) ∧
      (neighbours fs t).before = pre.getLast? ∧ (neighbours fs t).after = post.head? ∧
      (neighbours fs t).dtBefore = ((pre.getLast?).map (fun f => t - f.time)).getD 0 ∧
      (neighbours fs t).dtAfter = ((post.head?).map (fun a => a.time - t)).getD 0 := by
  obtain ⟨pre, post, h1, h2, h3, h4, h5, h6, h7⟩ := neighbours_split fs t
  refine ⟨pre, post, h1, h2, ?_, h4, h6, h5, h7⟩
  rw [h1] at hs
  have hpost := (List.pairwise_append.1 hs).2.1
  intro g hg
  cases post with
  | nil => cases hg
  | cons a rest =>
    have ha := h3 a rfl
    rcases List.mem_cons.1 hg with rfl | hg'
    · exact ha
    · have := (List.pairwise_cons.1 hpost).1 g hg'
      omega

/-- The outcome is decided by which neighbours survive the tolerance test `dt ≤ thr`. -/
theorem gating (fs : List Frame) (t thr : Int) :
    getInterpolated fs t thr =
      match gate thr (neighbours fs t).dtBefore (neighbours fs t).before,
            gate thr (neighbours fs t).dtAfter (neighbours fs t).after with
      | none, none => .ok .nothing
      | none, some a => .ok (.orig a)
      | some b, none => .ok (.orig b)
      | some b, some a =>
        match interpolateFrames b a t with
        | .error k => .error k
        | .ok f => .ok (.interp f) := rfl

/-- both neighbours exist and are within tolerance: the interpolated frame -/
theorem gating_both (fs : List Frame) (t thr : Int) (b a : Frame)
    (hb : (neighbours fs t).before = some b) (ha : (neighbours fs t).after = some a)
    (hdb : t - b.time ≤ thr) (hda : a.time - t ≤ thr) :
    getInterpolated fs t thr =
      match interpolateFrames b a t with
      | .error k => .error k
      | .ok f => .ok (.interp f) := by
  rw [gating, gate_before thr hb, gate_after thr ha, gate_pos hdb, gate_pos hda]

/-- only the earlier neighbour is usable (the later one is missing or beyond tolerance) -/
theorem gating_before_only (fs : List Frame) (t thr : Int) (b : Frame)
    (hb : (neighbours fs t).before = some b) (hdb : t - b.time ≤ thr)
    (ha : (neighbours fs t).after = none ∨ ∃ a, (neighbours fs t).after = some a ∧ thr < a.time - t) :
    getInterpolated fs t thr = .ok (.orig b) := by
  rw [gating, gate_before thr hb, gate_pos hdb, gate_after_none ha]

/-- only the later neighbour is usable (the earlier one is missing or beyond tolerance) -/
theorem gating_after_only (fs : List Frame) (t thr : Int) (a : Frame)
    (ha : (neighbours fs t).after = some a) (hda : a.time - t ≤ thr)
    (hb : (neighbours fs t).before = none ∨ ∃ b, (neighbours fs t).before = some b ∧ thr < t - b.time) :
    getInterpolated fs t thr = .ok (.orig a) := by
  rw [gating, gate_after thr ha, gate_pos hda, gate_before_none hb]

/-- no neighbour within tolerance: nothing -/
theorem gating_none (fs : List Frame) (t thr : Int)
    (hb : (neighbours fs t).before = none ∨ ∃ b, (neighbours fs t).before = some b ∧ thr < t - b.time)
    (ha : (neighbours fs t).after = none ∨ ∃ a, (neighbours fs t).after = some a ∧ thr < a.time - t) :
    getInterpolated fs t thr = .ok .nothing := by
  rw [gating, gate_before_none hb, gate_after_none ha]

/-- What an interpolated answer is made of: both neighbours of the scan, within tolerance, with
`b.time ≤ t < a.time`; both carry an ego pose; the objects are the object-list interpolation of the
two neighbours' objects moved to the map frame by their own ego pose. -/
theorem interp_reaches (fs : List Frame) (t thr : Int) (f : InterpFrame)
    (h : getInterpolated fs t thr = .ok (.interp f)) :
    ∃ b a eb ea, (neighbours fs t).before = some b ∧ (neighbours fs t).after = some a ∧
      b.time ≤ t ∧ t < a.time ∧ t - b.time ≤ thr ∧ a.time - t ≤ thr ∧
      b.ego = some eb ∧ a.ego = some ea ∧ f.baseId = b.id ∧
      f.objs = interpolateObjectList (b.objs.map (globalOf eb)) (a.objs.map (globalOf ea))
                  b.time a.time t := by
  obtain ⟨b, a, hb, ha, h1, h2, hdb, hda, hi⟩ := getInterpolated_both (r := .ok f) h
  obtain ⟨eb, ea, heb, hea, _, _, _, _, _, rfl⟩ := interpolateFrames_ok hi
  exact ⟨b, a, eb, ea, hb, ha, h1, h2, hdb, hda, heb, hea, rfl, rfl⟩

/-- The interpolated frame is stamped with exactly the query time, and so is every interpolated
(paired) object. -/
theorem interp_time_eq_query :
    (∀ (fs : List Frame) (t thr : Int) (f : InterpFrame),
        getInterpolated fs t thr = .ok (.interp f) → f.time = t) ∧
    (∀ (b a : Frame) (t : Int) (f : InterpFrame), interpolateFrames b a t = .ok f → f.time = t) ∧
    (∀ (o1 o2 : Obj) (t1 t2 t : Int), (interpObj o1 o2 t1 t2 t).time = t) := by
  have hfr : ∀ (b a : Frame) (t : Int) (f : InterpFrame), interpolateFrames b a t = .ok f → f.time = t := by
    intro b a t f hi
    obtain ⟨_, _, _, _, _, _, _, _, _, rfl⟩ := interpolateFrames_ok hi
    rfl
  refine ⟨fun fs t thr f h => ?_, hfr, fun _ _ _ _ _ => rfl⟩
  obtain ⟨b, a, _, _, _, _, _, _, hi⟩ := getInterpolated_both (r := .ok f) h
  exact hfr b a t f hi

/-- Shape of the interpolated object list, in the code's order: position `i < |l1|` holds the
image of the `i`-th object of the first list (interpolated with the first object of the second list
carrying the same uuid, copied when there is none); the tail is the second pass over `l2`. -/
theorem interp_objects (l1 l2 : List Obj) (t1 t2 t : Int) :
    (interpolateObjectList l1 l2 t1 t2 t).length = l1.length + (secondPass (l1.map (·.uuid)) l2).length ∧
    (∀ i (hi : i < l1.length),
        (interpolateObjectList l1 l2 t1 t2 t)[i]? = some (stepFirst l2 t1 t2 t l1[i])) ∧
    (interpolateObjectList l1 l2 t1 t2 t).drop l1.length = secondPass (l1.map (·.uuid)) l2 := by
  refine ⟨by simp [interpolateObjectList], ?_, ?_⟩
  · intro i hi
    unfold interpolateObjectList
    rw [List.getElem?_append_left (by simpa using hi)]
    simp [hi]
  · unfold interpolateObjectList
    rw [List.drop_append]
    simp

/-- An object present in both neighbours lies on the straight segment between its two poses at
the proportional time: `pos = p1 + α (p2 - p1)` with `α (t2 - t1) = t - t1` and `0 ≤ α ≤ 1`
(each coordinate between the two end coordinates); its velocity likewise when both are present;
it keeps the first object's uuid and shape and is stamped with the query time. -/
theorem interp_on_segment (l1 l2 : List Obj) (t1 t2 t : Int) (h1 : t1 ≤ t) (h2 : t ≤ t2)
    (h12 : t1 < t2) (i : Nat) (hi : i < l1.length) (o2 : Obj)
    (hfind : l2.find? (fun o => l1[i].uuid == o.uuid) = some o2) :
    ∃ r α, (interpolateObjectList l1 l2 t1 t2 t)[i]? = some r ∧ α = alpha t1 t2 t ∧
      o2 ∈ l2 ∧ o2.uuid = l1[i].uuid ∧ r.uuid = l1[i].uuid ∧
      0 ≤ α ∧ α ≤ 1 ∧ α * ((t2 : ℚ) - (t1 : ℚ)) = (t : ℚ) - (t1 : ℚ) ∧
      r.pos.x = l1[i].pos.x + α * (o2.pos.x - l1[i].pos.x) ∧
      r.pos.y = l1[i].pos.y + α * (o2.pos.y - l1[i].pos.y) ∧
      r.pos.z = l1[i].pos.z + α * (o2.pos.z - l1[i].pos.z) ∧
      (min l1[i].pos.x o2.pos.x ≤ r.pos.x ∧ r.pos.x ≤ max l1[i].pos.x o2.pos.x) ∧
      (min l1[i].pos.y o2.pos.y ≤ r.pos.y ∧ r.pos.y ≤ max l1[i].pos.y o2.pos.y) ∧
      (min l1[i].pos.z o2.pos.z ≤ r.pos.z ∧ r.pos.z ≤ max l1[i].pos.z o2.pos.z) ∧
      r.tau = l1[i].tau + α * arc l1[i].tau o2.tau ∧
      (∀ v1 v2, l1[i].vel = some v1 → o2.vel = some v2 → r.vel = some (Vec3.lerp v1 v2 α)) ∧
      r.size = l1[i].size ∧ r.time = t ∧ r.frame = l1[i].frame ∧ r.id = l1[i].id := by
  have hα0 := alpha_nonneg h1 h12
  have hα1 := alpha_le_one h2 h12
  refine ⟨interpObj l1[i] o2 t1 t2 t, alpha t1 t2 t, ?_, rfl, List.mem_of_find?_eq_some hfind, ?_, rfl,
    hα0, hα1, alpha_mul (by omega), rfl, rfl, rfl, lerp_between hα0 hα1, lerp_between hα0 hα1,
    lerp_between hα0 hα1, rfl, ?_, rfl, rfl, rfl, rfl⟩
  · rw [(interp_objects l1 l2 t1 t2 t).2.1 i hi, stepFirst_found hfind]
  · have hu : l1[i].uuid = o2.uuid := by simpa using List.find?_some hfind
    exact hu.symm
  · intro v1 v2 hv1 hv2
    show interpVel _ l1[i].vel o2.vel = _
    rw [hv1, hv2]; rfl

/-- At the earlier neighbour's own timestamp (`α = 0`) the interpolated object reproduces the first
object's pose exactly: same position, heading, shape (and velocity when the partner has one). -/
theorem interp_at_neighbour (o1 o2 : Obj) (t1 t2 : Int) :
    alpha t1 t2 t1 = 0 ∧
    (interpObj o1 o2 t1 t2 t1).pos = o1.pos ∧ (interpObj o1 o2 t1 t2 t1).tau = o1.tau ∧
    (interpObj o1 o2 t1 t2 t1).size = o1.size ∧ (interpObj o1 o2 t1 t2 t1).time = t1 ∧
    (o2.vel.isSome → (interpObj o1 o2 t1 t2 t1).vel = o1.vel) := by
  have h0 := alpha_self_left t1 t2
  refine ⟨h0, ?_, ?_, rfl, rfl, ?_⟩
  · show Vec3.lerp o1.pos o2.pos (alpha t1 t2 t1) = o1.pos
    rw [h0, Vec3.lerp_zero]
  · show o1.tau + alpha t1 t2 t1 * arc o1.tau o2.tau = o1.tau
    rw [h0]; ring
  · intro hv
    obtain ⟨v2, h2⟩ := Option.isSome_iff_exists.1 hv
    show interpVel (alpha t1 t2 t1) o1.vel o2.vel = o1.vel
    rw [h0, h2]
    cases o1.vel <;> simp [interpVel, Vec3.lerp_zero]

/-- so the first loop of `interpolate_object_list` at `t1` keeps position, heading, frame id, shape, uuid and id of
every object of the first list, paired or not -/
theorem stepFirst_at_start (l2 : List Obj) (t1 t2 : Int) (o1 : Obj) :
    (stepFirst l2 t1 t2 t1 o1).pos = o1.pos ∧ (stepFirst l2 t1 t2 t1 o1).tau = o1.tau ∧
    (stepFirst l2 t1 t2 t1 o1).frame = o1.frame ∧ (stepFirst l2 t1 t2 t1 o1).size = o1.size ∧
    (stepFirst l2 t1 t2 t1 o1).uuid = o1.uuid ∧ (stepFirst l2 t1 t2 t1 o1).id = o1.id := by
  unfold stepFirst
  split
  · next o2 _ =>
    obtain ⟨_, hp, ht, _⟩ := interp_at_neighbour o1 o2 t1 t2
    exact ⟨hp, ht, rfl, rfl, rfl, rfl⟩
  · exact ⟨rfl, rfl, rfl, rfl, rfl, rfl⟩

/-- At the later neighbour's timestamp (`α = 1`; reachable only by calling
`interpolate_ground_truth_frames` directly, see `interp_never_at_later`) the second object's pose is
reproduced: same position, the same heading up to whole turns (and velocity when both have one). -/
theorem interp_at_later_neighbour (o1 o2 : Obj) (t1 t2 : Int) (h12 : t1 ≠ t2) :
    alpha t1 t2 t2 = 1 ∧
    (interpObj o1 o2 t1 t2 t2).pos = o2.pos ∧
    (∃ k : Int, (interpObj o1 o2 t1 t2 t2).tau = o2.tau - 2 * (k : ℚ)) ∧
    (∀ v1 v2, o1.vel = some v1 → o2.vel = some v2 → (interpObj o1 o2 t1 t2 t2).vel = some v2) := by
  have h1 := alpha_self_right h12
  refine ⟨h1, ?_, ?_, ?_⟩
  · show Vec3.lerp o1.pos o2.pos (alpha t1 t2 t2) = o2.pos
    rw [h1, Vec3.lerp_one]
  · obtain ⟨k, hk⟩ := wrap_congr (o2.tau - o1.tau)
    refine ⟨k, ?_⟩
    show o1.tau + alpha t1 t2 t2 * arc o1.tau o2.tau = _
    rw [h1, arc, hk]; ring
  · intro v1 v2 hv1 hv2
    show interpVel (alpha t1 t2 t2) o1.vel o2.vel = _
    rw [h1, hv1, hv2]
    simp [interpVel, Vec3.lerp_one]

/-- A lookup never interpolates AT the later neighbour: whenever `get_interpolated_now_frame`
interpolates, the query is strictly before the later neighbour, so `0 ≤ α < 1`. -/
theorem interp_never_at_later (fs : List Frame) (t thr : Int) (f : InterpFrame)
    (h : getInterpolated fs t thr = .ok (.interp f)) :
    ∃ b a, (neighbours fs t).before = some b ∧ (neighbours fs t).after = some a ∧
      b.time ≤ t ∧ t < a.time ∧ 0 ≤ alpha b.time a.time t ∧ alpha b.time a.time t < 1 := by
  obtain ⟨b, a, _, _, hb, ha, h1, h2, _⟩ := interp_reaches fs t thr f h
  exact ⟨b, a, hb, ha, h1, h2, alpha_nonneg h1 (by omega), alpha_lt_one h2 (by omega)⟩

/-- What happens for a query exactly on a frame `g` of a strictly time-ordered list: `g` itself is
the EARLIER neighbour with gap 0.  With a non-negative tolerance the answer is `g` itself when the
next frame is missing or beyond tolerance, and otherwise the interpolation between `g` and the next
frame at `α = 0` (which reproduces `g`'s poses, `interp_at_neighbour`); with a negative tolerance
nothing is returned. -/
theorem query_on_frame (fs : List Frame) (g : Frame) (thr : Int)
    (hs : fs.Pairwise (fun x y => x.time < y.time)) (hg : g ∈ fs) :
    (neighbours fs g.time).before = some g ∧ (neighbours fs g.time).dtBefore = 0 ∧
    (0 ≤ thr → getInterpolated fs g.time thr =
      match gate thr (neighbours fs g.time).dtAfter (neighbours fs g.time).after with
      | none => .ok (.orig g)
      | some a =>
        match interpolateFrames g a g.time with
        | .error k => .error k
        | .ok f => .ok (.interp f)) ∧
    (thr < 0 → getInterpolated fs g.time thr = .ok .nothing) := by
  obtain ⟨pre, post, hfs, hpre, hpost, h4, _⟩ := neighbours_spec fs g.time (hs.imp Int.le_of_lt)
  rw [hfs] at hs hg
  have hgpre : g ∈ pre := (List.mem_append.1 hg).resolve_right fun h => Int.lt_irrefl _ (hpost g h)
  -- `g` is the last element of `pre`: a later one would be strictly later than `g` and not later than the query
  have hb : (neighbours fs g.time).before = some g := by
    rw [h4]
    cases hl : pre.getLast? with
    | none => rw [List.getLast?_eq_none_iff.1 hl] at hgpre; cases hgpre
    | some l =>
      obtain ⟨ys, hys⟩ := List.getLast?_eq_some_iff.1 hl
      rw [hys] at hgpre hs hpre
      rcases List.mem_append.1 hgpre with h | h
      · have h1 := (List.pairwise_append.1 (List.pairwise_append.1 hs).1).2.2 g h l (by simp)
        have h2 := hpre l (by simp)
        omega
      · rw [List.mem_singleton.1 h]
  refine ⟨hb, by rw [((neighbours_bounds fs g.time).1 g hb).2.2, Int.sub_self], ?_, ?_⟩
  · intro hthr
    rw [gating, gate_before thr hb, Int.sub_self, gate_pos hthr]
    cases gate thr (neighbours fs g.time).dtAfter (neighbours fs g.time).after <;> rfl
  · intro hthr
    rw [gating, gate_before thr hb, Int.sub_self, gate_neg hthr, gate_after_none]
    cases ha : (neighbours fs g.time).after with
    | none => exact .inl rfl
    | some a => exact .inr ⟨a, rfl, by have := ((neighbours_bounds fs g.time).2 a ha).2.1; omega⟩

/-- The uuids of the result, in order: those of the first neighbour, then the new ones of the
second; no uuid is duplicated when the first neighbour has none duplicated. -/
theorem interp_uuids (l1 l2 : List Obj) (t1 t2 t : Int) :
    (interpolateObjectList l1 l2 t1 t2 t).map (·.uuid) =
      l1.map (·.uuid) ++ (secondPass (l1.map (·.uuid)) l2).map (·.uuid) ∧
    ((l1.map (·.uuid)).Nodup → ((interpolateObjectList l1 l2 t1 t2 t).map (·.uuid)).Nodup) := by
  have huu : (interpolateObjectList l1 l2 t1 t2 t).map (·.uuid) =
      l1.map (·.uuid) ++ (secondPass (l1.map (·.uuid)) l2).map (·.uuid) := by
    unfold interpolateObjectList
    rw [List.map_append, List.map_map]
    exact congrArg (· ++ _) (List.map_congr_left fun o _ => stepFirst_uuid l2 t1 t2 t o)
  refine ⟨huu, ?_⟩
  intro hnd
  obtain ⟨_, h2, h3⟩ := secondPass_spec l2 (l1.map (·.uuid))
  rw [huu, List.nodup_append]
  exact ⟨hnd, h2, fun u hu1 v hv2 huv => ((h3 v).1 hv2).2 (huv ▸ hu1)⟩

/-- Objects of the first neighbour without partner are copied verbatim to their own position;
the tail of the result is a sub-list of the second neighbour's objects (verbatim, order kept)
holding exactly the uuids that the first neighbour lacks; every uuid of either neighbour is present
in the result. -/
theorem interp_keeps_unpaired (l1 l2 : List Obj) (t1 t2 t : Int) :
    (∀ i (hi : i < l1.length), (∀ o ∈ l2, o.uuid ≠ l1[i].uuid) →
        (interpolateObjectList l1 l2 t1 t2 t)[i]? = some l1[i]) ∧
    ((interpolateObjectList l1 l2 t1 t2 t).drop l1.length).Sublist l2 ∧
    (∀ o ∈ (interpolateObjectList l1 l2 t1 t2 t).drop l1.length, o.uuid ∉ l1.map (·.uuid)) ∧
    (∀ o ∈ l2, o.uuid ∉ l1.map (·.uuid) →
        ∃ o' ∈ (interpolateObjectList l1 l2 t1 t2 t).drop l1.length, o' ∈ l2 ∧ o'.uuid = o.uuid) ∧
    (∀ o ∈ l1 ++ l2, o.uuid ∈ (interpolateObjectList l1 l2 t1 t2 t).map (·.uuid)) := by
  have hdrop := (interp_objects l1 l2 t1 t2 t).2.2
  obtain ⟨h1, _, h3⟩ := secondPass_spec l2 (l1.map (·.uuid))
  refine ⟨?_, ?_, ?_, ?_, ?_⟩
  · intro i hi hno
    rw [(interp_objects l1 l2 t1 t2 t).2.1 i hi, stepFirst_not_found hno]
  · rw [hdrop]; exact h1
  · rw [hdrop]; exact fun o ho => ((h3 o.uuid).1 (List.mem_map_of_mem ho)).2
  · intro o ho hnot
    rw [hdrop]
    obtain ⟨o', ho', hu⟩ := List.mem_map.1 ((h3 o.uuid).2 ⟨List.mem_map_of_mem ho, hnot⟩)
    exact ⟨o', ho', h1.subset ho', hu⟩
  · intro o ho
    rw [(interp_uuids l1 l2 t1 t2 t).1]
    rcases List.mem_append.1 ho with h | h
    · exact List.mem_append_left _ (List.mem_map_of_mem h)
    · by_cases hin : o.uuid ∈ l1.map (·.uuid)
      · exact List.mem_append_left _ hin
      · exact List.mem_append_right _ ((h3 o.uuid).2 ⟨List.mem_map_of_mem h, hin⟩)

/-- With uuids unique inside the second neighbour the tail is exactly the filter "uuid not in the
first neighbour", in the second neighbour's order. -/
theorem interp_second_pass_filter (l1 l2 : List Obj) (t1 t2 t : Int)
    (hnd : (l2.map (·.uuid)).Nodup) :
    (interpolateObjectList l1 l2 t1 t2 t).drop l1.length =
      l2.filter (fun o => decide (o.uuid ∉ l1.map (·.uuid))) := by
  rw [(interp_objects l1 l2 t1 t2 t).2.2]
  exact secondPass_eq_filter l2 _ hnd

/-- `arc τ₁ τ₂` is a representative of `τ₂ - τ₁` modulo whole turns (2 half-turns), lies in
`[-1, 1)`, and no representative is shorter. -/
theorem arc_spec (τ₁ τ₂ : ℚ) :
    (∃ k : Int, τ₁ + arc τ₁ τ₂ = τ₂ - 2 * (k : ℚ)) ∧ -1 ≤ arc τ₁ τ₂ ∧ arc τ₁ τ₂ < 1 ∧
    ∀ m : Int, |arc τ₁ τ₂| ≤ |τ₂ - τ₁ + 2 * (m : ℚ)| := by
  obtain ⟨k, hk⟩ := wrap_congr (τ₂ - τ₁)
  refine ⟨⟨k, by rw [arc, hk]; ring⟩, (wrap_range _).1, (wrap_range _).2, fun m => wrap_min _ m⟩

/-- The interpolated heading `τ₁ + α·arc` (this is `interpObj`'s heading) stays on the shortest
arc: its offset from `τ₁` is the fraction `α` of the arc, in the arc's direction, never longer than
the arc, and the arc is no longer than half a turn. -/
theorem yaw_shortest_arc (o1 o2 : Obj) (t1 t2 t : Int) (h1 : t1 ≤ t) (h2 : t ≤ t2) (h12 : t1 < t2) :
    let τ := (interpObj o1 o2 t1 t2 t).tau
    let d := arc o1.tau o2.tau
    τ - o1.tau = alpha t1 t2 t * d ∧ |τ - o1.tau| ≤ |d| ∧ |d| ≤ 1 ∧
    (∀ m : Int, |d| ≤ |o2.tau - o1.tau + 2 * (m : ℚ)|) ∧
    (0 ≤ d → o1.tau ≤ τ ∧ τ ≤ o1.tau + d) ∧ (d ≤ 0 → o1.tau + d ≤ τ ∧ τ ≤ o1.tau) := by
  have hα0 := alpha_nonneg h1 h12
  have hα1 := alpha_le_one h2 h12
  have hτ : (interpObj o1 o2 t1 t2 t).tau - o1.tau = alpha t1 t2 t * arc o1.tau o2.tau :=
    add_sub_cancel_left _ _
  refine ⟨hτ, ?_, abs_wrap_le_one _, (arc_spec o1.tau o2.tau).2.2.2, ?_, ?_⟩
  · rw [hτ]; exact abs_mul_le_of_unit hα0 hα1
  · intro hd
    obtain ⟨h0, h1⟩ := unit_mul_nonneg hα0 hα1 hd
    rw [← hτ] at h0 h1
    exact ⟨sub_nonneg.1 h0, sub_le_iff_le_add'.1 h1⟩
  · intro hd
    obtain ⟨h0, h1⟩ := unit_mul_nonpos hα0 hα1 hd
    rw [← hτ] at h0 h1
    exact ⟨le_sub_iff_add_le'.1 h0, sub_nonpos.1 h1⟩

/-- `get_ground_truth_now_frame(…, interpolate)` is one of the two lookups, by its flag -/
theorem manager_dispatch (fs : List Frame) (t thr : Int) :
    managerLookup fs t thr true = getInterpolated fs t thr ∧
    managerLookup fs t thr false =
      match getNowFrame fs t thr with
      | .error k => .error k
      | .ok none => .ok .nothing
      | .ok (some f) => .ok (.orig f) := ⟨rfl, rfl⟩

/-! ## when the interpolating branch succeeds

`gating_both` ends in `match interpolateFrames b a t`.  For well-formed neighbours (`Frame.WellFormed`: what the loader
guarantees — an ego→map transform is registered, every object is in `base_link` or `map`; `Frame.Loaded` is the
stronger "one frame id per frame") that call returns, and what it returns is explicit; the `AssertionError` and
`ZeroDivisionError` exits are unreachable from the scan; the error exits of a direct call are characterised
(`interp_errors_iff`). -/

/-- both neighbours within tolerance and well-formed: the lookup returns the interpolated frame, explicitly;
the neighbours bracket the query (`b.time ≤ t < a.time`) -/
theorem gating_both_ok (fs : List Frame) (t thr : Int) (b a : Frame)
    (hb : (neighbours fs t).before = some b) (ha : (neighbours fs t).after = some a)
    (hdb : t - b.time ≤ thr) (hda : a.time - t ≤ thr) (wb : b.WellFormed) (wa : a.WellFormed) :
    ∃ eb ea, b.ego = some eb ∧ a.ego = some ea ∧ b.time ≤ t ∧ t < a.time ∧
      getInterpolated fs t thr = .ok (.interp (interpResult b a eb ea t)) := by
  obtain ⟨eb, heb⟩ := Option.isSome_iff_exists.1 wb.1
  obtain ⟨ea, hea⟩ := Option.isSome_iff_exists.1 wa.1
  obtain ⟨_, h1, _⟩ := (neighbours_bounds fs t).1 b hb
  obtain ⟨_, h2, _⟩ := (neighbours_bounds fs t).2 a ha
  refine ⟨eb, ea, heb, hea, h1, h2, ?_⟩
  rw [gating_both fs t thr b a hb ha hdb hda, interpolateFrames_total heb hea h1 h2 wb.2 wa.2]

/-- the loader's frames are well-formed (one frame id per frame, not `other`) -/
theorem loaded_wellFormed {f : Frame} (h : f.Loaded) : f.WellFormed := by
  obtain ⟨he, fid, hne, hall⟩ := h
  exact ⟨he, fun o ho hf => hne (by rw [← hall o ho, hf])⟩

/-- the lookup itself never reaches the assertion `t1 <= t <= t2` nor the division by `t2 - t1 = 0`: on ANY frame list
(sorted or not) an error of the interpolating lookup is a missing ego pose (`KeyError`) or an object outside
`base_link` / `map` (`NotImplementedError`) -/
theorem getInterpolated_errors (fs : List Frame) (t thr : Int) (k : Err)
    (h : getInterpolated fs t thr = .error k) :
    ∃ b a, (neighbours fs t).before = some b ∧ (neighbours fs t).after = some a ∧
      ((b.ego = none ∨ a.ego = none) ∧ k = "KeyError" ∨
       (b.ego ≠ none ∧ a.ego ≠ none ∧ (∃ o ∈ b.objs ++ a.objs, o.frame = .other) ∧ k = "NotImplementedError")) := by
  obtain ⟨b, a, hb, ha, h1, h2, _, _, hk⟩ := getInterpolated_both (r := .error k) h
  refine ⟨b, a, hb, ha, ?_⟩
  -- the scan's neighbours bracket the query, so the assertion and the division are passed
  rcases interpolateFrames_error hk with h | ⟨hb', ha', h | h | h⟩
  · exact .inl h
  · exact absurd ⟨h1, Int.le_of_lt h2⟩ h.1
  · omega
  · exact .inr ⟨hb', ha', h⟩

/-- error exits of a DIRECT call of `interpolate_ground_truth_frames`, exactly -/
theorem interp_errors_iff (b a : Frame) (t : Int) :
    (∃ k, interpolateFrames b a t = .error k) ↔
      (b.ego = none ∨ a.ego = none ∨ ¬ (b.time ≤ t ∧ t ≤ a.time) ∨ a.time = b.time ∨
        (∃ o ∈ b.objs ++ a.objs, o.frame = .other)) := by
  constructor
  · rintro ⟨k, hk⟩
    rcases interpolateFrames_error hk with ⟨h | h, _⟩ | ⟨_, _, ⟨h, _⟩ | ⟨h, _⟩ | ⟨h, _⟩⟩
    exacts [.inl h, .inr (.inl h), .inr (.inr (.inl h)), .inr (.inr (.inr (.inl h))), .inr (.inr (.inr (.inr h)))]
  · intro h
    cases hr : interpolateFrames b a t with
    | error k => exact ⟨k, rfl⟩
    | ok f =>
      exfalso
      obtain ⟨eb, ea, heb, hea, h1, h2, h3, h4, h5, _⟩ := interpolateFrames_ok hr
      rcases h with h | h | h | h | ⟨o, ho, hf⟩
      · rw [heb] at h; cases h
      · rw [hea] at h; cases h
      · exact h ⟨h1, h2⟩
      · exact h3 h
      · rcases List.mem_append.1 ho with ho | ho
        · exact h4 o ho hf
        · exact h5 o ho hf

/-- The interpolation clause of the property, end to end: both neighbours within tolerance and well-formed ⇒ the lookup returns a frame stamped
with exactly the query time in which every object of the earlier neighbour that has a partner (same uuid) in the
later one lies on the straight segment between its two MAP-FRAME poses at the proportional time `α`
(`α (t₂ − t₁) = t − t₁`, `0 ≤ α < 1`), with the heading on the shortest arc -/
theorem interp_success_on_segment (fs : List Frame) (t thr : Int) (b a : Frame)
    (hb : (neighbours fs t).before = some b) (ha : (neighbours fs t).after = some a)
    (hdb : t - b.time ≤ thr) (hda : a.time - t ≤ thr) (wb : b.WellFormed) (wa : a.WellFormed) :
    ∃ f eb ea, getInterpolated fs t thr = .ok (.interp f) ∧ f.time = t ∧ f.baseId = b.id ∧
      b.ego = some eb ∧ a.ego = some ea ∧
      ∀ (i : Nat) (hi : i < b.objs.length) (o2 : Obj),
        (a.objs.map (globalOf ea)).find? (fun o => b.objs[i].uuid == o.uuid) = some o2 →
        ∃ r α, f.objs[i]? = some r ∧ α = alpha b.time a.time t ∧ 0 ≤ α ∧ α < 1 ∧
          α * ((a.time : ℚ) - (b.time : ℚ)) = (t : ℚ) - (b.time : ℚ) ∧
          r.pos = Vec3.lerp (globalOf eb b.objs[i]).pos o2.pos α ∧
          (min (globalOf eb b.objs[i]).pos.x o2.pos.x ≤ r.pos.x ∧ r.pos.x ≤ max (globalOf eb b.objs[i]).pos.x o2.pos.x) ∧
          (min (globalOf eb b.objs[i]).pos.y o2.pos.y ≤ r.pos.y ∧ r.pos.y ≤ max (globalOf eb b.objs[i]).pos.y o2.pos.y) ∧
          (min (globalOf eb b.objs[i]).pos.z o2.pos.z ≤ r.pos.z ∧ r.pos.z ≤ max (globalOf eb b.objs[i]).pos.z o2.pos.z) ∧
          r.tau = (globalOf eb b.objs[i]).tau + α * arc (globalOf eb b.objs[i]).tau o2.tau ∧
          |α * arc (globalOf eb b.objs[i]).tau o2.tau| ≤ |arc (globalOf eb b.objs[i]).tau o2.tau| ∧
          r.time = t ∧ r.uuid = b.objs[i].uuid ∧ r.id = b.objs[i].id ∧ r.size = b.objs[i].size ∧ r.frame = .map ∧
          o2 ∈ a.objs.map (globalOf ea) := by
  obtain ⟨eb, ea, heb, hea, h1, h2, hres⟩ := gating_both_ok fs t thr b a hb ha hdb hda wb wa
  refine ⟨interpResult b a eb ea t, eb, ea, hres, rfl, rfl, heb, hea, ?_⟩
  intro i hi o2 hfind
  have hα0 := alpha_nonneg h1 (by omega : b.time < a.time)
  have hα1 : alpha b.time a.time t < 1 := alpha_lt_one h2 (by omega)
  rw [← globalOf_uuid eb] at hfind
  exact ⟨_, _, (interpResult_getElem? b a eb ea t hi).trans (congrArg some (stepFirst_found hfind)), rfl, hα0, hα1,
    alpha_mul (by omega), rfl, lerp_between hα0 hα1.le, lerp_between hα0 hα1.le, lerp_between hα0 hα1.le, rfl,
    abs_mul_le_of_unit hα0 hα1.le, rfl, globalOf_uuid _ _, globalOf_id _ _, globalOf_size _ _,
    globalOf_frame_map (wb.2 _ (List.getElem_mem hi)), List.mem_of_find?_eq_some hfind⟩

/-- "reproducing a neighbour exactly at that neighbour's own timestamp", stated with its caveats.  Strictly
time-ordered frames, query exactly on a frame `g` whose successor `a` is within tolerance (`thr ≥ 0`), both
well-formed.  The lookup INTERPOLATES (α = 0) and returns a frame with `g`'s time, id and ego pose whose first
`|g.objs|` objects are `g`'s objects, in order, each with the position, heading, shape, uuid, id of that object
CONVERTED TO THE MAP FRAME by `g`'s ego pose (`globalOf`): identical to the loaded object when it is a map-frame
object, and `frame = map`, `pos = ego·pos`, `τ = ego.τ + τ` when it is a `base_link` object (the conversion back to
`base_link` is commented out in the code).  Velocity: kept unless the partner lacks one.  After them come the later
frame's objects whose uuid `g` lacks (kept, with their own later time stamps). -/
theorem interp_at_own_timestamp (fs : List Frame) (g a : Frame) (thr : Int)
    (hs : fs.Pairwise (fun x y => x.time < y.time)) (hg : g ∈ fs) (hthr : 0 ≤ thr)
    (ha : (neighbours fs g.time).after = some a) (hda : a.time - g.time ≤ thr)
    (wg : g.WellFormed) (wa : a.WellFormed) :
    ∃ f eg ea, getInterpolated fs g.time thr = .ok (.interp f) ∧ g.ego = some eg ∧ a.ego = some ea ∧
      f.time = g.time ∧ f.baseId = g.id ∧ f.egoTrans = eg.trans ∧ f.egoTau = eg.tau ∧
      f.objs.length = g.objs.length + (secondPass (g.objs.map (·.uuid)) (a.objs.map (globalOf ea))).length ∧
      f.objs.drop g.objs.length = secondPass (g.objs.map (·.uuid)) (a.objs.map (globalOf ea)) ∧
      ∀ (i : Nat) (hi : i < g.objs.length), ∃ r, f.objs[i]? = some r ∧
        r.pos = (globalOf eg g.objs[i]).pos ∧ r.tau = (globalOf eg g.objs[i]).tau ∧ r.frame = .map ∧
        r.size = g.objs[i].size ∧ r.uuid = g.objs[i].uuid ∧ r.id = g.objs[i].id ∧
        (g.objs[i].frame = .map → r.pos = g.objs[i].pos ∧ r.tau = g.objs[i].tau) ∧
        (g.objs[i].frame = .baseLink → r.pos = eg.apply g.objs[i].pos ∧ r.tau = eg.tau + g.objs[i].tau) ∧
        ((∀ o ∈ a.objs, o.uuid ≠ g.objs[i].uuid) → r = globalOf eg g.objs[i]) ∧
        (∀ o2, (a.objs.map (globalOf ea)).find? (fun o => g.objs[i].uuid == o.uuid) = some o2 →
          r.time = g.time ∧ (o2.vel.isSome → r.vel = g.objs[i].vel) ∧ (o2.vel = none → r.vel = none)) := by
  obtain ⟨hb, _, _, _⟩ := query_on_frame fs g thr hs hg
  obtain ⟨eg, ea, heg, hea, _, hlt, hres⟩ :=
    gating_both_ok fs g.time thr g a hb ha (by omega) hda wg wa
  have hα : alpha g.time a.time g.time = 0 := alpha_self_left _ _
  obtain ⟨hlen, -, hdrop⟩ := interp_objects (g.objs.map (globalOf eg)) (a.objs.map (globalOf ea)) g.time a.time g.time
  rw [List.length_map, map_uuid_globalOf] at hlen hdrop
  refine ⟨interpResult g a eg ea g.time, eg, ea, hres, heg, hea, rfl, rfl, ?_, ?_, hlen, hdrop, ?_⟩
  · show Vec3.lerp eg.trans ea.trans (alpha g.time a.time g.time) = eg.trans
    rw [hα, Vec3.lerp_zero]
  · show eg.tau + alpha g.time a.time g.time * arc eg.tau ea.tau = eg.tau
    rw [hα]; ring
  · intro i hi
    obtain ⟨hp, ht, hf, hs, hu, hid⟩ :=
      stepFirst_at_start (a.objs.map (globalOf ea)) g.time a.time (globalOf eg g.objs[i])
    refine ⟨_, interpResult_getElem? g a eg ea g.time hi, hp, ht,
      hf.trans (globalOf_frame_map (wg.2 _ (List.getElem_mem hi))), hs.trans (globalOf_size _ _),
      hu.trans (globalOf_uuid _ _), hid.trans (globalOf_id _ _), ?_, ?_, ?_, ?_⟩
    · intro hfm; rw [hp, ht, globalOf_map_frame hfm]; exact ⟨rfl, rfl⟩
    · intro hfb; rw [hp, ht, globalOf_baseLink hfb]; exact ⟨rfl, rfl⟩
    · intro hno
      refine stepFirst_not_found (List.forall_mem_map.2 fun o' ho' => ?_)
      rw [globalOf_uuid, globalOf_uuid]
      exact hno o' ho'
    · intro o2 h2
      rw [← globalOf_uuid eg] at h2
      rw [stepFirst_found h2]
      refine ⟨rfl, fun hs2 => ?_, fun hnone => ?_⟩
      · rw [(interp_at_neighbour _ o2 g.time a.time).2.2.2.2.2 hs2, globalOf_vel]
      · show interpVel _ _ o2.vel = none
        rw [hnone]
        cases (globalOf eg g.objs[i]).vel <;> rfl

section Examples

def v (x y z : ℚ) : Vec3 := ⟨x, y, z⟩
def ob (id uuid : Nat) (time : Int) (x y : ℚ) (tau : ℚ) : Obj :=
  { id := id, uuid := uuid, time := time, frame := .baseLink, pos := v x y 0, tau := tau,
    size := v 2 4 1, vel := some (v 1 0 0) }
def e0 : Pose := { c := 1, s := 0, tau := 0, trans := v 0 0 0 }
def e1 : Pose := { c := 0, s := 1, tau := 1/2, trans := v 10 0 0 }
def fr0 : Frame := { id := 0, time := 1000, ego := some e0, objs := [ob 1 7 1000 1 0 (3/4), ob 2 8 1000 5 5 0] }
def fr1 : Frame := { id := 1, time := 2000, ego := some e1, objs := [ob 3 9 2000 0 0 0, ob 4 7 2000 3 0 (-3/4)] }
def fr2 : Frame := { id := 2, time := 3000, ego := some e0, objs := [] }

/-- nearest frame within tolerance; a tie (1500) goes to the first frame; beyond tolerance nothing -/
example : getNowFrame [fr0, fr1, fr2] 1400 400 = .ok (some fr0) := by decide +kernel
example : getNowFrame [fr0, fr1, fr2] 1500 500 = .ok (some fr0) := by decide +kernel
example : getNowFrame [fr0, fr1, fr2] 1500 499 = .ok none := by decide +kernel

/-- the time-ordered hypothesis of `neighbours_spec` / `query_on_frame` holds of a real timeline -/
example : [fr0, fr1, fr2].Pairwise (fun x y => x.time < y.time) := by decide +kernel

/-- the four outcomes -/
example : getInterpolated [fr0, fr1, fr2] 990 75 = .ok (.orig fr0) := by decide +kernel
example : getInterpolated [fr0, fr1, fr2] 1400 400 = .ok (.orig fr0) := by decide +kernel
example : getInterpolated [fr0, fr1, fr2] 1600 400 = .ok (.orig fr1) := by decide +kernel
example : getInterpolated [fr0, fr1, fr2] 1500 499 = .ok .nothing := by decide +kernel

/-- both within tolerance: uuid 7 is paired (map-frame poses (1,0,3/4) and (10,3,-1/4): the arc is
-1, half of it from 3/4 gives 1/4), uuid 8 only before, uuid 9 only after (both moved to the map frame, otherwise verbatim) -/
example : (getInterpolated [fr0, fr1, fr2] 1500 500).toOption.map
    (fun o => match o with
      | .interp f => f.objs.map (fun o => (o.id, o.uuid, o.time, o.pos, o.tau))
      | _ => []) =
    some [(1, 7, 1500, v (11/2) (3/2) 0, 1/4), (2, 8, 1000, v 5 5 0, 0), (3, 9, 2000, v 10 0 0, 1/2)] := by
  decide +kernel

/-- a query on the middle frame interpolates between it and the NEXT frame at α = 0 -/
example : (getInterpolated [fr0, fr1, fr2] 2000 1000).toOption.map
    (fun o => match o with
      | .interp f => (f.baseId, f.objs.map (fun o => (o.id, o.pos, o.tau)))
      | _ => (99, [])) =
    some (1, [(3, v 10 0 0, 1/2), (4, v 10 3 (0), -1/4)]) := by decide +kernel

end Examples

section Success

/-- the caveat is real: `base_link` dataset, ego pose of the middle frame = quarter turn + 10 m.  A query ON that frame
(tolerance 1000) returns its object 3 (loaded at (0,0), heading 0, `base_link`) at (10,0), heading 1/2, in `map` -/
theorem interp_at_own_timestamp_not_verbatim :
    fr1 ∈ [fr0, fr1, fr2] ∧ (fr1.objs.map (fun o => (o.id, o.frame, o.pos, o.tau))) =
      [(3, FrameId.baseLink, v 0 0 0, 0), (4, FrameId.baseLink, v 3 0 0, -3/4)] ∧
    (getInterpolated [fr0, fr1, fr2] 2000 1000).toOption.map
      (fun o => match o with
        | .interp f => (f.baseId, f.objs.map (fun o => (o.id, o.frame, o.pos, o.tau)))
        | _ => (99, [])) =
      some (1, [(3, FrameId.map, v 10 0 0, 1/2), (4, FrameId.map, v 10 3 0, -1/4)]) :=
  ⟨by decide +kernel, by decide +kernel, by decide +kernel⟩

/-- non-vacuity of `gating_both_ok` / `interp_success_on_segment` / `interp_at_own_timestamp`: the hypotheses hold on
the example list (query 1500 between fr0 and fr1, tolerance 500; query 2000 on fr1, successor fr2) -/
example : (neighbours [fr0, fr1, fr2] 1500).before = some fr0 ∧ (neighbours [fr0, fr1, fr2] 1500).after = some fr1 ∧
    (1500 : Int) - fr0.time ≤ 500 ∧ fr1.time - 1500 ≤ 500 ∧ fr0.Loaded ∧ fr1.Loaded ∧ fr2.Loaded ∧
    (neighbours [fr0, fr1, fr2] fr1.time).after = some fr2 ∧ fr2.time - fr1.time ≤ 1000 ∧
    (fr1.objs.map (globalOf e1)).find? (fun o => fr0.objs[0].uuid == o.uuid) = some (globalOf e1 (ob 4 7 2000 3 0 (-3/4))) :=
  ⟨by decide +kernel, by decide +kernel, by decide, by decide, ⟨rfl, .baseLink, by decide, by decide +kernel⟩,
    ⟨rfl, .baseLink, by decide, by decide +kernel⟩, ⟨rfl, .baseLink, by decide, by decide +kernel⟩,
    by decide +kernel, by decide, by decide +kernel⟩

/-- A DEFECTIVE variant of `interpolate_ground_truth_frames` asserting `t1 < t` (strict) raises for a query on a
frame: the hypotheses of `interpolateFrames_total` hold (`fr1.time ≤ 2000 < fr2.time`, poses, frames) and its
conclusion fails for the variant -/
def interpolateFrames_strictAssert (b a : Frame) (t : Int) : Except Err InterpFrame :=
  if ¬ (b.time < t ∧ t ≤ a.time) then .error "AssertionError" else interpolateFrames b a t

example : fr1.ego = some e1 ∧ fr2.ego = some e0 ∧ fr1.time ≤ 2000 ∧ (2000 : Int) < fr2.time ∧
    (∀ o ∈ fr1.objs, o.frame ≠ .other) ∧ (∀ o ∈ fr2.objs, o.frame ≠ .other) ∧
    interpolateFrames fr1 fr2 2000 = .ok (interpResult fr1 fr2 e1 e0 2000) ∧
    interpolateFrames_strictAssert fr1 fr2 2000 = .error "AssertionError" := by decide +kernel

/-- a frame list on which the well-formedness matters: without the ego pose of the later neighbour the lookup raises
`KeyError` (so `gating_both_ok` needs `WellFormed`) -/
example : getInterpolated [fr0, { fr1 with ego := none }, fr2] 1500 500 = .error "KeyError" := by decide +kernel

end Success

/-! ## the CODE's decision tables (regenerated from the source on every run)

`Gen.getNowTrees` / `Gen.getInterpTrees` hold, for frame lists of length 0..3, the complete decision
tree of the REAL `get_now_frame` / `get_interpolated_now_frame` over three-valued order atoms
(`harness/dt_c17.py`).  This is a BOUNDED skeleton (up to three frames); the unbounded statements are
the theorems above about the model.

What is demanded of the code's table is what the property says and no more ("returns the loaded frame
closest in time if it is within the tolerance and nothing otherwise", "all time-ordered frame lists"):

* `get_now_frame`: on every NON-DECREASING list of stamps, every query time `q ≤ 10^17` and every
  tolerance the table answers with SOME frame of minimal `|dt|` that lies within the tolerance, or with
  nothing when every frame is farther (`LookupDT.NowSpec`).  Which of several equidistant frames is
  returned, which linear forms the code compares (`|dt|` differences, `q - t i`, a bisection), what it
  does on lists that are not time-ordered, on the empty list and beyond the unit guard is NOT part
  of the obligation (the first-of-ties behaviour of the code as written is `getNow_first_tie`, a theorem
  about the MODEL only).
* `get_interpolated_now_frame`: on every STRICTLY INCREASING list of stamps the table reaches the
  leaf of the model's skeleton (there the neighbours and hence the answer are determined).

What is evaluated is `LookupDT.nowTableAccepted` / `eqTableOk`: a row that is the model's skeleton atom
for atom (`LookupDT.equiv`) meets its obligation by a theorem about the skeleton (`getNowAtoms_spec`, any
number of frames; trivially for the interpolated lookup); any other row is decided by
`LookupDT.nowRowOk` / `eqRowOk` (integer linear arithmetic on the paths of the tree,
`PEval/Model/LookupLin.lean`, sound by `PEval/Lemmas/LookupLin.lean`).  An empty table list
means the translator reported `untranslatable`.  The two theorems `getNow_code_table_argmin` and
`getInterp_code_table_eq_model` are the per-run obligations: they are checked again against the regenerated tables on
every run. -/

section Tables
open PEval.LookupDT

/-- `get_now_frame`: every row of the code's table answers, on every
non-decreasing non-empty list of stamps, with an arg-min of `|dt|` within the tolerance or with
nothing when there is none (ANY arg-min: ties are left open, as in the property) -/
theorem getNow_code_table_argmin :
    ∀ p ∈ Gen.getNowTrees, ∀ (ts : List Int) (q tol : Int), ts.length = p.1 → ts ≠ [] → q ≤ maxTime →
      ts.Pairwise (fun a b => a ≤ b) → NowSpec ts q tol (evalTree p.2 (valuationOf ts q tol)) :=
  nowTable_sound (by decide +kernel : nowTableAccepted Gen.getNowTrees = true)

/-- `get_interpolated_now_frame`: every row of the code's table reaches the leaf
of the model's skeleton on every strictly increasing list of stamps -/
theorem getInterp_code_table_eq_model :
    ∀ p ∈ Gen.getInterpTrees, ∀ (ts : List Int) (q tol : Int), ts.length = p.1 →
      ts.Pairwise (fun a b => a < b) →
      evalTree p.2 (valuationOf ts q tol) = getInterpAtoms p.1 (valuationOf ts q tol) := by
  intro p hp ts q tol hn hs
  rw [← evalTree_getInterpSkel]
  exact eqTableOk_sound (by decide +kernel : eqTableOk Gen.getInterpTrees getInterpSkel = true) p hp ts q tol hn hs

/-- `getNow_spec` for what the CODE's table says, on time-ordered lists: the answer is a frame of the
list minimising `|dt|` within the tolerance, or nothing exactly when every frame is farther than the
tolerance. -/
theorem getNow_code_table_spec (fs : List Frame) (q tol : Int) (ht : q ≤ maxTime) (hne : fs ≠ [])
    (hs : fs.Pairwise (fun x y => x.time ≤ y.time)) :
    ∀ p ∈ Gen.getNowTrees, p.1 = fs.length →
      (∃ f, decodeNow fs (evalTree p.2 (valuationOf (times fs) q tol)) = .ok (some f) ∧ f ∈ fs ∧
          (∀ g ∈ fs, absDt q f ≤ absDt q g) ∧ (absDt q f : Int) ≤ tol) ∨
      (decodeNow fs (evalTree p.2 (valuationOf (times fs) q tol)) = .ok none ∧
          ∀ g ∈ fs, tol < (absDt q g : Int)) := by
  intro p hp hn
  exact nowSpec_decode.1 (getNow_code_table_argmin p hp (times fs) q tol (by rw [times_length, hn])
    (fun h => hne (List.map_eq_nil_iff.1 h)) ht (times_pairwise hs))

/-- the code's table and the MODEL agree up to the choice among equidistant frames: both answer
nothing, or both answer a frame of the list and the two frames are equally far from the query -/
theorem getNow_code_table_eq_model_mod_ties (fs : List Frame) (q tol : Int) (ht : q ≤ maxTime) (hne : fs ≠ [])
    (hs : fs.Pairwise (fun x y => x.time ≤ y.time)) :
    ∀ p ∈ Gen.getNowTrees, p.1 = fs.length →
      (decodeNow fs (evalTree p.2 (valuationOf (times fs) q tol)) = .ok none ∧ getNowFrame fs q tol = .ok none) ∨
      (∃ f g, decodeNow fs (evalTree p.2 (valuationOf (times fs) q tol)) = .ok (some f) ∧
          getNowFrame fs q tol = .ok (some g) ∧ f ∈ fs ∧ g ∈ fs ∧ absDt q f = absDt q g) := by
  intro p hp hn
  rcases getNow_code_table_spec fs q tol ht hne hs p hp hn with ⟨f, hf, hfm, hfmin, hftol⟩ | ⟨hnone, hfar⟩
  · rcases getNow_spec fs q tol ht hne with ⟨g, hg, hgm, hgmin, _⟩ | ⟨_, hfar⟩
    · right
      have h1 := hfmin g hgm
      have h2 := hgmin f hfm
      exact ⟨f, g, hf, hg, hfm, hgm, by omega⟩
    · have := hfar f hfm; omega
  · rcases getNow_spec fs q tol ht hne with ⟨g, _, hgm, _, hgtol⟩ | ⟨hnone', _⟩
    · have := hfar g hgm; omega
    · left; exact ⟨hnone, hnone'⟩

/-- the code's table, read on the valuation of a concrete strictly time-ordered frame list, is the
model's `getInterpolated` (`interp i j` decoding to the interpolation of frames `i`, `j` at the query
time) -/
theorem getInterp_code_table_eq_getInterpolated (fs : List Frame) (q tol : Int)
    (hs : fs.Pairwise (fun x y => x.time < y.time)) :
    ∀ p ∈ Gen.getInterpTrees, p.1 = fs.length →
      decodeInterp fs q (evalTree p.2 (valuationOf (times fs) q tol)) = getInterpolated fs q tol := by
  intro p hp hn
  rw [getInterp_code_table_eq_model p hp (times fs) q tol (by simp [times, hn]) (times_pairwise hs), hn,
    ← getInterpolated_eq_atoms]

/-- `gating` for what the CODE's table says: the outcome is decided by which neighbours of the scan
survive the tolerance test. -/
theorem getInterp_code_table_gating (fs : List Frame) (q tol : Int)
    (hs : fs.Pairwise (fun x y => x.time < y.time)) :
    ∀ p ∈ Gen.getInterpTrees, p.1 = fs.length →
      decodeInterp fs q (evalTree p.2 (valuationOf (times fs) q tol)) =
        match gate tol (neighbours fs q).dtBefore (neighbours fs q).before,
              gate tol (neighbours fs q).dtAfter (neighbours fs q).after with
        | none, none => .ok .nothing
        | none, some a => .ok (.orig a)
        | some b, none => .ok (.orig b)
        | some b, some a =>
          match interpolateFrames b a q with
          | .error k => .error k
          | .ok f => .ok (.interp f) := by
  intro p hp hn
  rw [getInterp_code_table_eq_getInterpolated fs q tol hs p hp hn]
  rfl

/-- no neighbour within tolerance ⇒ the code's table answers nothing (the statement seeded change
`C17_A` breaks) -/
theorem getInterp_code_table_none (fs : List Frame) (q tol : Int)
    (hs : fs.Pairwise (fun x y => x.time < y.time))
    (hb : (neighbours fs q).before = none ∨ ∃ b, (neighbours fs q).before = some b ∧ tol < q - b.time)
    (ha : (neighbours fs q).after = none ∨ ∃ a, (neighbours fs q).after = some a ∧ tol < a.time - q) :
    ∀ p ∈ Gen.getInterpTrees, p.1 = fs.length →
      decodeInterp fs q (evalTree p.2 (valuationOf (times fs) q tol)) = .ok .nothing := by
  intro p hp hn
  rw [getInterp_code_table_eq_getInterpolated fs q tol hs p hp hn]
  exact gating_none fs q tol hb ha

/-- non-vacuity of the skeleton side (independent of the generated file): the skeleton trees read on
concrete valuations give the answers of the examples above, and the checker accepts / rejects -/
example : evalTree (getNowSkel 3) (valuationOf [1000, 2000, 3000] 1400 400) = .frame 0 := by decide +kernel
example : evalTree (getNowSkel 3) (valuationOf [1000, 2000, 3000] 1500 499) = .none := by decide +kernel
example : evalTree (getInterpSkel 3) (valuationOf [1000, 2000, 3000] 1500 500) = .interp 0 1 := by decide +kernel
example : evalTree (getInterpSkel 3) (valuationOf [1000, 2000, 3000] 990 75) = .frame 0 := by decide +kernel
example : equiv [] (getNowSkel 2) (getNowSkel 2) = true := by decide +kernel
example : equiv [] (getNowSkel 2) (getNowSkel 3) = false := by decide +kernel

end Tables

/-! ## the CODE's interpolation formulas (regenerated from the source on every run)

`Gen.interpList_n_i` is the expression tree the REAL `interpolate_list` returned for component `i`
of two lists of `n` symbolic leaves; `Gen.statePos_i` / `Gen.stateVel_i` the position / velocity
components produced by `interpolate_state` on a stub state; `Gen.stateAlpha` / `Gen.quatAlpha` the
slerp parameter handed to `Quaternion.slerp` by `interpolate_state` / `interpolate_quaternion`. -/

section Arith

/-- the shape of a generated expression varies with the source it was read from: most shapes are ring identities as they
stand, some only after the denominators (non-zero by a hypothesis in scope) are cleared -/
macro "ratfun" : tactic => `(tactic| first | ring1 | (field_simp; ring1) | field_simp)

/-- every component of `interpolate_list` (lists of length 1, 2, 3) is the model's `lerp` formula -/
theorem interpList_code_eq_model (a0 a1 a2 b0 b1 b2 t1 t2 t : ℚ) (h : t1 ≠ t2) :
    Gen.interpList_1_0 a0 a1 a2 b0 b1 b2 t1 t2 t = a0 + (t - t1) / (t2 - t1) * (b0 - a0) ∧
    Gen.interpList_2_0 a0 a1 a2 b0 b1 b2 t1 t2 t = a0 + (t - t1) / (t2 - t1) * (b0 - a0) ∧
    Gen.interpList_2_1 a0 a1 a2 b0 b1 b2 t1 t2 t = a1 + (t - t1) / (t2 - t1) * (b1 - a1) ∧
    Gen.interpList_3_0 a0 a1 a2 b0 b1 b2 t1 t2 t = a0 + (t - t1) / (t2 - t1) * (b0 - a0) ∧
    Gen.interpList_3_1 a0 a1 a2 b0 b1 b2 t1 t2 t = a1 + (t - t1) / (t2 - t1) * (b1 - a1) ∧
    Gen.interpList_3_2 a0 a1 a2 b0 b1 b2 t1 t2 t = a2 + (t - t1) / (t2 - t1) * (b2 - a2) := by
  have hd : t2 - t1 ≠ 0 := sub_ne_zero.mpr (Ne.symm h)
  refine ⟨?_, ?_, ?_, ?_, ?_, ?_⟩
  · unfold Gen.interpList_1_0; ratfun
  · unfold Gen.interpList_2_0; ratfun
  · unfold Gen.interpList_2_1; ratfun
  · unfold Gen.interpList_3_0; ratfun
  · unfold Gen.interpList_3_1; ratfun
  · unfold Gen.interpList_3_2; ratfun

/-- position and velocity components of `interpolate_state` are the model's `lerp` formula, and the
slerp parameter of `interpolate_state` / `interpolate_quaternion` is `(t - t1) / (t2 - t1)` -/
theorem interpState_code_eq_model (a0 a1 a2 b0 b1 b2 t1 t2 t : ℚ) (h : t1 ≠ t2) :
    Gen.statePos_0 a0 a1 a2 b0 b1 b2 t1 t2 t = a0 + (t - t1) / (t2 - t1) * (b0 - a0) ∧
    Gen.statePos_1 a0 a1 a2 b0 b1 b2 t1 t2 t = a1 + (t - t1) / (t2 - t1) * (b1 - a1) ∧
    Gen.statePos_2 a0 a1 a2 b0 b1 b2 t1 t2 t = a2 + (t - t1) / (t2 - t1) * (b2 - a2) ∧
    Gen.stateVel_0 a0 a1 a2 b0 b1 b2 t1 t2 t = a0 + (t - t1) / (t2 - t1) * (b0 - a0) ∧
    Gen.stateVel_1 a0 a1 a2 b0 b1 b2 t1 t2 t = a1 + (t - t1) / (t2 - t1) * (b1 - a1) ∧
    Gen.stateVel_2 a0 a1 a2 b0 b1 b2 t1 t2 t = a2 + (t - t1) / (t2 - t1) * (b2 - a2) ∧
    Gen.stateAlpha t1 t2 t = (t - t1) / (t2 - t1) ∧
    Gen.quatAlpha t1 t2 t = (t - t1) / (t2 - t1) := by
  have hd : t2 - t1 ≠ 0 := sub_ne_zero.mpr (Ne.symm h)
  refine ⟨?_, ?_, ?_, ?_, ?_, ?_, ?_, ?_⟩
  · unfold Gen.statePos_0; ratfun
  · unfold Gen.statePos_1; ratfun
  · unfold Gen.statePos_2; ratfun
  · unfold Gen.stateVel_0; ratfun
  · unfold Gen.stateVel_1; ratfun
  · unfold Gen.stateVel_2; ratfun
  · unfold Gen.stateAlpha; ratfun
  · unfold Gen.quatAlpha; ratfun

/-- the velocity of `interpolate_state` is present exactly when both velocities are (F15), as in
the model's `interpVel`; vacuous when the translator could not run `interpolate_state` -/
theorem interpState_code_velocity_presence :
    ∀ r ∈ Gen.velPresence, r.2.2 = (r.1 && r.2.1) ∧
      ∀ (α : ℚ) (v1 v2 : Vec3),
        (interpVel α (if r.1 then some v1 else none) (if r.2.1 then some v2 else none)).isSome = r.2.2 := by
  intro r hr
  have hall : Gen.velPresence.all (fun r => r.2.2 == (r.1 && r.2.1)) = true := by decide +kernel
  have h := List.all_eq_true.1 hall r hr
  obtain ⟨x, y, z⟩ := r
  simp only [beq_iff_eq] at h
  refine ⟨h, ?_⟩
  intro α v1 v2
  dsimp only at h ⊢
  rw [h]
  cases x <;> cases y <;> rfl

/-- the code's formulas are the MODEL's `Vec3.lerp _ _ (alpha t1 t2 t)` on integer stamps -/
theorem interpState_code_eq_lerp (p1 p2 : Vec3) (t1 t2 t : Int) (h : t1 ≠ t2) :
    Gen.statePos_0 p1.x p1.y p1.z p2.x p2.y p2.z t1 t2 t = (Vec3.lerp p1 p2 (alpha t1 t2 t)).x ∧
    Gen.statePos_1 p1.x p1.y p1.z p2.x p2.y p2.z t1 t2 t = (Vec3.lerp p1 p2 (alpha t1 t2 t)).y ∧
    Gen.statePos_2 p1.x p1.y p1.z p2.x p2.y p2.z t1 t2 t = (Vec3.lerp p1 p2 (alpha t1 t2 t)).z ∧
    Gen.stateVel_0 p1.x p1.y p1.z p2.x p2.y p2.z t1 t2 t = (Vec3.lerp p1 p2 (alpha t1 t2 t)).x ∧
    Gen.stateVel_1 p1.x p1.y p1.z p2.x p2.y p2.z t1 t2 t = (Vec3.lerp p1 p2 (alpha t1 t2 t)).y ∧
    Gen.stateVel_2 p1.x p1.y p1.z p2.x p2.y p2.z t1 t2 t = (Vec3.lerp p1 p2 (alpha t1 t2 t)).z ∧
    Gen.stateAlpha t1 t2 t = alpha t1 t2 t ∧ Gen.quatAlpha t1 t2 t = alpha t1 t2 t := by
  have hq : ((t1 : Int) : ℚ) ≠ ((t2 : Int) : ℚ) := by exact_mod_cast h
  obtain ⟨h0, h1, h2, h3, h4, h5, h6, h7⟩ :=
    interpState_code_eq_model p1.x p1.y p1.z p2.x p2.y p2.z t1 t2 t hq
  have ha : alpha t1 t2 t = ((t : ℚ) - t1) / ((t2 : ℚ) - t1) := by unfold alpha; push_cast; rfl
  rw [Vec3.lerp_x, Vec3.lerp_y, Vec3.lerp_z, ha]
  exact ⟨h0, h1, h2, h3, h4, h5, h6, h7⟩

/-- end points of the code's formula: the first list at `t1`, the second at `t2` -/
theorem interpList_code_endpoints (a0 a1 a2 b0 b1 b2 t1 t2 : ℚ) (h : t1 ≠ t2) :
    Gen.interpList_3_0 a0 a1 a2 b0 b1 b2 t1 t2 t1 = a0 ∧ Gen.interpList_3_1 a0 a1 a2 b0 b1 b2 t1 t2 t1 = a1 ∧
    Gen.interpList_3_2 a0 a1 a2 b0 b1 b2 t1 t2 t1 = a2 ∧
    Gen.interpList_3_0 a0 a1 a2 b0 b1 b2 t1 t2 t2 = b0 ∧ Gen.interpList_3_1 a0 a1 a2 b0 b1 b2 t1 t2 t2 = b1 ∧
    Gen.interpList_3_2 a0 a1 a2 b0 b1 b2 t1 t2 t2 = b2 := by
  have hd : t2 - t1 ≠ 0 := sub_ne_zero.mpr (Ne.symm h)
  obtain ⟨_, _, _, e0, e1, e2⟩ := interpList_code_eq_model a0 a1 a2 b0 b1 b2 t1 t2 t1 h
  obtain ⟨_, _, _, f0, f1, f2⟩ := interpList_code_eq_model a0 a1 a2 b0 b1 b2 t1 t2 t2 h
  rw [e0, e1, e2, f0, f1, f2, sub_self, zero_div, div_self hd]
  refine ⟨?_, ?_, ?_, ?_, ?_, ?_⟩ <;> ring

/-- the affine clause of `interpList_code_between_linear` (next), for every component and any `s`, `d`: the order of
`t1`, `t2` and the position of the time stamps relative to them play no part -/
theorem interpList_code_affine (a0 a1 a2 b0 b1 b2 t1 t2 : ℚ) (h : t1 ≠ t2) (s d : ℚ) :
    Gen.interpList_3_0 a0 a1 a2 b0 b1 b2 t1 t2 (s + d) - Gen.interpList_3_0 a0 a1 a2 b0 b1 b2 t1 t2 s =
      d / (t2 - t1) * (b0 - a0) ∧
    Gen.interpList_3_1 a0 a1 a2 b0 b1 b2 t1 t2 (s + d) - Gen.interpList_3_1 a0 a1 a2 b0 b1 b2 t1 t2 s =
      d / (t2 - t1) * (b1 - a1) ∧
    Gen.interpList_3_2 a0 a1 a2 b0 b1 b2 t1 t2 (s + d) - Gen.interpList_3_2 a0 a1 a2 b0 b1 b2 t1 t2 s =
      d / (t2 - t1) * (b2 - a2) := by
  obtain ⟨_, _, _, e0, e1, e2⟩ := interpList_code_eq_model a0 a1 a2 b0 b1 b2 t1 t2 (s + d) h
  obtain ⟨_, _, _, f0, f1, f2⟩ := interpList_code_eq_model a0 a1 a2 b0 b1 b2 t1 t2 s h
  rw [e0, e1, e2, f0, f1, f2]
  refine ⟨?_, ?_, ?_⟩ <;> ring

/-- between the end points for `t1 ≤ t ≤ t2`, and affine in `t` (equal time steps give equal
increments) -/
theorem interpList_code_between_linear (a0 a1 a2 b0 b1 b2 t1 t2 t : ℚ) (h1 : t1 ≤ t) (h2 : t ≤ t2)
    (h12 : t1 < t2) :
    (min a0 b0 ≤ Gen.interpList_3_0 a0 a1 a2 b0 b1 b2 t1 t2 t ∧
      Gen.interpList_3_0 a0 a1 a2 b0 b1 b2 t1 t2 t ≤ max a0 b0) ∧
    (min a1 b1 ≤ Gen.interpList_3_1 a0 a1 a2 b0 b1 b2 t1 t2 t ∧
      Gen.interpList_3_1 a0 a1 a2 b0 b1 b2 t1 t2 t ≤ max a1 b1) ∧
    (min a2 b2 ≤ Gen.interpList_3_2 a0 a1 a2 b0 b1 b2 t1 t2 t ∧
      Gen.interpList_3_2 a0 a1 a2 b0 b1 b2 t1 t2 t ≤ max a2 b2) ∧
    ∀ s d : ℚ,
      Gen.interpList_3_0 a0 a1 a2 b0 b1 b2 t1 t2 (s + d) - Gen.interpList_3_0 a0 a1 a2 b0 b1 b2 t1 t2 s =
        d / (t2 - t1) * (b0 - a0) := by
  have hne : t1 ≠ t2 := ne_of_lt h12
  have hpos : 0 < t2 - t1 := sub_pos.mpr h12
  have hα0 : 0 ≤ (t - t1) / (t2 - t1) := div_nonneg (sub_nonneg.mpr h1) hpos.le
  have hα1 : (t - t1) / (t2 - t1) ≤ 1 := (div_le_one hpos).2 (sub_le_sub_right h2 t1)
  obtain ⟨_, _, _, e0, e1, e2⟩ := interpList_code_eq_model a0 a1 a2 b0 b1 b2 t1 t2 t hne
  rw [e0, e1, e2]
  exact ⟨lerp_between hα0 hα1, lerp_between hα0 hα1, lerp_between hα0 hα1,
    fun s d => (interpList_code_affine a0 a1 a2 b0 b1 b2 t1 t2 hne s d).1⟩

end Arith

end PEval.C17
