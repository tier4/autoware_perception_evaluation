import PEval.Properties.C04Core
/-!
# C04 — the area in the property's own wording, and what `Map` averages

* `apSpec` is index based (`Σ_i (r_i − r_{i−1}) · max_{j ≥ i} p_j`); the property says "replacing precision at each
  recall by the maximum precision at any higher recall".  `apSpec_eq_apSpecRecall`: for non-decreasing recalls (what
  non-negative TP weights give, `recalls_nondecreasing`) and non-negative precisions the index-based sum IS the
  recall-based sum `apSpecRecall` (`Σ_i (r_i − r_{i−1}) · max { p_j | r_j ≥ r_i }`), hence so is the code's value
  (`apCode_eq_recall_area`, `ap_eq_recall_area`).  With a negative weight the two differ (`recall_area_needs_monotone`).
* `map_mean_of_defined` restates the definition of `mapOf`.  `map_is_mean_of_label_aps` says what the averaged list
  IS: its i-th element is the `Ap` of the i-th target label with the i-th threshold on the bucket and the count looked up
  under THAT label (by key), APH likewise in 3-D and absent in 2-D; mAP / mAPH are the means over the defined ones.
-/

namespace PEval.C04
open PEval.AP

/-! ## index-based = recall-based interpolated area -/

/-- index-based = recall-based interpolated area, for non-decreasing recalls and non-negative precisions -/
theorem apSpec_eq_apSpecRecall (ps rs : List Rat) (hp : ∀ p ∈ ps, 0 ≤ p)
    (hr : (0 :: rs).Pairwise (· ≤ ·)) : apSpec ps rs = apSpecRecall ps rs := by
  unfold apSpec apSpecRecall
  have := apSpecFrom_eq_apRecallFrom [] (ps.zip rs) 0 (fun pt h => nomatch h)
    (hr.sublist ((map_snd_zip_sublist ps rs).cons_cons 0))
    (fun pt hpt => hp pt.1 (List.of_mem_zip (a := pt.1) (b := pt.2) hpt).1)
  simpa using this

/-- the code's `_calculate_ap` is the recall-based area under the same hypotheses -/
theorem apCode_eq_recall_area (ps rs : List Rat) (hp : ∀ p ∈ ps, 0 ≤ p) (hr : (0 :: rs).Pairwise (· ≤ ·)) :
    calculateAp ps rs = apSpecRecall ps rs := by
  rw [calculateAp_eq_apSpec, apSpec_eq_apSpecRecall ps rs hp hr]

/-- non-negative TP weights ⇒ the recalls of a ranking are non-decreasing, starting at 0 -/
theorem recalls_nondecreasing (G : Nat) (ws : List Rat) (hw : ∀ w ∈ ws, 0 ≤ w) :
    (0 :: recalls G (cumsum ws)).Pairwise (· ≤ ·) := by
  have h := cumsumFrom_mono_chain 0 ws hw
  have h2 : ((0 : Rat) :: cumsumFrom 0 ws).map (recallOf G) = 0 :: recalls G (cumsum ws) := by
    simp [recalls, cumsum, recallOf_zero]
  rw [← h2, List.pairwise_map]
  exact h.imp (fun hab => recallOf_mono G hab)

/-- `Ap.ap` of a ranking with non-negative TP weights (AP: weight 1; APH: clamped heading weight) is the area under the
precision-recall curve with the precision at each recall replaced by the maximum precision at any recall at least as high -/
theorem ap_eq_recall_area (G : Nat) (ks : List Kind) (hne : ks ≠ []) (hw : ∀ k ∈ ks, 0 ≤ k.tpw) :
    (apOfKinds G ks).ap
      = some (apSpecRecall (precFrom 0 (cumsum (ks.map Kind.tpw))) (recalls G (cumsum (ks.map Kind.tpw)))) := by
  have hws : ∀ w ∈ ks.map Kind.tpw, 0 ≤ w := List.forall_mem_map.2 hw
  rw [ap_eq_spec, if_neg hne]
  congr 1
  apply apSpec_eq_apSpecRecall
  · exact precFrom_nonneg 0 _ (List.pairwise_cons.1 (cumsumFrom_mono_chain 0 _ hws)).1
  · exact recalls_nondecreasing G _ hws

/-- the hypothesis is needed: with a negative weight (unreachable: AP weighs 1, APH clamps to [0,1]) the recalls are not
monotone and the index-based sum is not the recall-based one -/
theorem recall_area_needs_monotone :
    apSpec [1, 0] [1, 0] = 1 ∧ apSpecRecall [1, 0] [1, 0] = 0 := by
  constructor <;> decide +kernel

/-- non-vacuity: TP, FP, TP with 2 ground truths — precisions [1, 1/2, 2/3], recalls [1/2, 1/2, 1]; both sums 5/6 -/
example : apSpec [1, 1/2, 2/3] [1/2, 1/2, 1] = 5/6 ∧ apSpecRecall [1, 1/2, 2/3] [1/2, 1/2, 1] = 5/6 := by
  constructor <;> decide +kernel

/-! ## what `Map` averages -/

/-- what produced the element of `Map.aps` / `Map.aphs` belonging to the pair (label, threshold) -/
def FromPair (tm : TpMetric) (m : Mode) (buckets : List (Label × List (List Res))) (nums : List (Label × Nat))
    (lt : Label × Rat) (a : ApOut) : Prop :=
  ∃ rss G, lookupKey lt.1 buckets = .ok rss ∧ lookupKey lt.1 nums = .ok G ∧
    apOfNested tm m [lt.1] [lt.2] G rss = .ok a

/-- `Map`: the i-th AP is the `Ap` of the i-th target label under the i-th threshold, on the bucket and the ground-truth
count looked up UNDER THAT LABEL; the APHs likewise (3-D) or none (2-D); mAP / mAPH are the means over the defined
entries (`inf` when there is none). -/
theorem map_is_mean_of_label_aps {m : Mode} {is2d : Bool} {T : List Label} {th : List Rat}
    {buckets : List (Label × List (List Res))} {nums : List (Label × Nat)} {o : MapOut}
    (h : mapOf m is2d T th buckets nums = .ok o) :
    List.Forall₂ (FromPair .ap m buckets nums) (T.zip th) o.aps
      ∧ (if is2d = true then o.aphs = [] else List.Forall₂ (FromPair .aph m buckets nums) (T.zip th) o.aphs)
      ∧ o.map = meanDefined (o.aps.map (·.ap)) ∧ o.maph = meanDefined (o.aphs.map (·.ap)) := by
  obtain ⟨hloop, h1, h2⟩ := mapOf_ok_iff.1 h
  have hl := mapLoop_ok_iff.1 hloop
  simp only [apCall_ok_iff] at hl
  exact ⟨hl.1, hl.2, h1, h2⟩

/-- The per-label loop with the labels paired to the thresholds BY POSITION in the result dict (stored change C04_E): the
i-th threshold goes with the i-th entry of the dict handed over as last argument, whatever its key; the count is still read
by that entry's key (the first argument is not read). On a dict keyed in another order than the target labels the i-th AP
is then not the AP of the i-th label, against `map_is_mean_of_label_aps` (`byPosition_violates_label_pairing`). -/
def mapLoopByPosition (m : Mode) (buckets : List (Label × List (List Res))) (nums : List (Label × Nat)) :
    List Rat → List (Label × List (List Res)) → Except Err (List ApOut)
  | [], _ => .ok []
  | _, [] => .ok []
  | t :: ts, (l, rss) :: rest =>
    match lookupKey l nums with
    | .error e => .error e
    | .ok G =>
      match apOfNested .ap m [l] [t] G rss with
      | .error e => .error e
      | .ok a =>
        match mapLoopByPosition m buckets nums ts rest with
        | .error e => .error e
        | .ok as => .ok (a :: as)

/-- targets [car, pedestrian] with thresholds [1, 3], dict keyed [pedestrian, car]; the pedestrian result lies at
distance 2: under the pedestrian threshold 3 it is a TP (AP 1), the positional pairing evaluates it under threshold 1 (AP 0) -/
theorem byPosition_violates_label_pairing :
    let ped : Res := { id := 0, conf := 1, label := 4, gt := some ⟨0, 4⟩, score := .val (some 2), hw := 1, policy := .default }
    let buckets : List (Label × List (List Res)) := [(4, [[ped]]), (2, [[]])]
    let nums : List (Label × Nat) := [(4, 1), (2, 0)]
    (mapOf .centerDistance true [2, 4] [1, 3] buckets nums).toOption.map (fun o => o.aps.map (·.ap)) = some [none, some 1]
      ∧ (mapLoopByPosition .centerDistance buckets nums [1, 3] buckets).toOption.map (fun as => as.map (·.ap))
          = some [some 0, none] := by
  decide +kernel

end PEval.C04
