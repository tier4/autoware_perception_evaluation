import PEval.Properties.C03Core
import PEval.Properties.C03Critical
import PEval.Properties.Pipeline
import PEval.Properties.KernelStatus
import PEval.Properties.C03Eval
/-!
# C03 — per-frame TP/FP/FN/TN accounting conserves objects (root of the property)

The property is stated on four models.  The first takes everything the accounting reads as input; the second and the third
each compute one half of that input and hand the rest to the first; the fourth computes both halves:

* `C03Core.lean`: the pass/fail stage alone (`Model/PassFail.lean`), critical flags and the matcher's pairing as
  inputs, conservation under the decidable hypothesis `MatcherWF`;
* `Pipeline.lean`: matcher → pass/fail → metrics (`Model/Pipeline.lean`, calls `PassFail.evaluateFrame`): `MatcherWF` is what
  C01 proves of the matcher, so the counting theorems hold with no well-formedness hypothesis; TP soundness on the
  pipeline's inputs; the critical flags are still inputs;
* `C03Critical.lean`: the critical flags computed from positions, frame ids and transforms at the TWO filter call
  sites of `evaluate_frame` (`Model/CriticalFrame.lean`, refines into `PassFail`: `critical_refines`), the pairing still an
  input; refuted for the F2-defective wiring;
* `C03Eval.lean`: the whole frame evaluation `FrameChange.evalFrame`, where neither the flags nor the pairing nor
  `labelOk` / `thr` / `score` are inputs.  It goes through `Pipeline.detectFrame`, not through `CriticalFrame`: it has ONE
  critical verdict per ground truth where the code has two call sites.  On it the counting theorems need one hypothesis
  on the input lists (`ObjectsDistinct`); for the code's second call site `GtConfBeats` is needed besides
  (`eval_gt_sites_agree`, `gt_conf_needed_conservation`).
-/
