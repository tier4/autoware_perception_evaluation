import PEval.Lemmas.Manager
import PEval.Properties.C13Tracking
import PEval.Properties.C13Heap
import PEval.Lemmas.ManagerAPLink
import PEval.Properties.C13Scene
import PEval.Properties.C13Reached
import PEval.Properties.C13Labels
/-!
# C13 — scene scores pool the frame results; frame evaluation is history-independent

All statements are about the state machine `PEval.Manager` (`State = {dataset, frameResults}`,
operations `add` / `scene` / `lookup`) and hold for EVERY list of operations, every start state and
every single-frame evaluation `sem` (the abstract `evalDet`/`evalTrack` of the model: the detection
part of a frame evaluation is a function of that frame's ground truth, estimates and configurations;
the tracking part may in addition read the detection part of the immediately preceding stored result).
In this machine frames and estimates are VALUES and `evalDet` cannot read the state, so the first two sections
(`add_preserves_dataset`, `estimates_untouched`, `add_detection_history_free`, …) hold by the shape of the model and say
what the machine is; the statements that can fail — and do for the defective variants — are those about the heap machine
in `Properties/C13Heap.lean`.  The content here is the pooling of the scene scores.

The tracking scores are concrete in the extended machine `PEval.ManagerTracking`; the theorems about it
(per-frame CLEAR against the last stored frame, scene CLEAR over the pooled history, scene counts = sums of
the per-frame counts, renaming invariance) are in `Properties/C13Tracking.lean`, imported here.

After the pooling theorems: the pooled AP does not depend on the order in which frames were added when confidences are
distinct; the pooling theorems transferred to the heap machine (`Properties/C13Heap.lean`: references, explicit writes) and
`Manager.apOf` identified with the AP of `Model/AP.lean`.  Imported along: `C13Scene` / `C13Reached` (the scene score
is `AP.sceneMap` of the stored / of the added frames) and `C13Labels` (what the code does when frame-level and
scene-level target labels differ).

The tie to /repo is the lock-step correspondence run (`harness/props/c13.py`): random operation
sequences on one real `PerceptionEvaluationManager`, with `sem` instantiated by what a FRESH real
manager computes for each `add`.
-/
namespace PEval.C13
open PEval.Manager PEval

variable {E C T : Type}

/-! ## the loaded dataset and the caller's estimates are never modified -/

/-- no sequence of operations changes `dataset` -/
theorem add_preserves_dataset (sem : Sem E C T) (s : State T) (ops : List (Op E C)) :
    (run sem s ops).1.dataset = s.dataset :=
  run_dataset sem s ops

/-- scene queries and look-ups leave the whole state as it is -/
theorem queries_pure (sem : Sem E C T) (s : State T) (ops : List (Op E C))
    (h : ∀ op ∈ ops, op.isQuery = true) : (run sem s ops).1 = s :=
  run_queries sem s ops h

/-- the frame a look-up hands out is one of the dataset's frames (and the dataset is as loaded) -/
theorem lookup_returns_dataset_frame (sem : Sem E C T) (s : State T) (pre : List (Op E C)) (t thr : Int) (f : Frame)
    (h : getGT (run sem s pre).1 t thr = .ok (some f)) : f ∈ s.dataset := by
  have := getGT_mem _ t thr f h
  rwa [run_dataset] at this

/-- The caller's estimate lists are untouched.  Pure by construction: the machine receives the
estimates as values (`World.ests` is only read by `stepW`); that the REAL manager does not mutate the
list object it is given is compared by the harness after every operation. -/
theorem estimates_untouched (sem : Sem E C T) (w : World E T) (ops : List (OpW C)) :
    (runW sem w ops).1.ests = w.ests ∧ (runW sem w ops).1.st.dataset = w.st.dataset := by
  have hstep : ∀ (w : World E T) (op : OpW C),
      (stepW sem w op).1.ests = w.ests ∧ (stepW sem w op).1.st.dataset = w.st.dataset :=
    fun w op => by fun_cases stepW sem w op <;> exact ⟨rfl, rfl⟩
  rw [runW_eq]
  exact runWith_inv (fun w' => w'.ests = w.ests ∧ w'.st.dataset = w.st.dataset)
    (fun w' op _ h => ⟨(hstep w' op).1.trans h.1, (hstep w' op).2.trans h.2⟩) ⟨rfl, rfl⟩

/-! ## frame evaluation is history-independent -/

/-- The detection part of the result of `add(g, e, c)` is `evalDet g e c` whatever operations `pre`
were performed before and whatever the start state — in particular it equals what a fresh manager
(on any dataset `ds`) returns for the same call. -/
theorem add_detection_history_free (sem : Sem E C T) (s : State T) (pre : List (Op E C))
    (g : Frame) (e : E) (c : C) (ds : List Frame) :
    (lastOut sem s (pre ++ [.add g e c])).bind Out.det? = some (sem.evalDet g e c) ∧
    (lastOut sem s (pre ++ [.add g e c])).bind Out.det?
      = (lastOut sem (fresh ds) [.add g e c]).bind Out.det? := by
  rw [lastOut_append_one]
  exact ⟨rfl, rfl⟩

/-- every stored detection part is the fresh evaluation of its own `add`: after any operation list
on a fresh manager, `frame_results` holds exactly the per-call evaluations, in call order -/
theorem stored_detection_history_free (sem : Sem E C T) (ds : List Frame) (ops : List (Op E C)) :
    (run sem (fresh ds) ops).1.frameResults.map (·.det) = addsDet sem ops :=
  run_frameResults_det sem (fresh ds) ops

/-- The tracking part of the result of `add(g, e, c)` depends on the history only through the last
stored result (`frame_results[-1]`), and only through its detection part. -/
theorem add_tracking_depends_on_last_only (sem : Sem E C T) (s : State T) (pre : List (Op E C))
    (g : Frame) (e : E) (c : C) :
    (lastOut sem s (pre ++ [.add g e c])).bind Out.track?
      = some (sem.evalTrack g e c ((run sem s pre).1.frameResults.getLast?.map (·.det))) := by
  rw [lastOut_append_one]
  rfl

/-- two managers whose last stored results agree give the same tracking part -/
theorem add_tracking_same_last (sem : Sem E C T) (s₁ s₂ : State T) (pre₁ pre₂ : List (Op E C))
    (g : Frame) (e : E) (c : C)
    (h : (run sem s₁ pre₁).1.frameResults.getLast?.map (·.det) = (run sem s₂ pre₂).1.frameResults.getLast?.map (·.det)) :
    (lastOut sem s₁ (pre₁ ++ [.add g e c])).bind Out.track?
      = (lastOut sem s₂ (pre₂ ++ [.add g e c])).bind Out.track? := by
  rw [add_tracking_depends_on_last_only, add_tracking_depends_on_last_only, h]

/-- … hence: whatever happened before the previous `add`, and whatever queries were interleaved, the
tracking part equals the one a fresh manager computes from the two calls alone. -/
theorem add_tracking_two_step (sem : Sem E C T) (s : State T) (pre qs : List (Op E C))
    (hq : ∀ op ∈ qs, op.isQuery = true)
    (g₁ g₂ : Frame) (e₁ e₂ : E) (c₁ c₂ : C) (ds : List Frame) :
    (lastOut sem s ((pre ++ [.add g₁ e₁ c₁] ++ qs) ++ [.add g₂ e₂ c₂])).bind Out.track?
      = (lastOut sem (fresh ds) ([.add g₁ e₁ c₁] ++ [.add g₂ e₂ c₂])).bind Out.track? :=
  -- the last stored detection part is `evalDet g₁ e₁ c₁` on both sides: on the fresh manager's by computation
  add_tracking_same_last sem s (fresh ds) _ [.add g₁ e₁ c₁] g₂ e₂ c₂ (run_last_det_add sem s pre qs hq g₁ e₁ c₁)

/-- the first `add` on a manager without history (queries before it do not count) sees no predecessor -/
theorem add_tracking_first (sem : Sem E C T) (ds : List Frame) (qs : List (Op E C))
    (hq : ∀ op ∈ qs, op.isQuery = true) (g : Frame) (e : E) (c : C) :
    (lastOut sem (fresh ds) (qs ++ [.add g e c])).bind Out.track? = some (sem.evalTrack g e c none) := by
  rw [add_tracking_depends_on_last_only, run_queries sem _ qs hq]; rfl

/-! ## scene scores pool the stored frame results -/

/-- ground-truth counts add up over the stored frames (per label) -/
theorem scene_numgt_sum (nl : Nat) (s : State T) (l : Nat) (hl : l < nl) :
    (getSceneResult nl s).gt l = (s.frameResults.map (·.det.gt l)).sum :=
  scene_gt nl s l hl

/-- `MetricsScore.num_ground_truth` of the scene score: the counts of all labels and frames -/
theorem scene_total_numgt (nl : Nat) (s : State T) :
    (getSceneResult nl s).totalGt
      = ((List.range nl).map (fun l => (s.frameResults.map (·.det.gt l)).sum)).sum := by
  unfold Scene.totalGt; rw [scene_numGt_list]

/-- … and after any operation list on a fresh manager they are the sum over the `add`s performed -/
theorem scene_numgt_sum_ops (sem : Sem E C T) (ds : List Frame) (ops : List (Op E C)) (l : Nat)
    (hl : l < sem.nLabels) :
    (getSceneResult sem.nLabels (run sem (fresh ds) ops).1).gt l = ((addsDet sem ops).map (·.gt l)).sum := by
  rw [scene_gt _ _ l hl, map_det (·.gt l), stored_detection_history_free]

/-- The scene score of a label is the score of the pooled per-frame results: the buckets of the
stored frames concatenated in insertion order, with the summed ground-truth count — for ANY score
function `ap` of (result list, number of ground truths). -/
theorem scene_eq_pooled (nl : Nat) (s : State T) (l : Nat) (hl : l < nl) (ap : List Res → Nat → Option Rat) :
    (getSceneResult nl s).score ap l
      = ap (s.frameResults.map (·.det.bucket l)).flatten (s.frameResults.map (·.det.gt l)).sum := by
  rw [scene_score nl s l hl, ← map_det (·.bucket l), ← map_det (·.gt l)]

/-- … and after any operation list on a fresh manager the pool consists of the fresh evaluations of the
`add`s, in call order -/
theorem scene_score_ops (sem : Sem E C T) (ds : List Frame) (ops : List (Op E C)) (l : Nat) (hl : l < sem.nLabels)
    (ap : List Res → Nat → Option Rat) :
    (getSceneResult sem.nLabels (run sem (fresh ds) ops).1).score ap l
      = ap ((addsDet sem ops).map (·.bucket l)).flatten ((addsDet sem ops).map (·.gt l)).sum := by
  rw [scene_score _ _ l hl, stored_detection_history_free]

/-- the same, read off the answer to a `scene` query -/
theorem scene_eq_pooled_ops (sem : Sem E C T) (ds : List Frame) (ops : List (Op E C)) :
    ∃ sc, lastOut sem (fresh ds) (ops ++ [.scene]) = some (.scene sc) ∧
      ∀ l, l < sem.nLabels → ∀ ap : List Res → Nat → Option Rat,
        sc.score ap l = ap ((addsDet sem ops).map (·.bucket l)).flatten ((addsDet sem ops).map (·.gt l)).sum := by
  exact ⟨_, lastOut_append_one sem _ ops .scene, scene_score_ops sem ds ops⟩

/-- a one-frame scene reproduces that frame's detection score (queries may be interleaved) -/
theorem scene_single_frame (sem : Sem E C T) (ds : List Frame) (qs₁ qs₂ : List (Op E C))
    (h₁ : ∀ op ∈ qs₁, op.isQuery = true) (h₂ : ∀ op ∈ qs₂, op.isQuery = true)
    (g : Frame) (e : E) (c : C) (l : Nat) (hl : l < sem.nLabels) (ap : List Res → Nat → Option Rat) :
    (getSceneResult sem.nLabels (run sem (fresh ds) (qs₁ ++ [.add g e c] ++ qs₂)).1).score ap l
      = (sem.evalDet g e c).score ap l := by
  rw [scene_score_ops sem ds _ l hl, addsDet_eq, adds_single h₁ h₂]
  simp [Det.score]

/-! ## pooled AP does not depend on the order in which frames were added (distinct confidences) -/

theorem sort_perm_eq {l₁ l₂ : List Res} (p : l₁.Perm l₂) (hd : DistinctConf l₁) : sortDesc l₁ = sortDesc l₂ :=
  sortDesc_perm_eq p hd

theorem pooled_perm {d₁ d₂ : List Det} (p : d₁.Perm d₂) (l : Nat) :
    ((d₁.map (·.bucket l)).flatten).Perm ((d₂.map (·.bucket l)).flatten) ∧
    (d₁.map (·.gt l)).sum = (d₂.map (·.gt l)).sum :=
  ⟨(p.map _).flatten, (p.map _).sum_nat⟩

/-- If the stored frames of two managers are permutations of each other and the pooled confidences
of label `l` are pairwise distinct, the scene AP of `l` is the same — for the concrete `apOf c` of
every metric column and, generally, for every score that reads the results through the ranking. -/
theorem pooled_ap_perm_invariant (nl : Nat) (s₁ s₂ : State T) (l : Nat) (hl : l < nl)
    (p : (s₁.frameResults.map (·.det)).Perm (s₂.frameResults.map (·.det)))
    (hd : DistinctConf ((getSceneResult nl s₁).pooled l)) :
    (∀ c, (getSceneResult nl s₁).score (apOf c) l = (getSceneResult nl s₂).score (apOf c) l) ∧
    (∀ f : List Res → Nat → Option Rat,
      (getSceneResult nl s₁).score (fun rs n => f (sortDesc rs) n) l
        = (getSceneResult nl s₂).score (fun rs n => f (sortDesc rs) n) l) := by
  obtain ⟨hp, hg⟩ := pooled_perm p l
  rw [scene_pooled nl s₁ l hl, map_det (·.bucket l)] at hd
  -- both kinds of score read the pooled results through the ranking (`apOf c` by definition), which the permutation keeps
  refine ⟨fun c => ?_, fun f => ?_⟩ <;>
    simp only [scene_score nl _ l hl, apOf, hg, sortDesc_perm_eq hp hd]

/-- the same for two operation lists on fresh managers whose `add`s are permutations of each other
(interleaved queries are irrelevant) -/
theorem pooled_ap_perm_invariant_ops (sem : Sem E C T) (ds₁ ds₂ : List Frame) (ops₁ ops₂ : List (Op E C))
    (p : (addsDet sem ops₁).Perm (addsDet sem ops₂)) (l : Nat) (hl : l < sem.nLabels)
    (hd : DistinctConf ((addsDet sem ops₁).map (·.bucket l)).flatten) (c : Nat) :
    (getSceneResult sem.nLabels (run sem (fresh ds₁) ops₁).1).score (apOf c) l
      = (getSceneResult sem.nLabels (run sem (fresh ds₂) ops₂).1).score (apOf c) l := by
  apply (pooled_ap_perm_invariant sem.nLabels _ _ l hl ?_ ?_).1 c
  · rw [stored_detection_history_free, stored_detection_history_free]; exact p
  · rw [scene_pooled _ _ l hl, map_det (·.bucket l), stored_detection_history_free]; exact hd

/-! ## non-vacuity: concrete instances -/

section Examples

def r1 : Res := ⟨1, some 11, 9/10, [1]⟩
def r2 : Res := ⟨2, none, 7/10, [0]⟩
def r3 : Res := ⟨3, some 12, 8/10, [1]⟩
def r4 : Res := ⟨4, some 13, 6/10, [1]⟩
def dA : Det := ⟨[[r1, r2]], [2]⟩
def dB : Det := ⟨[[r3]], [1]⟩
def dC : Det := ⟨[[r4]], [2]⟩

/-- estimates are a key; the evaluation is a table -/
def semEx : Sem Nat Unit Nat where
  nLabels := 1
  evalDet := fun _ e _ => if e = 0 then dA else if e = 1 then dB else dC
  evalTrack := fun _ e _ prev => match prev with
    | none => 0
    | some d => e + 10 * (d.bucket 0).length

def fr0 : Frame := ⟨100, 0, [11, 13]⟩
def fr1 : Frame := ⟨200, 1, [12]⟩
def opsEx : List (Op Nat Unit) := [.lookup 100 75, .add fr0 0 (), .scene, .add fr1 1 (), .add fr0 2 ()]
def opsPerm : List (Op Nat Unit) := [.add fr0 2 (), .add fr0 0 (), .lookup 0 0, .add fr1 1 ()]

-- the hypotheses of `pooled_ap_perm_invariant_ops` hold for a non-trivial permutation …
example : DistinctConf ((addsDet semEx opsEx).map (·.bucket 0)).flatten := by decide +kernel
example : (addsDet semEx opsEx).Perm (addsDet semEx opsPerm) := by
  exact List.perm_append_comm (l₁ := [dA, dB]) (l₂ := [dC])
-- … the pooled lists really differ, the sorted ranking and the AP do not
example : ((addsDet semEx opsEx).map (·.bucket 0)).flatten ≠ ((addsDet semEx opsPerm).map (·.bucket 0)).flatten := by
  decide +kernel
example : (getSceneResult 1 (run semEx (fresh [fr0, fr1]) opsEx).1).score (apOf 0) 0 = some (11/20) := by decide +kernel
example : (getSceneResult 1 (run semEx (fresh [fr0, fr1]) opsPerm).1).score (apOf 0) 0 = some (11/20) := by decide +kernel
-- with a tie the insertion order matters (the hypothesis cannot be dropped)
example : apOf 0 [⟨1, none, 1/2, [0]⟩, ⟨2, some 5, 1/2, [1]⟩] 1 ≠ apOf 0 [⟨2, some 5, 1/2, [1]⟩, ⟨1, none, 1/2, [0]⟩] 1 := by
  decide +kernel
-- GT counts add up, the dataset is as loaded, the look-up finds the frame
example : (getSceneResult 1 (run semEx (fresh [fr0, fr1]) opsEx).1).gt 0 = 5 := by decide +kernel
example : (run semEx (fresh [fr0, fr1]) opsEx).1.dataset = [fr0, fr1] := rfl
example : getGT (fresh (T := Nat) [fr0, fr1]) 160 75 = .ok (some fr1) := by decide +kernel
example : getGT (fresh (T := Nat) [fr0, fr1]) 300 75 = .ok none := by decide +kernel
-- the tracking part sees the previous add only
example : (lastOut semEx (fresh [fr0, fr1]) opsEx).bind Out.track? = some 12 := by decide +kernel

end Examples

/-! ## transfer: the pooling theorems hold of the heap machine; the concrete AP is the AP of `Model/AP.lean`

`Properties/C13Heap.lean` proves that the heap machine of /repo (`ManagerHeap.hrun`: references, explicit
writes) refines `Manager.run` with the tracking part forgotten (`toSem`).  Through `heap_refines_manager` /
`heap_scene_eq_manager_scene` the theorems above about the dataset, the detection part and the scene score are theorems
about the heap machine (its tracking part has its own theorems in `C13Heap.lean`); the pooling statement is spelled out.
`Lemmas/ManagerAPLink.lean` proves that `Manager.apOf` (the transcription of `ap.py` used in
`pooled_ap_perm_invariant`) computes the `ap` of `AP.apOf` (the model of properties C04/C08). -/

section Transfer
open PEval.ManagerHeap

/-- Scene pooling on the heap machine: after any list of valid operations on a fresh manager the answer
to a scene query pools, per label, the PURE evaluations (`pureDet`: filters, matcher and scores applied to
the values the references held in the original store) of the `add`s performed, in call order, with the
summed ground-truth counts — although `get_scene_result` re-reads the ground-truth frame of every stored
result through its reference at query time. -/
theorem heap_scene_eq_pooled_ops {Est OR C' T' : Type} (sem : HSem Est OR C' T') (hl : LabelsAgree sem)
    (h : Heap Est) (ds : List Ref) (hv : DatasetValid h ds) (ops : List (HOp C'))
    (hops : ∀ op ∈ ops, op.validIn h) :
    ∃ sc, hlastOut sem (hfresh h ds) (ops ++ [.scene]) = some (.scene sc) ∧
      ∀ l, l < sem.nLabels → ∀ ap : List Res → Nat → Option Rat,
        sc.score ap l = ap ((addsDet (toSem sem) (ops.map (absOp h))).map (·.bucket l)).flatten
          ((addsDet (toSem sem) (ops.map (absOp h))).map (·.gt l)).sum := by
  exact ⟨_, heap_scene_eq_manager_scene sem hl h ds hv ops hops,
    scene_score_ops (toSem sem) (ds.map h.frame) (ops.map (absOp h))⟩

/-- `Manager.apOf` IS the AP of the detection-metrics model: on the translation of a result list of
`Model/AP.lean` (TP column = the weight `AP.classify` gives the result) it returns `Ap.ap` of
`AP.apOf` — for every metric, mode, label list, threshold list and ground-truth count. -/
theorem manager_apOf_eq_AP_apOf {tm : AP.TpMetric} {m : AP.Mode} {Tl : List AP.Label} {th : List Rat} {G : Nat}
    {rs : List AP.Res} {a : AP.ApOut} (h : AP.apOf tm m Tl th G rs = .ok a) :
    Manager.apOf 0 (rs.map (ofAP (tpWeight tm m Tl th))) G = a.ap :=
  apOf_eq_AP_apOf h

/-- `Ap.__init__` reads its results through the ranking (and an order-free test): on two pools that are permutations
of each other with pairwise distinct confidences it computes the same, errors included -/
theorem real_ap_perm (tm : AP.TpMetric) (m : AP.Mode) (Tl : List AP.Label) (th : List Rat) (G : Nat)
    {rs₁ rs₂ : List AP.Res} (p : rs₁.Perm rs₂) (hd : rs₁.Pairwise (fun a b => a.conf ≠ b.conf)) :
    AP.apOf tm m Tl th G rs₁ = AP.apOf tm m Tl th G rs₂ := by
  unfold AP.apOf
  rw [AP.sortDesc_perm_eq _ p hd, p.any_eq]

/-- order-independence of the pooled AP for the REAL `Ap` (`AP.apOf`: sort, classify, interpolate): two
pools that are permutations of each other (frames added in another order) with pairwise distinct
confidences have the same AP / APH -/
theorem pooled_real_ap_perm_invariant {tm : AP.TpMetric} {m : AP.Mode} {Tl : List AP.Label} {th : List Rat} {G : Nat}
    {rs₁ rs₂ : List AP.Res} (p : rs₁.Perm rs₂) (hd : rs₁.Pairwise (fun a b => a.conf ≠ b.conf))
    {a₁ a₂ : AP.ApOut} (h₁ : AP.apOf tm m Tl th G rs₁ = .ok a₁) (h₂ : AP.apOf tm m Tl th G rs₂ = .ok a₂) :
    a₁.ap = a₂.ap := by
  rw [real_ap_perm tm m Tl th G p hd, h₂] at h₁
  cases h₁; rfl

-- non-vacuity: a permuted pool with distinct confidences (TP, FP, unmatched), and its AP
example : ([⟨1, 3, 2, some ⟨7, 2⟩, .val (some 0), 1, .default⟩, ⟨2, 2, 2, some ⟨8, 2⟩, .val (some 5), 1, .default⟩,
      ⟨3, 1, 2, none, .val none, 1, .default⟩] : List AP.Res).Pairwise (fun a b => a.conf ≠ b.conf) := by
  decide +kernel
example : (AP.apOf .ap .centerDistance [2] [1] 2
      [⟨3, 1, 2, none, .val none, 1, .default⟩, ⟨1, 3, 2, some ⟨7, 2⟩, .val (some 0), 1, .default⟩,
       ⟨2, 2, 2, some ⟨8, 2⟩, .val (some 5), 1, .default⟩]).toOption.map (·.ap)
    = (AP.apOf .ap .centerDistance [2] [1] 2
      [⟨1, 3, 2, some ⟨7, 2⟩, .val (some 0), 1, .default⟩, ⟨2, 2, 2, some ⟨8, 2⟩, .val (some 5), 1, .default⟩,
       ⟨3, 1, 2, none, .val none, 1, .default⟩]).toOption.map (·.ap) := by
  decide +kernel

end Transfer

end PEval.C13
