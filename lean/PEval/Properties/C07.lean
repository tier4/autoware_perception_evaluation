import PEval.Lemmas.FrameChange
import PEval.Lemmas.FrameEval
import PEval.Properties.C06
import PEval.Properties.C09
import PEval.Properties.C10
/-!
# C07 — evaluation results do not depend on the coordinate frame of the objects

For every scene and every ego pose (unit yaw rotation, any translation): what the evaluation reads
from a map-frame rendering with the ego pose supplied equals what it reads from the ego-frame
rendering — ego-relative positions (hence every range-filter decision, `filter_toMap`),
the whole per-pair score row (center distance, plane distance, BEV/3-D IoU, heading weight, yaw error)
and therefore the whole score table (`scoreTable_toMap`; `downstream_frame_free` is the congruence for any
function of table and positions).  Object identity (`__eq__`, `in`) is frame-free because a unit motion is
injective (`samePose_toMap`, `containsPose_toMap`).  With heights of objects and ego, every criterion of both
filters keeps the same objects (`kept_toMap`).  End to end: the composed whole-frame model `evalFrame` — both
filters, score table, matcher, pass/fail, AP/APH, CLEAR inputs — returns the same result for the map rendering
(`evalFrame_toMap`, histories: `clear_toMap`, `tracking_toMap`), and does not for three defective map branches.
IoU invariance is proved for the exact reference clipper (shapely is validated against it, C06).
-/
namespace PEval.C07
open PEval.Geometry PEval.Heading PEval.FrameChange

/-! ## positions: map → ego undoes ego → map -/

theorem egoPos_toMap (e : Pose) (h : e.rot.IsUnit) (o : Obj) :
    egoPosMap e (o.toMap e) = egoPosEgo o := by
  unfold egoPosMap egoPosEgo Obj.toMap
  have : (o.box.move e.motion).center2 = e.motion.apply2 o.box.center2 := rfl
  rw [this, toEgo2_apply2 e h]

/-- every decision taken on the ego-relative position (x/y box, distance ring, any predicate) is the
same in both renderings -/
theorem position_decision_frame_free {α} (P : V2 → α) (e : Pose) (h : e.rot.IsUnit) (o : Obj) :
    P (egoPosMap e (o.toMap e)) = P (egoPosEgo o) := by rw [egoPos_toMap e h]

/-- the range filter of C10 (transcribed `_is_target_object`) keeps the same objects in both renderings -/
theorem filter_toMap (P : Filter.Params) (os : List Filter.Obj) (e : Filter.Pose)
    (he : e.c * e.c + e.s * e.s = 1) (h : ∀ o ∈ os, o.frame = "base_link" ∧ o.pos ≠ none) :
    Filter.filterObjects { P with hasTransforms := true } (os.map (Filter.renderMap e)) =
      (Filter.filterObjects P os).map (List.map (Filter.renderMap e)) :=
  C10.filter_frame_invariant P os e he h

/-! ## per-pair scores -/

theorem centerDist2_toMap (e : Pose) (h : e.rot.IsUnit) (a g : Obj) :
    centerDist2 (a.toMap e).box (g.toMap e).box = centerDist2 a.box g.box :=
  C06.centerDist2_rigid_invariant e.motion h a.box g.box

/-- plane distance: the corners are ranked by their distance from the ego in both renderings and the
corner distances are preserved by the rigid motion -/
theorem planeDist2_toMap (e : Pose) (h : e.rot.IsUnit) (a g : Obj) :
    planeDist2Map e (a.toMap e).box (g.toMap e).box = planeDist2 a.box g.box :=
  planeDist2Keys_move (m := e.motion) h (fun p => by rw [toEgo2_apply2 e h]) a.box g.box

theorem iou_toMap (e : Pose) (h : e.rot.IsUnit) (a g : Obj) :
    boxIou2d (interArea (footprint (a.toMap e).box) (footprint (g.toMap e).box)) (a.toMap e).box (g.toMap e).box
        = boxIou2d (interArea (footprint a.box) (footprint g.box)) a.box g.box ∧
    boxIou3d (interArea (footprint (a.toMap e).box) (footprint (g.toMap e).box)) (a.toMap e).box (g.toMap e).box
        = boxIou3d (interArea (footprint a.box) (footprint g.box)) a.box g.box :=
  C06.clipIou_rigid_invariant e.motion h a.box g.box

theorem aphWeight_toMap (e : Pose) (he : InDom e.tau) (a g : Obj) (ha : InDom a.tau) (hg : InDom g.tau) :
    aphWeight (a.toMap e).tau (g.toMap e).tau = aphWeight a.tau g.tau :=
  C09.frame_invariant he ha hg

/-- the yaw error agrees, except exactly at opposite headings (d = π) where only its sign may flip -/
theorem headingError_toMap (e : Pose) (he : InDom e.tau) (a g : Obj) (ha : InDom a.tau) (hg : InDom g.tau) :
    headingError (a.toMap e).tau (g.toMap e).tau = headingError a.tau g.tau ∨
      (circDist a.tau g.tau = 1 ∧ headingError (a.toMap e).tau (g.toMap e).tau = -headingError a.tau g.tau) :=
  C09.headingError_frame_invariant he ha hg

/-- the whole score row of a pair, away from exactly opposite headings -/
theorem scoreRow_toMap (e : Pose) (h : e.rot.IsUnit) (he : InDom e.tau) (a g : Obj)
    (ha : InDom a.tau) (hg : InDom g.tau) (hopp : circDist a.tau g.tau ≠ 1) :
    scoreRowMap e (a.toMap e) (g.toMap e) = scoreRowEgo a g := by
  have h1 := centerDist2_toMap e h a g
  have h2 := planeDist2_toMap e h a g
  have h3 := iou_toMap e h a g
  have h4 := aphWeight_toMap e he a g ha hg
  have h5 := (headingError_toMap e he a g ha hg).resolve_right fun hd => hopp hd.1
  simp only [scoreRowMap, scoreRowEgo, h1, h2, h3.1, h3.2, h4, h5]

/-- … and without any side condition for everything except the sign of the yaw error -/
theorem scoreRow_toMap_decisions (e : Pose) (h : e.rot.IsUnit) (he : InDom e.tau) (a g : Obj)
    (ha : InDom a.tau) (hg : InDom g.tau) :
    let m := scoreRowMap e (a.toMap e) (g.toMap e)
    let b := scoreRowEgo a g
    m.center2 = b.center2 ∧ m.plane2 = b.plane2 ∧ m.iou2d = b.iou2d ∧ m.iou3d = b.iou3d ∧ m.aph = b.aph ∧
      (m.yawErr = b.yawErr ∨ m.yawErr = -b.yawErr) := by
  exact ⟨centerDist2_toMap e h a g, planeDist2_toMap e h a g, (iou_toMap e h a g).1, (iou_toMap e h a g).2,
    aphWeight_toMap e he a g ha hg, (headingError_toMap e he a g ha hg).imp_right And.right⟩

/-! ## whole scenes -/

theorem scoreTable_toMap (e : Pose) (h : e.rot.IsUnit) (he : InDom e.tau) (ests gts : List Obj)
    (hd : ∀ o ∈ ests ++ gts, InDom o.tau)
    (hopp : ∀ a ∈ ests, ∀ g ∈ gts, circDist a.tau g.tau ≠ 1) :
    tableMap e (ests.map (Obj.toMap e)) (gts.map (Obj.toMap e)) = tableEgo ests gts :=
  table_congr (Obj.toMap e) scoreRowEgo (scoreRowMap e) ests gts fun a ha g hg =>
    scoreRow_toMap e h he a g (hd a (List.mem_append_left _ ha)) (hd g (List.mem_append_right _ hg)) (hopp a ha g hg)

/-- ANY function `F` of the score table and the ego-relative positions gives the same result in both
renderings (a congruence; that matching, pass/fail, AP/APH and CLEAR are such functions is not part of this
statement — `evalFrame_toMap` below is the theorem about the real stages) -/
theorem downstream_frame_free {β} (F : List (List ScoreRow) → List V2 → List V2 → β)
    (e : Pose) (h : e.rot.IsUnit) (he : InDom e.tau) (ests gts : List Obj)
    (hd : ∀ o ∈ ests ++ gts, InDom o.tau)
    (hopp : ∀ a ∈ ests, ∀ g ∈ gts, circDist a.tau g.tau ≠ 1) :
    F (tableMap e (ests.map (Obj.toMap e)) (gts.map (Obj.toMap e)))
        ((ests.map (Obj.toMap e)).map (egoPosMap e)) ((gts.map (Obj.toMap e)).map (egoPosMap e))
      = F (tableEgo ests gts) (ests.map egoPosEgo) (gts.map egoPosEgo) := by
  rw [scoreTable_toMap e h he ests gts hd hopp]
  have hp : ∀ l : List Obj, (l.map (Obj.toMap e)).map (egoPosMap e) = l.map egoPosEgo := fun l =>
    List.map_map.trans (List.map_congr_left fun o _ => egoPos_toMap e h o)
  rw [hp ests, hp gts]

/-! ## object identity

`DynamicObject.__eq__` compares positions and orientations exactly (plus the frame-free time stamp and
label). A rigid motion with a unit rotation is injective, so two objects are equal in the map
rendering exactly when they are equal in the ego rendering — whatever the magnitude of the ego
translation and however close two distinct objects stand. Hence every decision taken through `==`,
`in` or `list.remove` on objects (`get_negative_objects`: which unmatched ground truths become FN / TN)
is the same in both renderings. -/

theorem samePose_toMap (e : Pose) (h : e.rot.IsUnit) (a b : Obj) :
    (a.toMap e).samePose (b.toMap e) = a.samePose b := by
  rw [Bool.eq_iff_iff, samePose_iff, samePose_iff]
  exact and_congr ⟨apply3_injective e h, congrArg e.motion.apply3⟩ ⟨rot_mul_injective e.rot h, congrArg e.rot.mul⟩

theorem containsPose_toMap (e : Pose) (h : e.rot.IsUnit) (os : List Obj) (o : Obj) :
    containsPose (os.map (Obj.toMap e)) (o.toMap e) = containsPose os o := by
  unfold containsPose
  rw [List.any_map]
  congr 1
  funext x
  exact samePose_toMap e h o x

theorem sameTable_toMap (e : Pose) (h : e.rot.IsUnit) (os : List Obj) :
    sameTable (os.map (Obj.toMap e)) = sameTable os :=
  table_congr (Obj.toMap e) Obj.samePose Obj.samePose os os fun a _ b _ => samePose_toMap e h a b

/-- distinct objects stay distinct: in particular two ground truths a millimetre apart, 10^6 m from
the map origin -/
theorem distinct_toMap (e : Pose) (h : e.rot.IsUnit) (a b : Obj) (hab : a.samePose b = false) :
    (a.toMap e).samePose (b.toMap e) = false := by
  rw [samePose_toMap e h]; exact hab

/-! ## full 3-D content and every filter criterion

Objects and ego have heights (`z` offsets of several metres, ego `z ≠ 0`). The inverse transform gives
back the whole ego-relative position (`egoPos3_toMap`); the ring filter reads its planar norm only, so
the BEV distance of the map rendering is the BEV distance of the ego rendering and depends on no height
(`bevDist2_toMap`, `bevDist2_height_free`). Every criterion of `_is_target_object` — target labels,
ignored attributes, confidence, x/y box, distance ring, minimum point count, target uuids — reads either
a frame-free attribute or that planar position: the evaluation config's filter followed by the critical
object filter keeps the same objects in both renderings of any 3-D scene (`kept_toMap`). -/

theorem egoPos3_toMap (e : Pose) (h : e.rot.IsUnit) (o : Obj) :
    toEgo3 e (o.toMap e).box.center = o.box.center :=
  toEgo3_apply3 e h o.box.center

/-- `get_distance_bev(transforms)` of the map rendering = `get_distance_bev()` of the ego rendering -/
theorem bevDist2_toMap (e : Pose) (h : e.rot.IsUnit) (o : Obj) :
    bevDist2Map e (o.toMap e) = bevDist2Ego o := by
  unfold bevDist2Map bevDist2Ego
  simp only
  rw [egoPos3_toMap e h]

/-- the BEV distance sees neither the height of the object nor the height of the ego -/
theorem bevDist2_height_free (e : Pose) (o : Obj) (z tz : Rat) :
    bevDist2Map { e with t := ⟨e.t.x, e.t.y, tz⟩ }
        { o with box := { o.box with center := ⟨o.box.center.x, o.box.center.y, z⟩ } } = bevDist2Map e o := by
  rfl

/-- two filters in a row commute with rendering a BASE_LINK scene into the MAP frame -/
theorem filter2_renderMap (Pm Pc : Filter.Params) (os : List Filter.Obj) (e : Filter.Pose)
    (he : e.c * e.c + e.s * e.s = 1) (h : ∀ o ∈ os, o.frame = "base_link" ∧ o.pos ≠ none) :
    filter2 { Pm with hasTransforms := true } { Pc with hasTransforms := true } (os.map (Filter.renderMap e)) =
      (filter2 { Pm with hasTransforms := true } { Pc with hasTransforms := true } os).map
        (List.map (Filter.renderMap e)) := by
  unfold filter2
  rw [C10.filter_frame_invariant { Pm with hasTransforms := true } os e he h]
  cases hk : Filter.filterObjects { Pm with hasTransforms := true } os with
  | error err => rfl
  | ok ks =>
    exact C10.filter_frame_invariant { Pc with hasTransforms := true } ks e he
      fun o ho => h o ((Filter.filterE_sublist hk).subset ho)

/-- the ground truths (or estimates) that survive the evaluation config's filter and the critical object
filter are the same in both renderings of a 3-D scene: for every ego pose (unit yaw, any translation
including height), all heights of the objects, and every configuration of the criteria -/
theorem kept_toMap (e : Pose) (h : e.rot.IsUnit) (Pm Pc : Filter.Params) (os : List Tagged) :
    keptMap e Pm Pc (os.map (Tagged.toMap e)) = keptEgo Pm Pc os := by
  unfold keptMap keptEgo
  have hm : (os.map (Tagged.toMap e)).map (filterViewMap e)
      = (os.map filterViewEgo).map (Filter.renderMap e.planar) := by
    rw [List.map_map, List.map_map]
    exact List.map_congr_left fun t _ => filterView_toMap e t
  have hb : ∀ o ∈ os.map filterViewEgo, o.frame = "base_link" ∧ o.pos ≠ none :=
    List.forall_mem_map.2 fun t _ => ⟨rfl, Option.some_ne_none _⟩
  rw [hm, filter2_renderMap Pm Pc _ e.planar h hb]
  unfold idsOf
  cases filter2 { Pm with hasTransforms := true } { Pc with hasTransforms := true } (os.map filterViewEgo) with
  | error err => rfl
  | ok ks =>
    simp only [Except.map, List.map_map]
    rfl

/-! ## non-vacuity: a concrete pose and pair -/

def exPose : Pose := { rot := ⟨3/5, 4/5⟩, tau := 59/200, t := ⟨1000, -2000, 0⟩ }
def exEst : Obj := { box := { center := ⟨10, 1, 0⟩, rot := ⟨4/5, 3/5⟩, w := 2, l := 4, h := 3/2 }, tau := 41/200 }
def exGt : Obj := { box := { center := ⟨21/2, 1/2, 0⟩, rot := ⟨1, 0⟩, w := 2, l := 9/2, h := 3/2 }, tau := 0 }

example : exPose.rot.IsUnit := by unfold Rot2.IsUnit exPose; norm_num
example : InDom exPose.tau ∧ InDom exEst.tau ∧ InDom exGt.tau := by decide +kernel
example : circDist exEst.tau exGt.tau ≠ 1 := by decide +kernel
example : scoreRowMap exPose (exEst.toMap exPose) (exGt.toMap exPose) = scoreRowEgo exEst exGt := by
  decide +kernel
example : (exEst.toMap exPose).box.center ≠ exEst.box.center := by decide +kernel

/-- twins 1/1024 m apart (same orientation, height), ego 10^6 m from the map origin -/
def exFar : Pose := { rot := ⟨3/5, 4/5⟩, tau := 59/200, t := ⟨1000000 + 1/4, -(987654 + 1/2), 0⟩ }
def exTwinA : Obj := { box := { center := ⟨12, 3, 0⟩, rot := ⟨4/5, 3/5⟩, w := 3/5, l := 3/5, h := 17/10 }, tau := 41/200 }
def exTwinB : Obj := { exTwinA with box := { exTwinA.box with center := ⟨12 + 1/1024, 3, 0⟩ } }
example : exFar.rot.IsUnit := by unfold Rot2.IsUnit exFar; norm_num
example : exTwinA.samePose exTwinB = false ∧ (exTwinA.toMap exFar).samePose (exTwinB.toMap exFar) = false ∧
    (exTwinA.toMap exFar).samePose (exTwinA.toMap exFar) = true := by decide +kernel
example : containsPose ([exTwinA].map (Obj.toMap exFar)) (exTwinB.toMap exFar) = false := by decide +kernel

/-- an overpass: a car 6.7 m from the ego in bird's-eye view and 7 m above it; the ego itself 37.5 m above
the map origin. The ring filter (min 8 m) removes the car in both renderings although its 3-D distance
(9.7 m) is outside the ring; an x/y box with a minimum point count removes the sparse ground truth
(3 points < 5) in both renderings. -/
def exHigh : Pose := { rot := ⟨3/5, 4/5⟩, tau := 59/200, t := ⟨1000, -2000, 75/2⟩ }
def exOver : Obj := { box := { center := ⟨6, 3, 7⟩, rot := ⟨1, 0⟩, w := 2, l := 9/2, h := 3/2 }, tau := 0 }
def exTag (i : Nat) (pc : Int) : Tag :=
  { id := i, label := "AutowareLabel.CAR", name := "car", attributes := [], score := 1, pcNum := some pc, uuid := some "u" }
def exRing : Filter.Params :=
  { isGt := true, targets := some ["AutowareLabel.CAR"], ignoreAttrs := none, maxX := none, maxY := none,
    maxDist := some [60], minDist := some [8], conf := none, minPts := some [0], uuids := none, hasTransforms := true }
def exBox : Filter.Params :=
  { exRing with maxX := some [60], maxY := some [40], maxDist := none, minDist := none, minPts := some [5] }
def exScene : List Tagged := [⟨exTag 0 10, exOver⟩, ⟨exTag 1 3, exGt⟩, ⟨exTag 2 5, exEst⟩]

example : exHigh.rot.IsUnit := by unfold Rot2.IsUnit exHigh; norm_num
example : (exOver.toMap exHigh).box.center.z = 89/2 := by decide +kernel
example : bevDist2Map exHigh (exOver.toMap exHigh) = 45 ∧
    norm3sq (toEgo3 exHigh (exOver.toMap exHigh).box.center) = 94 ∧
    Filter.distGt 45 8 = false ∧ Filter.distGt 94 8 = true := by decide +kernel
example : keptMap exHigh exRing exRing (exScene.map (Tagged.toMap exHigh)) = .ok [1, 2] ∧
    keptEgo exRing exRing exScene = .ok [1, 2] := by decide +kernel
example : keptMap exHigh exBox exBox (exScene.map (Tagged.toMap exHigh)) = .ok [0, 2] ∧
    keptEgo exBox exBox exScene = .ok [0, 2] := by decide +kernel

/-! ## end to end: the whole frame, and histories of frames

`FrameChange.evalFrame` (Model/FrameEval.lean) is `add_frame_result` + `evaluate_frame` on a frame as given:
manager filter → score table → `Matching.getObjectResults` → critical filter, `__eq__` classes →
`Pipeline.detectFrame` (per-label `Map`s = `AP.frameMap`, `PassFail.evaluateFrame`) → CLEAR inputs, with the
reader chosen by the objects' frame id.  `evalFrame_toMap`: expressing all objects of a `BASE_LINK` frame in
the map frame (any unit yaw, any translation incl. height) and supplying the transform changes NOTHING of the
result — kept sets of both filters, score table, matcher result, TP / FP / TN / FN lists, AP / APH / mAP /
mAPH, CLEAR inputs; the same exception if one is raised.  `clear_toMap` / `tracking_toMap`: over a history in
which every frame has its own ego pose, the CLEAR fold (TP weight, FP, ID switches, score sum) and the
per-label MOTA / MOTP / switch numbers with their sums agree.  The statement is FALSE for the three defective
map branches `readerMapJ` / `readerMapG` / `readerMapE` (`evalFrame_toMap_fails_J`, `…_G`, `…_E`). -/

/-- every score of a pair except the sign of the yaw error, without side condition -/
theorem scoreRow_unsigned_toMap (e : Pose) (h : e.rot.IsUnit) (he : InDom e.tau) (a g : Obj)
    (ha : InDom a.tau) (hg : InDom g.tau) :
    (scoreRowMap e (a.toMap e) (g.toMap e)).unsigned = (scoreRowEgo a g).unsigned := by
  obtain ⟨h1, h2, h3, h4, h5, h6⟩ := scoreRow_toMap_decisions e h he a g ha hg
  unfold ScoreRow.unsigned
  simp only [ScoreRow.mk.injEq]
  refine ⟨h1, h2, h3, h4, h5, ?_⟩
  rcases h6 with h6 | h6
  · rw [h6]
  · rw [h6, rabs_neg]

/-- the whole score table (all estimates × all ground truths, yaw error unsigned), without the
"no exactly opposite pair" condition of `scoreTable_toMap` -/
theorem scoreTable_unsigned_toMap (e : Pose) (h : e.rot.IsUnit) (he : InDom e.tau) (ests gts : List SObj)
    (hd : ∀ o ∈ ests ++ gts, InDom o.obj.tau) :
    tableOf (readerMap e) (ests.map (SObj.toMap e)) (gts.map (SObj.toMap e)) = tableOf readerEgo ests gts :=
  tableOf_congr readerEgo (readerMap e) (SObj.toMap e) ests gts (fun a ha g hg =>
    scoreRow_unsigned_toMap e h he a.obj g.obj (hd a (List.mem_append_left _ ha))
      (hd g (List.mem_append_right _ hg)))

/-- hypotheses on a recorded frame and its ego pose: unit yaw rotation (any translation, any height), all
yaws principal values, objects recorded in `BASE_LINK` -/
def FrameOK (e : Pose) (f : SFrame) : Prop :=
  e.rot.IsUnit ∧ InDom e.tau ∧ f.frameId = .baseLink ∧ ∀ o ∈ f.ests ++ f.gts, InDom o.obj.tau

/-- **C07, one frame**: the evaluation of the map rendering (transform supplied) equals the evaluation of the
ego rendering, for every configuration of both filters, the matcher, pass/fail, the metrics -/
theorem evalFrame_toMap (C : EvalCfg) (e : Pose) (f : SFrame) (hok : FrameOK e f) :
    evalFrame C (f.toMap e) = evalFrame C f := by
  obtain ⟨h, he, hf, hd⟩ := hok
  unfold evalFrame
  have hr : f.reader = readerEgo := by unfold SFrame.reader; rw [hf]
  rw [hr]
  show evalWith (readerMap e) C (f.ests.map (SObj.toMap e)) (f.gts.map (SObj.toMap e)) = _
  apply evalWith_congr readerEgo (readerMap e) C (SObj.toMap e) f.ests f.gts (fun _ => rfl)
  · intro P o _
    exact verdict_toMap e h P o
  · intro a ha g hg
    exact scoreRow_unsigned_toMap e h he a.obj g.obj (hd a (List.mem_append_left _ ha))
      (hd g (List.mem_append_right _ hg))
  · intro a _ b _
    exact samePose_toMap e h a.obj b.obj

/-- spelled out: components of the two results (not all: `gtLabels` is left out; `evalFrame_toMap` gives `m = b`) -/
theorem evalFrame_toMap_components (C : EvalCfg) (e : Pose) (f : SFrame) (hok : FrameOK e f)
    (m b : FrameOut) (hm : evalFrame C (f.toMap e) = .ok m) (hb : evalFrame C f = .ok b) :
    m.keptEst = b.keptEst ∧ m.keptGt = b.keptGt ∧ m.critEst = b.critEst ∧ m.critGt = b.critGt ∧
    m.table = b.table ∧ m.same = b.same ∧ m.out.matched = b.out.matched ∧
    m.out.pf.tp = b.out.pf.tp ∧ m.out.pf.fp = b.out.pf.fp ∧ m.out.pf.tn = b.out.pf.tn ∧ m.out.pf.fn = b.out.pf.fn ∧
    m.out.maps = b.out.maps ∧ m.tracks = b.tracks := by
  rw [evalFrame_toMap C e f hok, hb] at hm
  cases hm
  simp

/-- what `out.matched` is: `Matching.getObjectResults` on the scene whose values are the entries of the
result's own score table and the frame id of the rendering; that `aE`, `aG` are the attributes of the objects
the manager filter kept is said by `FrameChange.evalWith_trace` only -/
theorem evalFrame_matched (C : EvalCfg) (f : SFrame) (o : FrameOut) (h : evalFrame C f = .ok o) :
    ∃ aE aG : List Attr, aE.map (·.tag.id) = o.keptEst ∧ aG.map (·.tag.id) = o.keptGt ∧
      Matching.getObjectResults C.matcher
        (mkFrame C f.reader.frame aE aG o.critEst o.critGt o.table (eqKeys o.same)).scene = .ok o.out.matched ∧
      Pipeline.detectFrame (mkFrame C f.reader.frame aE aG o.critEst o.critGt o.table (eqKeys o.same)) = .ok o.out := by
  obtain ⟨kE, kG, _, _, _, _, hkE, hkG, _, _, hdet, hres⟩ := evalWith_trace h
  exact ⟨_, _, hkE.symm, hkG.symm, hres, hdet⟩

theorem evalHistory_toMap (C : EvalCfg) (hist : List (Pose × SFrame)) (hok : ∀ p ∈ hist, FrameOK p.1 p.2) :
    evalHistory C (histToMap hist) = evalHistory C (histEgo hist) := by
  unfold evalHistory histToMap histEgo
  rw [mapE_map (f := fun p : Pose × SFrame => evalFrame C p.2) (g := evalFrame C)
        (r := fun p : Pose × SFrame => p.2.toMap p.1) (fun p hp => evalFrame_toMap C p.1 p.2 (hok p hp)),
      mapE_map (f := fun p : Pose × SFrame => evalFrame C p.2) (g := evalFrame C)
        (r := fun p : Pose × SFrame => p.2) (fun _ _ => rfl)]

/-- **C07, histories**: the CLEAR fold over the frames (TP weight, FP, ID switches, score sum) -/
theorem clear_toMap (C : EvalCfg) (hist : List (Pose × SFrame)) (hok : ∀ p ∈ hist, FrameOK p.1 p.2) :
    clearOf C (histToMap hist) = clearOf C (histEgo hist) := by
  unfold clearOf
  rw [evalHistory_toMap C hist hok]

/-- … and the tracking score of the scene: per target label MOTA, MOTP, ID switches, and their sums -/
theorem tracking_toMap (C : EvalCfg) (hist : List (Pose × SFrame)) (hok : ∀ p ∈ hist, FrameOK p.1 p.2) :
    trackingOf C (histToMap hist) = trackingOf C (histEgo hist) := by
  unfold trackingOf
  rw [evalHistory_toMap C hist hok]

/-! ### a concrete frame: the overpass scene with estimates, both filters, matcher, metrics

Ground truths: the car on the overpass (id 0, 6.7 m away in bird's-eye view, 7 m up), a sparse car (id 1,
3 points), a car (id 2).  Estimates: one near each.  Ring filter 8 m … 60 m, or x/y box with at least 5 points. -/

def exAttr (i : Nat) (pc : Int) : Attr :=
  { tag := exTag i pc, mlabel := "car", alabel := 2, uid := 100 + i, stamp := 7 }
def exEstAttr (i : Nat) (c : Rat) : Attr :=
  { tag := { exTag i 0 with score := c, pcNum := none, uuid := none }, mlabel := "car", alabel := 2, uid := 200 + i, stamp := 7 }
def exOverEst : Obj := { exOver with box := { exOver.box with center := ⟨25/4, 3, 7⟩ } }
def exGt2 : Obj := { box := { center := ⟨-12, 5, 1/2⟩, rot := ⟨0, 1⟩, w := 2, l := 4, h := 3/2 }, tau := 1/2 }
def exEst2 : Obj := { exGt2 with box := { exGt2.box with center := ⟨-12, 21/4, 1/2⟩ } }

def exFrame : SFrame :=
  { frameId := .baseLink, pose := exHigh
    ests := [⟨exEstAttr 10 (9/10), exOverEst⟩, ⟨exEstAttr 11 (4/5), exEst⟩, ⟨exEstAttr 12 (7/10), exEst2⟩]
    gts := [⟨exAttr 0 10, exOver⟩, ⟨exAttr 1 3, exGt⟩, ⟨exAttr 2 5, exGt2⟩] }

def exCfg (flt : Filter.Params) : EvalCfg :=
  { mgr := flt, crit := flt
    matcher := { policy := .default, mode := .centerDistance, targets := some ["car"], thresholds := some [4],
                 fpValidation := false }
    dist := id, pfTargets := [2], pfThrs := some [4], critTargets := [2], mapTargets := [2]
    maps := [⟨.centerDistance, [1]⟩], trackMode := .centerDistance, trackTargets := [(2, 1)] }

theorem exFrame_ok : FrameOK exHigh exFrame :=
  ⟨by unfold Rot2.IsUnit exHigh; norm_num, by decide +kernel, rfl, by decide +kernel⟩

example : FrameOK exHigh exFrame := exFrame_ok

/-- instance of `evalFrame_toMap`, ring filter: the overpass pair is removed in both renderings, two pairs are
matched and counted TP -/
def exRingSummary : Summary :=
  { keptEst := [11, 12], keptGt := [1, 2], matched := [(1, some 1), (0, some 0)], tp := [12, 11], fp := [],
    tn := [], fn := [], maps := [(some 1, some (128881/160000))] }

example : (evalFrame (exCfg exRing) (exFrame.toMap exHigh)).map FrameOut.summary = .ok exRingSummary ∧
    (evalFrame (exCfg exRing) exFrame).map FrameOut.summary = .ok exRingSummary := by
  decide +kernel

/-- two results with different digests are different (the digest has decidable equality, `FrameOut` has not) -/
theorem differ_of_summary {a b : Except Err FrameOut}
    (h : a.map FrameOut.summary ≠ b.map FrameOut.summary) : ¬ a = b :=
  fun e => h (congrArg _ e)

/-- the statement of `evalFrame_toMap` FAILS for the map branch that takes the 3-D norm for the distance ring
(seed C07_J): the overpass pair (9.7 m in 3-D) passes the 8 m ring in the map rendering only -/
theorem evalFrame_toMap_fails_J :
    ¬ (evalFrameV readerMapJ (exCfg exRing) (exFrame.toMap exHigh) = evalFrameV readerMapJ (exCfg exRing) exFrame) :=
  differ_of_summary (by decide +kernel)

example : (evalFrameV readerMapJ (exCfg exRing) (exFrame.toMap exHigh)).map (fun o => (o.summary.keptGt, o.summary.tp))
      = .ok ([0, 1, 2], [10, 12, 11]) ∧
    (evalFrameV readerMapJ (exCfg exRing) exFrame).map (fun o => (o.summary.keptGt, o.summary.tp)) = .ok ([1, 2], [12, 11]) := by
  decide +kernel

/-- … and for the map branch that skips the point-count criterion when no distance bound is configured
(seed C07_G): the sparse ground truth (3 points < 5) survives in the map rendering only -/
theorem evalFrame_toMap_fails_G :
    ¬ (evalFrameV readerMapG (exCfg exBox) (exFrame.toMap exHigh) = evalFrameV readerMapG (exCfg exBox) exFrame) :=
  differ_of_summary (by decide +kernel)

example : (evalFrameV readerMapG (exCfg exBox) (exFrame.toMap exHigh)).map (fun o => (o.summary.keptGt, o.summary.tp))
      = .ok ([0, 1, 2], [10, 12, 11]) ∧
    (evalFrameV readerMapG (exCfg exBox) exFrame).map (fun o => (o.summary.keptGt, o.summary.tp)) = .ok ([0, 2], [10, 12]) ∧
    (evalFrame (exCfg exBox) (exFrame.toMap exHigh)).map (fun o => (o.summary.keptGt, o.summary.tp)) = .ok ([0, 2], [10, 12]) := by
  decide +kernel

/-- … and for a map branch whose `__eq__` has a relative tolerance: twin ground truths 1/1024 m apart, 10⁶ m
from the map origin, one of them matched.  The unmatched twin is FN in the ego rendering; in the map rendering it
"is in" the list of matched ground truths and is counted nowhere.  (`samePose_toMap` is what rules this out.) -/
def exTwinFrame : SFrame :=
  { frameId := .baseLink, pose := exFar
    ests := [⟨exEstAttr 10 (9/10), exTwinA⟩]
    gts := [⟨exAttr 0 10, exTwinA⟩, ⟨exAttr 1 10, exTwinB⟩] }

example : FrameOK exFar exTwinFrame :=
  ⟨by unfold Rot2.IsUnit exFar; norm_num, by decide +kernel, rfl, by decide +kernel⟩

theorem evalFrame_toMap_fails_E :
    ¬ (evalFrameV readerMapE (exCfg exBox) (exTwinFrame.toMap exFar) = evalFrameV readerMapE (exCfg exBox) exTwinFrame) :=
  differ_of_summary (by decide +kernel)

example : (evalFrameV readerMapE (exCfg exBox) (exTwinFrame.toMap exFar)).map (fun o => (o.summary.tp, o.summary.fn)) = .ok ([10], []) ∧
    (evalFrameV readerMapE (exCfg exBox) exTwinFrame).map (fun o => (o.summary.tp, o.summary.fn)) = .ok ([10], [1]) ∧
    (evalFrame (exCfg exBox) (exTwinFrame.toMap exFar)).map (fun o => (o.summary.tp, o.summary.fn)) = .ok ([10], [1]) := by
  decide +kernel

/-- with the real readers the variants' dispatch is `evalFrame` -/
example (C : EvalCfg) (f : SFrame) : evalFrameV readerMap C f = evalFrame C f := by
  unfold evalFrameV evalFrame SFrame.reader
  cases f.frameId <;> rfl

/-- a history of two frames with different ego poses: the second frame swaps the uuids of two estimates, so
CLEAR counts ID switches; the fold agrees (instance of `clear_toMap`) and is not trivial -/
def exFrame2 : SFrame :=
  { exFrame with
    ests := [⟨exEstAttr 10 (9/10), exOverEst⟩, ⟨{ exEstAttr 12 (4/5) with uid := 212 }, exEst⟩,
             ⟨{ exEstAttr 11 (7/10) with uid := 211 }, exEst2⟩] }
def exHist : List (Pose × SFrame) := [(exHigh, exFrame), (exFar, exFrame2)]

example : ∀ p ∈ exHist, FrameOK p.1 p.2 :=
  List.forall_mem_cons.2 ⟨exFrame_ok, List.forall_mem_singleton.2
    ⟨by unfold Rot2.IsUnit exFar; norm_num, by decide +kernel, rfl, by decide +kernel⟩⟩

example : clearOf (exCfg exRing) (histToMap exHist) = .ok ⟨4, 0, 2, 9/8⟩ ∧
    clearOf (exCfg exRing) (histEgo exHist) = .ok ⟨4, 0, 2, 9/8⟩ := by
  decide +kernel

end PEval.C07
