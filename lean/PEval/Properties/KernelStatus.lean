import PEval.Lemmas.MatchKernelsDT
import PEval.Lemmas.PassFail
import PEval.Gen.KStatus
/-!
# Decision tables of `is_label_correct`, `is_result_correct`, `get_status` (serve C03, C08)

`PEval.Gen.K.labelCorrect / resultCorrect / status .tree`: the REAL methods of `DynamicObjectWithPerceptionResult` run
on a symbolic result (ground truth possibly `None`, the four matching attributes possibly `None`, their values possibly
`None`, label compatibility one atom, threshold possibly `None`) for every member of `MatchingMode`; the real
`is_better_than` of the attribute's class runs inside. Results: Boolean / rejected / the pair of statuses.

What the table checks fix and what they leave open. C03: "A TP always has a label-compatible ground truth whose pass/fail score beats the threshold configured
for that ground truth's label"; C08: "a result that is a TP at some matching threshold is still a TP at every looser
threshold (larger distance, smaller IoU)". Neither text says what the kernels do with an IoU threshold outside [0, 1]
(today `is_better_than` asserts; a maintainer may validate in `get_status`, elsewhere, or not at all), so the per-run
obligations of `is_result_correct` and `get_status` are stated for the valuations avoiding `forbIoU`; in-quantifier
predicate `thrOk m thr` (no threshold, or one on the mode's scale; `valAP_consistent`). The pass/fail model (plane
distance) is inside for every threshold (`valPF_consistent`). `is_label_correct` reads no threshold: fixed for every input.

The `*_eq_skeleton` theorems give the bridges of `Lemmas/MatchKernelsDT.lean` this module's name: the `THEOREMS` lists of
`harness/props/` name them here.
-/
namespace PEval.KernelStatus
open PEval PEval.DT PEval.MatchKernels

/-- the per-run obligations: the tables are regenerated from the source on every run and these checks are evaluated again -/
theorem labelCorrect_table_check : tableOk [] Gen.K.labelCorrect.tree labelCorrectTree = true := by decide +kernel
theorem resultCorrect_table_check : tableOk forbIoU Gen.K.resultCorrect.tree resultCorrectTree = true := by decide +kernel
theorem status_table_check : tableOk forbIoU Gen.K.status.tree statusTree = true := by decide +kernel

theorem labelCorrect_code_table_eq_model : ∀ t, Gen.K.labelCorrect.tree = some t → ∀ v : Val, eval t v = labelCorrectAtoms v :=
  fun t ht v => tableOk_sound labelCorrect_table_check t ht v (consistent_nil v)
theorem resultCorrect_code_table_eq_model : ∀ t, Gen.K.resultCorrect.tree = some t →
    ∀ v : Val, consistent forbIoU v = true → eval t v = resultCorrectAtoms v :=
  fun t ht v hv => tableOk_sound resultCorrect_table_check t ht v hv
theorem status_code_table_eq_model : ∀ t, Gen.K.status.tree = some t →
    ∀ v : Val, consistent forbIoU v = true → eval t v = statusAtoms v :=
  fun t ht v hv => tableOk_sound status_table_check t ht v hv

/-- bridges (all inputs): the metrics model (`PEval.AP`, four modes, method possibly absent) -/
theorem resultCorrect_eq_skeleton (m : AP.Mode) (thr : Option Rat) (r : AP.Res) :
    resultCorrectAtoms (valAP m thr r) = ofBool (AP.isResultCorrect m thr r) := resultCorrect_bridge_AP m thr r
theorem status_eq_skeleton (m : AP.Mode) (thr : Option Rat) (r : AP.Res) :
    statusAtoms (valAP m thr r) = ofStatusAP (AP.getStatus m thr r) := status_bridge_AP m thr r
/-- bridges (all inputs): the pass/fail model (`PEval.PassFail`, plane distance) -/
theorem resultCorrect_eq_skeleton_passfail (r : PassFail.Res) :
    resultCorrectAtoms (valPF r) = .ret (PassFail.isResultCorrect r) := resultCorrect_bridge_PF r
theorem status_eq_skeleton_passfail (r : PassFail.Res) :
    statusAtoms (valPF r) = .other (statusCodePF (PassFail.getStatus r)) := status_bridge_PF r

/-- the CODE's tables at the atoms of a concrete result give the models' verdicts -/
theorem labelCorrect_code_table_eq_isLabelCorrect :
    ∀ t, Gen.K.labelCorrect.tree = some t → ∀ (m : AP.Mode) (thr : Option Rat) (r : AP.Res),
      eval t (valAP m thr r) = .ret (AP.isLabelCorrect r) :=
  fun t ht m thr r => (labelCorrect_code_table_eq_model t ht _).trans (labelCorrect_bridge_AP m thr r)

theorem resultCorrect_code_table_eq_isResultCorrect :
    ∀ t, Gen.K.resultCorrect.tree = some t → ∀ (m : AP.Mode) (thr : Option Rat) (r : AP.Res), thrOk m thr →
      eval t (valAP m thr r) = ofBool (AP.isResultCorrect m thr r) :=
  fun t ht m thr r hv => (resultCorrect_code_table_eq_model t ht _ (valAP_consistent m thr r hv)).trans (resultCorrect_bridge_AP m thr r)

theorem status_code_table_eq_getStatus :
    ∀ t, Gen.K.status.tree = some t → ∀ (m : AP.Mode) (thr : Option Rat) (r : AP.Res), thrOk m thr →
      eval t (valAP m thr r) = ofStatusAP (AP.getStatus m thr r) :=
  fun t ht m thr r hv => (status_code_table_eq_model t ht _ (valAP_consistent m thr r hv)).trans (status_bridge_AP m thr r)

theorem resultCorrect_code_table_eq_passfail :
    ∀ t, Gen.K.resultCorrect.tree = some t → ∀ r : PassFail.Res, eval t (valPF r) = .ret (PassFail.isResultCorrect r) :=
  fun t ht r => (resultCorrect_code_table_eq_model t ht _ (valPF_consistent r)).trans (resultCorrect_bridge_PF r)

theorem status_code_table_eq_passfail :
    ∀ t, Gen.K.status.tree = some t → ∀ r : PassFail.Res,
      eval t (valPF r) = .other (statusCodePF (PassFail.getStatus r)) :=
  fun t ht r => (status_code_table_eq_model t ht _ (valPF_consistent r)).trans (status_bridge_PF r)

/-- for the code's table (C03): when the table answers (TP, TP) the result has a ground truth that is not FP-labelled, the
label is compatible and (there is no threshold or) the score beats it -/
theorem table_status_tp_sound {t : DTree} (ht : Gen.K.status.tree = some t) (r : PassFail.Res)
    (h : eval t (valPF r) = .other sTpTp) :
    ∃ g, r.gt = some g ∧ g.isFP = false ∧ r.labelOk = true ∧
      (r.thr = none ∨ ∃ x s, r.thr = some x ∧ r.score = some s ∧ s < x) := by
  rw [status_code_table_eq_passfail t ht] at h
  -- of the five kinds of result only the correct one on an ordinary ground truth carries the code of (TP, TP)
  rcases PassFail.getStatus_cases r with ⟨_, hs⟩ | ⟨g, hg, ⟨hf, hc, _⟩ | ⟨_, _, hs⟩ | ⟨_, _, hs⟩ | ⟨_, _, hs⟩⟩
  · rw [hs] at h; cases h
  · exact ⟨g, hg, hf, (PassFail.isResultCorrect_ordinary hg hf).1 hc⟩
  all_goals rw [hs] at h; cases h

/-- for the code's table (C03): a result without ground truth is (FP, None) -/
theorem table_status_no_gt {t : DTree} (ht : Gen.K.status.tree = some t) (r : PassFail.Res) (h : r.gt = none) :
    eval t (valPF r) = .other sFpNone := by
  rw [status_code_table_eq_passfail t ht]; simp [PassFail.getStatus, h, statusCodePF]

/-- non-vacuity: what the table says on two concrete results (that it exists on an unchanged tree:
`Properties/TablesPresent.lean`) -/
example : ∀ t, Gen.K.status.tree = some t →
    eval t (valPF { est := 0, estCrit := true, gt := some ⟨0, false, true, 0⟩, labelOk := true, thr := some 2, score := some 1 })
      = .other sTpTp
    ∧ eval t (valPF { est := 0, estCrit := true, gt := some ⟨0, false, true, 0⟩, labelOk := true, thr := some 1, score := some 1 })
      = .other sFpFn := by
  intro t ht
  simp only [status_code_table_eq_passfail t ht]
  decide +kernel

/-- non-vacuity of the in-quantifier predicate `thrOk` and of the restricted corollaries: an IoU result at threshold 1/2 -/
example : ∀ t, Gen.K.status.tree = some t →
    eval t (valAP .iou3d (some (1/2)) { id := 0, conf := 1, label := 2, gt := some ⟨0, 2⟩, score := .val (some (3/4)), hw := 1, policy := .default })
      = .other sTpTp := by
  intro t ht
  rw [status_code_table_eq_getStatus t ht _ _ _ (thrOk_some (by decide +kernel))]
  decide +kernel

end PEval.KernelStatus
