import PEval.Lemmas.ManagerHeap
/-!
# C13 on the heap model — non-mutation and history-independence as statements that can fail

`PEval/Model/ManagerHeap.lean`: the manager's store holds a cell per `FrameGroundTruth` instance and per
estimate list; `add_frame_result` receives REFERENCES and performs the assignments of
`_filter_objects` / `evaluate_frame` as writes into the store.  `hrun` is the repaired code of /repo
(`copy(frame_ground_truth)` before the first assignment), `hrunV .f5` the same code without that copy
(defect F5: the assignments go into the frame that was handed in), `hrunV .estInPlace` a variant that
writes the filtered estimates back into the caller's list.

The theorems below are about `hrun`, for every choice of the pure parts `sem`.  `heap_cells_unchanged` and
`estimates_deref_unchanged` hold for EVERY start state (any store, any dataset references, any history) and every
operation list (adds with arbitrary — also dangling — references, scene queries, look-ups); the others name what they
need: dataset references that exist (`DatasetValid`), operations whose references exist (`validIn`, `h1 … h4`), stored
results whose cells still hold what they were scored with (`Good`), one label list at both levels (`LabelsAgree`).  The
`example`s at the end show that each of them is FALSE for the defective variants on a concrete two-add instance, i.e.
that the model can express the defect class the property is about.
-/
namespace PEval.C13
open PEval.Manager PEval.ManagerHeap PEval

variable {Est OR C T : Type}

/-! ## the loaded dataset and the caller's estimate lists are not modified -/

/-- No run of the repaired code changes a cell that existed before the run: every frame cell keeps its
content (all fields, in particular `.objects`), the estimate-list cells are the same, and
`ground_truth_frames` holds the same references.  (New cells — the private copies — are appended.) -/
theorem heap_cells_unchanged (sem : HSem Est OR C T) (s : HState Est OR T) (ops : List (HOp C)) :
    (∀ r, r < s.heap.frames.length → (hrun sem s ops).1.heap.frames[r]? = s.heap.frames[r]?) ∧
    (hrun sem s ops).1.heap.ests = s.heap.ests ∧
    (hrun sem s ops).1.dataset = s.dataset :=
  ⟨fun _ hr => (hrun_ext sem s ops).getElem? hr, (hrun_ext sem s ops).2, hrunV_dataset _ sem s ops⟩

/-- … hence `deref` of every dataset reference is unchanged after any run: the loaded dataset, read
through the manager's references, is what it was. -/
theorem dataset_deref_unchanged (sem : HSem Est OR C T) (s : HState Est OR T) (ops : List (HOp C))
    (hv : DatasetValid s.heap s.dataset) :
    (∀ r ∈ s.dataset, (hrun sem s ops).1.heap.frame r = s.heap.frame r) ∧
    (hrun sem s ops).1.dataset.map (hrun sem s ops).1.heap.frame = s.dataset.map s.heap.frame := by
  have hx := hrun_ext sem s ops
  refine ⟨fun r hr => hx.frame (hv r hr), ?_⟩
  rw [hrunV_dataset]
  exact List.map_congr_left (fun r hr => hx.frame (hv r hr))

/-- `deref` of every estimate-list reference the caller holds is unchanged after any run -/
theorem estimates_deref_unchanged (sem : HSem Est OR C T) (s : HState Est OR T) (ops : List (HOp C)) (er : Ref) :
    (hrun sem s ops).1.heap.est er = s.heap.est er :=
  (hrun_ext sem s ops).est er

/-- the ground-truth frame a stored result holds is never written after its `add`: in a good state
(`Good`: every stored result's cell holds the ground truths it was scored with) every run of valid
operations ends in a good state — this is what makes `get_scene_result`, which dereferences those
frames at query time, add up the counts of add time.  Neither validity is used: `ManagerHeap.hrun_good` -/
theorem stored_results_stay_good (sem : HSem Est OR C T) (hl : LabelsAgree sem) (s : HState Est OR T)
    (ops : List (HOp C)) (hg : Good sem s) (hv : DatasetValid s.heap s.dataset)
    (hops : ∀ op ∈ ops, op.validIn s.heap) : Good sem (hrun sem s ops).1 :=
  hrun_good sem hl s ops hg

/-! ## frame evaluation is history-independent -/

/-- what the detection side of an `add` answers: frame name, filtered object results, detection view -/
def viewOf (o : HOut OR T) : Option (Nat × List OR × Det) :=
  o.added?.map (fun r => (r.frameName, r.objectResults, r.det))

/-- The result of `add(<fr>, <er>, c)` issued after ANY operations `pre` on a manager in ANY state `s`
is the pure evaluation of the values the two references held before `pre` — and therefore equals what a
fresh manager over the same dataset (same store, no history) answers to the same call. -/
theorem add_detection_history_free_heap (sem : HSem Est OR C T) (s : HState Est OR T) (pre : List (HOp C))
    (fr er : Ref) (c : C) (h1 : fr < s.heap.frames.length) (h2 : er < s.heap.ests.length) :
    (hlastOut sem s (pre ++ [.add fr er c])).bind viewOf
      = some ((s.heap.frame fr).name, pureORs sem c (s.heap.frame fr) (s.heap.est er),
              pureDet sem c (s.heap.frame fr) (s.heap.est er)) ∧
    (hlastOut sem s (pre ++ [.add fr er c])).bind viewOf
      = (hlastOut sem (hfresh s.heap s.dataset) [.add fr er c]).bind viewOf := by
  rw [hlastOut_add sem s pre fr er c ⟨h1, h2⟩]
  refine ⟨rfl, ?_⟩
  rw [← List.nil_append [HOp.add fr er c], hlastOut_add sem (hfresh s.heap s.dataset) [] fr er c ⟨h1, h2⟩]
  rfl

/-- "a deterministic function of that frame's ground truth, estimates and configurations": two calls on
two managers (different stores, different histories) whose references hold the same VALUES answer the
same -/
theorem add_same_values_same_result (sem : HSem Est OR C T) (s₁ s₂ : HState Est OR T) (pre₁ pre₂ : List (HOp C))
    (fr₁ er₁ fr₂ er₂ : Ref) (c : C)
    (h1 : fr₁ < s₁.heap.frames.length) (h2 : er₁ < s₁.heap.ests.length)
    (h3 : fr₂ < s₂.heap.frames.length) (h4 : er₂ < s₂.heap.ests.length)
    (hf : s₁.heap.frame fr₁ = s₂.heap.frame fr₂) (he : s₁.heap.est er₁ = s₂.heap.est er₂) :
    (hlastOut sem s₁ (pre₁ ++ [.add fr₁ er₁ c])).bind viewOf
      = (hlastOut sem s₂ (pre₂ ++ [.add fr₂ er₂ c])).bind viewOf := by
  rw [(add_detection_history_free_heap sem s₁ pre₁ fr₁ er₁ c h1 h2).1,
    (add_detection_history_free_heap sem s₂ pre₂ fr₂ er₂ c h3 h4).1, hf, he]

/-- The tracking part depends on the history only through the object results of the LAST stored
result (`frame_results[-1].object_results`). -/
theorem add_tracking_last_only_heap (sem : HSem Est OR C T) (s : HState Est OR T) (pre : List (HOp C))
    (fr er : Ref) (c : C) (h1 : fr < s.heap.frames.length) (h2 : er < s.heap.ests.length) :
    (hlastOut sem s (pre ++ [.add fr er c])).bind HOut.track?
      = some (sem.trackOf c (pureORs sem c (s.heap.frame fr) (s.heap.est er)) (pureGts sem c (s.heap.frame fr))
          ((hrun sem s pre).1.frameResults.getLast?.map (·.objectResults))) := by
  rw [hlastOut_add sem s pre fr er c ⟨h1, h2⟩]
  rfl

/-- two managers whose last stored results hold the same object results give the same tracking part -/
theorem add_tracking_same_last_heap (sem : HSem Est OR C T) (s₁ s₂ : HState Est OR T) (pre₁ pre₂ : List (HOp C))
    (fr₁ er₁ fr₂ er₂ : Ref) (c : C)
    (h1 : fr₁ < s₁.heap.frames.length) (h2 : er₁ < s₁.heap.ests.length)
    (h3 : fr₂ < s₂.heap.frames.length) (h4 : er₂ < s₂.heap.ests.length)
    (hf : s₁.heap.frame fr₁ = s₂.heap.frame fr₂) (he : s₁.heap.est er₁ = s₂.heap.est er₂)
    (hlast : (hrun sem s₁ pre₁).1.frameResults.getLast?.map (·.objectResults)
      = (hrun sem s₂ pre₂).1.frameResults.getLast?.map (·.objectResults)) :
    (hlastOut sem s₁ (pre₁ ++ [.add fr₁ er₁ c])).bind HOut.track?
      = (hlastOut sem s₂ (pre₂ ++ [.add fr₂ er₂ c])).bind HOut.track? := by
  rw [add_tracking_last_only_heap sem s₁ pre₁ fr₁ er₁ c h1 h2, add_tracking_last_only_heap sem s₂ pre₂ fr₂ er₂ c h3 h4,
    hf, he, hlast]

/-- the object results of the last stored result after `… add(fr, er, c), queries` -/
theorem last_object_results_after_add (sem : HSem Est OR C T) (s : HState Est OR T) (pre qs : List (HOp C))
    (hq : ∀ op ∈ qs, op.isQuery = true) (fr er : Ref) (c : C)
    (h1 : fr < s.heap.frames.length) (h2 : er < s.heap.ests.length) :
    (hrun sem s (pre ++ [.add fr er c] ++ qs)).1.frameResults.getLast?.map (·.objectResults)
      = some (pureORs sem c (s.heap.frame fr) (s.heap.est er)) := by
  rw [hrun, hrunV_eq, runWith_snoc_fixed fun s q h => hstepV_query _ sem s q (hq q h), ← hrunV_eq]
  have hx := hrun_ext sem s pre
  rw [show hstepV .fixed sem = hstep sem from rfl, hstep_add sem _ fr er c (hx.valid ⟨h1, h2⟩)]
  simp [addState, addResult, hx.frame h1, hx.est er]

/-- … hence: whatever happened before the previous `add`, and whatever queries were interleaved, the
tracking part equals the one a fresh manager over the same dataset computes from the two calls alone -/
theorem add_tracking_two_step_heap (sem : HSem Est OR C T) (s : HState Est OR T) (pre qs : List (HOp C))
    (hq : ∀ op ∈ qs, op.isQuery = true) (fr₁ er₁ fr₂ er₂ : Ref) (c₁ c₂ : C)
    (h1 : fr₁ < s.heap.frames.length) (h2 : er₁ < s.heap.ests.length)
    (h3 : fr₂ < s.heap.frames.length) (h4 : er₂ < s.heap.ests.length) :
    (hlastOut sem s ((pre ++ [.add fr₁ er₁ c₁] ++ qs) ++ [.add fr₂ er₂ c₂])).bind HOut.track?
      = (hlastOut sem (hfresh s.heap s.dataset) (([] ++ [.add fr₁ er₁ c₁] ++ []) ++ [.add fr₂ er₂ c₂])).bind HOut.track? := by
  apply add_tracking_same_last_heap sem s (hfresh s.heap s.dataset) _ _ fr₂ er₂ fr₂ er₂ c₂ h3 h4 h3 h4 rfl rfl
  rw [last_object_results_after_add sem s pre qs hq fr₁ er₁ c₁ h1 h2,
    last_object_results_after_add sem (hfresh s.heap s.dataset) [] [] (by simp) fr₁ er₁ c₁ h1 h2]
  rfl

/-- the first `add` of a manager without history sees no predecessor -/
theorem add_tracking_first_heap (sem : HSem Est OR C T) (h : Heap Est) (ds : List Ref) (qs : List (HOp C))
    (hq : ∀ op ∈ qs, op.isQuery = true) (fr er : Ref) (c : C)
    (h1 : fr < h.frames.length) (h2 : er < h.ests.length) :
    (hlastOut sem (hfresh h ds) (qs ++ [.add fr er c])).bind HOut.track?
      = some (sem.trackOf c (pureORs sem c (h.frame fr) (h.est er)) (pureGts sem c (h.frame fr)) none) := by
  rw [add_tracking_last_only_heap sem (hfresh h ds) qs fr er c h1 h2]
  simp only [hrun, hrunV_queries _ sem _ qs hq]
  rfl

/-! ## refinement: the heap machine of /repo refines the state-free machine `PEval.Manager` (tracking part forgotten) -/

/-- Dereferencing commutes with running: on a store `h` whose dataset references exist, every list of
operations naming existing cells drives the heap machine and the state-free machine (`Manager.run` with
`toSem sem`, started on the dereferenced dataset, fed the operations with their references replaced by
the values `h` holds) through corresponding states and answers.  (`LabelsAgree`: frame-level and
scene-level divisions use the same target labels.)  The theorems of `Properties/C13.lean` about the dataset, the
detection part and the scene score therefore hold of the heap machine; `toSem` forgets the tracking part, whose history
independence is proved directly above. -/
theorem heap_refines_manager (sem : HSem Est OR C T) (hl : LabelsAgree sem) (h : Heap Est) (ds : List Ref)
    (hv : DatasetValid h ds) (ops : List (HOp C)) (hops : ∀ op ∈ ops, op.validIn h) :
    absState (hrun sem (hfresh h ds) ops).1
      = (run (toSem sem) (fresh (ds.map h.frame)) (ops.map (absOp h))).1 ∧
    (hrun sem (hfresh h ds) ops).2.map (absOut h)
      = (run (toSem sem) (fresh (ds.map h.frame)) (ops.map (absOp h))).2 :=
  hrun_sim sem hl h (hfresh h ds) ops (Ext.refl _) (fun _ hr => nomatch hr) hv hops

/-- the same from any good state (a manager with history) -/
theorem heap_refines_manager_from (sem : HSem Est OR C T) (hl : LabelsAgree sem) (s : HState Est OR T)
    (hg : Good sem s) (hv : DatasetValid s.heap s.dataset) (ops : List (HOp C))
    (hops : ∀ op ∈ ops, op.validIn s.heap) :
    absState (hrun sem s ops).1 = (run (toSem sem) (absState s) (ops.map (absOp s.heap))).1 ∧
    (hrun sem s ops).2.map (absOut s.heap) = (run (toSem sem) (absState s) (ops.map (absOp s.heap))).2 :=
  hrun_sim sem hl s.heap s ops (Ext.refl _) hg hv hops

/-- the scene accumulators after a valid run on a fresh manager, without the query: the reached state corresponds to the
state-free one (`heap_refines_manager`) and is `Good` (`hrun_good`), on which the two `get_scene_result`s agree (`hscene_eq`) -/
theorem hscene_after_run (sem : HSem Est OR C T) (hl : LabelsAgree sem) (h : Heap Est) (ds : List Ref)
    (hv : DatasetValid h ds) (ops : List (HOp C)) (hops : ∀ op ∈ ops, op.validIn h) :
    hgetSceneResult sem (hrun sem (hfresh h ds) ops).1
      = getSceneResult sem.nLabels (run (toSem sem) (fresh (ds.map h.frame)) (ops.map (absOp h))).1 :=
  (hscene_eq sem _ (hrun_good sem hl (hfresh h ds) ops fun _ hr => nomatch hr)).trans
    (congrArg _ (heap_refines_manager sem hl h ds hv ops hops).1)

/-- the scene accumulators of the heap machine (ground-truth frames dereferenced at query time) after
any valid run on a fresh manager are those of the state-free machine -/
theorem heap_scene_eq_manager_scene (sem : HSem Est OR C T) (hl : LabelsAgree sem) (h : Heap Est) (ds : List Ref)
    (hv : DatasetValid h ds) (ops : List (HOp C)) (hops : ∀ op ∈ ops, op.validIn h) :
    hlastOut sem (hfresh h ds) (ops ++ [.scene])
      = some (.scene (getSceneResult sem.nLabels (run (toSem sem) (fresh (ds.map h.frame)) (ops.map (absOp h))).1)) := by
  rw [hlastOut_scene, hscene_after_run sem hl h ds hv ops hops]

/-! ## non-vacuity, and the defective variants

Store: two dataset frames (`[11, 13]` at time 100, `[12]` at time 200) and one estimate list
`[1, 2, 150]`.  The manager filter drops estimate ids ≥ 100; the critical filter `true` ("narrow") drops
ground truth 13 and the results matched with it, `false` ("wide") keeps everything; the matcher pairs
the i-th estimate with the i-th ground truth; one label; tracking "score" = number of current results
+ 10 × number of results of the predecessor. -/

section Examples

def toRes (o : Nat × Option Nat) : Res := ⟨o.1, o.2, (o.1 : Rat), [if o.2.isSome then 1 else 0]⟩

def exSem : HSem Nat (Nat × Option Nat) Bool Nat where
  nLabels := 1
  filterEst := fun _ es => es.filter (· < 100)
  filterGt := fun _ gs => gs
  matchObjs := fun _ es gs => es.zipIdx.map (fun ei => (ei.1, gs[ei.2]?))
  critRes := fun c _ ors => if c then ors.filter (fun o => o.2 != some 13) else ors
  critGt := fun c _ gs => if c then gs.filter (· != 13) else gs
  detOf := fun _ ors gs => ⟨[ors.map toRes], [gs.length]⟩
  bucketsOf := fun ors => [ors.map toRes]
  numGtOf := fun gs => [gs.length]
  trackOf := fun _ ors _ prev => ors.length + 10 * (prev.map List.length).getD 0

def exHeap : Heap Nat := { frames := [⟨100, 0, [11, 13]⟩, ⟨200, 1, [12]⟩], ests := [[1, 2, 150]] }
def exS0 : HState Nat (Nat × Option Nat) Nat := hfresh exHeap [0, 1]
def exOps : List (HOp Bool) := [.lookup 100 75, .add 0 0 true, .scene, .add 1 0 false, .add 0 0 false, .scene]

-- the hypotheses of the theorems above hold on this instance
example : LabelsAgree exSem := fun _ _ _ => rfl
theorem exValid : DatasetValid exHeap [0, 1] := by
  intro r hr
  simp only [List.mem_cons, List.not_mem_nil, or_false] at hr
  rcases hr with rfl | rfl <;> decide
example : ∀ op ∈ exOps, op.validIn exHeap := by
  intro op hop
  simp only [exOps, List.mem_cons, List.not_mem_nil, or_false] at hop
  rcases hop with rfl | rfl | rfl | rfl | rfl | rfl <;> simp [HOp.validIn, exHeap]

-- REPAIRED code: the run allocates three private copies, the dataset cells keep their objects …
example : (hrun exSem exS0 exOps).1.heap.frames
    = [⟨100, 0, [11, 13]⟩, ⟨200, 1, [12]⟩, ⟨100, 0, [11]⟩, ⟨200, 1, [12]⟩, ⟨100, 0, [11, 13]⟩] := by decide +kernel
example : (hrun exSem exS0 exOps).1.heap.ests = [[1, 2, 150]] := by decide +kernel
-- … the wide evaluation of frame 0 after the narrow one sees both ground truths, as on a fresh manager
example : (hlastOut exSem exS0 [.add 0 0 true, .add 0 0 false]).bind viewOf
    = (hlastOut exSem exS0 [.add 0 0 false]).bind viewOf := by decide +kernel
example : ((hlastOut exSem exS0 [.add 0 0 true, .add 0 0 false]).bind HOut.det?).map (·.numGt) = some [2] := by
  decide +kernel
-- … and the scene after narrow + wide counts 1 + 2 ground truths
example : ((hlastOut exSem exS0 [.add 0 0 true, .add 0 0 false, .scene]).map
    (fun o => match o with | .scene sc => sc.numGt | _ => [])) = some [3] := by decide +kernel
-- the tracking part sees the predecessor only: 2 current results + 10 × 1 result of the narrow add
example : (hlastOut exSem exS0 [.add 1 0 false, .add 0 0 true, .scene, .add 0 0 false]).bind HOut.track? = some 12 := by
  decide +kernel
-- a dangling reference is rejected and changes nothing
example : (hrun exSem exS0 [.add 7 0 true]).1 = exS0 := by decide +kernel

/-! ### defect F5 re-introduced: every clause fails -/

-- `heap_cells_unchanged` / `dataset_deref_unchanged` FAIL: one narrow add removes object 13 from the dataset
example : (hrunV .f5 exSem exS0 [.add 0 0 true]).1.heap.frame 0 = ⟨100, 0, [11]⟩ := by decide +kernel
example : ¬ (∀ (s : HState Nat (Nat × Option Nat) Nat) (ops : List (HOp Bool)), DatasetValid s.heap s.dataset →
    (hrunV .f5 exSem s ops).1.dataset.map (hrunV .f5 exSem s ops).1.heap.frame = s.dataset.map s.heap.frame) := by
  intro h
  have := h exS0 [.add 0 0 true] exValid
  revert this
  decide +kernel
-- … a later look-up hands out the narrowed frame
example : ((hlastOutV .f5 exSem exS0 [.add 0 0 true, .lookup 100 75]).map
    (fun o => match o with
      | .frame (.ok (some r)) => ((hrunV .f5 exSem exS0 [.add 0 0 true, .lookup 100 75]).1.heap.frame r).objects
      | _ => [])) = some [11] := by decide +kernel
-- `add_detection_history_free_heap` FAILS: the same wide call answers differently after a narrow one
example : (hlastOutV .f5 exSem exS0 [.add 0 0 true, .add 0 0 false]).bind viewOf
    ≠ (hlastOutV .f5 exSem exS0 [.add 0 0 false]).bind viewOf := by decide +kernel
example : ¬ (∀ (s : HState Nat (Nat × Option Nat) Nat) (pre : List (HOp Bool)) (fr er : Ref) (c : Bool),
    fr < s.heap.frames.length → er < s.heap.ests.length →
    (hlastOutV .f5 exSem s (pre ++ [.add fr er c])).bind viewOf
      = (hlastOutV .f5 exSem (hfresh s.heap s.dataset) [.add fr er c]).bind viewOf) := by
  intro h
  have := h exS0 [.add 0 0 true] 0 0 false (by decide) (by decide)
  revert this
  decide +kernel
-- adding the SAME frame twice with the narrow filter, then wide: the second result differs from the fresh one
example : ((hlastOutV .f5 exSem exS0 [.add 0 0 true, .add 0 0 false]).bind HOut.det?).map (·.numGt) = some [1] := by
  decide +kernel
-- `stored_results_stay_good` / scene pooling FAIL: the stored WIDE result shares its frame with the
-- dataset, the later narrow add shrinks it, the scene counts 1 + 1 instead of 2 + 1
example : ((hlastOutV .f5 exSem exS0 [.add 0 0 false, .add 0 0 true, .scene]).map
    (fun o => match o with | .scene sc => sc.numGt | _ => [])) = some [2] := by decide +kernel
example : ((hlastOut exSem exS0 [.add 0 0 false, .add 0 0 true, .scene]).map
    (fun o => match o with | .scene sc => sc.numGt | _ => [])) = some [3] := by decide +kernel
example : ¬ Good exSem (hrunV .f5 exSem exS0 [.add 0 0 false, .add 0 0 true]).1 := by
  intro h
  have := (h ⟨0, 0, [(1, some 11), (2, some 13)], ⟨[[toRes (1, some 11), toRes (2, some 13)]], [2]⟩, 2⟩ (by decide +kernel)).2
  revert this
  decide +kernel

/-! ### the estimate filter written back into the caller's list: `estimates_deref_unchanged` fails -/

example : (hrunV .estInPlace exSem exS0 [.add 0 0 false]).1.heap.est 0 = [1, 2] := by decide +kernel
example : ¬ (∀ (s : HState Nat (Nat × Option Nat) Nat) (ops : List (HOp Bool)) (er : Ref),
    (hrunV .estInPlace exSem s ops).1.heap.est er = s.heap.est er) := by
  intro h
  have := h exS0 [.add 0 0 false] 0
  revert this
  decide +kernel

end Examples

end PEval.C13
