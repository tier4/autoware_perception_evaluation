import PEval.Properties.C04Core
/-!
# C04 — the two extreme cases, stated on RESULTS and GROUND TRUTHS

`ap_one_of_perfect` / `ap_zero_of_no_tp` (`C04Core.lean`) are facts about a list of `Kind`s.  Here the two clauses

  "AP is 1 when every ground truth is matched by a correct estimate and no wrong estimate outranks one,
   and 0 when no estimate is correct"

are stated and proved for the whole constructor `AP.apOf` (= `Ap.__init__`: stable descending sort by confidence,
per-result threshold lookup and `is_result_correct`, cumulative sums, interpolation, area), with hypotheses about
the results (confidence, labels, ground truth, matching score, policy), the thresholds and the ground truths.

Vocabulary.
* `isCorrectAt m T th r` ("counted correct"): the label of `r` (its ground truth's, else its own) is a target with
  threshold `t` and `is_result_correct(mode, t)` is `True`.  For the per-label call of `Map` (`T = [L]`, `L` ordinary)
  `isCorrectAt_iff` / `classify_tp_iff` spell this out: ground truth of label `L`, label-compatible under the policy,
  score strictly better than `t`.
* "wrong estimate" = every result that is NOT counted correct: an FP (threshold found, test failed) or an IGNORED
  result (no threshold: the ground truth's label is not the evaluated label — e.g. an `ALLOW_ANY` / `ALLOW_UNKNOWN`
  cross-label pair filed under the estimate's label — which keeps its rank: precision is `cumTP_i / (i + 1)`).
  An ignored result ranked above a correct one DOES lower the AP (`ignored_outranking_lowers_ap`, AP = 1/2), so the
  hypothesis cannot be weakened to "FP results only"; ranked below all correct results it is harmless.
* "outranks", exactly as the stable sort behaves (`RankOK`): a wrong estimate must not have a larger confidence than a
  correct one, and where the confidences are EQUAL the wrong estimate must not stand earlier in the input list.
  `strictly below` is the simple sufficient form (`ap_one_of_all_matched_strict`).

Defective variants refuted: ranking ascending (`reverse=True` forgotten) and no ranking at all
(`perfect_fails_ascending`, `perfect_fails_unsorted`); AP undefined without ground truth (stored change C04_G,
`zero_fails_C04G`).
-/

namespace PEval.C04
open PEval.AP

/-! ## clause 3: TP iff label-compatible and beats the threshold (per-label call, ordinary label) -/

/-- `_calculate_tp_fp` of the per-label evaluation counts `r` as TP exactly when `r` has a ground truth of the
evaluated label, `is_label_correct` holds under the result's policy, and the matching score beats the threshold
(strictly, direction per mode; threshold valid for the mode); a result without matching method is judged by its label. -/
theorem classify_tp_iff (tm : TpMetric) (m : Mode) (L : Label) (t : Rat) (r : Res) (k : Kind) (hL : L ≠ fpLabel)
    (h : classify tm m [L] [t] r = .ok k) :
    k.isTp = true ↔
      ∃ g, r.gt = some g ∧ g.label = L ∧ isLabelCorrect r = true ∧
        (r.score = .noMethod ∨
          ∃ v, r.score = .val (some v) ∧ thrValid m t = true ∧ isBetter m v t = true) := by
  rw [(classify_isTp h).1]
  exact isCorrectAt_iff m L t r hL

/-- the weight of a TP is `tp_metrics.get_value`, every other result weighs 0 -/
theorem classify_weight (tm : TpMetric) (m : Mode) (T : List Label) (th : List Rat) (r : Res) (k : Kind)
    (h : classify tm m T th r = .ok k) :
    k.isTp = isCorrectAt m T th r ∧ k.tpw = if isCorrectAt m T th r = true then tpValue tm r else 0 :=
  classify_isTp h

/-- documented exception (why `L ≠ fpLabel`): when the false-positive label itself is a target, a result whose
FP-labelled ground truth it does NOT reach is the one counted "correct" -/
example :
    classify .ap .centerDistance [fpLabel] [1]
      { id := 0, conf := 1, label := 2, gt := some { id := 0, label := fpLabel }, score := .val (some 5), hw := 1,
        policy := .default } = .ok (.tp 1) := by decide +kernel

/-! ## AP = 1 -/

/-- Either metric: `G ≥ 1`, exactly `G` results are counted correct, no other result outranks one of them (`RankOK` on
the input order), and the weights `tpValue tm` of the correct results lie in `[0,1]`.  The ranking then puts the correct
results first, so the score is the area under `G` weights followed by zeros (`apW_unit_then_zeros`): it is defined, lies
between 0 and the mean weight of the correct results, and is 1 exactly when every correct result weighs 1. -/
theorem score_of_perfect_results (tm : TpMetric) (m : Mode) (T : List Label) (th : List Rat) (G : Nat) (rs : List Res)
    (hG : 0 < G) (hcount : (rs.filter (isCorrectAt m T th)).length = G)
    (hrank : rs.Pairwise (RankOK Res.conf (isCorrectAt m T th)))
    (hw : ∀ r ∈ rs, isCorrectAt m T th r = true → 0 ≤ tpValue tm r ∧ tpValue tm r ≤ 1) {a : ApOut}
    (h : apOf tm m T th G rs = .ok a) :
    ∃ x, a.ap = some x ∧ 0 ≤ x ∧ x ≤ ((rs.filter (isCorrectAt m T th)).map (tpValue tm)).sum / (G : Rat)
      ∧ (x = 1 ↔ ∀ r ∈ rs, isCorrectAt m T th r = true → tpValue tm r = 1) := by
  have hne : rs ≠ [] := fun he => by rw [he] at hcount; exact absurd hcount.symm hG.ne'
  obtain ⟨ks, hk, hap⟩ := apOf_ok_ap h hne
  set P := isCorrectAt m T th with hPdef
  set S := (sortDesc Res.conf rs).filter P with hSdef
  have hperm : S.Perm (rs.filter P) := sortDesc_filter_perm Res.conf P rs
  have hSmem : ∀ r, r ∈ S ↔ r ∈ rs ∧ P r = true := fun r => hperm.mem_iff.trans List.mem_filter
  -- the ranking's weights: the weights of the correct results, then zeros
  have hws : ks.map Kind.tpw
      = S.map (tpValue tm) ++ List.replicate ((sortDesc Res.conf rs).filter (fun a => !P a)).length 0 := by
    rw [classifyAll_tpw hk, map_weights_of_split P (tpValue tm) (sortDesc_split Res.conf _ hrank)]
  obtain ⟨h0, h1, h2⟩ := apW_unit_then_zeros G hG (us := S.map (tpValue tm))
    (by rw [List.length_map, hperm.length_eq, hcount])
    (List.forall_mem_map.2 fun r hr => hw r ((hSmem r).1 hr).1 ((hSmem r).1 hr).2)
    ((sortDesc Res.conf rs).filter (fun a => !P a)).length
  rw [← hws, perm_sum_eq (hperm.map (tpValue tm))] at h1
  rw [← hws] at h0 h2
  refine ⟨_, hap, h0, h1, h2.trans ?_⟩
  simp only [List.forall_mem_map, hSmem, and_imp]

/-- General form (any target list): `G ≥ 1`, exactly `G` results are counted correct, and no other result outranks
one of them (`RankOK` on the input order) ⇒ AP = 1. -/
theorem ap_one_of_perfect_results (m : Mode) (T : List Label) (th : List Rat) (G : Nat) (rs : List Res)
    (hG : 0 < G) (hcount : (rs.filter (isCorrectAt m T th)).length = G)
    (hrank : rs.Pairwise (RankOK Res.conf (isCorrectAt m T th))) {a : ApOut}
    (h : apOf .ap m T th G rs = .ok a) : a.ap = some 1 := by
  -- every AP weight is 1
  obtain ⟨x, hx, _, _, h1⟩ := score_of_perfect_results .ap m T th G rs hG hcount hrank
    (fun _ _ _ => ⟨zero_le_one, le_rfl⟩) h
  rw [hx, h1.2 fun _ _ _ => rfl]

/-- the statement of the clause for an arbitrary constructor `F` (used to refute defective variants) -/
def PerfectStmt (F : Mode → List Label → List Rat → Nat → List Res → Except Err ApOut) : Prop :=
  ∀ (m : Mode) (T : List Label) (th : List Rat) (G : Nat) (rs : List Res) (a : ApOut),
    0 < G → (rs.filter (isCorrectAt m T th)).length = G →
    rs.Pairwise (RankOK Res.conf (isCorrectAt m T th)) → F m T th G rs = .ok a → a.ap = some 1

theorem perfect_apOf : PerfectStmt (apOf .ap) :=
  fun m T th G rs _ hG hc hr h => ap_one_of_perfect_results m T th G rs hG hc hr h

/-- two car results on two car ground truths … -/
def pTp (id : Nat) (c : Rat) : Res :=
  { id := id, conf := c, label := 2, gt := some { id := id, label := 2 }, score := .val (some 0), hw := 1,
    policy := .default }
/-- … a car result without ground truth … -/
def pFp (id : Nat) (c : Rat) : Res :=
  { id := id, conf := c, label := 2, gt := none, score := .val none, hw := 0, policy := .default }
/-- … and a car result paired with a pedestrian ground truth under `ALLOW_ANY` (ignored by the car AP) -/
def pIg (id : Nat) (c : Rat) : Res :=
  { id := id, conf := c, label := 2, gt := some { id := id, label := 4 }, score := .val (some 0), hw := 1,
    policy := .allowAny }

/-- non-vacuity: the hypotheses hold on a 5-result list given in scrambled order, with a confidence tie between a
correct and a wrong result resolved by the input order, an ignored and an FP result below; AP = 1 -/
example :
    let rs := [pFp 10 1, pTp 0 7, pIg 11 3, pTp 1 5, pFp 12 5]
    (rs.filter (isCorrectAt .centerDistance [2] [1])).length = 2
      ∧ rs.Pairwise (RankOK Res.conf (isCorrectAt .centerDistance [2] [1]))
      ∧ (apOf .ap .centerDistance [2] [1] 2 rs).toOption.map (·.ap) = some (some 1) := by
  decide +kernel

/-- `reverse=True` forgotten (ascending stable sort): the clause fails — one correct result (confidence 9), one wrong
result below it (confidence 1), one ground truth; the ascending ranking is [FP, TP] and AP = 1/2 -/
theorem perfect_fails_ascending : ¬ PerfectStmt (apOfWith sortAsc .ap) := by
  intro h
  have := h .centerDistance [2] [1] 1 [pTp 0 9, pFp 1 1]
    { ap := some (1/2), tpList := [0, 1], fpList := [1, 1] } (by decide) (by decide +kernel) (by decide +kernel)
    (by decide +kernel)
  revert this
  decide +kernel

/-- no ranking at all (results evaluated in input order): the clause fails on the same two results given as [FP, TP] -/
theorem perfect_fails_unsorted : ¬ PerfectStmt (apOfWith id .ap) := by
  intro h
  have := h .centerDistance [2] [1] 1 [pFp 1 1, pTp 0 9]
    { ap := some (1/2), tpList := [0, 1], fpList := [1, 1] } (by decide) (by decide +kernel) (by decide +kernel)
    (by decide +kernel)
  revert this
  decide +kernel

/-- the hypothesis speaks about EVERY result that is not counted correct: an ignored result (not an FP: it has no
threshold) ranked above the only correct result gives AP = 1/2 although every ground truth is matched by a correct
estimate and no FP outranks one -/
theorem ignored_outranking_lowers_ap :
    apOf .ap .centerDistance [2] [1] 1 [pIg 11 9, pTp 0 5]
      = .ok { ap := some (1/2), tpList := [0, 1], fpList := [0, 0] } := by
  decide +kernel

/-- … and `G ≥ 1` is needed: with no ground truth the code's recall is `0.0` and AP = 0 (see `ap_zero_of_no_gt`) -/
example : (apOf .ap .centerDistance [2] [1] 0 [pFp 1 1]).toOption.map (·.ap) = some (some 0) := by decide +kernel

/-- The clause in the property's words, for the per-label call `Ap(…, target_labels=[L], thresholds=[t])` with
`G` = number of ground truths of label `L` (as `Map` calls it):
* the ground truths are pairwise different and there is at least one of label `L`;
* no ground truth is the ground truth of two results, and the results' ground truths are among `gts` (C01);
* every ground truth of label `L` is the ground truth of a result counted correct at `t`;
* no result that is not counted correct outranks a correct one (`RankOK`: not a larger confidence, and at equal
  confidence not earlier in the input).
Then AP = 1. -/
theorem ap_one_of_all_matched (m : Mode) (L : Label) (t : Rat) (rs : List Res) (gts : List Gt)
    (hgn : gts.Nodup) (hnd : (rs.filterMap (·.gt)).Nodup) (hsub : ∀ g ∈ rs.filterMap (·.gt), g ∈ gts)
    (hex : ∃ g ∈ gts, g.label = L)
    (hall : ∀ g ∈ gts, g.label = L → ∃ r ∈ rs, r.gt = some g ∧ isCorrectAt m [L] [t] r = true)
    (hrank : rs.Pairwise (RankOK Res.conf (isCorrectAt m [L] [t]))) {a : ApOut}
    (h : apOf .ap m [L] [t] (gts.filter (fun g => g.label == L)).length rs = .ok a) : a.ap = some 1 := by
  have hcount : (rs.filter (isCorrectAt m [L] [t])).length = (gts.filter (fun g => g.label == L)).length := by
    apply correct_count_eq _ (hgn.sublist List.filter_sublist) hnd
    · intro r hr hP
      obtain ⟨g, hg, hl⟩ := isCorrectAt_gt_label hP
      refine ⟨g, List.mem_filter.2 ⟨hsub g (List.mem_filterMap.2 ⟨r, hr, hg⟩), by simp [hl]⟩, hg⟩
    · intro g hg
      obtain ⟨hg1, hg2⟩ := List.mem_filter.1 hg
      exact hall g hg1 (by simpa using hg2)
  have hG : 0 < (gts.filter (fun g => g.label == L)).length := by
    obtain ⟨g, hg, hl⟩ := hex
    exact List.length_pos_of_mem (List.mem_filter.2 ⟨hg, by simp [hl]⟩)
  exact ap_one_of_perfect_results m [L] [t] _ rs hG hcount hrank h

/-- the same with the simple ranking hypothesis: every result that is not counted correct has a confidence strictly
below every correct one -/
theorem ap_one_of_all_matched_strict (m : Mode) (L : Label) (t : Rat) (rs : List Res) (gts : List Gt)
    (hgn : gts.Nodup) (hnd : (rs.filterMap (·.gt)).Nodup) (hsub : ∀ g ∈ rs.filterMap (·.gt), g ∈ gts)
    (hex : ∃ g ∈ gts, g.label = L)
    (hall : ∀ g ∈ gts, g.label = L → ∃ r ∈ rs, r.gt = some g ∧ isCorrectAt m [L] [t] r = true)
    (hbelow : ∀ r ∈ rs, ∀ r' ∈ rs, isCorrectAt m [L] [t] r = true → isCorrectAt m [L] [t] r' = false →
      r'.conf < r.conf) {a : ApOut}
    (h : apOf .ap m [L] [t] (gts.filter (fun g => g.label == L)).length rs = .ok a) : a.ap = some 1 :=
  ap_one_of_all_matched m L t rs gts hgn hnd hsub hex hall (rankOK_of_strict Res.conf _ hbelow) h

/-- non-vacuity of `ap_one_of_all_matched_strict`: two car ground truths and a pedestrian, results in scrambled order -/
example :
    let rs := [pFp 10 1, pTp 0 7, pIg 11 3, pTp 1 5, pFp 12 4]
    let gts : List Gt := [⟨0, 2⟩, ⟨11, 4⟩, ⟨1, 2⟩]
    gts.Nodup ∧ (rs.filterMap (·.gt)).Nodup ∧ (∀ g ∈ rs.filterMap (·.gt), g ∈ gts) ∧ (∃ g ∈ gts, g.label = 2)
      ∧ (∀ g ∈ gts, g.label = 2 → ∃ r ∈ rs, r.gt = some g ∧ isCorrectAt .centerDistance [2] [1] r = true)
      ∧ (∀ r ∈ rs, ∀ r' ∈ rs, isCorrectAt .centerDistance [2] [1] r = true →
          isCorrectAt .centerDistance [2] [1] r' = false → r'.conf < r.conf) := by
  decide +kernel

/-! ## APH in the perfect case -/

/-- Same hypotheses, heading weights in `[0,1]`: APH is defined, lies between 0 and the mean heading weight of the
correct results `(Σ hw) / G`, and equals 1 (= AP) exactly when every correct result has heading weight 1. -/
theorem aph_of_perfect_results (m : Mode) (T : List Label) (th : List Rat) (G : Nat) (rs : List Res)
    (hG : 0 < G) (hcount : (rs.filter (isCorrectAt m T th)).length = G)
    (hrank : rs.Pairwise (RankOK Res.conf (isCorrectAt m T th)))
    (hw : ∀ r ∈ rs, 0 ≤ r.hw ∧ r.hw ≤ 1) {a : ApOut} (h : apOf .aph m T th G rs = .ok a) :
    ∃ x, a.ap = some x ∧ 0 ≤ x ∧ x ≤ ((rs.filter (isCorrectAt m T th)).map Res.hw).sum / (G : Rat)
      ∧ (x = 1 ↔ ∀ r ∈ rs, isCorrectAt m T th r = true → r.hw = 1) := by
  -- on a correct result (it has a ground truth) the APH weight is the heading weight
  have hval : ∀ r, isCorrectAt m T th r = true → tpValue .aph r = r.hw := fun r hP => by
    obtain ⟨g, hg⟩ := isCorrectAt_gt_some hP
    simp [tpValue, hg]
  obtain ⟨x, hx, h0, h1, h2⟩ := score_of_perfect_results .aph m T th G rs hG hcount hrank
    (fun r hr hP => hval r hP ▸ hw r hr) h
  rw [List.map_congr_left fun r hr => hval r (List.mem_filter.1 hr).2] at h1
  exact ⟨x, hx, h0, h1, h2.trans (forall₃_congr fun r _ hP => by rw [hval r hP])⟩

/-- non-vacuity: heading weights 1/2 and 1 on two correct results, 2 ground truths: APH = 9/16 ≤ 3/4 = mean weight < 1 = AP -/
example :
    let rs : List Res := [{ pTp 0 7 with hw := 1/2 }, pTp 1 5, pFp 12 4]
    (apOf .aph .centerDistance [2] [1] 2 rs).toOption.map (·.ap) = some (some (9/16))
      ∧ (apOf .ap .centerDistance [2] [1] 2 rs).toOption.map (·.ap) = some (some 1) := by
  decide +kernel

/-! ## AP = 0 and the undefined case -/

/-- No result counted correct (at least one result, any ground-truth count, AP or APH) ⇒ the score is 0. -/
theorem ap_zero_of_none_correct (tm : TpMetric) (m : Mode) (T : List Label) (th : List Rat) (G : Nat)
    (rs : List Res) (hne : rs ≠ []) (hno : ∀ r ∈ rs, isCorrectAt m T th r = false) {a : ApOut}
    (h : apOf tm m T th G rs = .ok a) : a.ap = some 0 := by
  obtain ⟨ks, hk, hap⟩ := apOf_ok_ap h hne
  have h0 : ∀ k ∈ ks, k.tpw = 0 := classifyAll_forall (P := fun k => k.tpw = 0) (fun r hr k hk' => by
    rw [(classify_isTp hk').2, hno r (mem_sortDesc.1 hr)]; rfl) hk
  rw [hap, apW_zero G (List.forall_mem_map.2 h0)]

/-- the statement of the zero clause for an arbitrary "ranking → Ap" step (used to refute stored change C04_G) -/
def ZeroStmt (K : Nat → List Kind → ApOut) : Prop :=
  ∀ (G : Nat) (ks : List Kind), ks ≠ [] → (∀ k ∈ ks, k.tpw = 0) → (K G ks).ap = some 0

theorem zero_apOfKinds : ZeroStmt apOfKinds := fun G ks h1 h2 => ap_zero_of_no_tp G ks h1 h2

/-- stored change C04_G (AP undefined as soon as there is no ground truth): the zero clause fails for one FP and `G = 0` -/
theorem zero_fails_C04G : ¬ ZeroStmt apOfKindsC04G := by
  intro h
  have := h 0 [Kind.fp] (by decide) (by decide)
  revert this
  decide +kernel

/-- No ground truth at all (`num_ground_truth = 0`) but at least one result: every recall is the code's `0.0`
branch and the score is 0 whatever the results are (in particular never 1, never undefined). -/
theorem ap_zero_of_no_gt (tm : TpMetric) (m : Mode) (T : List Label) (th : List Rat) (rs : List Res)
    (hne : rs ≠ []) {a : ApOut} (h : apOf tm m T th 0 rs = .ok a) : a.ap = some 0 := by
  obtain ⟨ks, _, hap⟩ := apOf_ok_ap h hne
  rw [hap, apW_no_gt]

/-- No result: the constructor returns AP = `inf` (`none`), `tp_list = [0.0] * G` and `fp_list = [1, …, G]`
(both empty for `G = 0`), for every metric, mode, target list and threshold list — never an exception. -/
theorem ap_no_results (tm : TpMetric) (m : Mode) (T : List Label) (th : List Rat) (G : Nat) :
    apOf tm m T th G [] = .ok { ap := none, tpList := List.replicate G 0,
                                 fpList := (List.range G).map (fun (i : Nat) => ((i : Rat) + 1)) } := by
  cases G with
  | zero => rfl
  | succ n => simp [apOf, sortDesc, classifyAll, apOfKinds, tpFpLists]

/-- non-vacuity of `ap_zero_of_none_correct`: an FP, an ignored and a too-far result, two ground truths -/
example :
    let rs : List Res := [pFp 10 1, pIg 11 3, { pTp 0 7 with score := .val (some 2) }]
    rs ≠ [] ∧ (∀ r ∈ rs, isCorrectAt .centerDistance [2] [1] r = false)
      ∧ (apOf .ap .centerDistance [2] [1] 2 rs).toOption.map (·.ap) = some (some 0) := by
  decide +kernel

/-! ## totality: when does `Ap.__init__` return -/

/-- `Ap.__init__` raises nothing when the threshold list is at least as long as the target list, every threshold is valid
for the mode (IoU: in `[0,1]`) and every result has a matching method for the mode. -/
theorem apOf_total (tm : TpMetric) (m : Mode) (T : List Label) (th : List Rat) (G : Nat) (rs : List Res)
    (hlen : T.length ≤ th.length) (hv : ∀ t ∈ th, thrValid m t = true)
    (hs : ∀ r ∈ rs, r.score ≠ .noMethod) : ∃ a, apOf tm m T th G rs = .ok a := by
  obtain ⟨ks, hks⟩ := classifyAll_ok_iff_forall.2 fun r (_ : r ∈ sortDesc Res.conf rs) =>
    classify_total (tm := tm) r hlen hv
  refine ⟨_, apOf_ok_iff.2 ⟨ks, hks, List.any_eq_false.2 fun r hr => ?_, rfl⟩⟩
  simpa using hs r hr

example : (∀ t ∈ [(1 : Rat), 2], thrValid .centerDistance t = true) ∧ [2, 4].length ≤ [(1 : Rat), 2].length
    ∧ ∀ r ∈ [pTp 0 7, pFp 1 1], r.score ≠ .noMethod := by decide +kernel

end PEval.C04
