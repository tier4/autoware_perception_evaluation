import PEval.Lemmas.MatchKernelsDT
import PEval.Gen.KMatchable
/-!
# Decision table of `MatchingLabelPolicy.is_matchable` (serves C02, C01)

`PEval.Gen.K.matchable.tree` is regenerated on every run by running the REAL `is_matchable` of every member of the
policy enum on symbolic objects over every assignment of the atoms it queries (`harness/dt_match.py`).
`matchable_table_check` is the per-run obligation (complete agreement checker, kernel-evaluated); everything else
is proved once. If the source leaves the abstraction the table is `none` and the statements hold vacuously.

The `*_eq_skeleton` theorems give the bridges of `Lemmas/MatchKernelsDT.lean` this module's name: the `THEOREMS` lists of
`harness/props/` name them here.
-/
namespace PEval.KernelMatchable
open PEval PEval.DT PEval.MatchKernels PEval.Matching

theorem matchable_table_check : tableOk forbidden Gen.K.matchable.tree matchableTree = true := by decide +kernel

/-- the code's decision table equals the model's skeleton under every consistent valuation of the atoms -/
theorem matchable_code_table_eq_model :
    ∀ t, Gen.K.matchable.tree = some t → ∀ v : Val, consistent forbidden v = true → eval t v = matchableAtoms v :=
  tableOk_sound matchable_table_check

/-- the bridge: the model `isMatchable` is its skeleton applied to the atoms of the input (all inputs) -/
theorem matchable_eq_skeleton (p : Policy) (e g : Obj) :
    matchableAtoms (valMatchable p e g) = .ret (isMatchable p e g) := matchable_bridge p e g

/-- the valuation of a concrete input never contains a forbidden conjunction -/
theorem matchable_valuation_consistent (p : Policy) (e g : Obj) : consistent forbidden (valMatchable p e g) = true :=
  valMatchable_consistent p e g

/-- the CODE's table, read at the atoms of a concrete pair, gives the model's verdict -/
theorem matchable_code_table_eq_isMatchable :
    ∀ t, Gen.K.matchable.tree = some t → ∀ (p : Policy) (e g : Obj), eval t (valMatchable p e g) = .ret (isMatchable p e g) :=
  fun t ht p e g => (matchable_code_table_eq_model t ht _ (valMatchable_consistent p e g)).trans (matchable_bridge p e g)

/-- the same against the metrics model's `isMatchable` (labels as numbers) -/
theorem matchable_code_table_eq_isMatchable_AP :
    ∀ t, Gen.K.matchable.tree = some t → ∀ (p : AP.Policy) (e g : AP.Label),
      eval t (valMatchableAP p e g) = .ret (AP.isMatchable p e g) :=
  fun t ht p e g => (matchable_code_table_eq_model t ht _ (valMatchableAP_consistent p e g)).trans (matchable_bridge_AP p e g)

/-- for the code's table: a false-positive-labelled ground truth is compatible with every estimate, whatever the policy -/
theorem table_fp_gt_compatible {t : DTree} (ht : Gen.K.matchable.tree = some t) (p : Policy) (e g : Obj)
    (h : isFp g.label = true) : eval t (valMatchable p e g) = .ret true := by
  rw [matchable_code_table_eq_isMatchable t ht]; simp [isMatchable, h]

/-- for the code's table: ALLOW_ANY makes every pair compatible -/
theorem table_allow_any {t : DTree} (ht : Gen.K.matchable.tree = some t) (e g : Obj) :
    eval t (valMatchable .allowAny e g) = .ret true := by
  rw [matchable_code_table_eq_isMatchable t ht]; simp [isMatchable]

/-- for the code's table, ordinary ground truth: DEFAULT is label equality; ALLOW_UNKNOWN adds the unknown estimates -/
theorem table_strict_iff {t : DTree} (ht : Gen.K.matchable.tree = some t) (e g : Obj) (h : isFp g.label = false) :
    eval t (valMatchable .default e g) = .ret (e.label == g.label)
      ∧ eval t (valMatchable .allowUnknown e g) = .ret (e.label == g.label || isUnknown e.label) := by
  rw [matchable_code_table_eq_isMatchable t ht, matchable_code_table_eq_isMatchable t ht]
  simp [isMatchable, h]

/-- non-vacuity: what the table says on concrete pairs (that it exists on an unchanged tree: `Properties/TablesPresent.lean`) -/
example : ∀ t, Gen.K.matchable.tree = some t →
    eval t (valMatchable .allowUnknown ⟨"unknown", "base_link"⟩ ⟨"car", "base_link"⟩) = .ret true
    ∧ eval t (valMatchable .default ⟨"unknown", "base_link"⟩ ⟨"car", "base_link"⟩) = .ret false := by
  intro t ht
  rw [matchable_code_table_eq_isMatchable t ht, matchable_code_table_eq_isMatchable t ht]
  decide +kernel

end PEval.KernelMatchable
