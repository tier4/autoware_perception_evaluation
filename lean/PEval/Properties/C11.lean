import PEval.Lemmas.ClassificationScore
import PEval.Gen.ClassificationDT
import PEval.Lemmas.ClassificationDT
import PEval.Lemmas.ClassificationSim
/-!
# C11 — classification pairs objects by identity and scores them by label agreement

Model: `PEval.Model.Classification` (`objectResults` = `get_object_results` on ROI-less
`DynamicObject2D` lists, `pairById` = `_get_object_results_with_id`, `pairTlr` =
`_get_object_results_for_tlr`, `accuracy` = `ClassificationAccuracy`, `summarize` =
`ClassificationMetricsScore._summarize`).  All statements quantify over arbitrary lists; "distinct
Python objects" is `List.Nodup`, the property's domain "unique non-null uuids per side and camera" is
`(l.map key).Nodup` (which implies `l.Nodup`) plus `uuid ≠ none`.
-/
namespace PEval.C11
open PEval.Classification

/-- estimates and ground truths are paired only within the same camera frame -/
theorem pair_same_camera {fpv uf : Bool} {ests gts : List Obj} {rs : List Res}
    (h : objectResults fpv uf ests gts = .ok rs) :
    ∀ r ∈ rs, ∀ g, r.gt = some g → r.est.frame = g.frame := by
  obtain ⟨s, tail, hrs, _, _, hcam⟩ := objectResults_shape h
  rw [hrs]
  rintro ⟨e, _⟩ hr g ⟨⟩
  exact hcam (e, g) (mem_results_some.1 hr)

/-- results only mention the given objects -/
theorem pair_members {fpv uf : Bool} {ests gts : List Obj} {rs : List Res}
    (h : objectResults fpv uf ests gts = .ok rs) :
    ∀ r ∈ rs, r.est ∈ ests ∧ ∀ g, r.gt = some g → g ∈ gts := by
  obtain ⟨s, tail, hrs, w, htail, _⟩ := objectResults_shape h
  rw [hrs]
  rintro ⟨e, _ | g⟩ hr
  · have ht := mem_results_none.1 hr
    refine ⟨?_, fun _ h => nomatch h⟩
    rcases htail with h1 | h1
    · exact (w.mem_es e).2 (Or.inl (h1 ▸ ht))
    · rw [h1] at ht; cases ht
  · have hp := w.mem_of_res (mem_results_some.1 hr)
    exact ⟨hp.1, fun g' hg' => Option.some.inj hg' ▸ hp.2⟩

/-- each estimate appears in at most one result and each ground truth in at most one result -/
theorem pair_used_once {fpv uf : Bool} {ests gts : List Obj} {rs : List Res}
    (hE : ests.Nodup) (hG : gts.Nodup) (h : objectResults fpv uf ests gts = .ok rs) :
    (rs.map Res.est).Nodup ∧ (rs.filterMap Res.gt).Nodup := by
  obtain ⟨s, tail, hrs, w, htail, _⟩ := objectResults_shape h
  have hE' := w.es.nodup_iff.1 hE
  rw [hrs]
  constructor
  · rw [List.map_append, paired_map_est, fpResults_map_est]
    rcases htail with h1 | h1
    · rw [h1]; exact (List.perm_append_comm.nodup_iff).1 hE'
    · rw [h1, List.append_nil]; exact (List.nodup_append.1 hE').2.1
  · rw [List.filterMap_append, paired_filterMap_gt, fpResults_filterMap_gt, List.append_nil]
    exact w.res_snd_nodup hG

/-- on the property's domain the generic matcher does not raise -/
theorem generic_total {ests gts : List Obj} (hn : ∀ o ∈ ests ++ gts, o.uuid ≠ none)
    (hke : (ests.map key).Nodup) (hkg : (gts.map key).Nodup) : ∃ rs, pairById ests gts = .ok rs := by
  obtain ⟨s, hs⟩ := generic_loop_total hn hke hkg
  refine ⟨paired s.res ++ fpResults (fpTail s.es), ?_⟩
  simp only [pairById, hs]

/-- unique non-null uuids per side and camera ⇒ the generic matcher answers, and an estimate and a
ground truth are paired iff they have the same uuid and the same camera frame -/
theorem generic_pair_iff_same_uuid {ests gts : List Obj} (hn : ∀ o ∈ ests ++ gts, o.uuid ≠ none)
    (hke : (ests.map key).Nodup) (hkg : (gts.map key).Nodup) :
    ∃ rs, pairById ests gts = .ok rs ∧
      ∀ e g, ({ est := e, gt := some g } : Res) ∈ rs ↔
        (e ∈ ests ∧ g ∈ gts ∧ e.uuid = g.uuid ∧ e.frame = g.frame) := by
  obtain ⟨rs, h⟩ := generic_total hn hke hkg
  refine ⟨rs, h, ?_⟩
  obtain ⟨s, hrs, F⟩ := pairById_inv h
  intro e g
  rw [hrs, mem_results_some, F.mem_res]
  simp [sameKey]

/-- the GT-less results of the generic matcher: the estimates without a same-uuid same-camera ground
truth, all of them or (if one of them lives in `CAM_TRAFFIC_LIGHT`) none -/
theorem generic_fp_tail {ests gts : List Obj} {rs : List Res} (hE : ests.Nodup)
    (h : pairById ests gts = .ok rs) (e : Obj) :
    ({ est := e, gt := none } : Res) ∈ rs ↔
      (e ∈ ests ∧ ∀ g ∈ gts, sameKey e g = false) ∧
      (∀ e' ∈ ests, (∀ g ∈ gts, sameKey e' g = false) → e'.frame ≠ camTrafficLight) := by
  obtain ⟨s, hrs, F⟩ := pairById_inv h
  rw [hrs, mem_results_none, mem_fpTail, F.mem_es hE]
  exact and_congr_right fun _ => forall_congr' fun x => by rw [F.mem_es hE x, and_imp]

/-- a null uuid on either side (both lists non-empty) makes the generic matcher raise (the loop body's
`RuntimeError`, or a `ValueError` of `list.remove` if duplicate keys are met first) -/
theorem generic_null_uuid_error {ests gts : List Obj} (he : ests ≠ []) (hg : gts ≠ [])
    (hnull : ∃ o ∈ ests ++ gts, o.uuid = none) : ∃ x, pairById ests gts = .error x := by
  cases hres : pairById ests gts with
  | error x => exact ⟨x, rfl⟩
  | ok rs =>
    obtain ⟨s, hs, _⟩ := pairById_ok hres
    obtain ⟨o, ho, hnone⟩ := hnull
    exact absurd hnone (outer_ok_uuid_ne_none (fun _ _ _ _ hs => (stepU_ok hs).1) he hg hs o ho)

/-- with non-null uuids the traffic-light matcher does not raise -/
theorem tlr_total {uf : Bool} {ests gts : List Obj} (hn : ∀ o ∈ ests ++ gts, o.uuid ≠ none) :
    ∃ rs, pairTlr uf ests gts = .ok rs := pairTlr_total hn

/-- a null uuid on either side (both lists non-empty) raises `RuntimeError` -/
theorem tlr_null_uuid_error {uf : Bool} {ests gts : List Obj} (he : ests ≠ []) (hg : gts ≠ [])
    (hnull : ∃ o ∈ ests ++ gts, o.uuid = none) : pairTlr uf ests gts = .error "RuntimeError" :=
  pairTlr_null_uuid_error he hg hnull

/-- structure of the answer: the stage-1 pairs (equal label, equal uuid too when uuid-first, same
camera) followed by the stage-2 pairs (equal uuid, same camera, both unused after stage 1); the unused
objects after stage 1 are exactly those in no stage-1 pair -/
theorem tlr_result_split {uf : Bool} {ests gts : List Obj} {rs : List Res}
    (h : pairTlr uf ests gts = .ok rs) :
    ∃ s1 p2, tlrStage1 uf ests gts = .ok s1 ∧ rs = paired (s1.res ++ p2) ∧
      (∀ p ∈ s1.res, p.1 ∈ ests ∧ p.2 ∈ gts ∧ p.1.label = p.2.label ∧ (uf = true → p.1.uuid = p.2.uuid) ∧
        p.1.frame = p.2.frame) ∧
      (∀ p ∈ p2, p.1 ∈ s1.es ∧ p.2 ∈ s1.gs ∧ p.1.uuid = p.2.uuid ∧ p.1.frame = p.2.frame) ∧
      (ests.Nodup → ∀ e, e ∈ s1.es ↔ e ∈ ests ∧ e ∉ s1.res.map Prod.fst) ∧
      (gts.Nodup → ∀ g, g ∈ s1.gs ↔ g ∈ gts ∧ g ∉ s1.res.map Prod.snd) := by
  obtain ⟨s1, s2, p2, h1, _, hrs, S1, S2⟩ := pairTlr_inv h
  have w := S1.wf (wf_init ests gts)
  refine ⟨s1, p2, h1, hrs, ?_, S2.key2, fun hnd e => w.es_iff hnd e, fun hnd g => w.gs_iff hnd g⟩
  intro p hp
  obtain ⟨hm, hc, _⟩ := S1.new p hp
  exact ⟨(mem_pairs.1 hm).1, (mem_pairs.1 hm).2, cond1_iff.1 hc⟩

/-- after stage 1 no unused estimate and unused ground truth of the same camera agree in label (and in
uuid, when uuid-first matching is requested) -/
theorem tlr_stage1_maximal {uf : Bool} {ests gts : List Obj} {s1 : St} (hE : ests.Nodup)
    (h1 : tlrStage1 uf ests gts = .ok s1) :
    ∀ e ∈ s1.es, ∀ g ∈ s1.gs, ¬(e.label = g.label ∧ (uf = true → e.uuid = g.uuid) ∧ e.frame = g.frame) :=
  fun e he g hg hh => Bool.false_ne_true ((tlr_max1 hE h1 e he g hg).symm.trans (cond1_iff.2 hh))

/-- class-wise count (label-first mode): in every (camera, label) class the label stage makes
`min(#estimates, #ground truths)` pairs -/
theorem tlr_stage1_class_count {ests gts : List Obj} {s1 : St} (hE : ests.Nodup)
    (h1 : tlrStage1 false ests gts = .ok s1) (k : String × Label) :
    s1.res.countP (fun p => decide (cls p.1 = k)) =
      min (ests.countP fun o => decide (cls o = k)) (gts.countP fun o => decide (cls o = k)) := by
  obtain ⟨w, hres, hmax⟩ := tlr_stage1_classes hE h1
  exact countP_res_eq_min w (fun o => decide (cls o = k)) (fun p hp => by rw [hres p hp])
    fun e he g hg h => hmax e he g hg ((of_decide_eq_true h.1).trans (of_decide_eq_true h.2).symm)

/-- on the property's domain stage 2 pairs exactly the same-uuid same-camera pairs stage 1 left unused -/
theorem tlr_stage2_pairs_by_uuid {uf : Bool} {ests gts : List Obj} {rs : List Res}
    (hke : (ests.map key).Nodup) (hkg : (gts.map key).Nodup) (h : pairTlr uf ests gts = .ok rs) :
    ∃ s1 p2, tlrStage1 uf ests gts = .ok s1 ∧ rs = paired (s1.res ++ p2) ∧
      ∀ e g, (e, g) ∈ p2 ↔ (e ∈ s1.es ∧ g ∈ s1.gs ∧ e.uuid = g.uuid ∧ e.frame = g.frame) := by
  obtain ⟨s1, s2, p2, h1, h2, hrs, S1, S2⟩ := pairTlr_inv h
  exact ⟨s1, p2, h1, hrs, fun e g => by rw [S2.mem_sameKey (S1.wf (wf_init ests gts)) hke hkg, sameKey_def]⟩

/-- in label-first mode every stage-2 pair disagrees in label -/
theorem tlr_stage2_pairs_incorrect {ests gts : List Obj} {rs : List Res} (hE : ests.Nodup)
    (h : pairTlr false ests gts = .ok rs) :
    ∃ s1 p2, tlrStage1 false ests gts = .ok s1 ∧ rs = paired (s1.res ++ p2) ∧
      ∀ p ∈ p2, p.1.label ≠ p.2.label := by
  obtain ⟨s1, s2, p2, h1, _, hrs, _, S2⟩ := pairTlr_inv h
  exact ⟨s1, p2, h1, hrs, tlr_stage2_label_ne hE h1 S2⟩

/-- uuid-first mode on the property's domain: the pairing is determined by uuid and camera alone -/
theorem tlr_uuid_first_iff_same_uuid {ests gts : List Obj} {rs : List Res}
    (hke : (ests.map key).Nodup) (hkg : (gts.map key).Nodup) (h : pairTlr true ests gts = .ok rs) :
    ∀ e g, ({ est := e, gt := some g } : Res) ∈ rs ↔
      (e ∈ ests ∧ g ∈ gts ∧ e.uuid = g.uuid ∧ e.frame = g.frame) := by
  obtain ⟨s1, s2, p2, h1, h2, hrs, S1, S2⟩ := pairTlr_inv h
  have w := S1.wf (wf_init ests gts)
  intro e g
  rw [hrs, mem_paired, List.mem_append, S2.mem_sameKey w hke hkg, ← sameKey_def]
  constructor
  · rintro (hp | ⟨he, hg, hk⟩)
    · obtain ⟨hm, hc, _⟩ := S1.new _ hp
      exact ⟨(mem_pairs.1 hm).1, (mem_pairs.1 hm).2, cond1_true_sameKey hc⟩
    · exact ⟨S1.es.subset he, S1.gs.subset hg, hk⟩
  · rintro ⟨he, hg, hk⟩
    by_cases h : e ∈ s1.es ∧ g ∈ s1.gs
    · exact Or.inr ⟨h.1, h.2, hk⟩
    · -- one of them was taken by stage 1, by an object with the same key, i.e. by the other
      exact Or.inl (w.mem_res_of_key hke hkg he hg (sameKey_iff.1 hk)
        (fun p hp _ => sameKey_iff.1 (cond1_true_sameKey (S1.new p hp).2.1)) h)

/-- label-first mode: the answer is a one-to-one same-camera pairing, and no one-to-one
same-camera pairing of the given objects has more equally-labelled pairs -/
theorem tlr_correct_pairs_maximum {ests gts : List Obj} {rs : List Res} (hE : ests.Nodup) (hG : gts.Nodup)
    (h : pairTlr false ests gts = .ok rs) :
    Pairing ests gts (resPairs rs) ∧
      ∀ P, Pairing ests gts P → numEqual P ≤ numEqual (resPairs rs) := by
  obtain ⟨s1, s2, p2, h1, h2, hrs, S1, S2⟩ := pairTlr_inv h
  have hpairs : resPairs rs = s1.res ++ p2 := by rw [hrs, resPairs_paired]
  have w2 := S2.wf (S1.wf (wf_init ests gts))
  constructor
  · rw [hpairs, ← S2.res]
    exact ⟨fun _ hp => (w2.mem_of_res hp).1, fun _ hp => (w2.mem_of_res hp).2, S1.cam2 S2, w2.res_fst_nodup hE,
      w2.res_snd_nodup hG⟩
  · intro P hP
    obtain ⟨w, hres, hmax⟩ := tlr_stage1_classes hE h1
    have hdom : numEqual P ≤ s1.res.length := stage1_dominates w hres hmax hP
    have hall : s1.res.countP equalLabel = s1.res.length := by
      rw [List.countP_eq_length]
      intro p hp
      simpa [equalLabel] using (cond1_iff.1 (S1.new p hp).2.1).1
    rw [hpairs]
    unfold numEqual at *
    rw [List.countP_append, hall]
    omega

/-- every label-correct result consumes its own ground truth -/
theorem tp_le_num_gt {fpv uf : Bool} {ests gts : List Obj} {rs : List Res}
    (h : objectResults fpv uf ests gts = .ok rs) : countTp rs ≤ gts.length := by
  obtain ⟨s, tail, hrs, w, _, _⟩ := objectResults_shape h
  have hl := w.gs.length_eq
  simp only [List.length_append, List.length_map] at hl
  have := countTp_results s.res tail
  rw [← hrs] at this
  omega

/-- the scores equal their counting definitions: TP = label-correct results (a GT-less result is never
correct, a result whose ground truth carries the FP label always is), FP = the other results,
FN = `num_ground_truth − TP`; precision = TP/(TP+FP), recall = TP/(TP+FN), accuracy = TP/(TP+FP+FN),
F1 = 2PR/(P+R); a zero denominator (or an undefined precision / recall) gives `inf` -/
theorem metrics_def (rs : List Res) (n : Nat) :
    let a := accuracy rs n
    a.num = rs.length ∧ a.numGT = n ∧
    a.tp = (rs.filter fun r => match r.gt with
                              | none => false
                              | some g => g.label.isFP || decide (r.est.label = g.label)).length ∧
    a.tp + a.fp = rs.length ∧
    a.precision = ratio a.tp (a.tp + a.fp) ∧
    (a.tp ≤ n → a.recall = ratio a.tp (a.tp + (n - a.tp)) ∧ a.accuracy = ratio a.tp (a.tp + a.fp + (n - a.tp))) ∧
    a.f1 = (match a.precision, a.recall with
            | .val p, .val r => if p + r = 0 then .inf else .val (2 * p * r / (p + r))
            | _, _ => .inf) ∧
    (∀ a b : Nat, ratio a b = if b = 0 then .inf else .val ((a : Rat) / (b : Rat))) := by
  have hl : countTp rs ≤ rs.length := countTp_le_length rs
  intro a
  refine ⟨rfl, rfl, List.countP_eq_length_filter, Nat.add_sub_cancel' hl,
    congrArg (ratio _) (Nat.add_sub_cancel' hl).symm, fun h => ?_, ?_, fun _ _ => rfl⟩
  · have h : countTp rs ≤ n := h
    -- denominators: `len + n - tp = len + (n - tp) = tp + (len - tp) + (n - tp)`
    exact ⟨congrArg (ratio _) (Nat.add_sub_cancel' h).symm, congrArg (ratio (countTp rs))
      ((Nat.add_sub_assoc h _).trans (congrArg (· + (n - countTp rs)) (Nat.add_sub_cancel' hl)).symm)⟩
  · show f1Acc (ratio (countTp rs) rs.length) (ratio (countTp rs) n) =
      match ratio (countTp rs) rs.length, ratio (countTp rs) n with
      | .val p, .val r => if p + r = 0 then .inf else .val (2 * p * r / (p + r))
      | _, _ => .inf
    generalize ratio (countTp rs) rs.length = p
    generalize ratio (countTp rs) n = r
    cases p <;> cases r <;> rfl

/-- every defined score lies in [0,1], provided the label-correct results do not outnumber the ground
truths the caller announces -/
theorem metrics_in_unit {rs : List Res} {n : Nat} (h : countTp rs ≤ n) :
    (accuracy rs n).accuracy.inUnit ∧ (accuracy rs n).precision.inUnit ∧ (accuracy rs n).recall.inUnit ∧
      (accuracy rs n).f1.inUnit := by
  have hl := countTp_le_length rs
  have hp : (ratio (countTp rs) rs.length).inUnit := ratio_inUnit hl
  have hr : (ratio (countTp rs) n).inUnit := ratio_inUnit h
  exact ⟨ratio_inUnit (Nat.le_sub_of_add_le (Nat.add_le_add hl h)), hp, hr, (f1_inUnit hp hr).1⟩

/-- … which always holds for the results of the matchers scored against their own ground truths -/
theorem metrics_in_unit_results {fpv uf : Bool} {ests gts : List Obj} {rs : List Res}
    (h : objectResults fpv uf ests gts = .ok rs) :
    let a := accuracy rs gts.length
    a.accuracy.inUnit ∧ a.precision.inUnit ∧ a.recall.inUnit ∧ a.f1.inUnit :=
  metrics_in_unit (tp_le_num_gt h)

/-- as many results as ground truths (at least one), all label-correct ⇒ all four scores are 1 -/
theorem metrics_all_one {rs : List Res} {n : Nat} (hall : ∀ r ∈ rs, labelCorrect r = true)
    (hlen : rs.length = n) (hpos : 0 < n) :
    (accuracy rs n).accuracy = .val 1 ∧ (accuracy rs n).precision = .val 1 ∧ (accuracy rs n).recall = .val 1 ∧
      (accuracy rs n).f1 = .val 1 := by
  have htp : countTp rs = n := (countTp_all hall).trans hlen
  simp only [accuracy, htp, hlen, ratio_self hpos, f1_one.1, Nat.add_sub_cancel, and_self]

/-- end to end: every ground truth is paired with an equally-labelled estimate and nothing else is
reported ⇒ accuracy, precision, recall and F1 are all 1 -/
theorem metrics_all_one_results {fpv uf : Bool} {ests gts : List Obj} {rs : List Res}
    (hG : gts.Nodup) (hne : gts ≠ []) (h : objectResults fpv uf ests gts = .ok rs)
    (hgt : ∀ g ∈ gts, ∃ e, ({ est := e, gt := some g } : Res) ∈ rs ∧ e.label = g.label)
    (honly : ∀ r ∈ rs, r.gt ≠ none) :
    let a := accuracy rs gts.length
    a.accuracy = .val 1 ∧ a.precision = .val 1 ∧ a.recall = .val 1 ∧ a.f1 = .val 1 := by
  obtain ⟨s, tail, hrs0, w, _, _⟩ := objectResults_shape h
  have hG' := List.nodup_append.1 (w.gs.nodup_iff.1 hG)
  -- nothing GT-less is reported
  have htail : tail = [] := List.eq_nil_iff_forall_not_mem.2 fun t ht =>
    honly _ (hrs0 ▸ mem_results_none.2 ht) rfl
  have hrs : rs = paired s.res := by rw [hrs0, htail]; exact List.append_nil _
  have hpair : ∀ g ∈ gts, ∃ e, (e, g) ∈ s.res ∧ e.label = g.label := fun g hg =>
    let ⟨e, hr, hl⟩ := hgt g hg; ⟨e, mem_paired.1 (hrs ▸ hr), hl⟩
  -- every ground truth occurs in a pair, so none is left over
  have hgl : s.gs = [] := List.eq_nil_iff_forall_not_mem.2 fun g hg =>
    let ⟨e, hp, _⟩ := hpair g ((w.mem_gs g).2 (Or.inl hg))
    hG'.2.2 g hg g (List.mem_map.2 ⟨_, hp, rfl⟩) rfl
  have hlen : rs.length = gts.length := by
    rw [w.gs.length_eq, hgl, hrs, List.nil_append, List.length_map, paired, List.length_map]
  have hall : ∀ r ∈ rs, labelCorrect r = true := by
    intro r hr
    obtain ⟨p, hp, rfl⟩ := paired_gt_some (hrs ▸ hr)
    obtain ⟨e, hp', hl⟩ := hpair p.2 (w.mem_of_res hp).2
    have he : e = p.1 := congrArg Prod.fst (List.inj_on_of_nodup_map hG'.2.1 hp' hp rfl)
    simp [labelCorrect, ← he, hl]
  exact metrics_all_one hall hlen (List.length_pos_iff.2 hne)

/-- `_summarize` pools the per-label counts and applies the same counting definitions (precision over
TP+FP); an undefined precision or recall makes its F1 `nan` rather than `inf` -/
theorem summarize_def (accs : List Acc) :
    let tp := (accs.map (·.tp)).sum
    let fp := (accs.map (·.fp)).sum
    let ngt := (accs.map (·.numGT)).sum
    let nest := (accs.map (·.num)).sum
    summarize accs =
      (ratio tp (nest + ngt - tp), ratio tp (tp + fp), ratio tp ngt,
       match ratio tp (tp + fp), ratio tp ngt with
       | .val p, .val r => if p + r = 0 then .inf else .val (2 * p * r / (p + r))
       | _, _ => .nan) := by
  intro tp fp ngt nest
  rfl

/-- the pooled scores lie in [0,1] whenever defined, if in every bucket the label-correct results do not
outnumber the announced ground truths -/
theorem summarize_in_unit {bs : List (List (List Res) × Nat)} (h : ∀ b ∈ bs, countTp b.1.flatten ≤ b.2) :
    (summarize (bucketAccs bs)).1.inUnit ∧ (summarize (bucketAccs bs)).2.1.inUnit ∧
    (summarize (bucketAccs bs)).2.2.1.inUnit ∧ (summarize (bucketAccs bs)).2.2.2.inUnit := by
  obtain ⟨h1, h3⟩ := sums_buckets bs
  have h3 := h3 h
  simp only [summarize]
  have hp : (ratio ((bucketAccs bs).map (·.tp)).sum
      (((bucketAccs bs).map (·.tp)).sum + ((bucketAccs bs).map (·.fp)).sum)).inUnit := ratio_inUnit (Nat.le_add_right _ _)
  have hr : (ratio ((bucketAccs bs).map (·.tp)).sum ((bucketAccs bs).map (·.numGT)).sum).inUnit := ratio_inUnit h3
  exact ⟨ratio_inUnit (Nat.le_sub_of_add_le (Nat.add_le_add h1 h3)), hp, hr, (f1_inUnit hp hr).2⟩

/-- all results label-correct and as many as announced ground truths in every bucket, at least one
ground truth overall ⇒ the pooled scores are all 1 -/
theorem summarize_all_one {bs : List (List (List Res) × Nat)}
    (hall : ∀ b ∈ bs, (∀ r ∈ b.1.flatten, labelCorrect r = true) ∧ b.1.flatten.length = b.2)
    (hpos : 0 < (bs.map (·.2)).sum) :
    summarize (bucketAccs bs) = (.val 1, .val 1, .val 1, .val 1) := by
  obtain ⟨h1, h2, h3, h4⟩ := sums_all_one hall
  simp only [summarize, h1, h2, h3, h4, Nat.add_zero, Nat.add_sub_cancel]
  rw [ratio_self hpos, f1_one.2]

/-! ## manager level: a scene pools the frames (`PerceptionEvaluationManager.get_scene_result` hands
`[[]] ++ [bucket of frame 1, bucket of frame 2, …]` and the summed ground-truth numbers to
`MetricsScore.evaluate_classification`; a frame hands its own bucket) -/

/-- the per-label input of the scene score: an empty list first, then the frames' buckets -/
def sceneFrames (fs : List (List Res × Nat)) : List (List Res) := [] :: fs.map (·.1)

/-- the counts of a nested accuracy are the sums over its frames -/
theorem pooled_counts (frames : List (List Res)) (n : Nat) :
    (accuracyNested frames n).num = (frames.map List.length).sum ∧
    (accuracyNested frames n).tp = (frames.map countTp).sum ∧
    (accuracyNested frames n).numGT = n :=
  ⟨List.length_flatten, List.countP_flatten, rfl⟩

/-- scene counts = sums of the frame counts (results, label-correct results, ground truths) -/
theorem scene_counts_sum (fs : List (List Res × Nat)) :
    let scene := accuracyNested (sceneFrames fs) (fs.map (·.2)).sum
    scene.num = (fs.map fun f => (accuracy f.1 f.2).num).sum ∧
    scene.tp = (fs.map fun f => (accuracy f.1 f.2).tp).sum ∧
    scene.numGT = (fs.map fun f => (accuracy f.1 f.2).numGT).sum := by
  obtain ⟨h1, h2, h3⟩ := pooled_counts (sceneFrames fs) (fs.map (·.2)).sum
  -- the leading empty frame adds nothing; a frame's own counts are the summands of `pooled_counts`
  rw [sceneFrames, List.map_cons, List.sum_cons, List.map_map] at h1 h2
  exact ⟨h1.trans (Nat.zero_add _), h2.trans (Nat.zero_add _), h3⟩

theorem countTp_sceneFrames_le {fs : List (List Res × Nat)} (h : ∀ f ∈ fs, countTp f.1 ≤ f.2) :
    countTp (sceneFrames fs).flatten ≤ (fs.map (·.2)).sum := by
  rw [sceneFrames, List.flatten_cons, List.nil_append, countTp, List.countP_flatten, List.map_map]
  exact sum_map_le h

/-- the scene scores of a label lie in [0,1] whenever defined, if in every frame the label-correct results do
not outnumber the frame's ground truths of that label -/
theorem scene_in_unit {fs : List (List Res × Nat)} (h : ∀ f ∈ fs, countTp f.1 ≤ f.2) :
    let scene := accuracyNested (sceneFrames fs) (fs.map (·.2)).sum
    scene.accuracy.inUnit ∧ scene.precision.inUnit ∧ scene.recall.inUnit ∧ scene.f1.inUnit :=
  metrics_in_unit (countTp_sceneFrames_le h)

/-- every frame perfect (all results label-correct, as many as ground truths) and at least one ground truth in the
scene ⇒ the scene scores of the label are all 1 -/
theorem scene_all_one {fs : List (List Res × Nat)}
    (hall : ∀ f ∈ fs, (∀ r ∈ f.1, labelCorrect r = true) ∧ f.1.length = f.2) (hpos : 0 < (fs.map (·.2)).sum) :
    let scene := accuracyNested (sceneFrames fs) (fs.map (·.2)).sum
    scene.accuracy = .val 1 ∧ scene.precision = .val 1 ∧ scene.recall = .val 1 ∧ scene.f1 = .val 1 := by
  intro scene
  have hc : ∀ r ∈ (sceneFrames fs).flatten, labelCorrect r = true := by
    simp only [sceneFrames, List.flatten_cons, List.nil_append, List.mem_flatten, List.mem_map]
    rintro r ⟨_, ⟨f, hf, rfl⟩, hrl⟩
    exact (hall f hf).1 r hrl
  have hl : (sceneFrames fs).flatten.length = (fs.map (·.2)).sum := by
    rw [sceneFrames, List.flatten_cons, List.nil_append, List.length_flatten, List.map_map]
    exact congrArg List.sum (List.map_congr_left fun f hf => (hall f hf).2)
  exact metrics_all_one hc hl hpos

/-! ## the hypotheses are satisfiable: concrete non-trivial instances -/

section Examples

def lg : Label := { tl := true, name := "green" }
def lr : Label := { tl := true, name := "red" }
def e1 : Obj := { id := 0, uuid := some "a", label := lg, frame := "cam_front" }
def e2 : Obj := { id := 1, uuid := some "b", label := lr, frame := "cam_front" }
def e3 : Obj := { id := 2, uuid := some "a", label := lg, frame := "cam_back" }
def g1 : Obj := { id := 10, uuid := some "a", label := lr, frame := "cam_front" }
def g2 : Obj := { id := 11, uuid := some "b", label := lg, frame := "cam_front" }
def g3 : Obj := { id := 12, uuid := some "a", label := lg, frame := "cam_back" }

/-- unique non-null uuids per side and camera (the same uuid recurs in the other camera) -/
example : ([e1, e2, e3].map key).Nodup ∧ ([g1, g2, g3].map key).Nodup ∧
    ∀ o ∈ [e1, e2, e3] ++ [g1, g2, g3], o.uuid ≠ none := by decide

/-- label-first: the label stage steals the uuid partners, all three pairs are label-correct -/
example : pairTlr false [e1, e2, e3] [g1, g2, g3] =
    .ok [⟨e1, some g2⟩, ⟨e2, some g1⟩, ⟨e3, some g3⟩] := by decide +kernel

/-- uuid-first: pairs follow the uuids; two of them are label-wrong -/
example : pairTlr true [e1, e2, e3] [g1, g2, g3] =
    .ok [⟨e3, some g3⟩, ⟨e1, some g1⟩, ⟨e2, some g2⟩] := by decide +kernel

/-- the hypotheses of `metrics_all_one_results` hold for the label-first answer -/
example : ∃ rs, objectResults false false [e1, e2, e3] [g1, g2, g3] = .ok rs ∧
    (∀ g ∈ [g1, g2, g3], ∃ e, ({ est := e, gt := some g } : Res) ∈ rs ∧ e.label = g.label) ∧
    (∀ r ∈ rs, r.gt ≠ none) :=
  ⟨[⟨e1, some g2⟩, ⟨e2, some g1⟩, ⟨e3, some g3⟩], by decide +kernel, by
    intro g hg
    simp only [List.mem_cons, List.not_mem_nil, or_false] at hg
    rcases hg with rfl | rfl | rfl
    · exact ⟨e2, by decide, by decide⟩
    · exact ⟨e1, by decide, by decide⟩
    · exact ⟨e3, by decide, by decide⟩, by decide⟩

/-- a competitor pairing for `tlr_correct_pairs_maximum` (the uuid pairing: one equally-labelled pair) -/
example : Pairing [e1, e2, e3] [g1, g2, g3] [(e1, g1), (e2, g2), (e3, g3)] :=
  ⟨by decide, by decide, by decide, by decide, by decide⟩

/-- stage 1 of the uuid-first run leaves a same-uuid pair for stage 2 (`tlr_stage2_pairs_by_uuid` is not vacuous) -/
example : ∃ s1, tlrStage1 true [e1, e2, e3] [g1, g2, g3] = .ok s1 ∧ e1 ∈ s1.es ∧ g1 ∈ s1.gs :=
  ⟨⟨[(e3, g3)], [e1, e2], [g1, g2]⟩, by decide +kernel, by decide, by decide⟩

/-- a bucket meeting the hypothesis of `metrics_in_unit` with a fractional score -/
example : countTp [⟨e1, some g2⟩, ⟨e2, some g2⟩, ⟨e3, none⟩] ≤ 2 ∧
    (accuracy [⟨e1, some g2⟩, ⟨e2, some g2⟩, ⟨e3, none⟩] 2).recall = .val (1 / 2) := by decide +kernel

/-- a two-frame scene: the first frame perfect, the second with a wrong pair; pooled recall 2/3 -/
example : (accuracyNested (sceneFrames [([⟨e1, some g2⟩], 1), ([⟨e2, some g1⟩, ⟨e1, some g1⟩], 2)]) 3).recall = .val (2 / 3) ∧
    countTp [⟨e2, some g1⟩, ⟨e1, some g1⟩] ≤ 2 := by decide +kernel

end Examples

/-! ## tie to the source: decision tables of the pairing kernels extracted from the real code (regenerated on every run)

`harness/dt_c11.py` runs the REAL `get_object_results` on ROI-less stub objects (at most two estimates and two ground
truths; generic labels, traffic-light labels with both `uuid_matching_first` settings) over every assignment of the
equality atoms it queries (`PEval/Gen/ClassificationDT.lean`). `ClassificationDT.skel` is the hand-written skeleton over
the same atoms; `DT.agree` decides by kernel evaluation, completely for the finite decision space, that table and
skeleton give the same SET of pairs (`canonRes`: result order forgotten — the property speaks of pairs, not of a list;
unpaired results forgotten on the traffic-light path, where the text does not say whether they are reported) under every
valuation an input inside the quantifier can induce (`pairForb`: a valuation where one object shares uuid AND camera with
both objects of the other side belongs to no input with unique uuids per side and camera, so what the code does there —
`ValueError` of `list.remove`, a guard, silently skipping — is left open). Among several equally admissible partners the
model's list-order choice is still the reference (a traffic-light matcher that scans the ground truths in reverse
fails the comparison). The skeleton itself is tied to the model by `ClassificationDT.skel_eq_model`: on every valuation it equals the MODEL's own loops (`outer`, `stepU`, `stepG`,
`take`, `pairById` / `pairTlr` with their tests as parameters) run on index objects. A shape the translator cannot
follow has `tree = none`; its row is accepted without comparison. -/
section Table
open PEval.DT PEval.ClassificationDT

/-- every atom may be asked again further down a path (stage 2 of the traffic-light matcher re-reads uuid and frame);
14 = the 12 pair atoms `aUuid`, `aFrame`, `aLab` of a 2 × 2 shape and the 2 atoms `aTl` -/
def pairSticky : List Nat := List.range 14

/-- the code's table agrees with the canonical skeleton `skelC` (pairs as a SET: result order forgotten; unpaired results
of the traffic-light path forgotten) on every valuation that avoids `pairForb` (the valuations no input with unique
uuids per side and camera induces) -/
def pairTablesOk : Bool :=
  Gen.ClassificationDT.tables.all fun row =>
    match row.2.2 with
    | some t => agree pairForb pairSticky t (skelC row.1 (row.2.1 / 3) (row.2.1 % 3)) PA.empty
    | none => true

/-- the per-run obligation (re-checked against the tables regenerated on every run): the checker accepts every table -/
theorem pair_table_check : pairTablesOk = true := by decide +kernel

/-- the code's decision table of `get_object_results` (every tabulated function and shape; leaves written canonically by
`harness/dt_c11.py`) equals the canonical form of the model's skeleton under every valuation of the atoms that is
consistent with `pairForb` -/
theorem pair_code_table_eq_model :
    ∀ row ∈ Gen.ClassificationDT.tables, ∀ t, row.2.2 = some t → ∀ v : Val, consistent pairForb v = true →
      eval t v = canonRes (dropFPOf row.1 (row.2.1 / 3) (row.2.1 % 3)) (skelAtoms row.1 (row.2.1 / 3) (row.2.1 % 3) v) := by
  intro row hrow t ht v hc
  have h := List.all_eq_true.1 pair_table_check row hrow
  rw [ht] at h
  rw [agree_sound h v hc, eval_skelC]

/-- the same with the shape spelt out -/
theorem pair_code_table_eq_skel {f n m : Nat} {t : DTree} (ht : (f, 3 * n + m, some t) ∈ Gen.ClassificationDT.tables)
    (hm : m < 3) (v : Val) (hc : consistent pairForb v = true) :
    eval t v = canonRes (dropFPOf f n m) (skelAtoms f n m v) := by
  have h := pair_code_table_eq_model _ ht t rfl v hc
  have h1 : (3 * n + m) / 3 = n := by rw [Nat.mul_add_div (by decide), Nat.div_eq_of_lt hm, Nat.add_zero]
  have h2 : (3 * n + m) % 3 = m := by rw [Nat.mul_add_mod, Nat.mod_eq_of_lt hm]
  dsimp only at h
  rw [h1, h2] at h
  exact h

/-- composition with `skel_eq_model` (Lemmas/ClassificationDT.lean: skeleton = the MODEL's own loops on index objects, for
every valuation): the CODE's table on a consistent valuation of the shape's atoms is the canonical form of the model's
algorithm on index objects -/
theorem pair_code_table_eq_model_on_index {f n m : Nat} {t : DTree}
    (ht : (f, 3 * n + m, some t) ∈ Gen.ClassificationDT.tables) (hf : f ∈ [0, 1, 2]) (hs : (n, m) ∈ shapes)
    (hm : m < 3) :
    ∀ bs ∈ allBits (shapeAtoms f n m).length, consistent pairForb (valOf (shapeAtoms f n m) bs) = true →
      eval t (valOf (shapeAtoms f n m) bs) = canonRes (dropFPOf f n m) (modelOnIndex f n m (valOf (shapeAtoms f n m) bs)) := by
  intro bs _ hc
  rw [pair_code_table_eq_skel ht hm _ hc, skelAtoms, skel_eq_model]

/-- every valuation of a 1 × 1 shape is consistent with `pairForb` (its clauses need two objects on one side) -/
theorem consistent_1x1 : ∀ f ∈ [0, 1, 2], ∀ bs ∈ allBits (shapeAtoms f 1 1).length,
    consistent pairForb (valOf (shapeAtoms f 1 1) bs) = true := by decide +kernel

/-- C11 for the code's table, one generic estimate and one ground truth (every valuation of the shape's atoms): they
are paired iff they share the uuid and the camera frame; otherwise the estimate is reported unpaired, unless it lives in
`CAM_TRAFFIC_LIGHT` -/
theorem table_generic_1x1 {t : DTree} (ht : (0, 3 * 1 + 1, some t) ∈ Gen.ClassificationDT.tables) :
    ∀ bs ∈ allBits (shapeAtoms 0 1 1).length,
      eval t (valOf (shapeAtoms 0 1 1) bs) =
        .other (if (valOf (shapeAtoms 0 1 1) bs).b (aUuid 0 0) && (valOf (shapeAtoms 0 1 1) bs).b (aFrame 0 0)
          then digitOf 0 (some 0) else if (valOf (shapeAtoms 0 1 1) bs).b (aTl 0) then 0 else digitOf 0 none) := by
  intro bs hbs
  rw [pair_code_table_eq_model_on_index ht (by decide) (by decide) (by decide) bs hbs
    (consistent_1x1 0 (by decide) bs hbs)]
  -- a truth table over the 2 ^ 3 valuations of the shape's atoms
  revert bs
  decide +kernel

/-- C11 for the code's table, traffic lights 1 × 1: paired iff same camera and (same uuid, or — without
`uuid_matching_first` — same label): stage 2 pairs by uuid what stage 1 left (whether an unpaired traffic-light estimate
is also reported is left open, `dropFPOf`) -/
theorem table_tlr_1x1 {t1 t2 : DTree} (h1 : (1, 3 * 1 + 1, some t1) ∈ Gen.ClassificationDT.tables)
    (h2 : (2, 3 * 1 + 1, some t2) ∈ Gen.ClassificationDT.tables) :
    (∀ bs ∈ allBits (shapeAtoms 1 1 1).length,
      eval t1 (valOf (shapeAtoms 1 1 1) bs) =
        .other (if (valOf (shapeAtoms 1 1 1) bs).b (aFrame 0 0) &&
            ((valOf (shapeAtoms 1 1 1) bs).b (aUuid 0 0) || (valOf (shapeAtoms 1 1 1) bs).b (aLab 0 0))
          then digitOf 0 (some 0) else 0)) ∧
    (∀ bs ∈ allBits (shapeAtoms 2 1 1).length,
      eval t2 (valOf (shapeAtoms 2 1 1) bs) =
        .other (if (valOf (shapeAtoms 2 1 1) bs).b (aFrame 0 0) && (valOf (shapeAtoms 2 1 1) bs).b (aUuid 0 0)
          then digitOf 0 (some 0) else 0)) := by
  constructor
  · intro bs hbs
    rw [pair_code_table_eq_model_on_index h1 (by decide) (by decide) (by decide) bs hbs
      (consistent_1x1 1 (by decide) bs hbs)]
    revert bs
    decide +kernel
  · intro bs hbs
    rw [pair_code_table_eq_model_on_index h2 (by decide) (by decide) (by decide) bs hbs
      (consistent_1x1 2 (by decide) bs hbs)]
    revert bs
    decide +kernel

/-- non-vacuity: the checker distinguishes skeletons (the early `break` of seeded change C11_E would be a different
tree) although it forgets the result order and the traffic-light FP tail and skips the `pairForb` valuations; a
reordered result list IS accepted (`canonRes`), a different set of pairs is not -/
example : agree pairForb pairSticky (skelC 0 1 2) (skelC 0 1 2) PA.empty = true := by decide +kernel
example : agree pairForb pairSticky (skelC 1 2 2) (skelC 2 2 2) PA.empty = false := by decide +kernel
example : agree pairForb pairSticky (skelC 0 2 2) (skelC 1 2 2) PA.empty = false := by decide +kernel
/-- the generic skeleton raising ValueError on a double hit and one that never raises agree modulo `pairForb` only -/
example : agree pairForb pairSticky (.leaf (.other 62)) (skelC 0 2 2) PA.empty = false := by decide +kernel

end Table

section TableAllInputs
open PEval.DT PEval.ClassificationDT

/-- RELABELLING INVARIANCE of the model's pairing (any list lengths): the pairing looks at the objects only through the
equality tests between an estimate and a ground truth (uuid, frame, label), `uuid is None`, the traffic-light-frame test,
the label family of the first estimate, and identity. A renaming `fE`, `fG` that is injective on the inputs and keeps
those answers renames the results (or keeps the exception). -/
theorem pairing_relabelling_invariant (uf : Bool) (fE fG : Obj → Obj) (ests gts : List Obj)
    (hiE : InjOn fE ests) (hiG : InjOn fG gts)
    (hu : ∀ e ∈ ests, ∀ g ∈ gts, decide ((fE e).uuid = (fG g).uuid) = decide (e.uuid = g.uuid))
    (hfr : ∀ e ∈ ests, ∀ g ∈ gts, decide ((fE e).frame = (fG g).frame) = decide (e.frame = g.frame))
    (hl : ∀ e ∈ ests, ∀ g ∈ gts, decide ((fE e).label = (fG g).label) = decide (e.label = g.label))
    (hnull : ∀ e ∈ ests, ∀ g ∈ gts, nullUuid (fE e) (fG g) = nullUuid e g)
    (htl : ∀ e ∈ ests, ((fE e).frame == camTrafficLight) = (e.frame == camTrafficLight))
    (hfam : ∀ e ∈ ests, (fE e).label.tl = e.label.tl) :
    objectResults false uf (ests.map fE) (gts.map fG) = mapOut fE fG (objectResults false uf ests gts) := by
  cases ests with
  | nil => rfl
  | cons e0 es =>
    cases gts with
    | nil =>
      simp only [List.map_cons, List.map_nil, objectResults, Bool.false_eq_true, if_false, mapOut]
      exact congrArg Except.ok (fpResults_map fE fG (e0 :: es))
    | cons g0 gs =>
      have hR2 : Renaming fE fG (e0 :: es) (g0 :: gs) sameKey sameKey :=
        { injE := hiE, injG := hiG, null := hnull,
          test := by intro e he g hg; simp only [sameKey, hu e he g hg, hfr e he g hg] }
      have hR1 : Renaming fE fG (e0 :: es) (g0 :: gs) (cond1 uf) (cond1 uf) :=
        { injE := hiE, injG := hiG, null := hnull,
          test := by intro e he g hg; simp only [cond1, hu e he g hg, hfr e he g hg, hl e he g hg] }
      have h1 := pairByIdG_sim hR2 (tl := fun e => e.frame == camTrafficLight)
        (tl' := fun e => e.frame == camTrafficLight) htl
      have h2 := pairTlrG_sim hR1 hR2
      simp only [List.map_cons] at h1 h2
      simp only [List.map_cons, objectResults, hfam e0 (by simp), pairById_eq, pairTlr_eq, h1, h2]
      split <;> rfl

/-- BRIDGE, any list lengths: for pairwise distinct objects with non-null uuids the model's `get_object_results`, written
as index pairs (`encodeC`: positions in the input lists, the format of the tables), is the model's algorithm on index
objects at every valuation that answers the atoms as the objects' equality tests do -/
theorem pairing_index_form (uf : Bool) (ests gts : List Obj) (hE : ests.Nodup) (hG : gts.Nodup)
    (hn : ∀ o ∈ ests ++ gts, o.uuid ≠ none) (v : Val) (hv : Induces v ests gts) :
    modelOnIndex (fOf uf ests) ests.length gts.length v = encodeC ests gts (objectResults false uf ests gts) := by
  have hI := congrArg encodeR (pairByIdG_sim (sameKey_renaming hv hn) (tl := fun e => e.frame == camTrafficLight)
    (tl' := tlV v) fun e he => hv.tl _ e (getElem?_idxOf_of_mem he))
  have hT := congrArg encodeR (pairTlrG_sim (cond1_renaming hv hn uf) (sameKey_renaming hv hn))
  rw [encodeR_mapOut, ← pairById_eq] at hI
  rw [encodeR_mapOut, ← pairTlr_eq] at hT
  unfold modelOnIndex
  simp only [map_range_idxOf idxE hE, map_range_idxOf idxG hG]
  cases ests with
  | nil => rfl
  | cons e0 es =>
    cases gts with
    | nil =>
      rw [← encodeR_mapOut]
      exact congrArg encodeR (congrArg Except.ok (fpResults_map (toE (e0 :: es)) (toG []) (e0 :: es)))
    | cons g0 gs =>
      cases htl : e0.label.tl <;> simp only [fOf, objectResults, htl]
      · exact hI
      · cases uf <;> exact hT

/-- every function × shape has its row in the regenerated tables -/
theorem pair_table_rows_present :
    ∀ f ∈ [0, 1, 2], ∀ nm ∈ shapes, (Gen.ClassificationDT.tables.any fun r => r.1 == f && r.2.1 == 3 * nm.1 + nm.2) = true := by
  decide +kernel

/-- the quantifier of C11 ("unique non-null uuids per side and camera"), the part the per-run obligation is restricted
to: no two estimates and no two ground truths share uuid AND camera -/
def UniqueKeys (ests gts : List Obj) : Prop := (ests.map key).Nodup ∧ (gts.map key).Nodup

/-- such inputs induce valuations the checker looks at -/
theorem uniqueKeys_consistent {ests gts : List Obj} (hk : UniqueKeys ests gts) (hn : ests.length ≤ 2)
    (hm : gts.length ≤ 2) : consistent pairForb (valC ests gts) = true :=
  valC_consistent ests gts hk.1 hk.2

/-- WHAT THE CODE'S TABLES SAY ABOUT EVERY INPUT OF THEIR SHAPES INSIDE THE QUANTIFIER (table theorem ∘ skeleton check ∘
relabelling invariance): for ALL lists whose lengths are a tabulated shape (`shapes`: at most two estimates and two ground
truths, not 0 × 0 and not 0 × 2; pairwise distinct objects, non-null uuids, unique (uuid, camera) per side — `UniqueKeys`; any uuids, frames, labels, either
`uuid_matching_first`), the tables contain the row of that input, and its tree — the decision tree of the REAL
`get_object_results`, result written canonically — evaluated at the valuation `valC` of the objects' equality tests, is
the canonical form (`canonRes`: the SET of index pairs; on the traffic-light path with ground truths present without the
unpaired results) of the model's pairing. -/
theorem table_pairing_is_model (uf : Bool) (ests gts : List Obj) (hE : ests.Nodup) (hG : gts.Nodup)
    (hn : ∀ o ∈ ests ++ gts, o.uuid ≠ none) (hk : UniqueKeys ests gts) (hs : (ests.length, gts.length) ∈ shapes) :
    ∃ row ∈ Gen.ClassificationDT.tables, row.1 = fOf uf ests ∧ row.2.1 = 3 * ests.length + gts.length ∧
      ∀ t, row.2.2 = some t → eval t (valC ests gts) =
        canonRes (dropFPOf (fOf uf ests) ests.length gts.length) (encodeC ests gts (objectResults false uf ests gts)) := by
  have hf : fOf uf ests ∈ [0, 1, 2] := by
    cases ests with
    | nil => simp [fOf]
    | cons e0 es => cases h : e0.label.tl <;> cases uf <;> simp [fOf, h]
  have hrow := pair_table_rows_present (fOf uf ests) hf (ests.length, gts.length) hs
  obtain ⟨row, hmem, hk'⟩ := List.any_eq_true.1 hrow
  simp only [Bool.and_eq_true, beq_iff_eq] at hk'
  refine ⟨row, hmem, hk'.1, hk'.2, ?_⟩
  intro t ht
  have hm : ests.length ≤ 2 ∧ gts.length ≤ 2 := by
    simp only [shapes, List.mem_cons, Prod.mk.injEq, List.not_mem_nil, or_false] at hs
    omega
  have hrow : (fOf uf ests, 3 * ests.length + gts.length, some t) ∈ Gen.ClassificationDT.tables := by
    rw [← hk'.1, ← hk'.2, ← ht]
    exact hmem
  rw [pair_code_table_eq_skel hrow (by omega) _ (uniqueKeys_consistent hk hm.1 hm.2), skelAtoms, skel_eq_model,
    pairing_index_form uf ests gts hE hG hn _ (valC_induces ests gts hm.1 hm.2)]

/-- non-vacuity: two traffic lights against two ground truths with crossed uuids, same labels (an input inside the
quantifier: `UniqueKeys`, consistent valuation) — without `uuid_matching_first` stage 1 pairs by label in input order
(digits 2 = est 0 ↔ gt 0, 6 = est 1 ↔ gt 1), with it by uuid (3 = est 0 ↔ gt 1, 5 = est 1 ↔ gt 0); the canonical
form keeps both sets of pairs apart -/
example :
    let e0 : Obj := ⟨0, some "a", ⟨true, "green"⟩, "cam0"⟩
    let e1 : Obj := ⟨1, some "b", ⟨true, "green"⟩, "cam0"⟩
    let g0 : Obj := ⟨2, some "b", ⟨true, "green"⟩, "cam0"⟩
    let g1 : Obj := ⟨3, some "a", ⟨true, "green"⟩, "cam0"⟩
    encodeC [e0, e1] [g0, g1] (objectResults false false [e0, e1] [g0, g1]) = .other 62 ∧
    encodeC [e0, e1] [g0, g1] (objectResults false true [e0, e1] [g0, g1]) = .other 53 ∧
    canonRes (dropFPOf 1 2 2) (.other 62) = .other 62 ∧ canonRes (dropFPOf 2 2 2) (.other 53) = .other 53 ∧
    ([e0, e1].map key).Nodup ∧ ([g0, g1].map key).Nodup ∧
    consistent pairForb (valC [e0, e1] [g0, g1]) = true := by decide +kernel

end TableAllInputs

/-! ## "the number of LABEL-CORRECT pairs is the largest possible": the count the metrics use

`tlr_correct_pairs_maximum` maximises `numEqual` (pairs with EQUAL labels).  `ClassificationAccuracy` counts
`is_label_correct`, which is also true when the ground truth carries the FP label whatever the estimate's
label (`labelCorrect`, `countTp`).  This section links the two counts:

* `tp_eq_equal_plus_fp_only`: `countTp rs` = equal-label pairs + pairs that are correct ONLY through an FP label;
* `tlr_tp_maximum`: no ground truth with the FP label ⇒ the TP count of the answer is the maximum over ALL
  one-to-one same-camera pairings (label-first mode);
* `tlr_tp_exact`, `tlr_tp_maximum_up_to_fp`, `tlr_tp_not_maximal_with_fp_label`: the FP-label case stated exactly
  (the TP count is NOT maximal there, not even among pairings every pair of which the rule can form; it depends on
  the order of the estimates; the gap is at most the number of FP-labelled ground truths);
* `tlr_uuid_first_maximum`: uuid-first mode (every admissible pair shares uuid and camera, and all of them are made).
-/
section TpMaximum

/-- link between the metrics' count and the count of `tlr_correct_pairs_maximum` -/
theorem tp_eq_equal_plus_fp_only (rs : List Res) :
    countTp rs = numEqual (resPairs rs) + numFpOnly (resPairs rs) := by
  rw [countTp_eq_numCorrect, numCorrect_split]

/-- without FP-labelled ground truths "label-correct" and "equal label" are the same count (of any list of pairs:
`countTp_paired_eq_numEqual`) -/
theorem tp_eq_equal_of_no_fp_label {ests gts : List Obj} {P : List (Obj × Obj)} (hP : Pairing ests gts P)
    (hfp : ∀ g ∈ gts, g.label.isFP = false) : countTp (paired P) = numEqual P :=
  countTp_paired_eq_numEqual fun p hp => hfp p.2 (hP.gt_mem p hp)

/-- the FP-label case, exactly: the TP count of the label-first answer is the number of label-stage pairs plus
the number of uuid-stage pairs whose ground truth carries the FP label -/
theorem tlr_tp_exact {ests gts : List Obj} {rs : List Res} (hE : ests.Nodup)
    (h : pairTlr false ests gts = .ok rs) :
    ∃ s1 p2, tlrStage1 false ests gts = .ok s1 ∧ rs = paired (s1.res ++ p2) ∧
      countTp rs = s1.res.length + p2.countP (fun p => p.2.label.isFP) := by
  obtain ⟨s1, s2, p2, h1, _, hrs, S1, S2⟩ := pairTlr_inv h
  refine ⟨s1, p2, h1, hrs, ?_⟩
  rw [hrs, ← numCorrect_eq_countTp_paired]
  unfold numCorrect
  rw [List.countP_append]
  congr 1
  · rw [List.countP_eq_length]
    intro p hp
    have := (cond1_iff.1 (S1.new p hp).2.1).1
    simp [pairCorrect_eq, equalLabel, this]
  · apply List.countP_congr
    intro p hp
    have := tlr_stage2_label_ne hE h1 S2 p hp
    simp [pairCorrect_eq, equalLabel, this]

/-- the FP-label case, bound: a competitor can beat the answer's TP count by at most the number of FP-labelled
ground truths -/
theorem tlr_tp_maximum_up_to_fp {ests gts : List Obj} {rs : List Res} (hE : ests.Nodup) (hG : gts.Nodup)
    (h : pairTlr false ests gts = .ok rs) :
    ∀ P, Pairing ests gts P → countTp (paired P) ≤ countTp rs + gts.countP (fun g => g.label.isFP) := by
  intro P hP
  obtain ⟨_, hmax⟩ := tlr_correct_pairs_maximum hE hG h
  have h1 := hmax P hP
  have h2 := numFpOnly_le hP
  have h3 := numEqual_le_numCorrect (resPairs rs)
  rw [← numCorrect_eq_countTp_paired, numCorrect_split, countTp_eq_numCorrect]
  omega

/-- label-first mode, no ground truth with the FP label: the TP count of the answer (the number
`ClassificationAccuracy` computes) is the largest TP count of any one-to-one same-camera pairing -/
theorem tlr_tp_maximum {ests gts : List Obj} {rs : List Res} (hE : ests.Nodup) (hG : gts.Nodup)
    (hfp : ∀ g ∈ gts, g.label.isFP = false) (h : pairTlr false ests gts = .ok rs) :
    ∀ P, Pairing ests gts P → countTp (paired P) ≤ countTp rs := by
  intro P hP
  have h0 : gts.countP (fun g => g.label.isFP) = 0 := List.countP_eq_zero.2 fun g hg => by simp [hfp g hg]
  have := tlr_tp_maximum_up_to_fp hE hG h P hP
  omega

/-- a pairing every pair of which the property's rule can form: equal label (label stage) or equal uuid (uuid stage) -/
def RuleAdmissible (P : List (Obj × Obj)) : Prop := ∀ p ∈ P, p.1.label = p.2.label ∨ p.1.uuid = p.2.uuid

def lfp : Label := { tl := true, name := "false_positive" }
def ea : Obj := { id := 0, uuid := some "a", label := lg, frame := "cam_front" }
def ec : Obj := { id := 1, uuid := some "c", label := lg, frame := "cam_front" }
def ga : Obj := { id := 10, uuid := some "a", label := lfp, frame := "cam_front" }
def gx : Obj := { id := 11, uuid := some "x", label := lg, frame := "cam_front" }

/-- the FP-label case, deviation: with ONE FP-labelled ground truth the TP count of the label-first answer is not
the largest possible, even among the pairings the rule itself can form (label stage `(ec, gx)`, uuid stage
`(ea, ga)`), on unique non-null uuids; and it depends on the order of the estimates (the reversed list reaches 2).
The real `get_object_results` gives TP 1 / TP 2 for the two orders. -/
theorem tlr_tp_not_maximal_with_fp_label :
    ([ea, ec].map key).Nodup ∧ ([ga, gx].map key).Nodup ∧ (∀ o ∈ [ea, ec] ++ [ga, gx], o.uuid ≠ none) ∧
    pairTlr false [ea, ec] [ga, gx] = .ok [⟨ea, some gx⟩] ∧ countTp [⟨ea, some gx⟩] = 1 ∧
    Pairing [ea, ec] [ga, gx] [(ec, gx), (ea, ga)] ∧ RuleAdmissible [(ec, gx), (ea, ga)] ∧
    countTp (paired [(ec, gx), (ea, ga)]) = 2 ∧
    pairTlr false [ec, ea] [ga, gx] = .ok [⟨ec, some gx⟩, ⟨ea, some ga⟩] := by
  exact ⟨by decide, by decide, by decide, by decide +kernel, by decide, ⟨by decide, by decide, by decide, by decide, by decide⟩,
    by unfold RuleAdmissible; decide, by decide, by decide +kernel⟩

/-- the smallest instance: one estimate, one FP-labelled ground truth with another uuid – the answer is empty
(TP 0), the one-pair pairing is label-correct (TP 1); both uuid-first settings -/
theorem tlr_tp_not_maximal_1x1 :
    pairTlr false [ec] [ga] = .ok [] ∧ pairTlr true [ec] [ga] = .ok [] ∧
    Pairing [ec] [ga] [(ec, ga)] ∧ countTp (paired [(ec, ga)]) = 1 :=
  ⟨by decide +kernel, by decide +kernel, ⟨by decide, by decide, by decide, by decide, by decide⟩, by decide⟩

/-- uuid-first mode on the property's domain: every pairing whose pairs share uuid and camera (the only pairs
either stage can form) is contained in the answer, so the answer has at least as many label-correct pairs and at
least as many equally-labelled pairs -/
theorem tlr_uuid_first_maximum {ests gts : List Obj} {rs : List Res}
    (hke : (ests.map key).Nodup) (hkg : (gts.map key).Nodup) (h : pairTlr true ests gts = .ok rs) :
    ∀ P, Pairing ests gts P → (∀ p ∈ P, p.1.uuid = p.2.uuid) →
      P ⊆ resPairs rs ∧ countTp (paired P) ≤ countTp rs ∧ numEqual P ≤ numEqual (resPairs rs) := by
  intro P hP hu
  have hsub : P ⊆ resPairs rs := fun p hp => mem_resPairs.2 <|
    (tlr_uuid_first_iff_same_uuid hke hkg h p.1 p.2).2 ⟨hP.est_mem p hp, hP.gt_mem p hp, hu p hp, hP.cam p hp⟩
  have hsp := List.subperm_of_subset (List.Nodup.of_map _ hP.est_once) hsub
  refine ⟨hsub, ?_, hsp.countP_le _⟩
  rw [← numCorrect_eq_countTp_paired, countTp_eq_numCorrect]
  exact hsp.countP_le _

/-- a DEFECTIVE variant of the matcher: the uuid stage runs before the label stage -/
def pairTlr_uuidStageFirst (ests gts : List Obj) : Except Err (List Res) :=
  match outer (stepG sameKey) gts ests (initSt ests gts) with
  | .error x => .error x
  | .ok s1 =>
    match outer (stepG (cond1 false)) s1.gs s1.es s1 with
    | .error x => .error x
    | .ok s2 => .ok (paired s2.res)

/-- `tlr_tp_maximum` says something: its conclusion fails for the defective variant (no FP label involved) -/
example : ∃ rs, pairTlr_uuidStageFirst [e1, e2] [g1, g2] = .ok rs ∧ (∀ g ∈ [g1, g2], g.label.isFP = false) ∧
    ¬ (∀ P, Pairing [e1, e2] [g1, g2] P → countTp (paired P) ≤ countTp rs) :=
  ⟨[⟨e1, some g1⟩, ⟨e2, some g2⟩], by decide +kernel, by decide, fun hmax => by
    have := hmax [(e1, g2), (e2, g1)] ⟨by decide, by decide, by decide, by decide, by decide⟩
    revert this
    decide⟩

/-- non-vacuity of `tlr_tp_maximum` / `tlr_tp_maximum_up_to_fp` / `tlr_tp_exact`: the three-camera instance has no
FP-labelled ground truth and a competitor; the FP instance `[ea, ec] / [ga, gx]` above has one -/
example : [e1, e2, e3].Nodup ∧ [g1, g2, g3].Nodup ∧ (∀ g ∈ [g1, g2, g3], g.label.isFP = false) ∧
    (∃ rs, pairTlr false [e1, e2, e3] [g1, g2, g3] = .ok rs) ∧ [ea, ec].Nodup ∧ [ga, gx].Nodup ∧
    [ga, gx].countP (fun g => g.label.isFP) = 1 :=
  ⟨by decide, by decide, by decide, ⟨[⟨e1, some g2⟩, ⟨e2, some g1⟩, ⟨e3, some g3⟩], by decide +kernel⟩, by decide, by decide, by decide⟩

/-- non-vacuity of `tlr_uuid_first_maximum`: the uuid pairing is a competitor all of whose pairs share the uuid -/
example : Pairing [e1, e2, e3] [g1, g2, g3] [(e1, g1), (e2, g2), (e3, g3)] ∧
    ∀ p ∈ [(e1, g1), (e2, g2), (e3, g3)], p.1.uuid = p.2.uuid :=
  ⟨⟨by decide, by decide, by decide, by decide, by decide⟩, by decide⟩

end TpMaximum

end PEval.C11
