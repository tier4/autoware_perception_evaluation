import PEval.Lemmas.APPerfect
/-!
# C04 — AP, APH and mAP equal the interpolated precision-recall area, within [0,1]

All statements are about the executable model `PEval/Model/AP.lean` (tied to the Python code by the
correspondence run of `./check C04`) and hold for rankings of ANY length, any ground-truth count and
any rational confidences / scores / heading weights.

Vocabulary: a ranking is the list of `Kind`s (`tp w` / `fp` / `ignored`) of the results in descending
confidence order; `apOfKinds G ks` is what `Ap.__init__` computes from it (`ap`, `tp_list`, `fp_list`);
`apOf tm mode targets thresholds G results` is the whole constructor (sort, classify, evaluate).

This module holds the core of the property: value = interpolated area, bounds, APH ≤ AP, the two extreme rankings, mAP as a
mean, the ranking; the root `PEval/Properties/C04.lean` says what the other modules of C04 hold.
-/

namespace PEval.C04
open PEval.AP

/-! ## the value is the interpolated precision-recall area -/

/-- The code-shaped computation (`interpolate_precision_recall_list` + `_calculate_ap`: scan from the
last index down recording strictly larger precisions, sum `max_precision[i]·(recall[i] − recall[i+1])`
down to recall 0) equals `Σ_i (r_i − r_{i−1}) · max_{j ≥ i} p_j`, for all precision / recall lists. -/
theorem apCode_eq_apSpec (ps rs : List Rat) : calculateAp ps rs = apSpec ps rs :=
  calculateAp_eq_apSpec ps rs

/-- `Ap.ap` of a ranking: undefined (`inf`) without results, else the interpolated area of the points
`p_i = cumTP_i/(i+1)`, `r_i = cumTP_i/G` (`0` if `G = 0`). -/
theorem ap_eq_spec (G : Nat) (ks : List Kind) :
    (apOfKinds G ks).ap =
      if ks = [] then none
      else some (apSpec (precFrom 0 (cumsum (ks.map Kind.tpw))) (recalls G (cumsum (ks.map Kind.tpw)))) := by
  cases ks with
  | nil => rfl
  | cons k t =>
    simp only [apOfKinds, tpFpLists, List.isEmpty_cons, Bool.false_eq_true, if_false,
      calculateAp_eq_apSpec, reduceCtorEq]

/-- the whole constructor: AP is defined exactly when there is at least one object result -/
theorem ap_undefined_iff_no_result {tm : TpMetric} {m : Mode} {T : List Label} {th : List Rat}
    {G : Nat} {rs : List Res} {a : ApOut} (h : apOf tm m T th G rs = .ok a) :
    a.ap = none ↔ rs = [] :=
  apOf_ap_none_iff h

/-- `tp_list` / `fp_list` are the running sums of the TP weights / FP flags along the ranking -/
theorem tp_list_eq_cumsum (G : Nat) (ks : List Kind) (h : ks ≠ []) :
    (apOfKinds G ks).tpList = cumsum (ks.map Kind.tpw)
      ∧ (apOfKinds G ks).fpList = cumsum (ks.map Kind.fpw) := by
  cases ks with
  | nil => exact absurd rfl h
  | cons k t => exact ⟨rfl, rfl⟩

/-- AP reads only the TP weights along the ranking: a result without threshold ("ignored") occupies
its rank exactly like an FP (precision is `cumTP_i/(i+1)`), only `fp_list` tells them apart -/
theorem ignored_counts_as_rank (G : Nat) (ks ks' : List Kind)
    (h : ks.map Kind.tpw = ks'.map Kind.tpw) : (apOfKinds G ks).ap = (apOfKinds G ks').ap := by
  cases ks with
  | nil =>
    cases ks' with
    | nil => rfl
    | cons _ _ => simp at h
  | cons k t =>
    cases ks' with
    | nil => simp at h
    | cons k' t' =>
      rw [apOfKinds_ap (List.cons_ne_nil _ _), apOfKinds_ap (List.cons_ne_nil _ _), h]

/-! ## bounds -/

theorem ap_nonneg (G : Nat) (ks : List Kind) (hw : ∀ k ∈ ks, 0 ≤ k.tpw) (x : Rat)
    (h : (apOfKinds G ks).ap = some x) : 0 ≤ x := by
  rw [apOfKinds_ap_some h]
  exact apW_nonneg G le_rfl (List.forall_mem_map.2 hw)

/-- With TP weights in `[0,1]` and no more TPs than ground truths — which one-to-one matching
guarantees, see `tp_le_gt_of_one_to_one` — the AP is at most 1. (Without the hypothesis the code
returns values above 1, e.g. two TPs for one ground truth give 2.) -/
theorem ap_le_one (G : Nat) (ks : List Kind) (hw : ∀ k ∈ ks, 0 ≤ k.tpw ∧ k.tpw ≤ 1)
    (hone : (ks.filter Kind.isTp).length ≤ G) (x : Rat) (h : (apOfKinds G ks).ap = some x) :
    x ≤ 1 := by
  rw [apOfKinds_ap_some h]
  -- area ≤ recall of the summed weights ≤ recall of the TP count ≤ 1
  have h1 := apW_le_recall_total G (i := 0) le_rfl (by simp) (List.forall_mem_map.2 hw)
  have h2 := sum_tpw_le_count fun k hk => (hw k hk).2
  have h3 : ((ks.filter Kind.isTp).length : Rat) ≤ (G : Rat) := Nat.cast_le.2 hone
  exact h1.trans (recallOf_le_one G (h2.trans h3))

/-- the hypotheses of `ap_le_one` on a concrete ranking (TP, FP, half-weight TP, ignored; 2 GT) -/
example : (∀ k ∈ [Kind.tp 1, Kind.fp, Kind.tp (1/2), Kind.ignored], 0 ≤ k.tpw ∧ k.tpw ≤ 1)
    ∧ ([Kind.tp 1, Kind.fp, Kind.tp (1/2), Kind.ignored].filter Kind.isTp).length ≤ 2 := by
  decide +kernel

/-- … and the hypothesis is needed: one ground truth, two TPs (defect F2 of DESIGN §7: one ground truth matched twice in
the map frame) has "AP" 2 -/
example : (apOfKinds 1 [Kind.tp 1, Kind.tp 1]).ap = some 2 := by decide +kernel

/-- one-to-one matching ⇒ the hypothesis of `ap_le_one`: if every ground truth occurs in at most one
result and the `G` of label `L` counts the ground truths of that label, the per-label evaluation
(`target_labels = [L]`, as `Map` calls `Ap`) finds at most `G` TPs -/
theorem tp_le_gt_of_one_to_one (tm : TpMetric) (m : Mode) (L : Label) (t : Rat) (rs : List Res)
    (gts : List Gt) (hnd : (rs.filterMap (·.gt)).Nodup) (hsub : ∀ g ∈ rs.filterMap (·.gt), g ∈ gts)
    {ks : List Kind} (h : classifyAll tm m [L] [t] rs = .ok ks) :
    (ks.filter Kind.isTp).length ≤ (gts.filter (fun g => g.label == L)).length :=
  classifyAll_countTp h ▸ correct_count_le m L t rs gts hnd hsub

theorem apOf_in_unit_of_count {tm : TpMetric} {m : Mode} {T : List Label} {th : List Rat} {G : Nat}
    {rs : List Res} (hw : ∀ r ∈ rs, 0 ≤ r.hw ∧ r.hw ≤ 1) {a : ApOut} (h : apOf tm m T th G rs = .ok a)
    (hone : ∀ ks, classifyAll tm m T th (sortDesc Res.conf rs) = .ok ks → (ks.filter Kind.isTp).length ≤ G)
    (x : Rat) (hx : a.ap = some x) : 0 ≤ x ∧ x ≤ 1 := by
  obtain ⟨ks, hk, rfl⟩ := apOf_ok h
  have hkw : ∀ k ∈ ks, 0 ≤ k.tpw ∧ k.tpw ≤ 1 := by
    refine classifyAll_forall (P := fun k => 0 ≤ k.tpw ∧ k.tpw ≤ 1) (fun r hr k hk' => ?_) hk
    rcases classify_tpw hk' with h0 | h1
    · rw [h0]; exact ⟨le_rfl, zero_le_one⟩
    · rw [h1]; exact tpValue_bounds (hw r (mem_sortDesc.1 hr))
  exact ⟨ap_nonneg _ ks (fun k hk' => (hkw k hk').1) x hx, ap_le_one _ ks hkw (hone ks hk) x hx⟩

/-- For real result sets (each ground truth used at most once, heading weights in `[0,1]`) the per-label
AP and APH lie in `[0,1]`. -/
theorem ap_in_unit_interval (tm : TpMetric) (m : Mode) (L : Label) (t : Rat) (rs : List Res)
    (gts : List Gt) (hnd : (rs.filterMap (·.gt)).Nodup) (hsub : ∀ g ∈ rs.filterMap (·.gt), g ∈ gts)
    (hw : ∀ r ∈ rs, 0 ≤ r.hw ∧ r.hw ≤ 1) {a : ApOut}
    (h : apOf tm m [L] [t] (gts.filter (fun g => g.label == L)).length rs = .ok a) (x : Rat)
    (hx : a.ap = some x) : 0 ≤ x ∧ x ≤ 1 := by
  have hperm := (sortDesc_perm Res.conf rs).filterMap (·.gt)
  exact apOf_in_unit_of_count hw h
    (fun ks hk => tp_le_gt_of_one_to_one tm m L t _ gts (hperm.nodup_iff.2 hnd)
      (fun g hg => hsub g (hperm.mem_iff.1 hg)) hk) x hx

/-! ## APH ≤ AP -/

/-- Same results, same flags, each TP weighted by its heading agreement `≤ 1`: APH never exceeds AP,
and is defined exactly when AP is. -/
theorem aph_le_ap (m : Mode) (T : List Label) (th : List Rat) (G : Nat) (rs : List Res)
    (hw : ∀ r ∈ rs, 0 ≤ r.hw ∧ r.hw ≤ 1) {a h : ApOut} (hh : apOf .aph m T th G rs = .ok h)
    (ha : apOf .ap m T th G rs = .ok a) : optLe h.ap a.ap := by
  obtain ⟨ksh, hkh, rfl⟩ := apOf_ok hh
  obtain ⟨ksa, hka, rfl⟩ := apOf_ok ha
  refine apOfKinds_mono G (classifyAll_rel (fun r hr k k' h1 h2 => ?_) hkh hka)
  -- the decision does not depend on the TP metric, only the weight does
  rw [(classify_isTp h1).2, (classify_isTp h2).2]
  split
  · exact tpValue_bounds (tm := .aph) (hw r (mem_sortDesc.1 hr))
  · exact ⟨le_rfl, le_rfl⟩

/-! ## the two extreme cases -/

/-- every ground truth matched by a correct estimate and no wrong estimate ranked above one:
the ranking starts with `G ≥ 1` full-weight TPs and has no TP weight after them ⇒ AP = 1 -/
theorem ap_one_of_perfect (G : Nat) (hG : 0 < G) (rest : List Kind) (hrest : ∀ k ∈ rest, k.tpw = 0) :
    (apOfKinds G (List.replicate G (Kind.tp 1) ++ rest)).ap = some 1 := by
  have hne : List.replicate G (Kind.tp 1) ++ rest ≠ [] := by
    cases G with
    | zero => omega
    | succ n => simp [List.replicate_succ]
  have hmap : (List.replicate G (Kind.tp 1) ++ rest).map Kind.tpw
      = List.replicate G 1 ++ rest.map Kind.tpw := by
    rw [List.map_append, List.map_replicate]
    rfl
  rw [apOfKinds_ap hne, hmap, apW_perfect_of_zero G hG (List.forall_mem_map.2 hrest)]

/-- no correct estimate (no TP weight anywhere in a non-empty ranking) ⇒ AP = 0 -/
theorem ap_zero_of_no_tp (G : Nat) (ks : List Kind) (hne : ks ≠ []) (h : ∀ k ∈ ks, k.tpw = 0) :
    (apOfKinds G ks).ap = some 0 := by
  rw [apOfKinds_ap hne, apW_zero G (List.forall_mem_map.2 h)]

example : (apOfKinds 2 (List.replicate 2 (Kind.tp 1) ++ [Kind.fp, Kind.ignored])).ap = some 1 :=
  ap_one_of_perfect 2 (by decide) _ (by intro k hk; simp at hk; rcases hk with rfl | rfl <;> rfl)

/-! ## mAP / mAPH -/

/-- mAP (resp. mAPH) is the mean of the per-label APs (APHs) that are defined, `inf` if none is -/
theorem map_mean_of_defined {m : Mode} {is2d : Bool} {T : List Label} {th : List Rat}
    {buckets : List (Label × List (List Res))} {nums : List (Label × Nat)} {o : MapOut}
    (h : mapOf m is2d T th buckets nums = .ok o) :
    o.map = meanDefined (o.aps.map (·.ap)) ∧ o.maph = meanDefined (o.aphs.map (·.ap))
    ∧ ∀ l : List (Option Rat), meanDefined l =
        if l.filterMap id = [] then none
        else some ((l.filterMap id).sum / ((l.filterMap id).length : Rat)) :=
  ⟨(mapOf_ok_iff.1 h).2.1, (mapOf_ok_iff.1 h).2.2, meanDefined_eq⟩

theorem map_undefined_iff (l : List (Option Rat)) : meanDefined l = none ↔ ∀ x ∈ l, x = none := by
  rw [meanDefined_eq, show (∀ x ∈ l, x = none) ↔ l.filterMap id = [] from List.filterMap_eq_nil_iff.symm]
  split <;> simp [*]

/-- the mean of values in `[lo, hi]` lies in `[lo, hi]`; with `ap_in_unit_interval`: mAP, mAPH ∈ [0,1] -/
theorem map_bounds (l : List (Option Rat)) (lo hi : Rat) (h : ∀ x, some x ∈ l → lo ≤ x ∧ x ≤ hi)
    (v : Rat) (hv : meanDefined l = some v) : lo ≤ v ∧ v ≤ hi := by
  rw [meanDefined_eq] at hv
  split at hv
  · cases hv
  · next hne =>
    cases hv
    have hb : ∀ x ∈ l.filterMap id, lo ≤ x ∧ x ≤ hi := fun x hx =>
      let ⟨y, hy, (hyx : y = some x)⟩ := List.mem_filterMap.1 hx
      h x (hyx ▸ hy)
    have hq : (0 : Rat) < ((l.filterMap id).length : Rat) := Nat.cast_pos.2 (List.length_pos_iff.2 hne)
    exact ⟨(le_div_iff₀ hq).2 (mul_length_le_sum fun x hx => (hb x hx).1),
      (div_le_iff₀ hq).2 (sum_le_mul_length fun x hx => (hb x hx).2)⟩

/-- every per-label AP / APH in [0,1] ⇒ every part of `Map` in [0,1] -/
theorem mapOf_in_unit {m : Mode} {is2d : Bool} {T : List Label} {th : List Rat}
    {buckets : List (Label × List (List Res))} {nums : List (Label × Nat)} {o : MapOut}
    (h : mapOf m is2d T th buckets nums = .ok o)
    (hc : ∀ tm, ∀ z ∈ T.zip th, ∀ a, apCall tm m buckets nums z.1 z.2 = .ok a → ∀ x, a.ap = some x → 0 ≤ x ∧ x ≤ 1) :
    (∀ a ∈ o.aps, ∀ x, a.ap = some x → 0 ≤ x ∧ x ≤ 1) ∧ (∀ a ∈ o.aphs, ∀ x, a.ap = some x → 0 ≤ x ∧ x ≤ 1) ∧
    (∀ x, o.map = some x → 0 ≤ x ∧ x ≤ 1) ∧ (∀ x, o.maph = some x → 0 ≤ x ∧ x ≤ 1) :=
  have mean : ∀ as : List ApOut, (∀ a ∈ as, ∀ x, a.ap = some x → 0 ≤ x ∧ x ≤ 1) →
      ∀ x, meanDefined (as.map (·.ap)) = some x → 0 ≤ x ∧ x ≤ 1 := fun _ has =>
    map_bounds _ 0 1 fun y hy => let ⟨a, ha, hay⟩ := List.mem_map.1 hy; has a ha y hay
  let ⟨f1, f2, hm, hmh⟩ := mapOf_spec.1 h
  have k1 := forall₂_right_forall f1 (hc .ap)
  have k2 := forall₂_right_forall f2 fun z hz => hc .aph z (by cases is2d; exacts [hz, nomatch hz])
  ⟨k1, k2, hm ▸ mean _ k1, hmh ▸ mean _ k2⟩

/-! ## the ranking: `list.sort(key=confidence, reverse=True)` -/

theorem sort_perm (rs : List Res) : (sortDesc Res.conf rs).Perm rs := sortDesc_perm _ rs

theorem sort_sorted (rs : List Res) : (sortDesc Res.conf rs).Pairwise (fun a b => b.conf ≤ a.conf) :=
  sortDesc_sorted _ rs

/-- stability: the results of any one confidence value appear in their input order -/
theorem sort_stable (rs : List Res) (c : Rat) :
    (sortDesc Res.conf rs).filter (fun r => decide (r.conf = c))
      = rs.filter (fun r => decide (r.conf = c)) := sortDesc_filter _ rs c

/-- sorting again changes nothing (`Map` hands the list sorted by `Ap` on to the APH evaluation) -/
theorem sort_idem (rs : List Res) :
    sortDesc Res.conf (sortDesc Res.conf rs) = sortDesc Res.conf rs := sortDesc_idem _ rs

end PEval.C04
