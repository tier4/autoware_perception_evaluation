import PEval.Lemmas.APDict
/-!
# C04, continued: the dicts handed to `Map`, the label lists of `evaluate_frame`, `float("inf")`

Namespace `PEval.C04`; imported by the root `PEval/Properties/C04.lean`. Model: `PEval/Model/APExt.lean`
(`mapOfE`, `frameMapE`, `apOfE`: the functions of `PEval/Model/AP.lean` with threshold values in `EThr`,
a number or `float("inf")`).

* `Map.__init__` reads its two per-label dicts BY KEY, once per target label: only the entries of the
  target labels matter (`map_reads_dicts_by_key`), the insertion order of the keys does not
  (`map_dict_order_irrelevant`), so each label's AP is computed from that label's results, that label's
  ground-truth count and that label's threshold however the dicts were built.
* At frame level the dicts are keyed by the label list of the critical-object filter while `Map` walks the
  evaluation config's list: any listing of the same labels gives the same `Map` (`frame_map_label_order_irrelevant`).
* A threshold `float("inf")` behaves like any number above 1 and above every matching score
  (`ap_inf_as_large_number`, `map_inf_as_large_number`), and on numbers the extended functions are the
  functions every other theorem of C04 is about (`map_ext_agrees_on_numbers`).  These equations are how a theorem about
  `apOf` / `mapOf` is carried to thresholds at the ends of the scale (as C08 does for its `_ext` theorems); C04 restates
  none of its theorems over `EThr`.
-/

namespace PEval.C04
open PEval.AP

/-- `Map` depends on its dicts only through the entries found under the target labels -/
theorem map_reads_dicts_by_key (m : Mode) (is2d : Bool) (T : List Label) (th : List EThr)
    (b b' : List (Label × List (List Res))) (n n' : List (Label × Nat))
    (hb : ∀ l ∈ T, lookupKey l b = lookupKey l b') (hn : ∀ l ∈ T, lookupKey l n = lookupKey l n') :
    mapOfE m is2d T th b n = mapOfE m is2d T th b' n' := mapOfE_congr hb hn

/-- the same dicts with their keys inserted in another order give the same `Map` (each per-label AP, in
target-label order, mAP and mAPH) -/
theorem map_dict_order_irrelevant (m : Mode) (is2d : Bool) (T : List Label) (th : List EThr)
    (b b' : List (Label × List (List Res))) (n n' : List (Label × Nat))
    (hb : b.Perm b') (hn : n.Perm n') (ndb : (b.map Prod.fst).Nodup) (ndn : (n.map Prod.fst).Nodup) :
    mapOfE m is2d T th b n = mapOfE m is2d T th b' n' :=
  mapOfE_congr (fun l _ => lookupKey_perm hb ndb l) (fun l _ => lookupKey_perm hn ndn l)

/-- frame level: the critical-object filter may list the labels of the evaluation config in any order
(even repeatedly); on numbers the result is `frameMap`, the frame-level `Map` of every other theorem -/
theorem frame_map_label_order_irrelevant (m : Mode) (is2d : Bool) (divT T : List Label) (rs : List Res)
    (gtLabels : List Label) (h : ∀ l, l ∈ divT ↔ l ∈ T) :
    (∀ th : List EThr, frameMapE m is2d divT T th rs gtLabels = frameMapE m is2d T T th rs gtLabels)
      ∧ ∀ th : List Rat, frameMapE m is2d divT T (th.map .fin) rs gtLabels = frameMap m is2d T th rs gtLabels := by
  have hc : ∀ l, divT.contains l = T.contains l := fun l =>
    Bool.eq_iff_iff.2 (List.contains_iff_mem.trans ((h l).trans List.contains_iff_mem.symm))
  refine ⟨fun th => frameMapE_label_order th rs gtLabels hc, fun th => ?_⟩
  rw [frameMapE_label_order _ rs gtLabels hc]
  exact mapOfE_fin is2d th _ _

/-- `Ap` under thresholds with `inf` among them = `Ap` with `inf` read as any number above 1 and above
every matching score of the results -/
theorem ap_inf_as_large_number (tm : TpMetric) (m : Mode) (T : List Label) (th : List EThr) (G : Nat)
    (rs : List Res) (B : Rat) (hB : 1 < B)
    (hs : ∀ r ∈ rs, ∀ x, r.score = .val (some x) → x < B) :
    apOfE tm m T th G rs = apOf tm m T (th.map (EThr.real B)) G rs := apOfE_real th G hB hs

theorem map_inf_as_large_number (m : Mode) (is2d : Bool) (T : List Label) (th : List EThr)
    (b : List (Label × List (List Res))) (n : List (Label × Nat)) (B : Rat) (hB : 1 < B)
    (hs : ∀ l rss, lookupKey l b = .ok rss → ∀ r ∈ rss.flatten, ∀ x, r.score = .val (some x) → x < B) :
    mapOfE m is2d T th b n = mapOf m is2d T (th.map (EThr.real B)) b n := mapOfE_real th hB hs

/-- on numbers the extended `Ap` / `Map` are the model's -/
theorem map_ext_agrees_on_numbers (tm : TpMetric) (m : Mode) (is2d : Bool) (T : List Label) (th : List Rat)
    (G : Nat) (rs : List Res) (b : List (Label × List (List Res))) (n : List (Label × Nat)) :
    apOfE tm m T (th.map .fin) G rs = apOf tm m T th G rs
      ∧ mapOfE m is2d T (th.map .fin) b n = mapOf m is2d T th b n :=
  ⟨apOfE_fin th G, mapOfE_fin is2d th b n⟩

/-! ## concrete instances -/

/-- car (label 2) 3/2 m off at confidence 1/2, pedestrian (label 4) 1/4 m off at confidence 3/4 -/
def rc : Res :=
  { id := 0, conf := 1/2, label := 2, gt := some { id := 0, label := 2 }, score := .val (some (3/2)),
    hw := 1, policy := .default }
def rp : Res :=
  { id := 1, conf := 3/4, label := 4, gt := some { id := 1, label := 4 }, score := .val (some (1/4)),
    hw := 1, policy := .default }

/-- thresholds car 2, pedestrian 1/8: AP(car) = 1, AP(pedestrian) = 0 whichever way the dicts are keyed
(a pairing of thresholds with labels by dict position would give 0 and 1 for the second keying) -/
example :
    mapOfE .centerDistance false [2, 4] [.fin 2, .fin (1/8)] [(2, [[rc]]), (4, [[rp]])] [(2, 1), (4, 1)]
      = mapOfE .centerDistance false [2, 4] [.fin 2, .fin (1/8)] [(4, [[rp]]), (2, [[rc]])] [(4, 1), (2, 1)]
    ∧ (mapOfE .centerDistance false [2, 4] [.fin 2, .fin (1/8)] [(4, [[rp]]), (2, [[rc]])] [(4, 1), (2, 1)]).map
        (fun o => o.aps.map (·.ap)) = .ok [some 1, some 0] := by
  constructor <;> decide +kernel

/-- the filter lists pedestrian before car: the frame-level `Map` is that of the evaluation config's order;
with `inf` for the cars every car result with a car ground truth is a TP -/
example :
    frameMapE .centerDistance false [4, 2] [2, 4] [.posInf, .fin (1/8)] [rc, rp] [2, 4]
      = frameMapE .centerDistance false [2, 4] [2, 4] [.posInf, .fin (1/8)] [rc, rp] [2, 4]
    ∧ (frameMapE .centerDistance false [4, 2] [2, 4] [.posInf, .fin (1/8)] [rc, rp] [2, 4]).map
        (fun o => o.aps.map (·.ap)) = .ok [some 1, some 0] := by
  constructor <;> decide +kernel

end PEval.C04
