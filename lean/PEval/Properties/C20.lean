import PEval.Lemmas.Table
/-!
# C20 — configuration strings parse to the enum member they name

The `(name, value)` tables `PEval.Gen.*` are regenerated from /repo on every run, so the `decide`
side conditions below (values pairwise distinct, already lower-case, names = upper-cased values …)
are re-checked against what the code says; the parsers' control flow is hand-modelled in
`PEval.Model.Enums`.  First the string level (a member is its name): round trips, rejection of other
strings, the call sites that take a string or a member, the sites that take several strings.  Then
the same on `PEval.Enums.PyRet`, which tells a member from a `str` and from `None` (defect F12 returned
the member's name string): the parsers, `Shape`, `TransformKey`, `FrameID.from_task`, the multi-string
sites.  Last, obligations on further regenerated tables: `from_task` per member, the printed form of
every member, the kind of object the running constructors return.
-/
namespace PEval.C20
open PEval.Enums PEval

/-! ## side conditions on the regenerated tables -/

theorem task_values_nodup : (values Gen.evaluationTask).Nodup := by decide +kernel
theorem frame_values_nodup : (values Gen.frameID).Nodup := by decide +kernel
theorem frame_values_lower : ∀ p ∈ Gen.frameID, p.2.toLower = p.2 := by
  have h : ∀ p ∈ Gen.frameID, p.2.noCapitalByte = true := by decide +kernel
  exact fun p hp => String.toLower_eq_self (h p hp)
theorem visibility_values_nodup : (values Gen.visibility).Nodup := by decide +kernel
theorem sensor_values_nodup : (values Gen.sensorModality).Nodup := by decide +kernel
theorem shape_values_nodup : (values Gen.shapeType).Nodup := by decide +kernel
theorem policy_names_upper : ∀ p ∈ Gen.matchingLabelPolicy, p.2.toUpper = p.1 := by decide +kernel
theorem alias_disjoint_values : ∀ a ∈ Gen.visibilityAlias, a.1 ∉ values Gen.visibility := by decide +kernel
theorem alias_keys_nodup : (Gen.visibilityAlias.map (·.1)).Nodup := by decide +kernel
theorem alias_targets_members : ∀ a ∈ Gen.visibilityAlias, a.2 ∈ names Gen.visibility := by decide +kernel
theorem alias_fallback_member : Gen.visibilityAliasFallback ∈ names Gen.visibility := by decide +kernel

/-! ## round trips: every member is returned for its own string value

`taskFromValue`, `sensorFromValue`, `shapeTypeFromValue` unfold to `Enums.fromValue` of their tables, `frameFromValue s` to
`fromValue Gen.frameID s.toLower`, and the `…V` parsers to `fromValueV`: the lemmas about those apply as they stand. -/

theorem roundtrip_task : ∀ p ∈ Gen.evaluationTask, taskFromValue p.2 = .ok p.1 :=
  fun _ hp => fromValue_mem task_values_nodup hp

theorem roundtrip_setTask : ∀ p ∈ Gen.evaluationTask, setTask p.2 = some p.1 :=
  fun _ hp => firstByValue_mem task_values_nodup hp

/-- `FrameID.from_value` lower-cases first: every spelling whose lower-case form is the value of a frame names it -/
theorem frame_any_case : ∀ p ∈ Gen.frameID, ∀ s : String, s.toLower = p.2 → frameFromValue s = .ok p.1 := by
  intro p hp s hs
  show fromValue Gen.frameID s.toLower = _
  rw [hs, fromValue_mem frame_values_nodup hp]

theorem roundtrip_frame : ∀ p ∈ Gen.frameID, frameFromValue p.2 = .ok p.1 :=
  fun p hp => frame_any_case p hp _ (frame_values_lower p hp)

/-- the documented upper-case spelling is accepted too -/
theorem roundtrip_frame_upper : ∀ p ∈ Gen.frameID, frameFromValue p.2.toUpper = .ok p.1 :=
  fun p hp => frame_any_case p hp _ (by rw [String.toLower_toUpper, frame_values_lower p hp])

theorem roundtrip_visibility : ∀ p ∈ Gen.visibility, visibilityFromValue p.2 = .ok p.1 := by
  intro p hp; rw [visibilityFromValue, firstByValue_mem visibility_values_nodup hp]

theorem roundtrip_sensor : ∀ p ∈ Gen.sensorModality, sensorFromValue p.2 = .ok p.1 :=
  fun _ hp => fromValue_mem sensor_values_nodup hp

theorem roundtrip_shapeType : ∀ p ∈ Gen.shapeType, shapeTypeFromValue p.2 = .ok p.1 :=
  fun _ hp => fromValue_mem shape_values_nodup hp

theorem roundtrip_policy : ∀ p ∈ Gen.matchingLabelPolicy, policyFromStr p.2 = .ok p.1 := fun p hp => by
  have hm : (names Gen.matchingLabelPolicy).contains p.1 = true := List.contains_iff_mem.2 (List.mem_map.2 ⟨p, hp, rfl⟩)
  rw [policyFromStr, policy_names_upper p hp, if_pos hm]

/-- lower-case spelling of a policy (documented: `from_str` upper-cases) -/
theorem roundtrip_policy_lower : ∀ p ∈ Gen.matchingLabelPolicy, policyFromStr p.2.toLower = .ok p.1 := fun p hp => by
  rw [policyFromStr, String.toUpper_toLower]; exact roundtrip_policy p hp

/-! ## any other string: rejected, or mapped to the documented fallback -/

theorem nonmember_task (s : String) (h : s ∉ values Gen.evaluationTask) :
    taskFromValue s = .error "ValueError" :=
  fromValue_none h

theorem nonmember_setTask (s : String) (h : s ∉ values Gen.evaluationTask) : setTask s = none :=
  firstByValue_none h

theorem nonmember_frame (s : String) (h : s.toLower ∉ values Gen.frameID) :
    frameFromValue s = .error "ValueError" :=
  fromValue_none h

theorem nonmember_sensor (s : String) (h : s ∉ values Gen.sensorModality) :
    sensorFromValue s = .error "ValueError" :=
  fromValue_none h

theorem nonmember_shapeType (s : String) (h : s ∉ values Gen.shapeType) :
    shapeTypeFromValue s = .error "ValueError" :=
  fromValue_none h

theorem nonmember_policy (s : String) (h : s.toUpper ∉ names Gen.matchingLabelPolicy) :
    policyFromStr s = .error "AssertionError" := by
  fun_cases policyFromStr s with
  | case1 _ hc => exact absurd (List.contains_iff_mem.1 hc) h
  | case2 => rfl

/-- Visibility: a documented alias gives the documented member … -/
theorem visibility_alias : ∀ a ∈ Gen.visibilityAlias, visibilityFromValue a.1 = .ok a.2 := by
  intro a ha
  rw [visibilityFromValue, firstByValue_none (alias_disjoint_values a ha), visibilityFromAlias,
    List.find?_key_of_mem Prod.fst alias_keys_nodup ha]

/-- … and every other non-member string gives the documented fallback member -/
theorem visibility_fallback (s : String) (h : s ∉ values Gen.visibility)
    (ha : s ∉ Gen.visibilityAlias.map (·.1)) :
    visibilityFromValue s = .ok Gen.visibilityAliasFallback := by
  rw [visibilityFromValue, firstByValue_none h, visibilityFromAlias, List.find?_key_eq_none Prod.fst ha]

theorem visibility_total (s : String) : ∃ m ∈ names Gen.visibility, visibilityFromValue s = .ok m := by
  fun_cases visibilityFromValue s with
  | case1 m h => exact ⟨m, List.mem_map.2 ⟨(m, s), firstByValue_some_mem h, rfl⟩, rfl⟩
  | case2 =>
    refine ⟨_, ?_, rfl⟩
    fun_cases visibilityFromAlias s with
    | case1 p hf => exact alias_targets_members p (List.mem_of_find?_eq_some hf)
    | case2 => exact alias_fallback_member

/-! ## string-or-enum call sites behave identically for both spellings -/

theorem shape_str_eq_enum : ∀ p ∈ Gen.shapeType, shapeTypeOfArg (.str p.2) = shapeTypeOfArg (.member p.1) := by
  intro p hp; simp [shapeTypeOfArg, roundtrip_shapeType p hp]

theorem frameArg_str_eq_enum : ∀ p ∈ Gen.frameID, frameOfArg (.str p.2) = frameOfArg (.member p.1) := by
  intro p hp; simp [frameOfArg, roundtrip_frame p hp]

theorem frameArg_upper_eq_enum : ∀ p ∈ Gen.frameID, frameOfArg (.str p.2.toUpper) = frameOfArg (.member p.1) := by
  intro p hp; simp [frameOfArg, roundtrip_frame_upper p hp]

theorem transformKey_str_eq_enum : ∀ p ∈ Gen.frameID, ∀ r ∈ Gen.frameID,
    transformKey (.str p.2) (.str r.2) = transformKey (.member p.1) (.member r.1) ∧
    transformKey (.str p.2.toUpper) (.member r.1) = transformKey (.member p.1) (.member r.1) := by
  intro p hp r hr
  simp [transformKey, frameOfArg, roundtrip_frame p hp, roundtrip_frame r hr, roundtrip_frame_upper p hp]

/-! ## parse sites taking several strings: `set_task_lists`, `set_task_dict`, the `frame_id` of a config -/

theorem task_names_functional : ∀ p ∈ Gen.evaluationTask, ∀ r ∈ Gen.evaluationTask, p.1 = r.1 → p.2 = r.2 := by
  decide +kernel

/-- one string of the list is read exactly as `set_task` reads it -/
theorem membersNamed_eq_setTask (s : String) : membersNamed Gen.evaluationTask s = (setTask s).toList :=
  membersNamed_eq_toList task_values_nodup s

/-- a member value names exactly its member (the inner loop has no `break`, the values are distinct) -/
theorem membersNamed_member : ∀ p ∈ Gen.evaluationTask, membersNamed Gen.evaluationTask p.2 = [p.1] := by
  intro p hp; rw [membersNamed_eq_setTask, roundtrip_setTask p hp]; rfl

theorem membersNamed_nonmember (s : String) (h : s ∉ values Gen.evaluationTask) :
    membersNamed Gen.evaluationTask s = [] := by
  rw [membersNamed, List.filter_eq_nil_iff.2 fun p hp hps => h (List.mem_map.2 ⟨p, hp, eq_of_beq hps⟩)]
  rfl

/-- `set_task_lists` = `set_task` on every string, the answers that are members kept in order -/
theorem setTaskLists_eq_filterMap (l : List String) : setTaskLists l = l.filterMap setTask := by
  rw [setTaskLists, funext membersNamed_eq_setTask]; exact List.flatMap_toList setTask l

/-- `set_task_dict` = `set_task` on every key, the items whose key is a member kept in order -/
theorem setTaskDict_eq_filterMap {α : Type} (kv : List (String × α)) :
    setTaskDict kv = kv.filterMap fun e => (setTask e.1).map (·, e.2) := by
  rw [← List.flatMap_toList]; simp only [setTaskDict, membersNamed_eq_setTask, Option.toList_map]

theorem roundtrip_setTaskLists (ps : List (String × String)) (h : ∀ p ∈ ps, p ∈ Gen.evaluationTask) :
    setTaskLists (ps.map (·.2)) = ps.map (·.1) := by
  rw [setTaskLists_eq_filterMap, List.filterMap_map]
  exact List.filterMap_eq_map_of_forall fun p hp => roundtrip_setTask p (h p hp)

theorem setTaskLists_all_members : setTaskLists (values Gen.evaluationTask) = names Gen.evaluationTask :=
  roundtrip_setTaskLists Gen.evaluationTask fun _ h => h

theorem setTaskLists_sound (l : List String) : ∀ m ∈ setTaskLists l, ∃ s ∈ l, (m, s) ∈ Gen.evaluationTask := by
  intro m hm
  rw [setTaskLists_eq_filterMap, List.mem_filterMap] at hm
  obtain ⟨s, hsl, hs⟩ := hm
  exact ⟨s, hsl, firstByValue_some_mem hs⟩

theorem setTaskLists_members (l : List String) : ∀ m ∈ setTaskLists l, m ∈ names Gen.evaluationTask := by
  intro m hm
  obtain ⟨s, _, hs⟩ := setTaskLists_sound l m hm
  exact List.mem_map.2 ⟨(m, s), hs, rfl⟩

theorem setTaskLists_append (a b : List String) : setTaskLists (a ++ b) = setTaskLists a ++ setTaskLists b :=
  List.flatMap_append

/-- what the code does with a string that names no member: it contributes nothing (no exception, no placeholder) -/
theorem setTaskLists_nonmember_dropped (a b : List String) (s : String) (h : s ∉ values Gen.evaluationTask) :
    setTaskLists (a ++ s :: b) = setTaskLists (a ++ b) := by
  simp only [setTaskLists_eq_filterMap, List.filterMap_append, List.filterMap_cons, nonmember_setTask s h]

/-- the keys `set_task_dict` produces are those `set_task_lists` produces for the given keys -/
theorem setTaskDict_keys {α : Type} (kv : List (String × α)) :
    (setTaskDict kv).map (·.1) = setTaskLists (kv.map (·.1)) := by
  rw [setTaskDict_eq_filterMap, setTaskLists_eq_filterMap, List.map_filterMap, List.filterMap_map]
  exact congrArg (List.filterMap · kv) (funext fun e => by show Option.map _ (Option.map _ (setTask e.1)) = setTask e.1; cases setTask e.1 <;> rfl)

theorem roundtrip_setTaskDict {α : Type} (ps : List ((String × String) × α)) (h : ∀ e ∈ ps, e.1 ∈ Gen.evaluationTask) :
    setTaskDict (ps.map fun e => (e.1.2, e.2)) = ps.map fun e => (e.1.1, e.2) := by
  rw [setTaskDict_eq_filterMap, List.filterMap_map]
  exact List.filterMap_eq_map_of_forall fun e he => congrArg (Option.map (·, e.2)) (roundtrip_setTask e.1 (h e he))

/-- distinct keys (a Python dict) never produce the same member twice: `task_dict[task] = item` always appends -/
theorem setTaskDict_keys_nodup {α : Type} (kv : List (String × α)) (h : (kv.map (·.1)).Nodup) :
    ((setTaskDict kv).map (·.1)).Nodup := by
  rw [setTaskDict_keys, setTaskLists_eq_filterMap]
  refine List.nodup_filterMap_of_inj ?_ h
  intro s s' m hs hs'
  have h1 := firstByValue_some_mem (t := Gen.evaluationTask) hs
  have h2 := firstByValue_some_mem (t := Gen.evaluationTask) hs'
  exact task_names_functional _ h1 _ h2 rfl

theorem roundtrip_frameIds_one : ∀ p ∈ Gen.frameID,
    frameIds (.one p.2) = .ok [p.1] ∧ frameIds (.one p.2.toUpper) = .ok [p.1] := by
  intro p hp
  simp [frameIds, roundtrip_frame p hp, roundtrip_frame_upper p hp, Except.map]

theorem roundtrip_frameIds_many (ps : List (String × String)) (h : ∀ p ∈ ps, p ∈ Gen.frameID) :
    frameIds (.many (ps.map (·.2))) = .ok (ps.map (·.1)) :=
  (mapM_map_congr (f := fun p => pure p.1) fun p hp => roundtrip_frame p (h p hp)).trans List.mapM_pure

theorem nonmember_frameIds (l : List String) (h : ∃ s ∈ l, s.toLower ∉ values Gen.frameID) :
    frameIds (.many l) = .error "ValueError" := by
  obtain ⟨s, hs, hn⟩ := h
  rw [frameIds]
  cases hl : l.mapM frameFromValue with
  | ok bs =>
    obtain ⟨b, hb⟩ := mapM_ok_forall hl s hs
    cases (nonmember_frame s hn).symm.trans hb
  | error e =>
    -- the loop raises what its first raising element raises, and `frameFromValue` raises nothing but `ValueError`
    obtain ⟨_, a, _, _, _, ha⟩ := mapM_error hl
    unfold frameFromValue at ha
    split at ha <;> cases ha
    rfl

theorem nonmember_frameIds_one (s : String) (h : s.toLower ∉ values Gen.frameID) :
    frameIds (.one s) = .error "ValueError" := by
  simp [frameIds, nonmember_frame s h, Except.map]

/-- the task of a config: a supported member value gives its member, anything unsupported is rejected -/
theorem roundtrip_checkTask (support : List String) : ∀ p ∈ Gen.evaluationTask, p.2 ∈ support →
    checkTask support p.2 = .ok (some p.1) := by
  intro p hp hs
  simp [checkTask, hs, roundtrip_setTask p hp]

theorem nonmember_checkTask (support : List String) (s : String) (h : s ∉ support) :
    checkTask support s = .error "ValueError" := by
  simp [checkTask, h]

/-! ## non-vacuity: the hypotheses are met by concrete strings -/
example : "detection " ∉ values Gen.evaluationTask := by decide +kernel
example : ("bogus" : String).toLower ∉ values Gen.frameID := by decide +kernel
example : taskFromValue "tracking" = .ok "TRACKING" := by decide +kernel
example : frameFromValue "MAP" = .ok "MAP" := by decide +kernel
example : visibilityFromValue "v0-40" = .ok "NONE" := by decide +kernel
example : visibilityFromValue "whatever" = .ok "UNAVAILABLE" := by decide +kernel
example : setTaskLists ["tracking", "Detection", "x", "detection", "tracking"] = ["TRACKING", "DETECTION", "TRACKING"] := by decide +kernel
example : setTaskDict [("sensing", 1), ("nope", 2), ("detection2d", 3)] = [("SENSING", 1), ("DETECTION2D", 3)] := by decide +kernel
example : frameIds (.many ["cam_front", "CAM_BACK"]) = .ok ["CAM_FRONT", "CAM_BACK"] := by decide +kernel
example : frameIds (.many ["cam_front", "cam_rear"]) = .error "ValueError" := by decide +kernel
example : checkTask ["sensing"] "detection" = .error "ValueError" ∧ checkTask ["sensing"] "sensing" = .ok (some "SENSING") := by decide +kernel

/-! ## every regenerated table is present (an empty table would make every `∀ p ∈ Gen.x` statement vacuous) -/

theorem evaluationTask_nonempty : Gen.evaluationTask ≠ [] := by decide +kernel
theorem frameID_nonempty : Gen.frameID ≠ [] := by decide +kernel
theorem visibility_nonempty : Gen.visibility ≠ [] := by decide +kernel
theorem sensorModality_nonempty : Gen.sensorModality ≠ [] := by decide +kernel
theorem shapeType_nonempty : Gen.shapeType ≠ [] := by decide +kernel
theorem matchingLabelPolicy_nonempty : Gen.matchingLabelPolicy ≠ [] := by decide +kernel
theorem visibilityAlias_nonempty : Gen.visibilityAlias ≠ [] := by decide +kernel
theorem taskIs3d_nonempty : Gen.taskIs3d ≠ [] := by decide +kernel
/-- `is_3d()` was recorded for exactly the members of `EvaluationTask`, in definition order -/
theorem taskIs3d_names : Gen.taskIs3d.map (·.1) = names Gen.evaluationTask := by decide +kernel
/-- both kinds of task exist (the 2-D rejection and the 3-D answers of `from_task` are not vacuous) -/
theorem taskIs3d_both : (∃ p ∈ Gen.taskIs3d, p.2 = "true") ∧ (∃ p ∈ Gen.taskIs3d, p.2 = "false") := by decide +kernel
/-- member names are pairwise distinct in every table (a value-level result `.member enum name` names ONE member) -/
theorem names_nodup : (names Gen.evaluationTask).Nodup ∧ (names Gen.frameID).Nodup ∧ (names Gen.visibility).Nodup ∧
    (names Gen.sensorModality).Nodup ∧ (names Gen.shapeType).Nodup ∧ (names Gen.matchingLabelPolicy).Nodup := by decide +kernel

/-!
## value level: the parsers hand back the MEMBER, not its name

The theorems below restate the property on `PyRet` for the parsers (`…V`); each is REFUTED for the F12-defective variant
next to the model (`…_F12`: `return k` instead of `return v`) — which the string-level theorems above are not
(`F12_same_erasure`).
-/

/-! ## projection: erasing the kind of the value gives the string-level model back -/

theorem taskFromValueV_eq (s : String) : taskFromValueV s = (taskFromValue s).map (PyRet.member "EvaluationTask") :=
  fromValueV_eq _ _ s

theorem setTaskV_eq (s : String) : setTaskV s = ((setTask s).map (PyRet.member "EvaluationTask")).getD .none := by
  unfold setTaskV setTask; rw [firstMemberV_eq]; cases firstByValue Gen.evaluationTask s <;> rfl

theorem frameFromValueV_eq (s : String) : frameFromValueV s = (frameFromValue s).map (PyRet.member "FrameID") :=
  fromValueV_eq _ _ s.toLower

theorem visibilityFromValueV_eq (s : String) :
    visibilityFromValueV s = (visibilityFromValue s).map (PyRet.member "Visibility") := by
  unfold visibilityFromValueV visibilityFromValue; rw [firstMemberV_eq]; cases firstByValue Gen.visibility s <;> rfl

theorem sensorFromValueV_eq (s : String) : sensorFromValueV s = (sensorFromValue s).map (PyRet.member "SensorModality") :=
  fromValueV_eq _ _ s

theorem shapeTypeFromValueV_eq (s : String) : shapeTypeFromValueV s = (shapeTypeFromValue s).map (PyRet.member "ShapeType") :=
  fromValueV_eq _ _ s

theorem policyFromStrV_eq (s : String) : policyFromStrV s = (policyFromStr s).map (PyRet.member "MatchingLabelPolicy") := by
  unfold policyFromStrV policyFromStr; dsimp only; split <;> rfl

/-- the string-level model cannot tell the repaired parsers from the F12 ones: both erase to the same `Res` -/
theorem F12_same_erasure (s : String) :
    (visibilityFromValue_F12 s).erase = (visibilityFromValueV s).erase ∧
    (shapeTypeFromValue_F12 s).erase = (shapeTypeFromValueV s).erase ∧
    (s ∈ values Gen.sensorModality → (sensorFromValue_F12 s).erase = (sensorFromValueV s).erase) := by
  refine ⟨?_, ?_, ?_⟩
  · unfold visibilityFromValue_F12 visibilityFromValueV
    rw [firstKey_F12_eq, firstMemberV_eq]; cases firstByValue Gen.visibility s <;> rfl
  · unfold shapeTypeFromValue_F12 shapeTypeFromValueV
    rw [firstKey_F12_eq, firstMemberV_eq]; cases firstByValue Gen.shapeType s <;> rfl
  · intro h
    obtain ⟨p, hp, rfl⟩ := List.mem_map.1 h
    unfold sensorFromValue_F12 sensorFromValueV
    rw [firstKey_F12_eq, firstMemberV_eq, firstByValue_mem sensor_values_nodup hp]; rfl

/-! ## round trips at value level: the member itself comes back -/

theorem roundtripV_task : ∀ p ∈ Gen.evaluationTask, taskFromValueV p.2 = .ok (.member "EvaluationTask" p.1) := by
  intro p hp; rw [taskFromValueV_eq, roundtrip_task p hp]; rfl

theorem roundtripV_setTask : ∀ p ∈ Gen.evaluationTask, setTaskV p.2 = .member "EvaluationTask" p.1 := by
  intro p hp; rw [setTaskV_eq, roundtrip_setTask p hp]; rfl

theorem roundtripV_frame : ∀ p ∈ Gen.frameID,
    frameFromValueV p.2 = .ok (.member "FrameID" p.1) ∧ frameFromValueV p.2.toUpper = .ok (.member "FrameID" p.1) := by
  intro p hp; rw [frameFromValueV_eq, frameFromValueV_eq, roundtrip_frame p hp, roundtrip_frame_upper p hp]; exact ⟨rfl, rfl⟩

/-- every case spelling of a frame value is read alike (`FrameID.from_value` lower-cases first): e.g. `"Base_Link"` -/
theorem frameV_case_irrelevant (s t : String) (h : s.toLower = t.toLower) : frameFromValueV s = frameFromValueV t := by
  unfold frameFromValueV; rw [h]

theorem policyV_case_irrelevant (s t : String) (h : s.toUpper = t.toUpper) : policyFromStrV s = policyFromStrV t := by
  unfold policyFromStrV; simp only [h]

/-- mixed-case spellings of every frame (first letter of every word upper-case is one of them) reach the member -/
theorem roundtripV_frame_anycase (s : String) : ∀ p ∈ Gen.frameID, s.toLower = p.2 → frameFromValueV s = .ok (.member "FrameID" p.1) := by
  intro p hp h
  rw [frameFromValueV_eq, frame_any_case p hp s h]; rfl

theorem roundtripV_visibility : ∀ p ∈ Gen.visibility, visibilityFromValueV p.2 = .ok (.member "Visibility" p.1) := by
  intro p hp; rw [visibilityFromValueV_eq, roundtrip_visibility p hp]; rfl

theorem roundtripV_sensor : ∀ p ∈ Gen.sensorModality, sensorFromValueV p.2 = .ok (.member "SensorModality" p.1) := by
  intro p hp; rw [sensorFromValueV_eq, roundtrip_sensor p hp]; rfl

theorem roundtripV_shapeType : ∀ p ∈ Gen.shapeType, shapeTypeFromValueV p.2 = .ok (.member "ShapeType" p.1) := by
  intro p hp; rw [shapeTypeFromValueV_eq, roundtrip_shapeType p hp]; rfl

theorem roundtripV_policy : ∀ p ∈ Gen.matchingLabelPolicy,
    policyFromStrV p.2 = .ok (.member "MatchingLabelPolicy" p.1) ∧
    policyFromStrV p.2.toLower = .ok (.member "MatchingLabelPolicy" p.1) := by
  intro p hp; rw [policyFromStrV_eq, policyFromStrV_eq, roundtrip_policy p hp, roundtrip_policy_lower p hp]; exact ⟨rfl, rfl⟩

theorem visibilityV_alias : ∀ a ∈ Gen.visibilityAlias, visibilityFromValueV a.1 = .ok (.member "Visibility" a.2) := by
  intro a ha; rw [visibilityFromValueV_eq, visibility_alias a ha]; rfl

theorem visibilityV_fallback (s : String) (h : s ∉ values Gen.visibility) (ha : s ∉ Gen.visibilityAlias.map (·.1)) :
    visibilityFromValueV s = .ok (.member "Visibility" Gen.visibilityAliasFallback) := by
  rw [visibilityFromValueV_eq, visibility_fallback s h ha]; rfl

/-! ## whatever the string: a parser answers with a member of ITS enum or raises — never a `str`, never `None` -/

theorem taskV_sound (s : String) (v : PyRet) (h : taskFromValueV s = .ok v) :
    ∃ m, (m, s) ∈ Gen.evaluationTask ∧ v = .member "EvaluationTask" m :=
  fromValueV_sound h

theorem setTaskV_sound (s : String) :
    setTaskV s = .none ∨ ∃ m, (m, s) ∈ Gen.evaluationTask ∧ setTaskV s = .member "EvaluationTask" m := by
  rw [setTaskV_eq]; unfold setTask
  cases hf : firstByValue Gen.evaluationTask s with
  | none => exact Or.inl rfl
  | some m => exact Or.inr ⟨m, firstByValue_some_mem hf, rfl⟩

theorem frameV_sound (s : String) (v : PyRet) (h : frameFromValueV s = .ok v) :
    ∃ m, (m, s.toLower) ∈ Gen.frameID ∧ v = .member "FrameID" m :=
  fromValueV_sound h

theorem visibilityV_total (s : String) : ∃ m ∈ names Gen.visibility, visibilityFromValueV s = .ok (.member "Visibility" m) := by
  obtain ⟨m, hm, h⟩ := visibility_total s
  exact ⟨m, hm, by rw [visibilityFromValueV_eq, h]; rfl⟩

theorem sensorV_sound (s : String) (v : PyRet) (h : sensorFromValueV s = .ok v) :
    ∃ m, (m, s) ∈ Gen.sensorModality ∧ v = .member "SensorModality" m :=
  fromValueV_sound h

theorem shapeTypeV_sound (s : String) (v : PyRet) (h : shapeTypeFromValueV s = .ok v) :
    ∃ m, (m, s) ∈ Gen.shapeType ∧ v = .member "ShapeType" m :=
  fromValueV_sound h

theorem policyV_sound (s : String) (v : PyRet) (h : policyFromStrV s = .ok v) :
    s.toUpper ∈ names Gen.matchingLabelPolicy ∧ v = .member "MatchingLabelPolicy" s.toUpper := by
  revert h
  fun_cases policyFromStrV s with
  | case1 _ hc =>
    rintro ⟨⟩
    exact ⟨by simpa using hc, rfl⟩
  | case2 => nofun

/-! ### the F12 variants violate the value-level round trips (and the soundness statements) -/

example : ¬ (∀ p ∈ Gen.visibility, visibilityFromValue_F12 p.2 = .ok (.member "Visibility" p.1)) := by decide +kernel
example : ¬ (∀ p ∈ Gen.sensorModality, sensorFromValue_F12 p.2 = .ok (.member "SensorModality" p.1)) := by decide +kernel
example : ¬ (∀ p ∈ Gen.shapeType, shapeTypeFromValue_F12 p.2 = .ok (.member "ShapeType" p.1)) := by decide +kernel
example : ¬ (∀ p ∈ Gen.matchingLabelPolicy, policyFromStr_S p.2 = .ok (.member "MatchingLabelPolicy" p.1)) := by decide +kernel
example : visibilityFromValue_F12 "full" = .ok (.str "FULL") ∧ visibilityFromValueV "full" = .ok (.member "Visibility" "FULL") := by decide +kernel
example : sensorFromValue_F12 "sonar" = .ok .none ∧ sensorFromValueV "sonar" = .error "ValueError" := by decide +kernel
example : ¬ (∀ s v, sensorFromValue_F12 s = .ok v → ∃ m, (m, s) ∈ Gen.sensorModality ∧ v = .member "SensorModality" m) := by
  intro h
  obtain ⟨m, _, hv⟩ := h "sonar" .none (by decide)
  cases hv
/-- … while the string-level round trips hold of the F12 variants too -/
example : ∀ p ∈ Gen.visibility, (visibilityFromValue_F12 p.2).erase = .ok (some p.1) := by decide +kernel

/-! ## `Shape(shape_type, size, footprint)`: `Shape.type` holds the member for both spellings -/

theorem shapeInitV_str (s : String) (fp : Bool) :
    shapeInitV (.str s) fp = (shapeTypeFromValueV s).bind fun t =>
      if fp then .ok t else if neBoundingBox t then .error "ValueError" else .ok t := rfl

theorem shapeV_str_eq_enum : ∀ p ∈ Gen.shapeType, ∀ fp,
    shapeInitV (.str p.2) fp = shapeInitV (.member "ShapeType" p.1) fp := by
  intro p hp fp
  rw [shapeInitV_str, roundtripV_shapeType p hp]; rfl

/-- with an explicit footprint `Shape.type` is THE MEMBER, whichever spelling was given (seed C20_G stored the string) -/
theorem shapeV_stored_member : ∀ p ∈ Gen.shapeType, ∀ a ∈ [PyRet.str p.2, PyRet.member "ShapeType" p.1],
    shapeInitV a true = .ok (.member "ShapeType" p.1) := fun p hp =>
  List.forall_mem_cons.2 ⟨(shapeV_str_eq_enum p hp true).trans rfl, List.forall_mem_singleton.2 rfl⟩

/-- without a footprint: the member for BOUNDING_BOX, `ValueError` for every other type, the same for both spellings -/
theorem shapeV_no_footprint : ∀ p ∈ Gen.shapeType, ∀ a ∈ [PyRet.str p.2, PyRet.member "ShapeType" p.1],
    shapeInitV a false = if p.1 = "BOUNDING_BOX" then .ok (.member "ShapeType" p.1) else .error "ValueError" := by decide +kernel

/-- a string argument never survives as a string: `Shape.type` is a member of `ShapeType` whose value is that string -/
theorem shapeV_sound (s : String) (fp : Bool) (v : PyRet) (h : shapeInitV (.str s) fp = .ok v) :
    ∃ m, (m, s) ∈ Gen.shapeType ∧ v = .member "ShapeType" m := by
  obtain ⟨t, hs, h⟩ := bind_eq_ok.1 (shapeInitV_str s fp ▸ h)
  obtain ⟨m, hm, rfl⟩ := shapeTypeV_sound s t hs
  refine ⟨m, hm, ?_⟩
  split at h
  · cases h; rfl
  · split at h
    · cases h
    · cases h; rfl

theorem shapeV_nonmember (s : String) (fp : Bool) (h : s ∉ values Gen.shapeType) :
    shapeInitV (.str s) fp = .error "ValueError" := by
  rw [shapeInitV_str, shapeTypeFromValueV_eq, nonmember_shapeType s h]; rfl

/-- link with the string-level argument model -/
theorem shapeInitV_eq (a : Arg) : shapeInitV (argV "ShapeType" a) true = (shapeTypeOfArg a).map (PyRet.member "ShapeType") := by
  cases a with
  | str s =>
    rw [argV, shapeTypeOfArg, shapeInitV_str, shapeTypeFromValueV_eq]
    cases shapeTypeFromValue s <;> rfl
  | member m => rfl

/-- C20_G (string stored verbatim next to an explicit footprint) and the F12 parser under `Shape` violate all of this -/
example : ¬ (∀ p ∈ Gen.shapeType, ∀ fp, shapeInitV_G (.str p.2) fp = shapeInitV_G (.member "ShapeType" p.1) fp) := by decide +kernel
example : ¬ (∀ p ∈ Gen.shapeType, ∀ a ∈ [PyRet.str p.2, PyRet.member "ShapeType" p.1],
    shapeInitV_G a true = .ok (.member "ShapeType" p.1)) := by decide +kernel
example : shapeInitV_G (.str "polygon") true = .ok (.str "polygon") ∧ shapeInitV_G (.str "circle") true = .ok (.str "circle") := by
  decide +kernel
example : ¬ (∀ p ∈ Gen.shapeType, ∀ fp, shapeInitV_F12 (.str p.2) fp = shapeInitV_F12 (.member "ShapeType" p.1) fp) := by decide +kernel
/-- the F12 symptom: `Shape("bounding_box", size)` raised, `Shape("polygon", size, footprint).type` was `'POLYGON'` -/
example : shapeInitV_F12 (.str "bounding_box") false = .error "ValueError" ∧
    shapeInitV_F12 (.str "polygon") true = .ok (.str "POLYGON") := by decide +kernel
example : shapeInitV (.str "bounding_box") false = .ok (.member "ShapeType" "BOUNDING_BOX") ∧
    shapeInitV (.str "polygon") true = .ok (.member "ShapeType" "POLYGON") ∧
    shapeInitV (.str "polygon") false = .error "ValueError" ∧ shapeInitV (.str "BOUNDING_BOX") true = .error "ValueError" := by decide +kernel

/-! ## `TransformKey(src, dst)` / `HomogeneousMatrix(…, src, dst)`: both fields hold members for every spelling -/

theorem frameArgV_spellings : ∀ p ∈ Gen.frameID, ∀ a ∈ spellingsV "FrameID" p, frameOfArgV a = .ok (.member "FrameID" p.1) := fun p hp =>
  List.forall_mem_cons.2 ⟨(roundtripV_frame p hp).1,
    List.forall_mem_cons.2 ⟨(roundtripV_frame p hp).2, List.forall_mem_singleton.2 rfl⟩⟩

/-- value, upper-case value and member, independently for source and destination (9 combinations): the key holds the two
members -/
theorem transformKeyV_spellings : ∀ p ∈ Gen.frameID, ∀ r ∈ Gen.frameID,
    ∀ a ∈ spellingsV "FrameID" p, ∀ b ∈ spellingsV "FrameID" r,
    transformKeyV a b = .ok (.member "FrameID" p.1, .member "FrameID" r.1) := by
  intro p hp r hr a ha b hb
  unfold transformKeyV
  rw [frameArgV_spellings p hp a ha, frameArgV_spellings r hr b hb]; rfl

theorem frameOfArgV_sound {a x : PyRet} (h : frameOfArgV a = .ok x) :
    (∀ s, a = .str s → ∃ m, (m, s.toLower) ∈ Gen.frameID ∧ x = .member "FrameID" m) ∧
    ((∀ s, a ≠ .str s) → x = a) := by
  cases a with
  | str s => exact ⟨fun _ e => by cases e; exact frameV_sound s x h, fun hn => absurd rfl (hn s)⟩
  | member e m => cases h; exact ⟨fun _ => nofun, fun _ => rfl⟩
  | none => cases h; exact ⟨fun _ => nofun, fun _ => rfl⟩

/-- a string argument never survives as a string in `key.src` / `key.dst` -/
theorem transformKeyV_sound (a b x y : PyRet) (h : transformKeyV a b = .ok (x, y)) :
    (∀ s, a = .str s → ∃ m, (m, s.toLower) ∈ Gen.frameID ∧ x = .member "FrameID" m) ∧
    (∀ d, b = .str d → ∃ m, (m, d.toLower) ∈ Gen.frameID ∧ y = .member "FrameID" m) ∧
    ((∀ s, a ≠ .str s) → x = a) ∧ ((∀ d, b ≠ .str d) → y = b) := by
  obtain ⟨x', ha, h⟩ := bind_eq_ok.1 h
  obtain ⟨y', hb, h⟩ := bind_eq_ok.1 h
  cases h
  exact ⟨(frameOfArgV_sound ha).1, (frameOfArgV_sound hb).1, (frameOfArgV_sound ha).2, (frameOfArgV_sound hb).2⟩

/-- link with the string-level `transformKey` -/
theorem transformKeyV_eq (a b : Arg) :
    transformKeyV (argV "FrameID" a) (argV "FrameID" b) =
      (transformKey a b).map fun k => (PyRet.member "FrameID" k.1, PyRet.member "FrameID" k.2) := by
  have hA : ∀ a : Arg, frameOfArgV (argV "FrameID" a) = (frameOfArg a).map (PyRet.member "FrameID") := by
    intro a; cases a with
    | str s => exact frameFromValueV_eq s
    | member m => rfl
  unfold transformKeyV transformKey
  rw [hA a, hA b]
  cases frameOfArg a with
  | error k => rfl
  | ok x => cases frameOfArg b <;> rfl

/-- seeded C20_B (`dst` parsed when `src` is a string) and C20_J (parsed only when both are strings) violate it in a mixed
spelling -/
example : ¬ (∀ p ∈ Gen.frameID, ∀ r ∈ Gen.frameID, ∀ a ∈ spellingsV "FrameID" p, ∀ b ∈ spellingsV "FrameID" r,
    transformKeyV_B a b = .ok (.member "FrameID" p.1, .member "FrameID" r.1)) := by
  intro h
  have := h ("MAP", "map") (by decide) ("BASE_LINK", "base_link") (by decide) (.member "FrameID" "MAP") (by decide +kernel)
    (.str "base_link") (by decide +kernel)
  revert this; decide +kernel
example : ¬ (∀ p ∈ Gen.frameID, ∀ r ∈ Gen.frameID, ∀ a ∈ spellingsV "FrameID" p, ∀ b ∈ spellingsV "FrameID" r,
    transformKeyV_J a b = .ok (.member "FrameID" p.1, .member "FrameID" r.1)) := by
  intro h
  have := h ("MAP", "map") (by decide) ("BASE_LINK", "base_link") (by decide) (.str "map") (by decide +kernel)
    (.member "FrameID" "BASE_LINK") (by decide +kernel)
  revert this; decide +kernel
example : transformKeyV_B (.member "FrameID" "MAP") (.str "base_link") = .ok (.member "FrameID" "MAP", .str "base_link") ∧
    transformKeyV_J (.str "map") (.member "FrameID" "BASE_LINK") = .ok (.str "map", .member "FrameID" "BASE_LINK") ∧
    transformKeyV (.str "MAP") (.member "FrameID" "BASE_LINK") = .ok (.member "FrameID" "MAP", .member "FrameID" "BASE_LINK") := by
  decide +kernel

/-! ## `FrameID.from_task(task)`: the task as string value and as member -/

theorem frameFromTaskV_str (s : String) : frameFromTaskV (.str s) = (taskFromValueV s).bind frameOfTaskMember := rfl

theorem fromTask_frames_present : "BASE_LINK" ∈ names Gen.frameID ∧ "MAP" ∈ names Gen.frameID := by decide +kernel

theorem frameOfTaskMember_sound (t : PyRet) {v : PyRet} (h : frameOfTaskMember t = .ok v) :
    ∃ f ∈ names Gen.frameID, v = .member "FrameID" f := by
  revert h
  fun_cases frameOfTaskMember t with
  | case3 => rintro ⟨⟩; exact ⟨_, fromTask_frames_present.1, rfl⟩
  | case4 => rintro ⟨⟩; exact ⟨_, fromTask_frames_present.2, rfl⟩
  | case1 | case2 | case5 | case6 => nofun

theorem fromTask_str_eq_enum : ∀ p ∈ Gen.evaluationTask,
    frameFromTaskV (.str p.2) = frameFromTaskV (.member "EvaluationTask" p.1) := by
  intro p hp
  rw [frameFromTaskV_str, roundtripV_task p hp]; rfl

theorem fromTask_sound (a v : PyRet) (h : frameFromTaskV a = .ok v) : ∃ f ∈ names Gen.frameID, v = .member "FrameID" f := by
  cases a with
  | str s =>
    obtain ⟨t, -, h⟩ := bind_eq_ok.1 h
    exact frameOfTaskMember_sound t h
  | member e m => exact frameOfTaskMember_sound (.member e m) h
  | none => exact frameOfTaskMember_sound .none h

theorem fromTask_2d_rejected : ∀ p ∈ Gen.evaluationTask, taskIs3d p.1 = false →
    frameFromTaskV (.str p.2) = .error "ValueError" ∧ frameFromTaskV (.member "EvaluationTask" p.1) = .error "ValueError" := by
  decide +kernel

theorem fromTask_nonmember (s : String) (h : s ∉ values Gen.evaluationTask) : frameFromTaskV (.str s) = .error "ValueError" := by
  rw [frameFromTaskV_str, taskFromValueV_eq, nonmember_task s h]; rfl

/-- the members the branches of `from_task` name exist: the four tasks are 3-D members of `EvaluationTask`, the two frames
are members of `FrameID` (a renamed member breaks this) -/
theorem fromTask_names_present :
    (∀ m ∈ ["DETECTION", "SENSING", "TRACKING", "PREDICTION"], m ∈ names Gen.evaluationTask ∧ taskIs3d m = true) ∧
    "BASE_LINK" ∈ names Gen.frameID ∧ "MAP" ∈ names Gen.frameID := ⟨by decide +kernel, fromTask_frames_present⟩

theorem fromTask_documented : ∀ p ∈ Gen.evaluationTask, ∀ a ∈ [PyRet.str p.2, PyRet.member "EvaluationTask" p.1],
    ((p.1 = "DETECTION" ∨ p.1 = "SENSING") → frameFromTaskV a = .ok (.member "FrameID" "BASE_LINK")) ∧
    ((p.1 = "TRACKING" ∨ p.1 = "PREDICTION") → frameFromTaskV a = .ok (.member "FrameID" "MAP")) := by decide +kernel

/-- without the conversion of the string the two spellings differ -/
example : ¬ (∀ p ∈ Gen.evaluationTask, frameFromTaskV_noconv (.str p.2) = frameFromTaskV_noconv (.member "EvaluationTask" p.1)) := by
  decide +kernel
example : frameFromTaskV (.str "tracking") = .ok (.member "FrameID" "MAP") ∧
    frameFromTaskV (.member "EvaluationTask" "SENSING") = .ok (.member "FrameID" "BASE_LINK") ∧
    frameFromTaskV (.str "fp_validation") = .error "ValueError" ∧
    frameFromTaskV (.member "FrameID" "MAP") = .error "AttributeError" ∧
    frameFromTaskV_noconv (.str "tracking") = .error "AttributeError" := by decide +kernel
example : ∃ p ∈ Gen.evaluationTask, taskIs3d p.1 = false := by decide +kernel
example : "Tracking" ∉ values Gen.evaluationTask := by decide +kernel

/-! ## the parse sites taking several strings hand back members -/

theorem membersNamedV_eq (enum : String) (t : Table) (s : String) :
    membersNamedV enum t s = (membersNamed t s).map (PyRet.member enum) := by
  simp [membersNamedV, membersNamed, List.map_map, Function.comp_def]

theorem setTaskListsV_eq (l : List String) : setTaskListsV l = (setTaskLists l).map (PyRet.member "EvaluationTask") := by
  simp only [setTaskListsV, setTaskLists, List.map_flatMap, ← membersNamedV_eq]

theorem setTaskDictV_eq {α : Type} (kv : List (String × α)) :
    setTaskDictV kv = (setTaskDict kv).map fun e => (PyRet.member "EvaluationTask" e.1, e.2) := by
  simp only [setTaskDictV, setTaskDict, List.map_flatMap, membersNamedV_eq, List.map_map, Function.comp_def]

theorem frameIdsV_eq (a : FrameIdArg) : frameIdsV a = (frameIds a).map (List.map (PyRet.member "FrameID")) := by
  cases a with
  | one s =>
    rw [frameIdsV, frameIds, frameFromValueV_eq]; cases frameFromValue s <;> rfl
  | many l =>
    rw [frameIdsV, frameIds]
    induction l with
    | nil => rfl
    | cons s l ih =>
      simp only [List.mapM_cons, ih, frameFromValueV_eq]
      cases frameFromValue s with
      | error k => rfl
      | ok m => cases l.mapM frameFromValue <;> rfl

theorem checkTaskV_eq (support : List String) (s : String) :
    checkTaskV support s = (checkTask support s).map fun o => (o.map (PyRet.member "EvaluationTask")).getD .none := by
  unfold checkTaskV checkTask
  split
  · rw [setTaskV_eq]; rfl
  · rfl

theorem roundtripV_setTaskLists (ps : List (String × String)) (h : ∀ p ∈ ps, p ∈ Gen.evaluationTask) :
    setTaskListsV (ps.map (·.2)) = ps.map fun p => PyRet.member "EvaluationTask" p.1 := by
  rw [setTaskListsV_eq, roundtrip_setTaskLists ps h, List.map_map]; rfl

theorem setTaskListsV_sound (l : List String) :
    ∀ v ∈ setTaskListsV l, ∃ m s, s ∈ l ∧ (m, s) ∈ Gen.evaluationTask ∧ v = .member "EvaluationTask" m := by
  intro v hv
  rw [setTaskListsV_eq, List.mem_map] at hv
  obtain ⟨m, hm, rfl⟩ := hv
  obtain ⟨s, hs, hms⟩ := setTaskLists_sound l m hm
  exact ⟨m, s, hs, hms, rfl⟩

theorem roundtripV_setTaskDict {α : Type} (ps : List ((String × String) × α)) (h : ∀ e ∈ ps, e.1 ∈ Gen.evaluationTask) :
    setTaskDictV (ps.map fun e => (e.1.2, e.2)) = ps.map fun e => (PyRet.member "EvaluationTask" e.1.1, e.2) := by
  rw [setTaskDictV_eq, roundtrip_setTaskDict ps h, List.map_map]; rfl

theorem roundtripV_frameIds (ps : List (String × String)) (h : ∀ p ∈ ps, p ∈ Gen.frameID) :
    frameIdsV (.many (ps.map (·.2))) = .ok (ps.map fun p => PyRet.member "FrameID" p.1) := by
  rw [frameIdsV_eq, roundtrip_frameIds_many ps h]
  exact congrArg Except.ok List.map_map

theorem roundtripV_frameIds_one : ∀ p ∈ Gen.frameID,
    frameIdsV (.one p.2) = .ok [.member "FrameID" p.1] ∧ frameIdsV (.one p.2.toUpper) = .ok [.member "FrameID" p.1] := by
  intro p hp
  rw [frameIdsV_eq, frameIdsV_eq, (roundtrip_frameIds_one p hp).1, (roundtrip_frameIds_one p hp).2]; exact ⟨rfl, rfl⟩

theorem roundtripV_checkTask (support : List String) : ∀ p ∈ Gen.evaluationTask, p.2 ∈ support →
    checkTaskV support p.2 = .ok (.member "EvaluationTask" p.1) := by
  intro p hp hs
  rw [checkTaskV_eq, roundtrip_checkTask support p hp hs]; rfl

/-- a `set_task_lists` that appended `task.name` violates it -/
example : ¬ (∀ ps : List (String × String), (∀ p ∈ ps, p ∈ Gen.evaluationTask) →
    setTaskListsV_N (ps.map (·.2)) = ps.map fun p => PyRet.member "EvaluationTask" p.1) := by
  intro h
  have := h [("TRACKING", "tracking")] (by decide)
  revert this; decide
example : setTaskListsV ["tracking", "x", "detection"] = [.member "EvaluationTask" "TRACKING", .member "EvaluationTask" "DETECTION"] := by
  decide +kernel
example : frameIdsV (.many ["cam_front", "CAM_BACK"]) = .ok [.member "FrameID" "CAM_FRONT", .member "FrameID" "CAM_BACK"] := by
  decide +kernel

/-! ## the two tables of `Gen.Enums` that only the models of other properties read: present -/

theorem matchingMode_nonempty : Gen.matchingMode ≠ [] := by decide +kernel
theorem taskIsFpValidation_nonempty : Gen.taskIsFpValidation ≠ [] := by decide +kernel

/-! ## non-vacuity of the hypotheses used above -/
example : ("Base_Link" : String).toLower = "base_link" ∧ ("BASE_LINK", "base_link") ∈ Gen.frameID := by decide +kernel
example : frameFromValueV "Base_Link" = .ok (.member "FrameID" "BASE_LINK") := by decide +kernel
example : ("Allow_Any" : String).toUpper = "ALLOW_ANY" ∧ ("allow_any" : String).toUpper = "ALLOW_ANY" := by decide +kernel
example : "circle" ∉ values Gen.shapeType ∧ "BOUNDING_BOX" ∉ values Gen.shapeType := by decide +kernel
example : "lidar" ∈ values Gen.sensorModality := by decide +kernel
example : "whatever" ∉ values Gen.visibility ∧ "whatever" ∉ Gen.visibilityAlias.map (·.1) := by decide +kernel
example : taskFromValueV "sensing" = .ok (.member "EvaluationTask" "SENSING") ∧ setTaskV "nope" = .none ∧
    sensorFromValueV "camera" = .ok (.member "SensorModality" "CAMERA") ∧
    shapeTypeFromValueV "bounding_box" = .ok (.member "ShapeType" "BOUNDING_BOX") ∧
    visibilityFromValueV "most" = .ok (.member "Visibility" "MOST") := by decide +kernel
example : policyFromStrV "allow_any" = .ok (.member "MatchingLabelPolicy" "ALLOW_ANY") := by decide +kernel
example : checkTaskV ["sensing"] "sensing" = .ok (.member "EvaluationTask" "SENSING") ∧
    checkTaskV ["sensing", "x"] "x" = .ok .none ∧ checkTaskV ["sensing"] "detection" = .error "ValueError" := by decide +kernel

/-! ## ties to two more regenerated tables: `FrameID.from_task` per member, and the printed form of every member -/

/-- the hand-written branch structure of `FrameID.from_task` answers, for EVERY task member, what the running code
answers (tables `Gen.taskFrameOk` / `Gen.taskFrameRaise` are produced by calling the real `from_task` on every run),
and the two tables together cover every member exactly once -/
theorem fromTask_agrees_with_source :
    (∀ p ∈ Gen.taskFrameOk, frameFromTaskV (.member "EvaluationTask" p.1) = .ok (.member "FrameID" p.2)) ∧
    (∀ p ∈ Gen.taskFrameRaise, frameFromTaskV (.member "EvaluationTask" p.1) = .error p.2) ∧
    (Gen.taskFrameOk.map (·.1) ++ Gen.taskFrameRaise.map (·.1)).Perm (Gen.evaluationTask.map (·.1)) := by
  decide +kernel

/-- "parsing the printed form of a member gives the member back": `str(member)` (regenerated on every run) parses to
that very member, for every member of every configuration enum that prints its value -/
theorem printed_form_parses_back :
    (∀ p ∈ Gen.evaluationTaskPrinted, taskFromValueV p.2 = .ok (.member "EvaluationTask" p.1)) ∧
    (∀ p ∈ Gen.frameIDPrinted, frameFromValueV p.2 = .ok (.member "FrameID" p.1)) ∧
    (∀ p ∈ Gen.visibilityPrinted, visibilityFromValueV p.2 = .ok (.member "Visibility" p.1)) ∧
    (∀ p ∈ Gen.sensorModalityPrinted, sensorFromValueV p.2 = .ok (.member "SensorModality" p.1)) ∧
    (∀ p ∈ Gen.shapeTypePrinted, shapeTypeFromValueV p.2 = .ok (.member "ShapeType" p.1)) := by
  -- a frame normally prints as its value, and for values `roundtripV_frame` answers without lower-casing in the kernel;
  -- the second alternative is the claim itself, evaluated only for a printed form that is no row of the table
  have hf : ∀ p ∈ Gen.frameIDPrinted, p ∈ Gen.frameID ∨ frameFromValueV p.2 = .ok (.member "FrameID" p.1) := by
    decide +kernel
  exact ⟨by decide +kernel, fun p hp => (hf p hp).elim (fun h => (roundtripV_frame p h).1) id, by decide +kernel,
    by decide +kernel, by decide +kernel⟩

/-- the printed-form tables list every member (so the theorem above is about all of them) -/
theorem printed_tables_complete :
    Gen.evaluationTaskPrinted.map (·.1) = Gen.evaluationTask.map (·.1) ∧
    Gen.frameIDPrinted.map (·.1) = Gen.frameID.map (·.1) ∧
    Gen.visibilityPrinted.map (·.1) = Gen.visibility.map (·.1) ∧
    Gen.sensorModalityPrinted.map (·.1) = Gen.sensorModality.map (·.1) ∧
    Gen.shapeTypePrinted.map (·.1) = Gen.shapeType.map (·.1) := by
  decide +kernel

/-! ## a regenerated table that sees the defect class F12 -/

/-- On the running code, every string constructor of a configuration enum returns, for every member's own string
value, THAT VERY MEMBER (the table `Gen.parserReturnKinds` is produced on every run by calling the real constructors
and classifying the returned object: member of the enum by identity / str / None / other / raise). A constructor that
returns the member's name string (defect F12) makes a row read `"str"` and breaks this obligation. -/
theorem parsers_return_members_in_source :
    ∀ r ∈ Gen.parserReturnKinds, r.2.2 = "member:" ++ r.2.1 := by decide +kernel

/-- the table covers every member of the five enums for `from_value` -/
theorem parserReturnKinds_complete :
    (Gen.parserReturnKinds.filter (fun r => r.1 == "EvaluationTask.from_value")).map (·.2.1) = Gen.evaluationTask.map (·.1) ∧
    (Gen.parserReturnKinds.filter (fun r => r.1 == "FrameID.from_value")).map (·.2.1) = Gen.frameID.map (·.1) ∧
    (Gen.parserReturnKinds.filter (fun r => r.1 == "Visibility.from_value")).map (·.2.1) = Gen.visibility.map (·.1) ∧
    (Gen.parserReturnKinds.filter (fun r => r.1 == "SensorModality.from_value")).map (·.2.1) = Gen.sensorModality.map (·.1) ∧
    (Gen.parserReturnKinds.filter (fun r => r.1 == "ShapeType.from_value")).map (·.2.1) = Gen.shapeType.map (·.1) := by
  decide +kernel

end PEval.C20
