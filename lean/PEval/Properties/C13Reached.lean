import PEval.Properties.C13Heap
import PEval.Properties.C13Scene
/-!
# C13 × C04 — the scene score of a REACHED manager state is `AP.sceneMap` of the frames that were added

`C13.manager_scene_eq_AP_sceneMap` (`Properties/C13Scene.lean`) links the pooling machine's scene score to the C04
model of `get_scene_result → Map → Ap` on a hand-built state (`stateOfAP`: the frames written directly into
`frameResults`).  Here the state is one REACHED by the heap manager (`Model/ManagerHeap.lean`: references, explicit
writes, `get_scene_result` dereferencing every stored result's ground-truth frame at query time): start from ANY store
and dataset, run ANY list of operations (adds with any references that exist, scene queries and look-ups interleaved),
then ask for the scene.  The pure parts of the manager (`HSem`: both filters, matcher, critical filter) are arbitrary;
its two divisions and TP columns are those of `Model/AP.lean` (`IsAPSem`).  The frames of the scene are the pure
evaluations of the `add`s in call order (`addsFrames`: `pureORs` — the critical object results —, labels of `pureGts`).

Composition: `hscene_after_run` (scene accumulators of the heap machine = those of the state-free machine, needs
`LabelsAgree`) → `run_frameResults_det` (the stored detection views are the fresh evaluations of the adds) →
`manager_scene_eq_AP_sceneMap` (pooled `Manager.apOf` = `Ap.ap` of `AP.sceneMap`).
-/
namespace PEval.C13
open PEval.Manager PEval.ManagerHeap PEval

variable {Est C T : Type}

/-- the heap manager's divisions and TP column are those of the detection-metrics model: per `(label, threshold)` of
`zip(target_labels, thresholds)` the `divide_objects` bucket with the TP weight of metric `tm` under mode `m`, and the
number of ground truths of the label (`lab` = label of a ground-truth id); the frame level uses the same target labels
(`LabelsAgree`: see its doc comment for what the code does otherwise) -/
def IsAPSem (sem : HSem Est AP.Res C T) (tm : AP.TpMetric) (m : AP.Mode) (Tl : List AP.Label) (th : List Rat)
    (lab : Nat → AP.Label) : Prop :=
  sem.nLabels = (Tl.zip th).length ∧ LabelsAgree sem ∧
  ∀ ors gts, (⟨sem.bucketsOf ors, sem.numGtOf gts⟩ : Det) = detOfAP tm m Tl th (ors, gts.map lab)

/-- the frames `get_scene_result` pools after a run: for every `add` (in call order; queries skipped) the critical
object results and the labels of the critical ground truths, computed from the VALUES the references held in the
original store `h` -/
def addsFrames (sem : HSem Est AP.Res C T) (lab : Nat → AP.Label) (h : Heap Est) :
    List (HOp C) → List (List AP.Res × List AP.Label)
  | [] => []
  | .add fr er c :: ops =>
    (pureORs sem c (h.frame fr) (h.est er), (pureGts sem c (h.frame fr)).map lab) :: addsFrames sem lab h ops
  | _ :: ops => addsFrames sem lab h ops

theorem addsFrames_eq (sem : HSem Est AP.Res C T) (lab : Nat → AP.Label) (h : Heap Est) (ops : List (HOp C)) :
    addsFrames sem lab h ops = (adds (ops.map (absOp h))).map fun a =>
      (pureORs sem a.2.2 a.1 a.2.1, (pureGts sem a.2.2 a.1).map lab) := by
  induction ops with
  | nil => rfl
  | cons op ops ih => cases op <;> simp [addsFrames, absOp, adds, ih]

theorem addsDet_eq_addsFrames {sem : HSem Est AP.Res C T} {tm : AP.TpMetric} {m : AP.Mode} {Tl : List AP.Label}
    {th : List Rat} {lab : Nat → AP.Label} (hs : IsAPSem sem tm m Tl th lab) (h : Heap Est) (ops : List (HOp C)) :
    addsDet (toSem sem) (ops.map (absOp h)) = (addsFrames sem lab h ops).map (detOfAP tm m Tl th) := by
  rw [addsDet_eq, addsFrames_eq, List.map_map]
  apply List.map_congr_left
  intro a _
  show pureDet sem a.2.2 a.1 a.2.1 = _
  unfold pureDet
  rw [hs.2.1, hs.2.2]
  rfl

/-- the score of the pooling machine depends on a state only through the detection views of its stored results -/
theorem scene_score_congr {T₁ T₂ : Type} (nl : Nat) (s₁ : State T₁) (s₂ : State T₂)
    (h : s₁.frameResults.map (·.det) = s₂.frameResults.map (·.det)) (ap : List Res → Nat → Option Rat) (l : Nat)
    (hl : l < nl) : (getSceneResult nl s₁).score ap l = (getSceneResult nl s₂).score ap l := by
  rw [scene_score nl s₁ l hl, scene_score nl s₂ l hl, h]

/-- **the scene score of a reached state is `AP.sceneMap` of the added frames.**  Heap manager with the AP model's
divisions; ANY store `h` and dataset `ds` (references valid), ANY operation list naming existing cells.  The answer to a
`scene` query issued after the run is `hgetSceneResult` of the state the run reached, and whenever the C04 model of
`get_scene_result → Map` evaluates on the frames of the adds, the score the manager computes for the `i`-th label from its
stored results and the ground-truth frames it dereferences at query time (`Manager.apOf` = `Ap` of
`Lemmas/ManagerAPLink.lean`) is the `i`-th AP (`tm = .ap`), resp. in 3-D the `i`-th APH (`tm = .aph`), of that `Map`. -/
theorem heap_scene_is_AP_sceneMap_of_reached_state (sem : HSem Est AP.Res C T) {tm : AP.TpMetric} {m : AP.Mode}
    {Tl : List AP.Label} {th : List Rat} {lab : Nat → AP.Label} (hs : IsAPSem sem tm m Tl th lab)
    (h : Heap Est) (ds : List Ref) (hv : DatasetValid h ds) (ops : List (HOp C)) (hops : ∀ op ∈ ops, op.validIn h)
    {is2d : Bool} {o : AP.MapOut} (ho : AP.sceneMap m is2d Tl th (addsFrames sem lab h ops) = .ok o) :
    hlastOut sem (hfresh h ds) (ops ++ [.scene])
      = some (.scene (hgetSceneResult sem (hrun sem (hfresh h ds) ops).1)) ∧
    ∀ i lt, (Tl.zip th)[i]? = some lt →
      (tm = .ap → ∃ a, o.aps[i]? = some a ∧
        (hgetSceneResult sem (hrun sem (hfresh h ds) ops).1).score (Manager.apOf 0) i = a.ap) ∧
      (tm = .aph → is2d = false → ∃ a, o.aphs[i]? = some a ∧
        (hgetSceneResult sem (hrun sem (hfresh h ds) ops).1).score (Manager.apOf 0) i = a.ap) := by
  refine ⟨hlastOut_scene sem _ ops, fun i lt hi => ?_⟩
  have hdet : (run (toSem sem) (fresh (ds.map h.frame)) (ops.map (absOp h))).1.frameResults.map (·.det)
      = (stateOfAP tm m Tl th (addsFrames sem lab h ops)).frameResults.map (·.det) := by
    rw [run_frameResults_det, addsDet_eq_addsFrames hs, stateOfAP, List.map_map]
    rfl
  rw [hscene_after_run sem hs.2.1 h ds hv ops hops, hs.1,
    scene_score_congr _ _ _ hdet _ i (List.getElem?_eq_some_iff.1 hi).1]
  obtain ⟨k1, k2⟩ := manager_scene_eq_AP_sceneMap ho hi
  constructor
  · intro htm; subst htm; exact k1
  · intro htm h2d; subst htm; exact k2 h2d

/-- a one-frame scene on a reached state reproduces that frame's detection score — the FRAME-level `Map` of the C04
model (`AP.frameMap`) on the frame's critical object results and ground truths; queries may be interleaved -/
theorem heap_single_frame_is_AP_frameMap (sem : HSem Est AP.Res C T) {m : AP.Mode}
    {Tl : List AP.Label} {th : List Rat} {lab : Nat → AP.Label} (hs : IsAPSem sem .ap m Tl th lab)
    (h : Heap Est) (ds : List Ref) (hv : DatasetValid h ds) (qs₁ qs₂ : List (HOp C))
    (hq₁ : ∀ op ∈ qs₁, op.isQuery = true) (hq₂ : ∀ op ∈ qs₂, op.isQuery = true)
    (fr er : Ref) (c : C) (h1 : fr < h.frames.length) (h2 : er < h.ests.length)
    {is2d : Bool} {o : AP.MapOut}
    (ho : AP.frameMap m is2d Tl th (pureORs sem c (h.frame fr) (h.est er)) ((pureGts sem c (h.frame fr)).map lab) = .ok o)
    {i : Nat} {lt : AP.Label × Rat} (hi : (Tl.zip th)[i]? = some lt) :
    ∃ a, o.aps[i]? = some a ∧
      (hgetSceneResult sem (hrun sem (hfresh h ds) (qs₁ ++ [.add fr er c] ++ qs₂)).1).score (Manager.apOf 0) i = a.ap := by
  have hframes : addsFrames sem lab h (qs₁ ++ [.add fr er c] ++ qs₂)
      = [(pureORs sem c (h.frame fr) (h.est er), (pureGts sem c (h.frame fr)).map lab)] := by
    rw [addsFrames_eq, List.map_append, List.map_append, List.map_singleton, absOp,
      adds_single (absOp_queries h hq₁) (absOp_queries h hq₂)]
    rfl
  have hvalid : ∀ op ∈ qs₁ ++ [.add fr er c] ++ qs₂, op.validIn h := by
    simp only [List.forall_mem_append, List.forall_mem_singleton]
    exact ⟨⟨fun op hop => HOp.validIn_of_isQuery h (hq₁ op hop), h1, h2⟩,
      fun op hop => HOp.validIn_of_isQuery h (hq₂ op hop)⟩
  rw [← C04.scene_single_frame_eq_frame, ← hframes] at ho
  exact ((heap_scene_is_AP_sceneMap_of_reached_state sem hs h ds hv _ hvalid ho).2 i lt hi).1 rfl

/-! ### non-vacuity: a heap manager with the AP model's divisions on a concrete store

Ground truths 7 (car = 2), 8, 9 (pedestrian = 4); two dataset frames; the estimate lists ARE lists of `AP.Res` (the
matcher is the identity here, the filters drop nothing; the critical filter `true` drops results of label 4). -/
section Example

def exLab (g : Nat) : AP.Label := if g == 7 then 2 else 4

def exAPSem (tm : AP.TpMetric) : HSem AP.Res AP.Res Bool Unit where
  nLabels := 2
  filterEst := fun _ es => es
  filterGt := fun _ gs => gs
  matchObjs := fun _ es _ => es
  critRes := fun c _ ors => if c then ors.filter (fun r => r.label != 4) else ors
  critGt := fun c _ gs => if c then gs.filter (fun g => exLab g != 4) else gs
  detOf := fun _ ors gs => detOfAP tm .centerDistance [2, 4] [1, 1] (ors, gs.map exLab)
  bucketsOf := fun ors => (detOfAP tm .centerDistance [2, 4] [1, 1] (ors, [])).results
  numGtOf := fun gs => (detOfAP tm .centerDistance [2, 4] [1, 1] ([], gs.map exLab)).numGt
  trackOf := fun _ _ _ _ => ()

theorem exAPSem_isAPSem (tm : AP.TpMetric) : IsAPSem (exAPSem tm) tm .centerDistance [2, 4] [1, 1] exLab :=
  ⟨rfl, fun _ _ _ => rfl, fun _ _ => rfl⟩

def exAPHeap : Heap AP.Res :=
  { frames := [⟨100, 0, [7, 8]⟩, ⟨200, 1, [7, 9]⟩], ests := [[C04.s1, C04.s2, C04.s3], [C04.s4]] }
def exAPOps : List (HOp Bool) := [.lookup 100 75, .add 0 0 false, .scene, .add 1 1 false, .lookup 200 75]

example : DatasetValid exAPHeap [0, 1] := by
  intro r hr
  simp only [List.mem_cons, List.not_mem_nil, or_false] at hr
  rcases hr with rfl | rfl <;> decide
example : ∀ op ∈ exAPOps, op.validIn exAPHeap := by
  intro op hop
  simp only [exAPOps, List.mem_cons, List.not_mem_nil, or_false] at hop
  rcases hop with rfl | rfl | rfl | rfl | rfl <;> simp [HOp.validIn, exAPHeap]
/-- the frames of the run are the two-frame scene of `C04Scene.lean` -/
example : addsFrames (exAPSem .ap) exLab exAPHeap exAPOps = C04.exFrames := by decide +kernel
/-- … and the reached state's scene scores are its APs (2/3 for label 2) and APHs -/
example : (AP.sceneMap .centerDistance false [2, 4] [1, 1] (addsFrames (exAPSem .ap) exLab exAPHeap exAPOps)).toOption.map
      (fun o => (o.aps.map (·.ap), o.aphs.map (·.ap)))
    = some ([(hgetSceneResult (exAPSem .ap) (hrun (exAPSem .ap) (hfresh exAPHeap [0, 1]) exAPOps).1).score (Manager.apOf 0) 0,
             (hgetSceneResult (exAPSem .ap) (hrun (exAPSem .ap) (hfresh exAPHeap [0, 1]) exAPOps).1).score (Manager.apOf 0) 1],
            [(hgetSceneResult (exAPSem .aph) (hrun (exAPSem .aph) (hfresh exAPHeap [0, 1]) exAPOps).1).score (Manager.apOf 0) 0,
             (hgetSceneResult (exAPSem .aph) (hrun (exAPSem .aph) (hfresh exAPHeap [0, 1]) exAPOps).1).score (Manager.apOf 0) 1]) := by
  decide +kernel
example : (hgetSceneResult (exAPSem .ap) (hrun (exAPSem .ap) (hfresh exAPHeap [0, 1]) exAPOps).1).score (Manager.apOf 0) 0
    = some (2 / 3) := by decide +kernel

/-- the statement FAILS for the F5 variant of the heap manager (no private copy of the ground-truth frame): after a
wide add of frame 0 and a narrow one (critical filter `true` drops the pedestrian ground truth 8 from the SHARED frame),
the scene counts 0 + 0 pedestrians where the frames of the adds have 1 + 0 — the pooled score of label 4 is computed
with the wrong ground-truth count -/
example : ((hgetSceneResult (exAPSem .ap) (hrunV .f5 (exAPSem .ap) (hfresh exAPHeap [0, 1]) [.add 0 0 false, .add 0 0 true]).1).numGt,
           (hgetSceneResult (exAPSem .ap) (hrun (exAPSem .ap) (hfresh exAPHeap [0, 1]) [.add 0 0 false, .add 0 0 true]).1).numGt,
           (addsFrames (exAPSem .ap) exLab exAPHeap [.add 0 0 false, .add 0 0 true]).map (fun f => AP.cnt 4 f.2))
    = ([2, 0], [2, 1], [1, 0]) := by decide +kernel

end Example

end PEval.C13
