import PEval.Lemmas.MatchingTotal
import PEval.Lemmas.ClassificationGeneric
import PEval.Model.MatchDispatch
/-!
The dispatch model (`Model/MatchDispatch.lean`) against the models it dispatches to.

* `getObjectResultsXE` (the entry point with the constructor exits of the matching classes) against `getObjectResultsX` /
  `Matching.getObjectResults`, cell by cell: where the constructor does not raise (`valueError = none`) a cell of the extended
  table IS the cell of the plain table, where it raises the cell raises after the threshold lookup; a cell that is defined in
  the extended table is defined in the plain one.
* The member-level (family-carrying) threshold lookup `labelThresholdF` coincides with `Matching.labelThreshold` when the
  target labels belong to the ground truth's family; `isMatchableF` and `cellF`: `C01.family_isMatchable_eq`,
  `C01.family_cell_eq`.
* The identity-based matchers see the uuids of the objects unchanged (`toClsFrom_map_uuid`), which carries the facts about
  `Classification.pairTlr` to the traffic-light path.

The statements about the whole call are in `Properties/C01.lean` (`xe_*`, `family_*`, `x_tlr_*`).
-/
namespace PEval.MatchDispatch
open PEval PEval.Matching

theorem valueError_eq_none_iff {is2d : Bool} {m : Mode} {e g : ObjX} :
    valueError is2d m e g = none ↔
      is2d = false ∨ ((m = .centerDistance ∨ m = .iou2d) ∧ e.roiNone = false ∧ g.roiNone = false) := by
  unfold valueError
  cases is2d
  · simp
  · cases m <;> simp

/-! ## constructor exits, one cell: the constructor sits between the threshold lookup and the comparison -/

theorem cellXE_of_no_valueError {c : Cfg} {is2d : Bool} {e g : ObjX} {v : Rat}
    (h : e.frame = g.frame → valueError is2d c.mode e g = none) :
    cellXE c is2d e g v = cell c (toObj e) (toObj g) v := by
  unfold cellXE cell
  by_cases hf : e.frame = g.frame
  · simp only [h hf]
    rfl
  · rw [show (e.frame == g.frame) = false from beq_false_of_ne hf,
      show ((toObj e).frame == (toObj g).frame) = false from beq_false_of_ne hf]
    rfl

theorem cellXE_of_valueError {c : Cfg} {is2d : Bool} {e g : ObjX} {v : Rat} {err : Err} (hf : e.frame = g.frame)
    (hv : valueError is2d c.mode e g = some err) :
    cellXE c is2d e g v = (labelThreshold c.targets c.thresholds g.label).bind fun _ => .error err := by
  rw [cellXE, beq_iff_eq.2 hf, hv]
  rfl

/-! ## constructor exits, the table -/

/-- every same-frame pair carries what the mode reads: 3-D boxes, or 2-D objects that all have a ROI and a 2-D mode -/
def modeReadable (c : Cfg) (sx : SceneX) : Prop :=
  ∀ e ∈ sx.ests, ∀ g ∈ sx.gts, e.frame = g.frame → valueError sx.is2d c.mode e g = none

theorem cellAtXE_eq_cellAt {c : Cfg} {sx : SceneX} (h : modeReadable c sx) (i j : Nat) :
    cellAtXE c sx i j = cellAt c (toScene sx) i j := by
  unfold cellAtXE cellAt
  simp only [toScene, List.getElem?_map]
  cases he : sx.ests[i]? with
  | none => rfl
  | some e =>
    cases hg : sx.gts[j]? with
    | none => rfl
    | some g => exact cellXE_of_no_valueError (h e (List.mem_of_getElem? he) g (List.mem_of_getElem? hg))

theorem cellAt_of_cellAtXE_ok {c : Cfg} {sx : SceneX} {i j : Nat} {x : Cell} (h : cellAtXE c sx i j = .ok x) :
    cellAt c (toScene sx) i j = .ok x := by
  unfold cellAtXE at h
  unfold cellAt
  simp only [toScene, List.getElem?_map]
  cases he : sx.ests[i]? with
  | none => rw [he] at h; exact h
  | some e =>
    cases hg : sx.gts[j]? with
    | none => rw [he, hg] at h; exact h
    | some g =>
      rw [he, hg] at h
      change cellXE c sx.is2d e g (sx.val i j) = .ok x at h
      by_cases hv : e.frame = g.frame → valueError sx.is2d c.mode e g = none
      · rwa [cellXE_of_no_valueError hv] at h
      · -- the constructor raises, after the threshold lookup: the cell cannot be defined
        obtain ⟨hf, hv⟩ := Classical.not_imp.1 hv
        obtain ⟨err, he'⟩ := Option.ne_none_iff_exists'.1 hv
        rw [cellXE_of_valueError hf he'] at h
        cases hl : labelThreshold c.targets c.thresholds g.label <;> rw [hl] at h <;> cases h

theorem tableErrorXE_eq (c : Cfg) (sx : SceneX) :
    tableErrorXE c sx =
      (List.range sx.ests.length).findSome? fun i => (List.range sx.gts.length).findSome? fun j =>
        errorOf (cellAtXE c sx i j) := by
  unfold tableErrorXE
  congr; funext i; congr; funext j
  cases cellAtXE c sx i j <;> rfl

theorem tableErrorXE_eq_tableError {c : Cfg} {sx : SceneX} (h : modeReadable c sx) :
    tableErrorXE c sx = tableError c (toScene sx) := by
  rw [tableErrorXE_eq, tableError_eq]
  simp only [cellAtXE_eq_cellAt h, toScene, List.length_map]

theorem getObjectResultsXE_geometric_error_iff {uf : Bool} {c : Cfg} {sx : SceneX} {e0 g0 : ObjX} {es gs : List ObjX}
    (hE : sx.ests = e0 :: es) (hG : sx.gts = g0 :: gs) (hd : dispatch sx.is2d e0 g0 = .geometric) {err : Err} :
    getObjectResultsXE uf c sx = .error err ↔ tableErrorXE c sx = some err := by
  unfold getObjectResultsXE
  simp only [hE, hG, hd]
  cases ht : tableErrorXE c sx with
  | some e' => simp
  | none =>
    -- every cell of the extended table is defined, hence so is every cell of the plain table
    have hok : tableError c (toScene sx) = none := by
      rw [tableErrorXE_eq, firstError_eq_none_iff] at ht
      refine tableError_eq_none_iff.2 fun i j hi hj => ?_
      obtain ⟨x, hx⟩ := ht i j (by simpa [toScene] using hi) (by simpa [toScene] using hj)
      exact ⟨x, cellAt_of_cellAtXE_ok hx⟩
    simp [getObjectResults_eq, hok]

/-! ## label families -/

theorem findIdx?_map_congr {α β} (l : List α) (f : α → β) (p : α → Bool) (q : β → Bool)
    (h : ∀ t ∈ l, p t = q (f t)) : l.findIdx? p = (l.map f).findIdx? q := by
  induction l with
  | nil => rfl
  | cons a l ih =>
    rw [List.map_cons, List.findIdx?_cons, List.findIdx?_cons, h a (by simp),
      ih (fun t ht => h t (List.mem_cons_of_mem _ ht))]

theorem labelThresholdF_of_same_family {ts : List (Bool × String)} {th : Option (List Rat)} {g : ObjX}
    (h : ∀ t ∈ ts, t.1 = g.tl) :
    labelThresholdF (some ts) th g = labelThreshold (some (ts.map (·.2))) th g.label := by
  unfold labelThresholdF labelThreshold
  cases th with
  | none => rfl
  | some H =>
    simp only
    rw [findIdx?_map_congr ts (·.2) (fun t => t.1 == g.tl && t.2 == g.label) (· == g.label)
      (fun t ht => by simp [h t ht])]
    rfl

theorem labelThresholdF_none {th : Option (List Rat)} {g : ObjX} :
    labelThresholdF none th g = labelThreshold none th g.label := rfl

/-! ## the identity-based matchers -/

/-- the identity-based matchers see the uuids of the objects as they are -/
theorem toClsFrom_map_uuid (k : Nat) (os : List ObjX) : (toClsFrom k os).map (·.uuid) = os.map (·.uuid) := by
  induction os generalizing k with
  | nil => rfl
  | cons x xs ih => rw [toClsFrom, List.map_cons, List.map_cons, ih]

theorem forall_uuid_toCls {P : Option String → Prop} {es gs : List ObjX} :
    (∀ o ∈ toCls es ++ toCls gs, P o.uuid) ↔ ∀ o ∈ es ++ gs, P o.uuid := by
  have h1 := List.forall_mem_map (f := fun o : Classification.Obj => o.uuid) (l := toCls es ++ toCls gs) (P := P)
  rw [List.map_append, toCls, toCls, toClsFrom_map_uuid, toClsFrom_map_uuid, ← List.map_append] at h1
  exact h1.symm.trans List.forall_mem_map

theorem toCls_ne_nil {os : List ObjX} (h : os ≠ []) : toCls os ≠ [] := by
  cases os with
  | nil => exact absurd rfl h
  | cons x xs => exact List.cons_ne_nil _ _

end PEval.MatchDispatch
