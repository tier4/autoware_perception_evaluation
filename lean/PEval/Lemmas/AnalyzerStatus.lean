import PEval.Lemmas.AnalyzerCounts
/-!
# C19 lemmas: `get_object_status` is a group-by of the frames' `(uuid, status, frame)` events

`getObjectStatus frames = (keysOf evs).map (evSummary evs)`: one record per uuid in order of first
appearance, holding exactly the frame numbers of that uuid's events.  From that: the tally of frame number `n` for a
uuid, frame by frame (`count_flatMap_events`; under `Frame.WF` a frame contributes its critical ground truths plus, again,
the ordinary ground truths carried by FP results — finding F11, DESIGN §7: `Frame.WF.gtUuids_count`), and, summed over the
records, a tally counts the events it selects (`sumN_countP_keys`, `sum_records`).  Core Lean only.
-/


namespace PEval.Analyzer

abbrev Ev := String × Status × Nat

/-- the record that `get_object_status` must hold for `u` after the events `evs` -/
def evSummary (evs : List Ev) (u : String) : GtStatus :=
  { uuid := u
    total := (evs.filter (fun e => e.1 == u)).map (·.2.2)
    tp := (evs.filter (fun e => e.1 == u && e.2.1 == .TP)).map (·.2.2)
    fp := (evs.filter (fun e => e.1 == u && e.2.1 == .FP)).map (·.2.2)
    tn := (evs.filter (fun e => e.1 == u && e.2.1 == .TN)).map (·.2.2)
    fn := (evs.filter (fun e => e.1 == u && e.2.1 == .FN)).map (·.2.2) }

def keyStep (acc : List String) (e : Ev) : List String := if acc.contains e.1 then acc else acc ++ [e.1]

/-- uuids in order of first appearance -/
def keysOf (evs : List Ev) : List String := evs.foldl keyStep []

def statusField (st : Status) (s : GtStatus) : List Nat :=
  match st with
  | .TP => s.tp | .FP => s.fp | .TN => s.tn | .FN => s.fn

theorem statusField_evSummary (st : Status) (evs : List Ev) (u : String) :
    statusField st (evSummary evs u) = (evs.filter fun e => e.1 == u && e.2.1 == st).map (·.2.2) := by
  cases st <;> rfl

theorem evSummary_snoc_ne (evs : List Ev) (u k : String) (st : Status) (n : Nat) (h : k ≠ u) :
    evSummary (evs ++ [(u, st, n)]) k = evSummary evs k := by
  have : (u == k) = false := by simp [Ne.symm h]
  simp [evSummary, List.filter_append, this]

theorem evSummary_snoc_eq (evs : List Ev) (u : String) (st : Status) (n : Nat) :
    evSummary (evs ++ [(u, st, n)]) u = (evSummary evs u).addStatus st n := by
  cases st <;> simp [evSummary, List.filter_append, GtStatus.addStatus, Status.beq_decide]

theorem evSummary_fresh (evs : List Ev) (u : String) (h : ∀ e ∈ evs, e.1 ≠ u) :
    evSummary evs u = { uuid := u } := by
  have hf : ∀ q : Ev → Bool, evs.filter (fun e => e.1 == u && q e) = [] := fun q =>
    List.filter_eq_nil_iff.mpr fun e he => by simp [h e he]
  have ht : evs.filter (fun e => e.1 == u) = [] := by simpa using hf fun _ => true
  simp [evSummary, hf, ht]

/-- one step of the loop on a list of records that are the summaries of `evs` for the nodup keys; a uuid that is not among
the keys has no event yet -/
theorem addTo_map (evs : List Ev) (u : String) (st : Status) (n : Nat) :
    ∀ (keys : List String), keys.Nodup → (u ∉ keys → ∀ e ∈ evs, e.1 ≠ u) →
      addTo u st n (keys.map (evSummary evs)) =
        (if keys.contains u then keys else keys ++ [u]).map (evSummary (evs ++ [(u, st, n)])) := by
  intro keys
  induction keys with
  | nil =>
    intro _ h
    simp [addTo, evSummary_snoc_eq, evSummary_fresh evs u (h List.not_mem_nil)]
  | cons k ks ih =>
    intro hnd h
    have hk : k ∉ ks := (List.nodup_cons.mp hnd).1
    have hks : ks.Nodup := (List.nodup_cons.mp hnd).2
    by_cases hku : k = u
    · subst hku
      have hrest : ks.map (evSummary (evs ++ [(k, st, n)])) = ks.map (evSummary evs) := by
        apply List.map_congr_left
        intro k' hk'
        exact evSummary_snoc_ne evs k k' st n (fun e => hk (e ▸ hk'))
      have hk : ((evSummary evs k).uuid == k) = true := beq_self_eq_true k
      simp only [List.map_cons, addTo, hk, if_true, List.contains_cons, beq_self_eq_true, Bool.true_or,
        evSummary_snoc_eq, hrest]
    · have hne : ((evSummary evs k).uuid == u) = false := by simp [evSummary, hku]
      have hmem : u ∉ ks → ∀ e ∈ evs, e.1 ≠ u := fun hu =>
        h fun hm => hu ((List.mem_cons.mp hm).resolve_left (Ne.symm hku))
      have hc : (k :: ks).contains u = ks.contains u := by
        simp [Ne.symm hku]
      rw [hc, show (if ks.contains u then k :: ks else (k :: ks) ++ [u]) =
        k :: (if ks.contains u then ks else ks ++ [u]) by split <;> rfl]
      simp only [List.map_cons, addTo, hne, Bool.false_eq_true, if_false, ih hks hmem,
        evSummary_snoc_ne evs u k st n hku]

/-! `keysOf` is the loop that extends the label index of the confusion matrix (`extendLabels`: append what is not yet
there), run on the events' uuids from the empty list; what is needed of either is proved for `extendLabels`. -/

theorem keysOf_eq (evs : List Ev) : keysOf evs = extendLabels [] (evs.map (·.1)) := by
  rw [extendLabels, List.foldl_map]; rfl

theorem extendLabels_prefix (ls : List String) : ∀ tl : List String, tl <+: extendLabels tl ls := by
  induction ls with
  | nil => intro tl; exact List.prefix_refl tl
  | cons l ls ih =>
    intro tl
    simp only [extendLabels, List.foldl_cons]
    split
    · exact ih tl
    · exact (List.prefix_append tl [l]).trans (ih (tl ++ [l]))

theorem mem_extendLabels (ls : List String) : ∀ (tl : List String) (x : String),
    x ∈ extendLabels tl ls ↔ x ∈ tl ∨ x ∈ ls := by
  induction ls with
  | nil => intro tl x; simp [extendLabels]
  | cons l ls ih =>
    intro tl x
    show x ∈ extendLabels (if tl.contains l then tl else tl ++ [l]) ls ↔ _
    rw [ih, List.mem_cons, ← or_assoc]
    refine or_congr_left ?_
    split
    · next hc => exact ⟨Or.inl, fun h => h.elim id fun e => e ▸ List.contains_iff_mem.mp hc⟩
    · rw [List.mem_append, List.mem_singleton]

theorem extendLabels_nodup (ls : List String) : ∀ tl : List String, tl.Nodup → (extendLabels tl ls).Nodup := by
  induction ls with
  | nil => exact fun _ h => h
  | cons l ls ih =>
    refine fun tl h => ih _ (?_ : (if tl.contains l then tl else tl ++ [l]).Nodup)
    split
    · exact h
    · next hc =>
      exact List.nodup_append.mpr ⟨h, List.pairwise_singleton _ l, fun a ha b hb e =>
        hc (List.contains_iff_mem.mpr (List.mem_singleton.mp hb ▸ e ▸ ha))⟩

theorem keysOf_nodup (evs : List Ev) : (keysOf evs).Nodup :=
  keysOf_eq evs ▸ extendLabels_nodup _ [] .nil

theorem mem_keysOf_iff (evs : List Ev) (k : String) : k ∈ keysOf evs ↔ ∃ e ∈ evs, e.1 = k := by
  simp [keysOf_eq, mem_extendLabels]

def allEvents (frames : List Frame) : List Ev := frames.flatMap frameEvents

theorem getObjectStatus_eq (frames : List Frame) :
    getObjectStatus frames = (keysOf (allEvents frames)).map (evSummary (allEvents frames)) := by
  unfold getObjectStatus allEvents
  generalize frames.flatMap frameEvents = evs
  -- induction from the right: the loop consumes the events in order, `addTo_map` is its last step
  rw [← evs.reverse_reverse]
  induction evs.reverse with
  | nil => rfl
  | cons e r ih =>
    obtain ⟨u, st, n⟩ := e
    have hor : u ∉ keysOf r.reverse → ∀ e ∈ r.reverse, e.1 ≠ u :=
      fun hu e he heq => hu ((mem_keysOf_iff _ u).mpr ⟨e, he, heq⟩)
    rw [List.reverse_cons, List.foldl_append, List.foldl_cons, List.foldl_nil, ih,
      addTo_map _ u st n _ (keysOf_nodup _) hor]
    simp only [keysOf, List.foldl_append, List.foldl_cons, List.foldl_nil]
    rfl

theorem mem_keysOf (evs : List Ev) : ∀ e ∈ evs, e.1 ∈ keysOf evs :=
  fun e he => (mem_keysOf_iff evs _).mpr ⟨e, he, rfl⟩

theorem keysOf_sub (evs : List Ev) : ∀ k ∈ keysOf evs, ∃ e ∈ evs, e.1 = k :=
  fun k => (mem_keysOf_iff evs k).mp

/-- uuids of the ground-truth rows a frame contributes -/
def Frame.gtUuids (f : Frame) : List String := (f.tpGts ++ f.fpGts ++ f.tn ++ f.fn).map (·.uuid)

theorem frameEvents_map_fst (f : Frame) : (frameEvents f).map (·.1) = f.gtUuids := by
  simp [frameEvents, Frame.gtUuids, Frame.tpGts, Frame.fpGts, Function.comp_def]

theorem Frame.WF.gtUuids_count {f : Frame} (h : f.WF) (u : String) :
    f.gtUuids.count u = (f.critical.map (·.uuid)).count u + (f.fpOrd.map (·.uuid)).count u := by
  simpa [Frame.gtUuids] using (h.gtRows_perm.map (·.uuid)).count_eq u

theorem sumN_indicator {α κ : Type} [DecidableEq κ] (l : List α) (key : α → κ) (c : α → Nat) (a : α)
    (hnd : (l.map key).Nodup) (ha : a ∈ l) :
    sumN (l.map fun b => if key b = key a then c b else 0) = c a := by
  -- split the list at `a`: no other element has its key
  obtain ⟨s, t, rfl⟩ := List.append_of_mem ha
  have hk : key a ∉ (s ++ t).map key := (List.nodup_cons.mp ((List.perm_middle.map key).nodup_iff.mp hnd)).1
  have hz : ∀ b ∈ s ++ t, (if key b = key a then c b else 0) = 0 :=
    fun b hb => if_neg fun e : key b = key a => hk (e ▸ List.mem_map_of_mem hb)
  rw [List.map_append, sumN_append, List.map_cons, sumN_cons, if_pos rfl, Nat.add_left_comm, ← sumN_append,
    ← List.map_append, sumN_map_zero _ _ hz]
  rfl

/-- grouping by key loses nothing: over distinct keys that cover the list, the per-key counts add up to the count -/
theorem sumN_countP_keys {α κ : Type} [DecidableEq κ] (keys : List κ) (hnd : keys.Nodup) (key : α → κ) (q : α → Bool)
    (evs : List α) (hcov : ∀ e ∈ evs, key e ∈ keys) :
    sumN (keys.map fun k => evs.countP fun e => key e == k && q e) = evs.countP q := by
  induction evs with
  | nil => exact sumN_map_zero _ _ fun _ _ => rfl
  | cons e evs ih =>
    have hstep : ∀ k, (e :: evs).countP (fun e => key e == k && q e) =
        evs.countP (fun e => key e == k && q e) + if k = key e then (if q e then 1 else 0) else 0 := by
      intro k
      rw [List.countP_cons]
      by_cases hk : k = key e
      · simp [hk]
      · simp [hk, Ne.symm hk]
    have hone := sumN_indicator keys id (fun _ => if q e then 1 else 0) (key e) (by simpa using hnd)
      (hcov e List.mem_cons_self)
    simp only [id] at hone
    simp only [hstep, sumN_map_add, ih fun e' he' => hcov e' (List.mem_cons_of_mem _ he'), List.countP_cons, hone]

/-- a tally that counts, per record, the events selected by `q`, summed over the records counts the events selected by `q` -/
theorem sum_records (frames : List Frame) (φ : GtStatus → Nat) (q : Ev → Bool)
    (hφ : ∀ evs u, φ (evSummary evs u) = evs.countP fun e => e.1 == u && q e) :
    sumN ((getObjectStatus frames).map φ) = (allEvents frames).countP q := by
  rw [getObjectStatus_eq, List.map_map, ← sumN_countP_keys _ (keysOf_nodup (allEvents frames)) (·.1) q _ (mem_keysOf _)]
  exact congrArg sumN (List.map_congr_left fun u _ => hφ _ u)

theorem sum_records_total (frames : List Frame) :
    sumN ((getObjectStatus frames).map fun s => s.total.length) = (allEvents frames).length := by
  rw [sum_records frames _ (fun _ => true), List.countP_true]
  intro evs u
  simp [evSummary, List.countP_eq_length_filter]

theorem sum_records_status (frames : List Frame) (st : Status) :
    sumN ((getObjectStatus frames).map fun s => (statusField st s).length) = (allEvents frames).countP (·.2.1 == st) :=
  sum_records frames _ _ fun evs u => by rw [statusField_evSummary, List.length_map, List.countP_eq_length_filter]

theorem countP_allEvents (frames : List Frame) (q : Ev → Bool) :
    (allEvents frames).countP q = sumN (frames.map fun f => (frameEvents f).countP q) :=
  List.countP_flatMap

/-- frame number `n` in the tally of `u`: once per ground-truth row with that uuid of each frame numbered `n` -/
theorem count_flatMap_events (frames : List Frame) (u : String) (n : Nat) :
    (((allEvents frames).filter (fun e => e.1 == u)).map (·.2.2)).count n =
      sumN (frames.map fun f => if f.frameNum = n then f.gtUuids.count u else 0) := by
  rw [List.count_eq_countP, List.countP_map, List.countP_filter, countP_allEvents]
  refine congrArg sumN (List.map_congr_left fun f _ => ?_)
  have hfr : ∀ e ∈ frameEvents f, e.2.2 = f.frameNum := by
    simp only [frameEvents, List.mem_append, List.mem_map]
    rintro e (((⟨g, _, rfl⟩ | ⟨g, _, rfl⟩) | ⟨g, _, rfl⟩) | ⟨g, _, rfl⟩) <;> rfl
  rw [List.countP_congr (q := fun e => decide (f.frameNum = n) && (e.1 == u)) fun e he => by
    simp [hfr e he]]
  split
  · next h => simp [h, ← frameEvents_map_fst, List.count_eq_countP, List.countP_map, Function.comp_def]
  · next h => simp [h]
theorem allEvents_length (frames : List Frame) : (allEvents frames).length = sumN (frames.map Frame.gtRows) := by
  rw [← List.countP_true, countP_allEvents]
  refine congrArg sumN (List.map_congr_left fun f _ => ?_)
  simp [frameEvents, Frame.gtRows, Frame.tpGts, Frame.fpGts]
  omega

end PEval.Analyzer
