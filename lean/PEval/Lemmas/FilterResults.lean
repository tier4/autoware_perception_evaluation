import PEval.Lemmas.FilterMono
/-!
Result level of the object filter (`filter_object_results`, model `filterResults`), the parts Properties/C10 builds on:
what the loop body decides (`resultTarget_ok_iff`), the estimate-side and ground-truth-side argument sets (`estParams`,
`gtParams`) keep well-formedness and `Wider`, a result complete for both (`WFRes`) is judged without exception, and
rendering both objects of a result into the map frame (`Res.renderMap`) does not change the verdict.
-/
namespace PEval.Filter

theorem wfParams_est {P : Params} (h : WFParams P) : WFParams (estParams P) := by
  obtain ⟨ts, hT, hne, h1, h2, h3, h4, h5, _⟩ := h.targets
  exact ⟨⟨ts, hT, hne, h1, h2, h3, h4, h5, fun l hl => (by cases hl)⟩⟩

theorem wfParams_gt {P : Params} (h : WFParams P) : WFParams (gtParams P) := by
  obtain ⟨ts, hT, hne, h1, h2, h3, h4, _, h6⟩ := h.targets
  exact ⟨⟨ts, hT, hne, h1, h2, h3, h4, (fun l hl => (by cases hl)), h6⟩⟩

/-- the per-result predicate of `filter_object_results`, whenever it returns -/
theorem resultTarget_ok_iff {P : Params} {r : Res} {b : Bool} (h : resultTarget P r = .ok b) :
    b = true ↔ Criteria (estParams P) r.est ∧ (∀ g, r.gt = some g → Criteria (gtParams P) g) ∧
      (r.gt = none → ∀ us, P.uuids = some us → us = []) := by
  revert h
  fun_cases resultTarget P r
  case case1 => nofun
  case case2 g hg he => intro h; rw [← isTarget_ok_iff he, hg, isTarget_ok_iff h]; simp
  case case3 g hg he => rintro ⟨⟩; rw [← isTarget_ok_iff he]; exact ⟨nofun, And.left⟩
  case case4 e hg he =>
    rintro ⟨⟩
    rw [← isTarget_ok_iff he, hg]
    -- the uuid clause says `truthy P.uuids = false`
    simp only [← truthy_eq_false, reduceCtorEq, false_imp_iff, implies_true, true_and, forall_const]
    cases truthy P.uuids <;> simp

/-- a result is complete for the configuration: its estimate for the estimate-side arguments, its ground truth (if
any) for the ground-truth-side arguments -/
def WFRes (P : Params) (r : Res) : Prop :=
  WFObj (estParams P) r.est ∧ ∀ g, r.gt = some g → WFObj (gtParams P) g

theorem resultTarget_total {P : Params} {r : Res} (hP : WFParams P) (hr : WFRes P r) :
    ∃ b, resultTarget P r = .ok b := by
  obtain ⟨e, he⟩ := isTarget_total (wfParams_est hP) hr.1
  fun_cases resultTarget P r
  case case1 e' he' => exact nomatch he.symm.trans he'
  case case2 g hg _ => exact isTarget_total (wfParams_gt hP) (hr.2 g hg)
  all_goals exact ⟨_, rfl⟩

theorem filterResults_total' {P : Params} {rs : List Res} (hP : WFParams P) (hO : ∀ r ∈ rs, WFRes P r) :
    ∃ ks, filterResults P rs = .ok ks :=
  filterE_total fun r hr => resultTarget_total hP (hO r hr)

theorem wider_est {P P' : Params} (w : Wider P P') : Wider (estParams P) (estParams P') :=
  ⟨rfl, w.targets, rfl, rfl, w.hasTransforms, w.maxX, w.maxY, w.maxDist, w.minDist, w.conf, trivial⟩

theorem wider_gt {P P' : Params} (w : Wider P P') : Wider (gtParams P) (gtParams P') :=
  ⟨rfl, w.targets, w.ignoreAttrs, w.uuids, w.hasTransforms, w.maxX, w.maxY, w.maxDist, w.minDist, trivial, w.minPts⟩

/-- rendering of a result into the map frame: both objects -/
def Res.renderMap (e : Pose) (r : Res) : Res := { r with est := Filter.renderMap e r.est, gt := r.gt.map (Filter.renderMap e) }

theorem resultTarget_renderMap (P : Params) (r : Res) (e : Pose) (he : e.c * e.c + e.s * e.s = 1)
    (hE : r.est.frame = "base_link" ∧ r.est.pos ≠ none)
    (hG : ∀ g, r.gt = some g → g.frame = "base_link" ∧ g.pos ≠ none) :
    resultTarget { P with hasTransforms := true } (Res.renderMap e r) = resultTarget P r := by
  unfold resultTarget
  rw [show isTarget (estParams { P with hasTransforms := true }) (Res.renderMap e r).est = isTarget (estParams P) r.est from
    isTarget_renderMap (estParams P) r.est e he hE.1 hE.2]
  cases isTarget (estParams P) r.est with
  | error k => rfl
  | ok b =>
    cases hg : r.gt with
    | none => simp only [Res.renderMap, hg, Option.map_none]
    | some g =>
      simp only [Res.renderMap, hg, Option.map_some]
      cases b
      · rfl
      · exact isTarget_renderMap (gtParams P) g e he (hG g hg).1 (hG g hg).2

end PEval.Filter
