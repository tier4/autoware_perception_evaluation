import PEval.Lemmas.ClassificationDT
import PEval.Lemmas.ClassificationLoop
import PEval.Lemmas.ListBasics
/-!
# C11: relabelling invariance of the id-based pairing (parametricity), and the bridge to the index form

The model's pairing (`pairByIdG` / `pairTlrG`, i.e. `pairById` / `pairTlr` with their tests as parameters) looks at the
objects only through (i) the tests it is given, (ii) identity (`∈`, `erase`) and (iii) `uuid is None`.  Hence:

* `pairByIdG_sim` / `pairTlrG_sim` (any list lengths): if `fE`, `fG` rename the estimates / ground truths injectively on
  the input lists, preserve `uuid is None`, and the tests of the renamed run answer on the renamed objects what the tests of
  the original run answer on the originals, then the renamed run returns the renamed results (or the same exception).
  With `fE = fG = id` this is "the result depends on the tests only through their values on the input objects".
* passing to index objects (`toE`, `toG`: an object becomes the index object of its position) is such a renaming at every
  valuation that answers the tests as the objects do (`Induces`; `sameKey_renaming`, `cond1_renaming`), and `encodeR` of
  the renamed results is `encodeC` of the originals (`encodeR_mapOut`). `C11.pairing_index_form` follows: for pairwise
  distinct objects with non-null uuids the model's `objectResults`, written as index pairs, is `modelOnIndex`.
* `valC` is such a valuation for at most two estimates and two ground truths (`valC_induces`; the atom numbering of the
  tables has room for 2 × 2), and it avoids `pairForb` when (uuid, camera) is unique per side (`valC_consistent`). With
  `skel_eq_model` (the skeleton IS the model on index objects) this says what the tables say about every such input
  (`C11.table_pairing_is_model`).
-/
namespace PEval.ClassificationDT
open PEval PEval.DT PEval.Classification

/-- `f` is injective on the members of `l` (a list, not Mathlib's `Set.InjOn`) -/
def InjOn (f : Obj → Obj) (l : List Obj) : Prop := ∀ a ∈ l, ∀ b ∈ l, f a = f b → a = b

/-- the loop state with every estimate renamed by `fE` and every ground truth by `fG` -/
def mapSt (fE fG : Obj → Obj) (s : St) : St :=
  ⟨s.res.map fun p => (fE p.1, fG p.2), s.es.map fE, s.gs.map fG⟩

def mapE (fE fG : Obj → Obj) : Except Err St → Except Err St
  | .ok s => .ok (mapSt fE fG s)
  | .error x => .error x

def mapRes (fE fG : Obj → Obj) (r : Classification.Res) : Classification.Res := ⟨fE r.est, r.gt.map fG⟩

def mapOut (fE fG : Obj → Obj) : Except Err (List Classification.Res) → Except Err (List Classification.Res)
  | .ok rs => .ok (rs.map (mapRes fE fG))
  | .error x => .error x

/-- the working copies only ever hold input objects -/
def Inv (E G : List Obj) (s : St) : Prop := s.es ⊆ E ∧ s.gs ⊆ G

theorem Inv.move {E G : List Obj} {c : Obj → Obj → Bool} {e g : Obj} {s s' : St} (hs : Inv E G s)
    (h : Move c e g s s') : Inv E G s' :=
  ⟨fun _ hx => hs.1 (h.shrinks.es.subset hx), fun _ hx => hs.2 (h.shrinks.gs.subset hx)⟩

/-- a renaming under which the tests `c` (original) and `c'` (renamed) correspond -/
structure Renaming (fE fG : Obj → Obj) (E G : List Obj) (c c' : Obj → Obj → Bool) : Prop where
  injE : InjOn fE E
  injG : InjOn fG G
  test : ∀ e ∈ E, ∀ g ∈ G, c' (fE e) (fG g) = c e g
  null : ∀ e ∈ E, ∀ g ∈ G, nullUuid (fE e) (fG g) = nullUuid e g

/-- what a loop body must satisfy for the loops to commute with the renaming -/
def StepSim (fE fG : Obj → Obj) (E G : List Obj) (step step' : Obj → Obj → St → Except Err St) : Prop :=
  ∀ e ∈ E, ∀ g ∈ G, ∀ s, Inv E G s → step' (fE e) (fG g) (mapSt fE fG s) = mapE fE fG (step e g s)

section
variable {fE fG : Obj → Obj} {E G : List Obj} {c c' : Obj → Obj → Bool} {step step' : Obj → Obj → St → Except Err St}

theorem mem_mapSt_es (R : Renaming fE fG E G c c') {e : Obj} (he : e ∈ E) {s : St} (hs : Inv E G s) :
    fE e ∈ (mapSt fE fG s).es ↔ e ∈ s.es :=
  mem_map_of_sep fun x hx => R.injE x (hs.1 hx) e he

theorem mem_mapSt_gs (R : Renaming fE fG E G c c') {g : Obj} (hg : g ∈ G) {s : St} (hs : Inv E G s) :
    fG g ∈ (mapSt fE fG s).gs ↔ g ∈ s.gs :=
  mem_map_of_sep fun x hx => R.injG x (hs.2 hx) g hg

theorem take_mapSt (R : Renaming fE fG E G c c') {e g : Obj} (he : e ∈ E) (hg : g ∈ G) {s : St} (hs : Inv E G s) :
    take (fE e) (fG g) (mapSt fE fG s) = mapSt fE fG (take e g s) := by
  simp only [take, mapSt, List.map_append, List.map_cons, List.map_nil,
    erase_map_of_sep fun x hx => R.injE x (hs.1 hx) e he, erase_map_of_sep fun x hx => R.injG x (hs.2 hx) g hg]

theorem stepU_sim (R : Renaming fE fG E G c c') : StepSim fE fG E G (stepU c) (stepU c') := by
  intro e he g hg s hs
  simp only [stepU, R.null e he g hg, R.test e he g hg, mem_mapSt_es R he hs, mem_mapSt_gs R hg hs,
    take_mapSt R he hg hs, apply_ite (mapE fE fG)]
  rfl

theorem stepG_sim (R : Renaming fE fG E G c c') : StepSim fE fG E G (stepG c) (stepG c') := by
  intro e he g hg s hs
  simp only [stepG, R.null e he g hg, R.test e he g hg, mem_mapSt_es R he hs, mem_mapSt_gs R hg hs,
    take_mapSt R he hg hs, apply_ite (mapE fE fG)]
  rfl

theorem loop_sim (H : StepSim fE fG E G step step') (hstep : ∀ e g s s', step e g s = .ok s' → stepG c e g s = .ok s') :
    ∀ (ps : List (Obj × Obj)), (∀ p ∈ ps, p.1 ∈ E ∧ p.2 ∈ G) → ∀ s, Inv E G s →
      loop step' (ps.map (Prod.map fE fG)) (mapSt fE fG s) = mapE fE fG (loop step ps s)
  | [], _, _, _ => rfl
  | p :: ps, hps, s, hs => by
    have hp := hps p List.mem_cons_self
    rw [List.map_cons, loop, loop, Prod.map_fst, Prod.map_snd, H p.1 hp.1 p.2 hp.2 s hs]
    cases hst : step p.1 p.2 s with
    | error x => rfl
    | ok s1 =>
      exact loop_sim H hstep ps (fun q hq => hps q (List.mem_cons_of_mem _ hq)) s1 (hs.move (stepG_is_move (hstep _ _ _ _ hst)))

theorem outer_sim (H : StepSim fE fG E G step step')
    (hstep : ∀ e g s s', step e g s = .ok s' → stepG c e g s = .ok s') {gl el : List Obj} (hgl : gl ⊆ G) (hel : el ⊆ E)
    {s : St} (hs : Inv E G s) :
    outer step' (gl.map fG) (el.map fE) (mapSt fE fG s) = mapE fE fG (outer step gl el s) := by
  rw [outer_eq_loop, outer_eq_loop, pairs_map]
  exact loop_sim H hstep _ (fun p hp => ⟨hel (mem_pairs.1 hp).1, hgl (mem_pairs.1 hp).2⟩) s hs

theorem outer_inv (hstep : ∀ e g s s', step e g s = .ok s' → stepG c e g s = .ok s') {gl el : List Obj} {s s' : St}
    (hs : Inv E G s) (h : outer step gl el s = .ok s') : Inv E G s' :=
  let ⟨_, S⟩ := (loop_stepG_ok (loop_ok hstep _ _ _ (outer_eq_loop step gl el s ▸ h))).2
  ⟨fun _ hx => hs.1 (S.es.subset hx), fun _ hx => hs.2 (S.gs.subset hx)⟩

end

theorem paired_map (fE fG : Obj → Obj) (ps : List (Obj × Obj)) :
    paired (ps.map fun p => (fE p.1, fG p.2)) = (paired ps).map (mapRes fE fG) := by
  simp [paired, mapRes, List.map_map, Function.comp]

theorem fpResults_map (fE fG : Obj → Obj) (es : List Obj) :
    fpResults (es.map fE) = (fpResults es).map (mapRes fE fG) := by
  simp [fpResults, mapRes, List.map_map, Function.comp]

theorem any_map_congr {fE : Obj → Obj} {E : List Obj} {tl tl' : Obj → Bool} (htl : ∀ e ∈ E, tl' (fE e) = tl e)
    {l : List Obj} (h : l ⊆ E) : (l.map fE).any tl' = l.any tl :=
  List.any_map.trans (any_congr_mem fun x hx => htl x (h hx))

theorem inv_init (E G : List Obj) : Inv E G (initSt E G) := ⟨fun _ h => h, fun _ h => h⟩

/-- RELABELLING INVARIANCE of `_get_object_results_with_id` (any lengths): a renaming that preserves the answers of the
pairing test, of the traffic-light-frame test and of `uuid is None` renames the results -/
theorem pairByIdG_sim {fE fG : Obj → Obj} {E G : List Obj} {c c' : Obj → Obj → Bool} (R : Renaming fE fG E G c c')
    {tl tl' : Obj → Bool} (htl : ∀ e ∈ E, tl' (fE e) = tl e) :
    pairByIdG c' tl' (E.map fE) (G.map fG) = mapOut fE fG (pairByIdG c tl E G) := by
  have hU : ∀ e g s s', stepU c e g s = .ok s' → stepG c e g s = .ok s' := fun _ _ _ _ h => (stepU_ok h).1
  have h1 := outer_sim (stepU_sim R) hU (fun _ h => h) (fun _ h => h) (inv_init E G)
  unfold pairByIdG
  rw [show initSt (E.map fE) (G.map fG) = mapSt fE fG (initSt E G) from rfl, h1]
  cases hst : outer (stepU c) G E (initSt E G) with
  | error x => rfl
  | ok s =>
    have hs := outer_inv hU (inv_init E G) hst
    simp only [mapE, mapOut, mapSt, List.map_append, paired_map, List.isEmpty_map, any_map_congr htl hs.1]
    congr 2
    split
    · exact fpResults_map fE fG s.es
    · rfl

/-- RELABELLING INVARIANCE of `_get_object_results_for_tlr` (any lengths), both stages -/
theorem pairTlrG_sim {fE fG : Obj → Obj} {E G : List Obj} {c1 c1' c2 c2' : Obj → Obj → Bool}
    (R1 : Renaming fE fG E G c1 c1') (R2 : Renaming fE fG E G c2 c2') :
    pairTlrG c1' c2' (E.map fE) (G.map fG) = mapOut fE fG (pairTlrG c1 c2 E G) := by
  have h1 := outer_sim (stepG_sim R1) (fun _ _ _ _ h => h) (fun _ h => h) (fun _ h => h) (inv_init E G)
  unfold pairTlrG
  rw [show initSt (E.map fE) (G.map fG) = mapSt fE fG (initSt E G) from rfl, h1]
  cases hst : outer (stepG c1) G E (initSt E G) with
  | error x => rfl
  | ok s1 =>
    have hs1 := outer_inv (fun _ _ _ _ h => h) (inv_init E G) hst
    have h2 : outer (stepG c2') (mapSt fE fG s1).gs (mapSt fE fG s1).es (mapSt fE fG s1) = _ :=
      outer_sim (stepG_sim R2) (fun _ _ _ _ h => h) hs1.2 hs1.1 hs1
    simp only [mapE, h2]
    cases outer (stepG c2) s1.gs s1.es s1 with
    | error x => rfl
    | ok s2 => exact congrArg Except.ok (paired_map fE fG s2.res)

/-- the valuation `v` answers the atoms of the tables as the objects do -/
structure Induces (v : Val) (ests gts : List Obj) : Prop where
  uuid : ∀ i j e g, ests[i]? = some e → gts[j]? = some g → v.b (aUuid i j) = decide (e.uuid = g.uuid)
  frame : ∀ i j e g, ests[i]? = some e → gts[j]? = some g → v.b (aFrame i j) = decide (e.frame = g.frame)
  lab : ∀ i j e g, ests[i]? = some e → gts[j]? = some g → v.b (aLab i j) = decide (e.label = g.label)
  tl : ∀ i e, ests[i]? = some e → v.b (aTl i) = (e.frame == camTrafficLight)

/-- a result of the model as the tables write it: positions in the input lists -/
def encodeC (ests gts : List Obj) : Except Err (List Classification.Res) → DT.Res
  | .error e => if e = "ValueError" then .raise 6 else if e = "RuntimeError" then .raise 7 else .raise 0
  | .ok rs => .other (codeOf (rs.map fun r => digitOf (ests.idxOf r.est) (r.gt.map fun g => gts.idxOf g)))

/-- which table: 0 generic, 1 / 2 traffic lights without / with `uuid_matching_first` (dispatch on the first estimate) -/
def fOf (uf : Bool) : List Obj → Nat
  | [] => 0
  | e0 :: _ => if e0.label.tl then (if uf then 2 else 1) else 0

def toE (ests : List Obj) (e : Obj) : Obj := idxE (ests.idxOf e)
def toG (gts : List Obj) (g : Obj) : Obj := idxG (gts.idxOf g)

theorem getElem?_idxOf_of_mem {l : List Obj} {a : Obj} (h : a ∈ l) : l[l.idxOf a]? = some a := by
  have hlt : l.idxOf a < l.length := List.idxOf_lt_length_iff.2 h
  rw [List.getElem?_eq_getElem hlt, List.getElem_idxOf hlt]

theorem idxOf_injOn (l : List Obj) : ∀ a ∈ l, ∀ b ∈ l, l.idxOf a = l.idxOf b → a = b := fun _ ha _ hb h =>
  Option.some.inj ((getElem?_idxOf_of_mem ha).symm.trans ((congrArg (l[·]?) h).trans (getElem?_idxOf_of_mem hb)))

theorem map_range_idxOf (mk : Nat → Obj) {l : List Obj} (h : l.Nodup) :
    (List.range l.length).map mk = l.map fun a => mk (l.idxOf a) := by
  apply List.ext_getElem
  · simp
  · intro i h1 _
    simp only [List.length_map, List.length_range] at h1
    simp [List.Nodup.idxOf_getElem h i h1]

theorem encodeR_mapOut (ests gts : List Obj) (r : Except Err (List Classification.Res)) :
    encodeR (mapOut (toE ests) (toG gts) r) = encodeC ests gts r := by
  cases r with
  | error x => rfl
  | ok rs =>
    simp only [mapOut, encodeR, encodeC, List.map_map]
    congr 2
    apply List.map_congr_left
    intro r _
    simp only [Function.comp, mapRes, toE, idxE, Option.map_map]
    congr 1
    cases r.gt <;> simp [toG, idxG]

/-- passing to index objects is a renaming for tests that the valuation answers as the objects do -/
theorem toIdx_renaming {ests gts : List Obj} (hn : ∀ o ∈ ests ++ gts, o.uuid ≠ none) {c c' : Obj → Obj → Bool}
    (h : ∀ e g, ests[ests.idxOf e]? = some e → gts[gts.idxOf g]? = some g → c' (toE ests e) (toG gts g) = c e g) :
    Renaming (toE ests) (toG gts) ests gts c c' where
  injE := fun a ha b hb h => idxOf_injOn ests a ha b hb (idxE_inj h)
  injG := fun a ha b hb h => idxOf_injOn gts a ha b hb (idxG_inj h)
  test := fun e he g hg => h e g (getElem?_idxOf_of_mem he) (getElem?_idxOf_of_mem hg)
  null := fun e he g hg => by
    have h1 := Option.isSome_iff_ne_none.2 (hn e (List.mem_append_left _ he))
    have h2 := Option.isSome_iff_ne_none.2 (hn g (List.mem_append_right _ hg))
    simp [nullUuid, toE, toG, idxE, idxG, h1, h2]

theorem sameKey_renaming {v : Val} {ests gts : List Obj} (hv : Induces v ests gts)
    (hn : ∀ o ∈ ests ++ gts, o.uuid ≠ none) : Renaming (toE ests) (toG gts) ests gts sameKey (sameKeyV v) :=
  toIdx_renaming hn fun e g h1 h2 => by
    simp only [sameKeyV, sameKey, toE, toG, idxE, idxG, Nat.add_sub_cancel_left, hv.uuid _ _ e g h1 h2,
      hv.frame _ _ e g h1 h2]

theorem cond1_renaming {v : Val} {ests gts : List Obj} (hv : Induces v ests gts)
    (hn : ∀ o ∈ ests ++ gts, o.uuid ≠ none) (uf : Bool) :
    Renaming (toE ests) (toG gts) ests gts (cond1 uf) (cond1V uf v) :=
  toIdx_renaming hn fun e g h1 h2 => by
    simp only [cond1V, cond1, toE, toG, idxE, idxG, Nat.add_sub_cancel_left, hv.uuid _ _ e g h1 h2,
      hv.frame _ _ e g h1 h2, hv.lab _ _ e g h1 h2]

/-- the valuation the equality tests of the objects induce on the 14 atoms of the tables, in the numbering of
`Model/ClassificationDT.lean`: `aUuid i j = 2 i + j` (atoms 0–3), `aFrame i j = 4 + 2 i + j` (4–7), `aLab i j = 8 + 2 i + j`
(8–11), `aTl i = 12 + i`; an atom of an object that is not there is false. These tables ask no order atom, `c` is a dummy. -/
def valC (ests gts : List Obj) : Val where
  b := fun a =>
    if a < 12 then
      match ests[(a % 4) / 2]?, gts[a % 2]? with
      | some e, some g =>
        if a < 4 then decide (e.uuid = g.uuid) else if a < 8 then decide (e.frame = g.frame) else decide (e.label = g.label)
      | _, _ => false
    else match ests[a - 12]? with
      | some e => e.frame == camTrafficLight
      | none => false
  c := fun _ => .eq

/-- `valC` on the pair atom `4 k + 2 i + j` (`k` = 0 uuid, 1 frame, 2 label) -/
theorem valC_pair (ests gts : List Obj) {k i j : Nat} (hk : k < 3) (hi : i < 2) (hj : j < 2) :
    (valC ests gts).b (4 * k + 2 * i + j) =
      match ests[i]?, gts[j]? with
      | some e, some g =>
        if k = 0 then decide (e.uuid = g.uuid) else if k ≤ 1 then decide (e.frame = g.frame) else decide (e.label = g.label)
      | _, _ => false := by
  obtain ⟨h1, h2, h3, h4, h5⟩ : (4 * k + 2 * i + j) % 4 / 2 = i ∧ (4 * k + 2 * i + j) % 2 = j ∧
      4 * k + 2 * i + j < 12 ∧ (4 * k + 2 * i + j < 4 ↔ k = 0) ∧ (4 * k + 2 * i + j < 8 ↔ k ≤ 1) := by omega
  simp only [valC, h1, h2, h3, h4, h5, if_true]

theorem lt_two_of_getElem? {l : List Obj} {i : Nat} {x : Obj} (hl : l.length ≤ 2) (h : l[i]? = some x) : i < 2 :=
  Nat.lt_of_lt_of_le (List.getElem?_eq_some_iff.1 h).1 hl

theorem valC_induces (ests gts : List Obj) (hn : ests.length ≤ 2) (hm : gts.length ≤ 2) :
    Induces (valC ests gts) ests gts := by
  refine ⟨fun i j e g he hg => ?_, fun i j e g he hg => ?_, fun i j e g he hg => ?_, fun i e he => ?_⟩
  · simpa [aUuid, he, hg] using valC_pair ests gts (k := 0) (by decide) (lt_two_of_getElem? hn he) (lt_two_of_getElem? hm hg)
  · simpa [aFrame, he, hg] using valC_pair ests gts (k := 1) (by decide) (lt_two_of_getElem? hn he) (lt_two_of_getElem? hm hg)
  · simpa [aLab, he, hg] using valC_pair ests gts (k := 2) (by decide) (lt_two_of_getElem? hn he) (lt_two_of_getElem? hm hg)
  · simp only [valC, aTl, if_neg (Nat.not_lt.2 (Nat.le_add_right 12 i)), Nat.add_sub_cancel_left, he]

/-- both atoms of the pairing test true: estimate `i` and ground truth `j` exist and have the same (uuid, camera) -/
theorem valC_hit {ests gts : List Obj} {i j : Nat} (hi : i < 2) (hj : j < 2)
    (hu : (valC ests gts).b (aUuid i j) = true) (hf : (valC ests gts).b (aFrame i j) = true) :
    ∃ k, (ests.map key)[i]? = some k ∧ (gts.map key)[j]? = some k := by
  have h0 := valC_pair ests gts (k := 0) (by decide) hi hj
  have h1 := valC_pair ests gts (k := 1) (by decide) hi hj
  rw [show 4 * 0 + 2 * i + j = aUuid i j by simp [aUuid], hu] at h0
  rw [show 4 * 1 + 2 * i + j = aFrame i j by simp [aFrame], hf] at h1
  split at h0
  · rename_i e g he hg
    simp [he, hg] at h0 h1
    exact ⟨key e, by rw [List.getElem?_map, he]; rfl, by rw [List.getElem?_map, hg, key, h0, h1]; rfl⟩
  · cases h0

/-- unique (uuid, camera) per side: no object agrees in uuid AND camera with both objects of the
other side, so the valuation of the input avoids every clause of `pairForb` -/
theorem valC_consistent (ests gts : List Obj) (hE : (ests.map key).Nodup) (hG : (gts.map key).Nodup) :
    consistent pairForb (valC ests gts) = true := by
  -- two hits with the same estimate have the same ground truth, and conversely
  have hits : ∀ {i j i' j' : Nat}, i < 2 → j < 2 → i' < 2 → j' < 2 →
      (valC ests gts).b (aUuid i j) = true → (valC ests gts).b (aFrame i j) = true →
      (valC ests gts).b (aUuid i' j') = true → (valC ests gts).b (aFrame i' j') = true →
      (i = i' → j = j') ∧ (j = j' → i = i') := by
    intro i j i' j' hi hj hi' hj' u f u' f'
    obtain ⟨k, he, hg⟩ := valC_hit hi hj u f
    obtain ⟨k', he', hg'⟩ := valC_hit hi' hj' u' f'
    constructor
    · rintro rfl
      cases he.symm.trans he'
      exact (List.getElem?_inj (List.getElem?_eq_some_iff.1 hg).1 hG).1 (hg.trans hg'.symm)
    · rintro rfl
      cases hg.symm.trans hg'
      exact (List.getElem?_inj (List.getElem?_eq_some_iff.1 he).1 hE).1 (he.trans he'.symm)
  have cl : ∀ {i j i' j' : Nat}, (i < 2 ∧ j < 2 ∧ i' < 2 ∧ j' < 2) ∧ ¬((i = i' → j = j') ∧ (j = j' → i = i')) →
      (!(Lit.holds (valC ests gts) (.b (aUuid i j) true) && (Lit.holds (valC ests gts) (.b (aFrame i j) true) &&
        (Lit.holds (valC ests gts) (.b (aUuid i' j') true) && Lit.holds (valC ests gts) (.b (aFrame i' j') true))))) =
        true := by
    intro i j i' j' ⟨⟨hi, hj, hi', hj'⟩, hne⟩
    rw [Bool.not_eq_true', ← Bool.not_eq_true]
    simp only [Bool.and_eq_true, Lit.holds, beq_iff_eq]
    exact fun h => hne (hits hi hj hi' hj' h.1 h.2.1 h.2.2.1 h.2.2.2)
  simp only [consistent, pairForb, List.all_cons, List.all_nil, Bool.and_true, Bool.and_eq_true]
  exact ⟨cl (by decide), cl (by decide), cl (by decide), cl (by decide)⟩

end PEval.ClassificationDT
