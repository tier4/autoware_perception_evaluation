import PEval.Lemmas.GeometryClip
/-!
Helper lemmas for C06, convexity part: convex position of a vertex list (`Cvx`: every triple of
vertices taken in list order is counter-clockwise or collinear), closed under sublists; the shoelace
area `signed2` of a polygon in convex position is non-negative and monotone under taking sublists
(removing vertices); every vertex lies in the closed left half-plane of every edge, so a polygon clipped by
itself is returned unchanged; inserting a point of an edge keeps convex position and the shoelace area; the closing
edge from the last vertex back to the first becomes an ordinary one when the last vertex is repeated in front
(`Cvx.cons_last`, `signed2_cons_last`).
-/
namespace PEval.Geometry

/-! ## convex position -/

/-- convex position in list order: every ordered triple of vertices is counter-clockwise or collinear -/
def Cvx : List V2 → Prop
  | [] => True
  | x :: L => L.Pairwise (fun y z => 0 ≤ cross x y z) ∧ Cvx L

instance Cvx.decidable : (L : List V2) → Decidable (Cvx L)
  | [] => isTrue trivial
  | x :: L => by
    unfold Cvx
    exact @instDecidableAnd _ _ _ (Cvx.decidable L)

theorem Cvx.sublist {L' L : List V2} (h : L'.Sublist L) (hc : Cvx L) : Cvx L' := by
  induction h with
  | slnil => trivial
  | cons a _ ih => exact ih hc.2
  | cons_cons a h ih => exact ⟨hc.1.sublist h, ih hc.2⟩

theorem Cvx.tail {x : V2} {L : List V2} (hc : Cvx (x :: L)) : Cvx L := hc.2

theorem Cvx.triple {L : List V2} {x y z : V2} (hc : Cvx L) (h : [x, y, z].Sublist L) : 0 ≤ cross x y z :=
  (List.pairwise_cons.1 (Cvx.sublist h hc).1).1 z List.mem_cons_self

/-! ## convex position and the last vertex -/

theorem pairwise_last (x : V2) (M : List V2) (d : V2)
    (hp : M.Pairwise (fun a b => 0 ≤ cross x a b)) : ∀ z ∈ M, 0 ≤ cross x z (M.getLastD d) := fun z hz => by
  rw [List.getLastD_eq_getLast?, List.getLast?_eq_some_getLast (List.ne_nil_of_mem hz), Option.getD_some]
  exact hp.rel_getLast_of_rel_getLast_getLast hz (cross_self_right _ _).ge

/-- a polygon in convex position stays so with its last vertex repeated in front: the closing edge becomes an
ordinary one -/
theorem Cvx.cons_last {L : List V2} (d : V2) (hc : Cvx L) : Cvx (L.getLastD d :: L) := by
  refine ⟨?_, hc⟩
  induction L generalizing d with
  | nil => exact List.Pairwise.nil
  | cons y M ih =>
    rw [List.getLastD_cons, List.pairwise_cons]
    exact ⟨fun z hz => by rw [cross_cyc]; exact pairwise_last y M y hc.1 z hz, ih y hc.2⟩

/-! ## the fan sum and the shoelace area under removal of vertices -/

theorem fan2_cons_cons (o a b : V2) (L : List V2) : fan2 o (a :: b :: L) = cross o a b + fan2 o (b :: L) := rfl
theorem fan2_nil (o : V2) : fan2 o [] = 0 := rfl

theorem fan2_self_cons (o : V2) (L : List V2) : fan2 o (o :: L) = fan2 o L := by
  cases L with
  | nil => rfl
  | cons y L => rw [fan2_cons_cons, cross_self_left, zero_add]

theorem fan2_sublist_le (o : V2) {L' L : List V2} (h : L'.Sublist L) :
    ∀ x, Cvx (o :: x :: L) → fan2 o (x :: L') ≤ fan2 o (x :: L) := by
  induction h with
  | slnil => intro x _; exact le_refl _
  | @cons L' L y h ih =>
    -- dropping `y` after `x`: the fan loses the triangle `x y z` (`z` the next vertex), or `o x y` at the end
    intro x hc
    refine le_trans (ih x (hc.sublist (.cons_cons o (.cons_cons x (List.sublist_cons_self y L))))) ?_
    cases L with
    | nil => exact le_add_of_nonneg_left (hc.triple (List.Sublist.refl _))
    | cons z L2 =>
      rw [fan2_cons_cons, fan2_cons_cons, fan2_cons_cons]
      have h1 : 0 ≤ cross x y z := hc.triple (by simp)
      have := cross_split o x y z
      linarith
  | @cons_cons L' L y h ih =>
    intro x hc
    rw [fan2_cons_cons, fan2_cons_cons]
    exact (add_le_add_iff_left _).2 (ih y (hc.sublist (.cons_cons o (List.sublist_cons_self x _))))

theorem fan2_sublist_le' (o : V2) {L' L : List V2} (h : L'.Sublist L) (hc : Cvx (o :: L)) :
    fan2 o L' ≤ fan2 o L := by
  rw [← fan2_self_cons o L', ← fan2_self_cons o L]
  exact fan2_sublist_le o h o ⟨List.pairwise_cons.2 ⟨fun z _ => (cross_self_left o z).ge, hc.1⟩, hc⟩

/-- changing the apex of a fan over an open path changes the sum by a boundary term -/
theorem fan2_apex (o o' : V2) (L : List V2) : ∀ x : V2,
    fan2 o (x :: L) = fan2 o' (x :: L)
      + ((o.x - o'.x) * (x.y - (L.getLastD x).y) - (o.y - o'.y) * (x.x - (L.getLastD x).x)) := by
  induction L with
  | nil => intro x; simp [fan2]
  | cons y L ih =>
    intro x
    rw [fan2_cons_cons, fan2_cons_cons, ih y, List.getLastD_cons]
    unfold cross; ring

/-- dropping the first vertex `p0` of a polygon removes the triangle `p0 p1 last` -/
theorem signed2_cons_cons (p0 p1 : V2) (L : List V2) :
    signed2 (p0 :: p1 :: L) = signed2 (p1 :: L) + cross p0 p1 (L.getLastD p1) := by
  show fan2 p0 (p1 :: L) = fan2 p1 L + _
  rw [fan2_apex p0 p1 L p1, fan2_self_cons]
  unfold cross; ring

theorem signed2_cons_last (d : V2) : ∀ L : List V2, signed2 (L.getLastD d :: L) = signed2 L
  | [] => rfl
  | c :: S => by rw [List.getLastD_cons, signed2_cons_cons, cross_self_outer, add_zero]

theorem signed2_sublist_le {L' L : List V2} (h : L'.Sublist L) (hc : Cvx L) : signed2 L' ≤ signed2 L := by
  induction h with
  | slnil => exact le_refl _
  | @cons L' L a h ih =>
    refine le_trans (ih hc.2) ?_
    cases L with
    | nil => exact le_refl _
    | cons p1 L2 =>
      rw [signed2_cons_cons]
      exact le_add_of_nonneg_right (List.getLastD_cons ▸ pairwise_last a (p1 :: L2) a hc.1 p1 List.mem_cons_self)
  | @cons_cons L' L a h ih => exact fan2_sublist_le' a h hc

theorem signed2_nonneg_of_cvx {L : List V2} (hc : Cvx L) : 0 ≤ signed2 L :=
  signed2_sublist_le (L' := []) (List.nil_sublist L) hc

/-! ## a polygon in convex position lies in its own half-planes -/

/-- an edge is two consecutive vertices, or the closing edge from the last vertex back to the first -/
theorem mem_edges_cases (c : V2) : ∀ (M : List V2) (x : V2) {e : V2 × V2}, e ∈ (x :: M).zip (M ++ [c]) →
    (∃ A B, x :: M = A ++ e.1 :: e.2 :: B) ∨ e = (M.getLastD x, c)
  | [], x, e, he => Or.inr (by simpa using he)
  | y :: M, x, e, he => by
    rw [List.cons_append, List.zip_cons_cons, List.mem_cons] at he
    rcases he with rfl | he
    · exact Or.inl ⟨[], M, rfl⟩
    · rcases mem_edges_cases c M y he with ⟨A, B, h⟩ | h
      · exact Or.inl ⟨x :: A, B, by rw [h]; rfl⟩
      · exact Or.inr (by rw [List.getLastD_cons]; exact h)

theorem Cvx.inside_edges {L : List V2} (hc : Cvx L) : ∀ e ∈ edges L, ∀ p ∈ L, 0 ≤ cross e.1 e.2 p := by
  cases L with
  | nil => intro e he; cases he
  | cons p0 M =>
    intro e he p hp
    rcases mem_edges_cases p0 M p0 he with ⟨A, B, h⟩ | rfl
    · rw [h, List.mem_append, List.mem_cons, List.mem_cons] at hp
      rw [h] at hc
      rcases hp with hA | rfl | rfl | hB
      · rw [← cross_cyc]
        exact hc.triple ((List.singleton_sublist.2 hA).append (.cons_cons _ (.cons_cons _ (List.nil_sublist B))))
      · rw [cross_self_outer]
      · rw [cross_self_right]
      · exact hc.triple ((List.Sublist.cons_cons _ (.cons_cons _ (List.singleton_sublist.2 hB))).trans
          (List.sublist_append_right A _))
    · rw [cross_cyc]
      rcases List.mem_cons.1 hp with rfl | hM
      · rw [cross_self_left]
      · exact pairwise_last p0 M p0 hc.1 p hM

theorem interArea_self {L : List V2} (hc : Cvx L) (hne : signed2 L ≠ 0) : interArea L L = polyArea L := by
  refine interArea_inside L L ?_ hne hne
  unfold InsideOf ccw
  rw [if_neg (not_lt.2 (signed2_nonneg_of_cvx hc))]
  exact hc.inside_edges

/-! ## inserting a point of an edge -/

theorem pairwise_insert {R : V2 → V2 → Prop} (A B : List V2) (u v I : V2)
    (h : (A ++ u :: v :: B).Pairwise R)
    (hl : ∀ a, R a u → R a v → R a I) (hr : ∀ z, R u z → R v z → R I z)
    (huI : R u v → R u I) (hIv : R u v → R I v) :
    (A ++ u :: I :: v :: B).Pairwise R := by
  -- membership in `u :: v :: B` spelt out: each pair of the new list is named once
  simp only [List.pairwise_append, List.pairwise_cons, List.mem_cons, forall_eq_or_imp] at h ⊢
  obtain ⟨hA, ⟨⟨huv, hu⟩, hv, hB⟩, hAB⟩ := h
  exact ⟨hA, ⟨⟨huI huv, huv, hu⟩, ⟨hIv huv, fun z hz => hr z (hu z hz) (hv z hz)⟩, hv, hB⟩,
    fun a ha => ⟨(hAB a ha).1, hl a (hAB a ha).1 (hAB a ha).2.1, (hAB a ha).2⟩⟩

theorem conv_nonneg {t x y : Rat} (h0 : 0 ≤ t) (h1 : t ≤ 1) (hx : 0 ≤ x) (hy : 0 ≤ y) :
    0 ≤ (1 - t) * x + t * y :=
  add_nonneg (mul_nonneg (sub_nonneg.2 h1) hx) (mul_nonneg h0 hy)

theorem cross_lerp_mid (u v : V2) (t : Rat) : cross u (lerp u v t) v = 0 := by unfold cross lerp; ring

theorem Cvx.insert_mid {t : Rat} (h0 : 0 ≤ t) (h1 : t ≤ 1) (u v : V2) (B : List V2) :
    ∀ A : List V2, Cvx (A ++ u :: v :: B) → Cvx (A ++ u :: lerp u v t :: v :: B)
  | [], hc => by
    -- an orientation with the new point in one slot is a convex combination of those with `u` and with `v` there
    simp only [List.nil_append, Cvx, List.pairwise_cons, List.mem_cons, forall_eq_or_imp] at hc ⊢
    obtain ⟨⟨huB, hu⟩, hv, hB⟩ := hc
    refine ⟨⟨⟨(cross_lerp_mid u v t).ge, fun z hz => ?_⟩, huB, hu⟩,
      ⟨fun z hz => ?_, (hu.and hv).imp fun {y z} hyz => ?_⟩, hv, hB⟩
    · rw [cross_lerp2]; exact conv_nonneg h0 h1 (cross_self_left u z).ge (huB z hz)
    · rw [cross_lerp1]; exact conv_nonneg h0 h1 (huB z hz) (cross_self_left v z).ge
    · rw [cross_lerp1]; exact conv_nonneg h0 h1 hyz.1 hyz.2
  | x :: A, hc => by
    refine ⟨pairwise_insert A B u v _ hc.1 (fun a hu hv => ?_) (fun z hu hv => ?_) (fun huv => ?_) (fun huv => ?_),
      Cvx.insert_mid h0 h1 u v B A hc.2⟩
    · rw [cross_lerp3]; exact conv_nonneg h0 h1 hu hv
    · rw [cross_lerp2]; exact conv_nonneg h0 h1 hu hv
    · rw [cross_lerp3]; exact conv_nonneg h0 h1 (cross_self_right x u).ge huv
    · rw [cross_lerp2]; exact conv_nonneg h0 h1 huv (cross_self_right x v).ge

theorem fan2_insert (o u v I : V2) (B : List V2) : ∀ A : List V2,
    fan2 o (A ++ u :: I :: v :: B) = fan2 o (A ++ u :: v :: B) + cross u I v := by
  intro A
  induction A with
  | nil =>
    simp only [List.nil_append, fan2_cons_cons]
    have := cross_split o u I v
    linarith
  | cons a A ih =>
    cases A with
    | nil =>
      simp only [List.cons_append, List.nil_append] at ih ⊢
      rw [fan2_cons_cons, fan2_cons_cons o a u, ih]; ring
    | cons c A =>
      simp only [List.cons_append] at ih ⊢
      rw [fan2_cons_cons, fan2_cons_cons o a c, ih]; ring

theorem signed2_insert_mid (u v : V2) (t : Rat) (A B : List V2) :
    signed2 (A ++ u :: lerp u v t :: v :: B) = signed2 (A ++ u :: v :: B) := by
  cases A with
  | nil =>
    show fan2 u (lerp u v t :: v :: B) = fan2 u (v :: B)
    rw [fan2_cons_cons, cross_lerp_mid, zero_add]
  | cons a A =>
    show fan2 a (A ++ u :: lerp u v t :: v :: B) = fan2 a (A ++ u :: v :: B)
    rw [fan2_insert, cross_lerp_mid, add_zero]

/-! ## box footprints -/

theorem cvx_footprint {b : Box} (hw : 0 ≤ b.w) (hl : 0 ≤ b.l) (hr : b.rot.IsUnit) : Cvx (footprint b) := by
  obtain ⟨c0, c1, c2, c3, h, h1, h2, h3, h4⟩ := footprint_quad hr
  have := mul_nonneg hw hl
  rw [h]
  simp only [Cvx, List.pairwise_cons, List.mem_cons, List.not_mem_nil, or_false, forall_eq_or_imp, forall_eq,
    List.Pairwise.nil, and_true, false_imp_iff, implies_true, h1, h2, h3, h4, this]

end PEval.Geometry
