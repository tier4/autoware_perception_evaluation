import PEval.Model.Manager
import PEval.Lemmas.APClassify
/-!
Link between the two transcriptions of `evaluation/metrics/detection/ap.py`:

* `PEval.Manager` (`Model/Manager.lean`): `sortDesc`, `cumsum`, `prFrom`, `envelope`, `area`, `apCore`,
  `apOf`, `meanValid` — the AP the C13 state machine uses for scene scores;
* `PEval.AP` (`Model/AP.lean`): `sortDesc`, `cumsumFrom`, `precFrom`, `recalls`, `scan`, `stackArea`,
  `calculateAp`, `classify`, `apOfKinds`, `apOf`, `meanDefined` — the AP of properties C04/C08.

Every stage is proved equal — the first is the same function: `Manager.sortDesc` is `AP.sortDesc` keyed by the
confidence, so that it permutes, sorts, and with pairwise distinct keys depends only on the multiset of its input is
known from `Lemmas/APSort.lean` — and the main theorem `apOf_eq_AP_apOf` says: translate each `AP.Res` to a
`Manager.Res` whose single TP column holds the weight `AP.classify` gives that result; then
`Manager.apOf` on the translated list is the `ap` field of `AP.apOf` on the original list, whenever the
latter does not raise.
-/

namespace PEval.Manager

open PEval

def DistinctConf (l : List Res) : Prop := l.Pairwise (fun a b => a.conf ≠ b.conf)

instance (l : List Res) : Decidable (DistinctConf l) := by unfold DistinctConf; infer_instance

def StrictDesc (l : List Res) : Prop := l.Pairwise (fun a b => b.conf < a.conf)

theorem insertDesc_eq (r : Res) (l : List Res) : insertDesc r l = AP.insertDesc Res.conf r l := by
  fun_induction insertDesc r l with
  | case1 => rfl
  | case2 x xs h => rw [AP.insertDesc, if_neg (not_lt.mpr h)]
  | case3 x xs h ih => rw [AP.insertDesc, if_pos (not_le.mp h), ih]

theorem sortDesc_eq (l : List Res) : sortDesc l = AP.sortDesc Res.conf l := by
  induction l with
  | nil => rfl
  | cons r rs ih => rw [sortDesc, AP.sortDesc, ih, insertDesc_eq]

theorem sortDesc_perm_eq {l₁ l₂ : List Res} (p : l₁.Perm l₂) (hd : DistinctConf l₁) :
    sortDesc l₁ = sortDesc l₂ := by
  rw [sortDesc_eq, sortDesc_eq]; exact AP.sortDesc_perm_eq Res.conf p hd

/-- the sort is stable: an already strictly descending list is left as it is -/
theorem sortDesc_of_strict {l : List Res} (h : StrictDesc l) : sortDesc l = l :=
  (sortDesc_eq l).trans (AP.sortDesc_of_sorted Res.conf (h.imp le_of_lt))

theorem cumsum_eq (acc : Rat) (l : List Rat) : Manager.cumsum acc l = AP.cumsumFrom acc l := by
  induction l generalizing acc with
  | nil => rfl
  | cons x xs ih => simp only [cumsum, AP.cumsumFrom, ih]

theorem prFrom_eq (n i : Nat) (ts : List Rat) :
    prFrom n i ts = (AP.precFrom i ts).zip (AP.recalls n ts) := by
  induction ts generalizing i with
  | nil => rfl
  | cons t ts ih =>
    simp only [prFrom, AP.precFrom, AP.recalls, List.map_cons, List.zip_cons_cons, ih, AP.recallOf]

theorem area_pair (a b : Rat × Rat) (l : List (Rat × Rat)) :
    area (a :: b :: l) = a.1 * (a.2 - b.2) + area (b :: l) := rfl

theorem area_single (a : Rat × Rat) : area [a] = 0 := rfl

theorem area_append_two (l : List (Rat × Rat)) (a b : Rat × Rat) :
    area (l ++ [a, b]) = area (l ++ [a]) + a.1 * (a.2 - b.2) := by
  induction l with
  | nil => simp only [List.nil_append, area_pair, area_single, Rat.add_zero, Rat.zero_add]
  | cons x l ih =>
    cases l with
    | nil => simp only [List.nil_append, List.cons_append, area_pair, area_single, Rat.add_zero]
    | cons y l' =>
      simp only [List.cons_append, area_pair] at ih ⊢
      rw [ih, Rat.add_assoc]

theorem area_reverse_eq_partialArea (x : Rat × Rat) (st : List (Rat × Rat)) :
    area ((x :: st).reverse) = AP.partialArea (x :: st) := by
  induction st generalizing x with
  | nil => rfl
  | cons y st ih =>
    rw [List.reverse_cons, List.reverse_cons, List.append_assoc]
    show area (st.reverse ++ [y, x]) = _
    rw [area_append_two, ← List.reverse_cons, ih, AP.partialArea, Rat.add_comm]

/-- the generalised link: `st` = the maxima already recorded (most recent first), `(m, rm)` the
current maximum, `qs` the points still to visit -/
theorem area_envelope_eq_scan (qs : List (Rat × Rat)) (m rm : Rat) (st : List (Rat × Rat)) :
    area (st.reverse ++ envelope (m, rm) qs) = AP.stackArea (AP.scan qs ((m, rm) :: st)) := by
  fun_induction envelope (m, rm) qs generalizing st with
  | case1 last => rw [area_append_two, ← List.reverse_cons, area_reverse_eq_partialArea]; rfl
  | case2 last q qs h ih => simpa [AP.scan, h] using ih (last :: st)
  | case3 last q qs h ih => simpa [AP.scan, h] using ih st

/-- `interpolate_precision_recall_list` + `_calculate_ap`: the two transcriptions agree -/
theorem area_envelope (p : Rat × Rat) (rest : List (Rat × Rat)) :
    area (envelope p rest) = AP.stackArea (AP.scan rest [p]) := by
  obtain ⟨m, rm⟩ := p
  simpa using area_envelope_eq_scan rest m rm []

theorem apCore_eq (ws : List Rat) (G : Nat) :
    apCore ws G = if ws = [] then none
      else some (AP.calculateAp (AP.precFrom 0 (AP.cumsum ws)) (AP.recalls G (AP.cumsum ws))) := by
  unfold apCore AP.calculateAp AP.cumsum
  rw [cumsum_eq, prFrom_eq]
  cases ws with
  | nil => rfl
  | cons w ws =>
    rw [if_neg (List.cons_ne_nil _ _)]
    simp only [AP.cumsumFrom, AP.precFrom, AP.recalls, List.map_cons, List.zip_cons_cons, List.reverse_cons]
    generalize List.reverse _ = L
    cases L <;> simp only [List.nil_append, List.cons_append, area_envelope]

theorem apCore_eq_apOfKinds (G : Nat) (ks : List AP.Kind) :
    apCore (ks.map AP.Kind.tpw) G = (AP.apOfKinds G ks).ap := by
  rw [apCore_eq]
  cases ks with
  | nil => rfl
  | cons k ks =>
    rw [if_neg (by simp)]
    simp [AP.apOfKinds, AP.tpFpLists]

/-- an `AP.Res` as pooling sees it, with the single TP column `w r` -/
def ofAP (w : AP.Res → Rat) (r : AP.Res) : Res := ⟨r.id, r.gt.map (·.id), r.conf, [w r]⟩

theorem sortDesc_map_ofAP (w : AP.Res → Rat) (rs : List AP.Res) :
    sortDesc (rs.map (ofAP w)) = (AP.sortDesc AP.Res.conf rs).map (ofAP w) :=
  (sortDesc_eq _).trans (AP.sortDesc_map Res.conf (ofAP w) rs)

/-- the TP weight `_calculate_tp_fp` adds to `tp_list` for a result (0 for an FP or an ignored one) -/
def tpWeight (tm : AP.TpMetric) (m : AP.Mode) (T : List AP.Label) (th : List Rat) (r : AP.Res) : Rat :=
  match AP.classify tm m T th r with
  | .ok k => k.tpw
  | .error _ => 0

theorem map_tpWeight_of_classifyAll {tm : AP.TpMetric} {m : AP.Mode} {T : List AP.Label}
    {th : List Rat} {L : List AP.Res} {ks : List AP.Kind}
    (h : AP.classifyAll tm m T th L = .ok ks) :
    L.map (tpWeight tm m T th) = ks.map AP.Kind.tpw :=
  (forall₂_map_eq (forall₂_imp (AP.classifyAll_ok_iff.1 h) fun r k _ hk => by simp only [tpWeight, hk])).symm

/-- `Manager.apOf` (column 0) on the translated results is the `ap` of `AP.apOf`, whenever the
latter returns -/
theorem apOf_eq_AP_apOf {tm : AP.TpMetric} {m : AP.Mode} {T : List AP.Label} {th : List Rat}
    {G : Nat} {rs : List AP.Res} {a : AP.ApOut} (h : AP.apOf tm m T th G rs = .ok a) :
    Manager.apOf 0 (rs.map (ofAP (tpWeight tm m T th))) G = a.ap := by
  obtain ⟨ks, hks, rfl⟩ := AP.apOf_ok h
  unfold Manager.apOf
  rw [sortDesc_map_ofAP, List.map_map]
  -- column 0 of a translated result is its weight
  show apCore ((AP.sortDesc AP.Res.conf rs).map (tpWeight tm m T th)) G = _
  rw [map_tpWeight_of_classifyAll hks, apCore_eq_apOfKinds]

theorem meanValid_eq (xs : List (Option Rat)) : meanValid xs = AP.meanDefined xs := rfl

/-! ### non-vacuity of `apOf_eq_AP_apOf`

Three results of label 2 (the only target, centre-distance threshold 1, two ground truths), given out
of ranking order: a result without ground truth (confidence 1), a TP (distance 0, confidence 3), an FP
(distance 5 ≥ 1, confidence 2).  `AP.apOf` returns; its `ap` and `Manager.apOf` on the translated list
are both `1 · (1/2 − 0) = 1/2`. -/

def exResults : List AP.Res :=
  [ ⟨7, 1, 2, none, .val none, 1, .default⟩,
    ⟨5, 3, 2, some ⟨10, 2⟩, .val (some 0), 1, .default⟩,
    ⟨6, 2, 2, some ⟨11, 2⟩, .val (some 5), 1, .default⟩ ]

example :
    AP.apOf .ap .centerDistance [2] [1] 2 exResults
        = .ok ⟨some (mkRat 1 2), [1, 1, 1], [0, 1, 2]⟩
      ∧ Manager.apOf 0 (exResults.map (ofAP (tpWeight .ap .centerDistance [2] [1]))) 2
        = some (mkRat 1 2)
      ∧ exResults.map (tpWeight .ap .centerDistance [2] [1]) = [0, 1, 0] := by
  decide +kernel

/-- the instance of the main theorem on the example (its hypothesis holds) -/
example :
    Manager.apOf 0 (exResults.map (ofAP (tpWeight .ap .centerDistance [2] [1]))) 2
      = some (mkRat 1 2) :=
  apOf_eq_AP_apOf (a := ⟨some (mkRat 1 2), [1, 1, 1], [0, 1, 2]⟩) (by decide +kernel)

end PEval.Manager
