import Mathlib.Tactic.Linarith
import Mathlib.Tactic.Ring
import PEval.Lemmas.Dataset
/-!
`_get_transforms` (`sensorFrames`) and its averaged traffic-light camera (finding C16-N1): the rotations
are sign-aligned with the first one before they are summed, so the sum keeps a component of at least `|q₀|²` along
the first rotation `q₀` and cannot be the zero quaternion; hence the division by its norm cannot raise
`ZeroDivisionError`, and `sensorFrames` succeeds exactly when its channel loop `frameIdsOf` does.
-/
namespace PEval.Dataset
open PEval

namespace Quat

theorem dot_add (p a b : Quat) : dot p (add a b) = dot p a + dot p b := by
  simp only [dot, add]; ring

theorem dot_neg (p q : Quat) : dot p q.neg = -dot p q := by
  simp only [dot, neg]; ring

theorem dot_zero (p : Quat) : dot p zero = 0 := by
  simp [dot, zero]

theorem dot_self (p : Quat) : dot p p = p.normSq := rfl

theorem normSq_nonneg (q : Quat) : 0 ≤ q.normSq :=
  add_nonneg (add_nonneg (add_nonneg (mul_self_nonneg _) (mul_self_nonneg _)) (mul_self_nonneg _))
    (mul_self_nonneg _)

/-- only the zero quaternion has norm zero: a sum of squares vanishes only if every square does -/
theorem normSq_eq_zero {q : Quat} (h : q.normSq = 0) : q = zero := by
  obtain ⟨w, x, y, z⟩ := q
  have hwx := add_nonneg (mul_self_nonneg w) (mul_self_nonneg x)
  obtain ⟨h3, hz⟩ := (add_eq_zero_iff_of_nonneg (add_nonneg hwx (mul_self_nonneg y)) (mul_self_nonneg z)).1 h
  obtain ⟨h2, hy⟩ := (add_eq_zero_iff_of_nonneg hwx (mul_self_nonneg y)).1 h3
  obtain ⟨hw, hx⟩ := (add_eq_zero_iff_of_nonneg (mul_self_nonneg w) (mul_self_nonneg x)).1 h2
  rw [mul_self_eq_zero.1 hw, mul_self_eq_zero.1 hx, mul_self_eq_zero.1 hy, mul_self_eq_zero.1 hz]
  rfl

theorem normSq_pos {q : Quat} (h : q ≠ zero) : 0 < q.normSq :=
  lt_of_le_of_ne (normSq_nonneg q) fun h0 => h (normSq_eq_zero h0.symm)

end Quat

theorem Quat.ne_zero_of_unit {q : Quat} (h : q.normSq = 1) : q ≠ Quat.zero := by
  intro hz
  rw [hz] at h
  simp [Quat.normSq, Quat.zero] at h

/-- an aligned rotation is the rotation itself or its negation (the same rotation) -/
theorem alignTo_cases (q0 q : Quat) :
    (Quat.dot q0 q < 0 ∧ alignTo q0 q = q.neg) ∨ (0 ≤ Quat.dot q0 q ∧ alignTo q0 q = q) := by
  unfold alignTo
  by_cases h : Quat.dot q0 q < 0
  · exact Or.inl ⟨h, if_pos h⟩
  · exact Or.inr ⟨not_lt.1 h, if_neg h⟩

theorem alignTo_dot_nonneg (q0 q : Quat) : 0 ≤ Quat.dot q0 (alignTo q0 q) := by
  rcases alignTo_cases q0 q with ⟨h, e⟩ | ⟨h, e⟩
  · rw [e, Quat.dot_neg]; exact neg_nonneg.2 h.le
  · rw [e]; exact h

theorem alignSigns_length (l : List Quat) : (alignSigns l).length = l.length := by
  cases l <;> simp [alignSigns]

theorem alignSigns_eq_nil {l : List Quat} : alignSigns l = [] ↔ l = [] := by
  cases l <;> simp [alignSigns]

theorem dot_foldl_add_ge (q0 : Quat) :
    ∀ (l : List Quat) (acc : Quat), (∀ q ∈ l, 0 ≤ Quat.dot q0 q) →
      Quat.dot q0 acc ≤ Quat.dot q0 (l.foldl Quat.add acc)
  | [], _, _ => le_rfl
  | q :: l, acc, h => by
    have h2 := dot_foldl_add_ge q0 l (Quat.add acc q) fun x hx => h x (List.mem_cons_of_mem _ hx)
    rw [Quat.dot_add] at h2
    exact (le_add_of_nonneg_right (h q List.mem_cons_self)).trans h2

theorem alignSigns_sum_dot (q0 : Quat) (rest : List Quat) :
    q0.normSq ≤ Quat.dot q0 ((alignSigns (q0 :: rest)).foldl Quat.add Quat.zero) := by
  have h := dot_foldl_add_ge q0 (rest.map (alignTo q0)) (Quat.add Quat.zero q0)
    (List.forall_mem_map.2 fun r _ => alignTo_dot_nonneg q0 r)
  rwa [Quat.dot_add, Quat.dot_zero, Quat.dot_self, zero_add] at h

theorem alignSigns_sum_ne_zero {q0 : Quat} (rest : List Quat) (h : q0 ≠ Quat.zero) :
    (alignSigns (q0 :: rest)).foldl Quat.add Quat.zero ≠ Quat.zero := by
  intro hz
  have h1 := alignSigns_sum_dot q0 rest
  rw [hz, Quat.dot_zero] at h1
  exact absurd (Quat.normSq_pos h) (not_lt.2 h1)

theorem tlrRawRotations_mem {T : Tables} {frs : List String} {q : Quat} (h : q ∈ tlrRawRotations T frs) :
    ∃ cs ∈ T.calibratedSensors, cs.rotation = q := by
  unfold tlrRawRotations at h
  obtain ⟨p, hp, hq⟩ := List.mem_filterMap.1 h
  split at hq <;> cases hq
  exact ⟨p.1, (List.of_mem_zip hp).1, rfl⟩

theorem tlrRotations_sum_ne_zero {T : Tables} {frs : List String}
    (h : ∀ q, (tlrRawRotations T frs).head? = some q → q ≠ Quat.zero) (hne : tlrRotations T frs ≠ []) :
    (tlrRotations T frs).foldl Quat.add Quat.zero ≠ Quat.zero := by
  unfold tlrRotations at hne ⊢
  cases hl : tlrRawRotations T frs with
  | nil => simp [hl, alignSigns] at hne
  | cons q0 rest => exact alignSigns_sum_ne_zero rest (h q0 (by simp [hl]))

/-- the loop of `_get_transforms` over `nusc.calibrated_sensor`: the `FrameID` member of every calibrated sensor's
channel -/
def frameIdsOf (T : Tables) : Except Err (List String) :=
  mapE (fun cs =>
    match lookup Sensor.token T.sensors cs.sensorToken with
    | .error e => .error e
    | .ok s => Enums.frameFromValue s.channel) T.calibratedSensors

theorem sensorFrames_eq (T : Tables) :
    sensorFrames T =
      match frameIdsOf T with
      | .error e => .error e
      | .ok frs =>
        if !(tlrRotations T frs).isEmpty && (tlrRotations T frs).foldl Quat.add Quat.zero == Quat.zero
        then .error "ZeroDivisionError" else .ok frs := rfl

/-- the channel loop fails only on a sensor token that does not resolve (`KeyError`) or a channel that is no
`FrameID` value (`ValueError`) -/
theorem frameIdsOf_error {T : Tables} {e : Err} (h : frameIdsOf T = .error e) :
    e = "KeyError" ∨ e = "ValueError" := by
  obtain ⟨_, cs, _, _, _, hcs⟩ := mapM_error ((mapE_eq_mapM _ _).symm.trans h)
  split at hcs
  · cases hcs
    exact Or.inl (lookup_error ‹_›)
  · unfold Enums.frameFromValue at hcs
    split at hcs <;> cases hcs
    exact Or.inr rfl

theorem sensorFrames_ok {T : Tables} {frs : List String} (h : sensorFrames T = .ok frs) :
    frameIdsOf T = .ok frs := by
  rw [sensorFrames_eq] at h
  split at h
  · cases h
  · split at h <;> cases h
    assumption

/-- a successful `_get_transforms` has resolved the sensor of every calibrated sensor and converted its channel -/
theorem sensorFrames_sensors {T : Tables} {frs : List String} (h : sensorFrames T = .ok frs) :
    ∀ cs ∈ T.calibratedSensors, ∃ sen m, lookup Sensor.token T.sensors cs.sensorToken = .ok sen ∧
      Enums.frameFromValue sen.channel = .ok m := fun cs hcs => by
  obtain ⟨m, -, hm⟩ := forall₂_mem_right (mapE_forall₂ (sensorFrames_ok h)).flip hcs
  split at hm
  · cases hm
  · exact ⟨_, m, ‹_›, hm⟩

/-- `_get_transforms` on a table without zero rotations: it succeeds or fails as its channel loop does, the average
cannot fail (`tlrRotations_sum_ne_zero`) -/
theorem sensorFrames_eq_frameIdsOf {T : Tables} (h : ∀ cs ∈ T.calibratedSensors, cs.rotation ≠ Quat.zero) :
    sensorFrames T = frameIdsOf T := by
  rw [sensorFrames_eq]
  cases hm : frameIdsOf T with
  | error e => rfl
  | ok frs =>
    by_cases he : tlrRotations T frs = []
    · simp [he]
    · have := tlrRotations_sum_ne_zero (fun q hq => by
        obtain ⟨cs, hcs, rfl⟩ := tlrRawRotations_mem (List.mem_of_mem_head? hq)
        exact h cs hcs) he
      simp [this]

/-- `_get_transforms` succeeds when every channel converts and no calibrated rotation is the zero
quaternion — whatever the signs of the traffic-light cameras' quaternions -/
theorem sensorFrames_total {T : Tables}
    (hs : ∀ cs ∈ T.calibratedSensors, ∃ sen m, lookup Sensor.token T.sensors cs.sensorToken = .ok sen ∧
      Enums.frameFromValue sen.channel = .ok m)
    (hr : ∀ cs ∈ T.calibratedSensors, cs.rotation ≠ Quat.zero) : ∃ frs, sensorFrames T = .ok frs :=
  sensorFrames_eq_frameIdsOf hr ▸ mapE_ok_of_forall fun cs hcs => by
    obtain ⟨sen, m, h1, h2⟩ := hs cs hcs
    exact ⟨m, by simp only [h1, h2]⟩

end PEval.Dataset
