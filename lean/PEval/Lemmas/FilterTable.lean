import PEval.Model.FilterTable
import PEval.Lemmas.Filter
/-!
# Bridge: the model `isTarget` IS its decision skeleton applied to the atoms of the input

`isTarget_eq_tree : eval isTargetTree (valuationOf P o) = ofExcept (isTarget P o)` for every configuration and object.
Each stage of the skeleton (`tUse`, `tLabel`, `tAttr`, `tStage`, `tPosition`, `tPts`, `tUuid`) is shown to compute the
corresponding stage of the model under the valuation of the input.
-/
namespace PEval.FilterTable
open PEval PEval.DT PEval.Filter

/-- a result of the model as a result of a decision table -/
def ofExcept : Except Err Bool → DT.Res
  | .ok b => .ret b
  | .error e => .raise (errCode e)

/-- continue with `f` on a returned Boolean, stop with the exception's code otherwise -/
def bindR (r : Except Err Bool) (f : Bool → DT.Res) : DT.Res :=
  match r with
  | .error e => .raise (errCode e)
  | .ok b => f b

theorem bindR_ok (b : Bool) (f : Bool → DT.Res) : bindR (.ok b) f = f b := rfl
theorem bindR_error (e : Err) (f : Bool → DT.Res) : bindR (.error e) f = .raise (errCode e) := rfl

theorem canonRes_ofExcept_ret {x : Except Err Bool} {b : Bool} (h : canonRes (ofExcept x) = .ret b) : x = .ok b := by
  cases x with
  | error e => cases h
  | ok c => cases h; rfl

variable {P : Params} {o : Obj}

/-! ## the atoms of an input, read off `valuationOf`

Proved by `by rfl`, not by the term `rfl`: as definitional lemmas `simp` would apply them by `dsimp`, which leaves the
`Decidable` instances of the skeleton's `if`s behind and `eval_ite` no longer fires. -/

theorem val_aUnknown : (valuationOf P o).b aUnknown = isUnknown o.label := by rfl
theorem val_aIsGt : (valuationOf P o).b aIsGt = P.isGt := by rfl
theorem val_aTargetsNone : (valuationOf P o).b aTargetsNone = P.targets.isNone := by rfl
theorem val_aHasUnknown : (valuationOf P o).b aHasUnknown = (match P.targets with | some ts => ts.any isUnknown | none => false) := by rfl
theorem val_aTargetsEmpty : (valuationOf P o).b aTargetsEmpty = isEmptyL P.targets := by rfl
theorem val_aLabelIn : (valuationOf P o).b aLabelIn = (labelIdx P o).isSome := by rfl
theorem val_aIgnoreNone : (valuationOf P o).b aIgnoreNone = P.ignoreAttrs.isNone := by rfl
theorem val_aAttrHit : (valuationOf P o).b aAttrHit = (match P.ignoreAttrs with | some ks => containsAny o ks | none => false) := by rfl
theorem val_aTfNone : (valuationOf P o).b aTfNone = !P.hasTransforms := by rfl
theorem val_aFrameBl : (valuationOf P o).b aFrameBl = (o.frame == "base_link") := by rfl
theorem val_aPosNone : (valuationOf P o).b aPosNone = o.pos.isNone := by rfl
theorem val_aIs2d : (valuationOf P o).b aIs2d = o.is2d := by rfl
theorem val_aTfMissing : (valuationOf P o).b aTfMissing = o.egoPos.isNone := by rfl
theorem val_aPcNone : (valuationOf P o).b aPcNone = o.pcNum.isNone := by rfl
theorem val_laPts_none : (valuationOf P o).b laPts.none = P.minPts.isNone := by rfl
theorem val_laPts_short : (valuationOf P o).b laPts.short = isShort P o P.minPts := by rfl
theorem val_cPts : (valuationOf P o).c cPts = cmpI (o.pcNum.getD 0) (entryI P o P.minPts) := by rfl
theorem val_cPts0 : (valuationOf P o).c cPts0 = cmpI 0 (o.pcNum.getD 0) := by rfl
theorem val_aUuidsNone : (valuationOf P o).b aUuidsNone = P.uuids.isNone := by rfl
theorem val_aUuidIn : (valuationOf P o).b aUuidIn = (match P.uuids, o.uuid with | some us, some u => us.contains u | _, _ => false) := by rfl
theorem val_aFp : (valuationOf P o).b aFp = isFP o.label := by rfl

theorem contains_eq_indexOf (a : String) (ts : List String) : ts.contains a = (indexOf? a ts).isSome := by
  rw [indexOf?_eq_findIdx?, List.findIdx?_isSome, List.any_beq']

theorem labelIdx_eq (P : Params) (o : Obj) : labelIdx P o = P.targets.bind (indexOf? o.label) := by
  unfold labelIdx
  cases P.targets <;> rfl

theorem labelIdx_of_threshold {α} {l : List α} {t : α} (h : getLabelThreshold P.targets o.label l = .ok (some t)) :
    ∃ i, labelIdx P o = some i ∧ l[i]? = some t :=
  labelIdx_eq P o ▸ labelBound_iff.1 (getLabelThreshold_eq_some.1 h)

theorem entryR_eq {l : List Rat} {t : Rat} (h : getLabelThreshold P.targets o.label l = .ok (some t)) :
    entryR P o (some l) = t := by
  obtain ⟨i, hi, hg⟩ := labelIdx_of_threshold h
  simp [entryR, hi, hg]

theorem entryI_eq {l : List Int} {t : Int} (h : getLabelThreshold P.targets o.label l = .ok (some t)) (l' : Option (List Int))
    (hl : l' = some l) : entryI P o l' = t := by
  obtain ⟨i, hi, hg⟩ := labelIdx_of_threshold h
  simp [entryI, hl, hi, hg]

theorem eval_tUse (k : Bool → DTree) :
    eval (tUse k) (valuationOf P o) = eval (k (useUnknown P o)) (valuationOf P o) := by
  unfold tUse useUnknown
  simp only [eval_ite, eval_askB, val_aUnknown, val_aIsGt, val_aTargetsNone, val_aHasUnknown]
  cases isUnknown o.label <;> cases P.isGt <;> cases P.targets <;> simp

theorem eval_tLabel (u : Bool) (k : Bool → DTree) :
    eval (tLabel u k) (valuationOf P o) = eval (k (stageLabel P u o)) (valuationOf P o) := by
  unfold tLabel stageLabel
  simp only [eval_ite, eval_askB, val_aTargetsNone, val_aTargetsEmpty, val_aLabelIn]
  cases hT : P.targets with
  | none => simp
  | some ts =>
    cases ts with
    | nil => simp [isEmptyL]
    | cons t ts =>
      cases u
      · simp [isEmptyL, labelIdx, hT, ← contains_eq_indexOf]
      · simp [isEmptyL]

theorem eval_tAttr (u ok : Bool) (k : Bool → DTree) :
    eval (tAttr u ok k) (valuationOf P o) = eval (k (stageAttr P u o ok)) (valuationOf P o) := by
  unfold tAttr stageAttr
  simp only [eval_ite, eval_askB, val_aIgnoreNone, val_aAttrHit]
  cases P.ignoreAttrs <;> cases u <;> simp

theorem eval_tEntry {α} (la : LA) (l : List α) (kk : DTree)
    (hs : (valuationOf P o).b la.short = isShort P o (some l)) :
    eval (tEntry la kk) (valuationOf P o) =
      (match getLabelThreshold P.targets o.label l with
       | .error e => .raise (errCode e)
       | .ok none => .raise eType
       | .ok (some _) => eval kk (valuationOf P o)) := by
  unfold tEntry
  simp only [eval_ite, eval_askB, val_aTargetsNone, val_aLabelIn, hs, isShort, getLabelThreshold_eq, ← labelIdx_eq]
  cases hT : P.targets with
  | none => simp [labelIdx, hT, eval]
  | some ts =>
    cases hi : labelIdx P o with
    | none => simp [eval]
    | some i =>
      have hE : errCode "IndexError" = eIndex := rfl
      cases hl : l[i]? <;> simp [eval, hl, hE]

theorem eval_tStage (u ok : Bool) (la : LA) (cL cU : Nat) (nan : Bool) (pass : Ordering → Bool)
    (l? : Option (List Rat)) (unk : List Rat → Option Rat) (test : Rat → Bool) (k : Bool → DTree)
    (hn : (valuationOf P o).b la.none = l?.isNone)
    (hs : (valuationOf P o).b la.short = isShort P o l?)
    (hL : pass ((valuationOf P o).c cL) = test (entryR P o l?))
    (hU : ∀ l, l? = some l →
      (nan = true → (valuationOf P o).b la.empty = (unk l).isNone) ∧ (nan = false → (unk l).isSome = true) ∧
      (∀ m, unk l = some m → pass ((valuationOf P o).c cU) = test m)) :
    eval (tStage u ok la cL cU nan pass k) (valuationOf P o) =
      bindR (stage P u o ok l? unk test) (fun b => eval (k b) (valuationOf P o)) := by
  unfold tStage stage
  cases ok with
  | false => rfl
  | true =>
    simp only [Bool.not_true, Bool.false_eq_true, if_false, eval_askB, eval_ite, hn]
    cases hl : l? with
    | none => rfl
    | some l =>
      simp only [Option.isNone_some, Bool.false_eq_true, if_false, bound]
      obtain ⟨h1, h2, h3⟩ := hU l hl
      cases u with
      | true =>
        -- relaxed: the special bound; `nan` only where the skeleton asks whether the list is empty
        cases hunk : unk l with
        | none =>
          cases nan
          · exact absurd (h2 rfl) (by simp [hunk])
          · simp [h1 rfl, hunk, bindR, cmpB]
        | some m => cases nan <;> simp [h1, hunk, bindR, cmpB, eval_askC, h3 m hunk]
      | false =>
        simp only [Bool.false_eq_true, if_false]
        rw [eval_tEntry la l _ (hl ▸ hs)]
        cases hg : getLabelThreshold P.targets o.label l with
        | error e => rfl
        | ok r =>
          cases r with
          | none => simp [bindR, errCode, eType]
          | some t => simp [bindR, cmpB, eval_askC, hL, hl, entryR_eq hg]

theorem cmpR_lt (a b : Rat) : (cmpR a b == .lt) = decide (a < b) := by
  unfold cmpR
  split_ifs with h e <;> simp [h]

theorem cmpR_gt (a b : Rat) : (cmpR a b == .gt) = decide (b < a) := by
  unfold cmpR
  split_ifs with h e
  · simp [h.le]
  · simp [e]
  · simp [lt_of_le_of_ne (not_lt.1 h) (Ne.symm e)]

theorem cmpDist_lt (p : Pos) (t : Rat) : (cmpDist p.d2 t == .lt) = distLt p.d2 t := by
  have hd : 0 ≤ p.d2 := add_nonneg (mul_self_nonneg _) (mul_self_nonneg _)
  unfold cmpDist distLt
  -- a negative bound is below every distance, the bound 0 is not above a square
  rcases lt_trichotomy t 0 with h | rfl | h
  · simp [h, h.le]
  · simp [cmpR_lt, hd]
  · simp [h, h.not_gt, cmpR_lt]

theorem cmpDist_gt (p : Pos) (t : Rat) : (cmpDist p.d2 t == .gt) = distGt p.d2 t := by
  unfold cmpDist distGt
  by_cases h : t < 0
  · simp [h]
  · simp [h, cmpR_gt]

theorem cmpI_ne_lt (a b : Int) : (cmpI a b != .lt) = decide (b ≤ a) := by
  unfold cmpI
  split_ifs with h e
  · simp [h]
  · simp [e]
  · simp [Int.le_of_not_gt h]

theorem cmpI_ne_gt (a b : Int) : (cmpI a b != .gt) = decide (a ≤ b) := by
  unfold cmpI
  split_ifs with h e
  · simp [h.le]
  · simp [e]
  · simp; omega

/-- the position stage: the continuation is told WHICH position is read (`none`, the object's own, the transformed
one), the model hands on the position itself -/
theorem eval_tPosition (k : Option Bool → DTree) (g : Option Pos → DT.Res)
    (hk : ∀ kind, eval (k kind) (valuationOf P o) = g (kind.map fun tf => posOf tf o)) :
    eval (tPosition k) (valuationOf P o) =
      (match position P o with
       | .error e => .raise (errCode e)
       | .ok pos => g pos) := by
  unfold tPosition
  simp only [eval_ite, eval_askB, val_aTfNone, val_aFrameBl, val_aPosNone, val_aIs2d, val_aTfMissing, hk]
  by_cases hf : o.frame = "base_link"
  · rw [position_base hf, beq_iff_eq.2 hf]
    cases P.hasTransforms <;> cases hp : o.pos <;> cases o.is2d <;> simp [posOf, hp, eval, errCode, eAssert, eType]
  · rw [position_other hf, beq_eq_false_iff_ne.2 hf]
    cases P.hasTransforms <;> cases hp : o.pos <;> cases he : o.egoPos <;> simp [posOf, he, eval, errCode, eKey]

/-- after the threshold lookup: the attribute access (`AttributeError` for 2-D), then the comparison (`TypeError` when
either side is `None`) -/
theorem eval_tPc (n? : Option Int) (c : Nat) (pass : Ordering → Bool) (k : Bool → DTree)
    (hpass : ∀ n x, n? = some n → o.pcNum = some x → pass ((valuationOf P o).c c) = decide (n ≤ x)) :
    eval (tPc n?.isSome c pass k) (valuationOf P o) =
      bindR (if o.is2d then .error "AttributeError" else
        match (generalizing := false) o.pcNum, n? with
        | some x, some n => .ok (decide (n ≤ x))
        | _, _ => .error "TypeError") (fun b => eval (k b) (valuationOf P o)) := by
  unfold tPc
  simp only [eval_ite, eval_askB, eval_askC, val_aIs2d, val_aPcNone]
  cases o.is2d
  · cases hx : o.pcNum with
    | none => cases n? <;> rfl
    | some x =>
      cases n? with
      | none => rfl
      | some n => simp [bindR, hpass n x rfl hx]
  · rfl

theorem eval_tPts (u ok : Bool) (k : Bool → DTree) :
    eval (tPts u ok k) (valuationOf P o) = bindR (stagePts P u o ok) (fun b => eval (k b) (valuationOf P o)) := by
  unfold tPts stagePts
  cases ok with
  | false => rfl
  | true =>
    simp only [Bool.not_true, Bool.false_eq_true, if_false, eval_ite, eval_askB, val_aIsGt, val_laPts_none, Bool.true_and]
    cases P.isGt with
    | false => rfl
    | true =>
      cases hl : P.minPts with
      | none => rfl
      | some l =>
        simp only [Bool.not_true, Bool.false_eq_true, if_false, Option.isNone_some]
        cases u with
        | true =>
          exact eval_tPc (some 0) cPts0 (fun x => x != .gt) k fun n x hn' hx => by
            cases hn'; rw [val_cPts0, hx, cmpI_ne_gt]; rfl
        | false =>
          simp only [Bool.false_eq_true, if_false, getLabelThreshold_eq, ← labelIdx_eq, val_aTargetsNone, val_aLabelIn, val_laPts_short, hl, isShort]
          have hpc : ∀ n? : Option Int, (∀ n, n? = some n → entryI P o (some l) = n) →
              eval (tPc n?.isSome cPts (fun x => x != .lt) k) (valuationOf P o) = _ :=
            fun n? he => eval_tPc n? cPts (fun x => x != .lt) k fun n x hn' hx => by
              rw [val_cPts, hl, hx, he n hn', cmpI_ne_lt]; rfl
          cases hT : P.targets with
          | none => simpa [labelIdx, hT] using hpc none (by simp)
          | some ts =>
            cases hi : labelIdx P o with
            | none => simpa using hpc none (by simp)
            | some i =>
              cases hli : l[i]? with
              | none => simp [hli, bindR, eval, errCode, eIndex]
              | some n =>
                simp only [hli, Option.isSome_some, Option.isNone_some, Bool.not_true, Bool.false_eq_true, if_false]
                exact hpc (some n) (by simp [entryI, hi, hli])

theorem eval_tUuid (ok : Bool) (k : Bool → DTree) :
    eval (tUuid ok k) (valuationOf P o) = eval (k (stageUuid P o ok)) (valuationOf P o) := by
  unfold tUuid stageUuid
  simp only [eval_ite, eval_askB, val_aIsGt, val_aUuidsNone, val_aUuidIn]
  cases ok <;> cases P.isGt <;> cases P.uuids <;> cases o.uuid <;> simp

theorem eval_conf (u ok : Bool) (k : Bool → DTree) :
    eval (tStage u ok laConf cConf cConf0 false (· == .lt) k) (valuationOf P o) =
      bindR (stage P u o ok P.conf (fun _ => some 0) (fun t => decide (t < o.score))) (fun b => eval (k b) (valuationOf P o)) := by
  apply eval_tStage
  · rfl
  · rfl
  · exact cmpR_lt _ _
  · intro l _
    exact ⟨fun h => (by cases h), fun _ => rfl, fun m hm => by cases hm; exact cmpR_lt _ _⟩

theorem valC_pos (tf : Bool) (i : Nat) (hi : i < 8) : (valuationOf P o).c (cBase tf + i) = valCPos P o tf i := by
  have : i = 0 ∨ i = 1 ∨ i = 2 ∨ i = 3 ∨ i = 4 ∨ i = 5 ∨ i = 6 ∨ i = 7 := by omega
  cases tf <;> rcases this with rfl | rfl | rfl | rfl | rfl | rfl | rfl | rfl <;> rfl

/-- a range stage (`np.mean` for relaxed objects) at offset `i` of the position-dependent order atoms -/
theorem eval_range_stage (tf : Bool) (u ok : Bool) (la : LA) (i : Nat) (hi : i + 1 < 8) (l? : Option (List Rat))
    (pass : Ordering → Bool) (test : Rat → Bool) (k : Bool → DTree)
    (hn : (valuationOf P o).b la.none = l?.isNone)
    (hs : (valuationOf P o).b la.short = isShort P o l?)
    (he : (valuationOf P o).b la.empty = isEmptyL l?)
    (hcL : pass (valCPos P o tf i) = test (entryR P o l?))
    (hcU : pass (valCPos P o tf (i + 1)) = test (meanR l?)) :
    eval (tStage u ok la (cBase tf + i) (cBase tf + (i + 1)) true pass k) (valuationOf P o) =
      bindR (stage P u o ok l? mean test) (fun b => eval (k b) (valuationOf P o)) := by
  apply eval_tStage
  · exact hn
  · exact hs
  · rw [valC_pos tf i (by omega), hcL]
  · intro l hl
    refine ⟨fun _ => (by rw [he, hl]; cases l <;> simp [isEmptyL, mean]), fun h => (by cases h), fun m hm => ?_⟩
    rw [valC_pos tf (i + 1) hi, hcU, hl]
    simp [meanR, hm]

theorem eval_tRange (u ok : Bool) (kind : Option Bool) (k : Bool → DTree) :
    eval (tRange u ok kind k) (valuationOf P o) =
      bindR (stageRange P u o (kind.map (fun tf => posOf tf o)) ok) (fun b => eval (k b) (valuationOf P o)) := by
  cases kind with
  | none => rfl
  | some tf =>
    unfold tRange
    have sX := fun ok k => eval_range_stage (P := P) (o := o) tf u ok laMaxX 0 (by omega) P.maxX (· == .lt)
      (fun t => decide (absR (posOf tf o).x < t)) k rfl rfl rfl (cmpR_lt _ _) (cmpR_lt _ _)
    have sY := fun ok k => eval_range_stage (P := P) (o := o) tf u ok laMaxY 2 (by omega) P.maxY (· == .lt)
      (fun t => decide (absR (posOf tf o).y < t)) k rfl rfl rfl (cmpR_lt _ _) (cmpR_lt _ _)
    have sD := fun ok k => eval_range_stage (P := P) (o := o) tf u ok laMaxD 4 (by omega) P.maxDist (· == .lt)
      (fun t => distLt (posOf tf o).d2 t) k rfl rfl rfl (cmpDist_lt _ _) (cmpDist_lt _ _)
    have sM := fun ok k => eval_range_stage (P := P) (o := o) tf u ok laMinD 6 (by omega) P.minDist (· == .gt)
      (fun t => distGt (posOf tf o).d2 t) k rfl rfl rfl (cmpDist_gt _ _) (cmpDist_gt _ _)
    simp only [Nat.add_zero, Nat.reduceAdd] at sX sY sD sM
    simp only [Option.map_some, sX, sY, sD, sM, eval_tPts]
    -- along the arms of `stageRange`: each arm says what the stages before it returned
    generalize hpos : some (posOf tf o) = pos
    fun_cases stageRange P u o pos ok <;> cases hpos <;> simp only [*, bindR_ok, bindR_error]

/-- the model IS its decision skeleton applied to the atoms of the input -/
theorem isTarget_eq_tree (P : Params) (o : Obj) :
    eval isTargetTree (valuationOf P o) = ofExcept (isTarget P o) := by
  unfold isTargetTree isTarget
  simp only [eval_askB, eval_ite, val_aFp]
  cases isFP o.label with
  | true => rfl
  | false =>
    simp only [Bool.false_eq_true, if_false]
    rw [eval_tUse, eval_tLabel, eval_tAttr, eval_conf]
    cases stage P (useUnknown P o) o (stageAttr P (useUnknown P o) o (stageLabel P (useUnknown P o) o)) P.conf
        (fun _ => some 0) fun t => decide (t < o.score) with
    | error e => rfl
    | ok ok2 =>
      simp only [bindR_ok]
      rw [eval_tPosition _
        (fun pos => bindR (stageRange P (useUnknown P o) o pos ok2) fun ok3 => .ret (stageUuid P o ok3))
        fun kind => by rw [eval_tRange]; simp only [eval_tUuid]; rfl]
      cases position P o with
      | error e => rfl
      | ok pos =>
        simp only []
        cases stageRange P (useUnknown P o) o pos ok2 <;> rfl

theorem isTargetAtoms_valuationOf (P : Params) (o : Obj) : isTargetAtoms (valuationOf P o) = ofExcept (isTarget P o) :=
  isTarget_eq_tree P o

/-! ## the readings the text leaves open (`Model/FilterTable.lean`) differ only on `openValuations` -/

theorem isTargetTreeR_today : isTargetTreeR today = isTargetTree := rfl

/-- kernel evaluation (small trees): the head of each of the eight readings agrees with the head of the reading `today` under
every valuation avoiding `openValuations` -/
theorem readings_agree_check :
    readings.all (fun r => agree openValuations openSticky (headR r) (headR today) PA.empty) = true := by
  decide +kernel

theorem readings_agree_outside_open {r : Reading} (hr : r ∈ readings) (v : Val)
    (hv : consistent openValuations v = true) : eval (isTargetTreeR r) v = eval isTargetTree v := by
  rw [← isTargetTreeR_today]
  unfold isTargetTreeR
  rw [eval_bindT, eval_bindT, agree_sound (List.all_eq_true.1 readings_agree_check r hr) v hv]

theorem eval_isTargetTreeR_fp (r : Reading) (v : Val) (h : v.b aFp = true) : eval (isTargetTreeR r) v = .ret true := by
  unfold isTargetTreeR headR
  rw [eval_bindT, eval_askB, h]
  rfl

theorem mem_readings (r : Reading) : r ∈ readings := by
  rcases r with ⟨a, b, c⟩
  cases a <;> cases b <;> cases c <;> decide

end PEval.FilterTable
