import PEval.Lemmas.ListBasics
import PEval.Lemmas.AnalyzerCounts
import PEval.Lemmas.Heading
import Mathlib.Tactic.Ring
import Mathlib.Tactic.Linarith
import Mathlib.Tactic.FieldSimp
/-!
# C19 lemmas: `calculate_error` and `summarize_error`

* `calculateError_eq`, `pairs_table`: the errors are GT − estimate of the PAIRED rows (both sides present: TP results and FP
  results that carry a ground truth), in table order; `sumR_var`, `foldl_pick`: the sum and fold facts behind a summary.
* `summarizeError_eq`: `summarize_error(df)` on a sub-table `df = full.filter q` of a table whose pair indices are distinct and
  whose paired rows have status TP / FP / TN — the "ALL" block summarises, column by column, the per-row errors
  `pairErrors c df` of the paired rows of `df`, NaN dropped; the block of a label `L` those of the paired rows of `df` whose
  GROUND-TRUTH row has label `L` (the estimate's label is irrelevant), looked up in the full table by pair index.
-/

namespace PEval.Analyzer

/-- (ground truth, estimate) of the paired results of a frame: TP results, then FP results that carry a
ground truth -/
def Frame.pairs (f : Frame) : List (Obj × Obj) := (f.tp ++ f.fp).filterMap fun p => p.gt.map (·, p.est)

def inStatus (l : List Status) (p : Cell × Cell) : Bool := l.contains p.1.status && l.contains p.2.status

theorem resultCells_pairs (area : Rat → Rat → Option Nat) (k n : Nat) (st : Status) (ps : List Pair) :
    ((ps.map (resultCells area k n st)).filterMap bothSides).map (fun p => (p.1.obj, p.2.obj)) =
      ps.filterMap fun p => p.gt.map (·, p.est) := by
  rw [List.filterMap_map, List.map_filterMap]
  exact congrArg (List.filterMap · ps) (funext fun ⟨est, gt⟩ => by cases gt <;> rfl)

theorem frameItems_pairs (area : Rat → Rat → Option Nat) (k : Nat) (f : Frame) :
    ((frameItems area k f).filterMap bothSides).map (fun p => (p.1.obj, p.2.obj)) = f.pairs := by
  have hobj : ∀ (st : Status) (os : List Obj), (os.map (objectCells area k f.frameNum st)).filterMap bothSides = [] :=
    fun st os => List.filterMap_eq_nil_iff.mpr (by simp [objectCells, bothSides])
  simp only [frameItems, List.filterMap_append, List.map_append, resultCells_pairs, hobj, Frame.pairs,
    List.append_nil]

theorem pairs_table (area : Rat → Rat → Option Nat) (scenes : List (List Frame)) :
    (getPairResults (addAll area scenes).table).map (fun p => (p.1.obj, p.2.obj)) = scenes.flatten.flatMap Frame.pairs := by
  rw [getPairResults_strip, addAll_strip, ← List.filterMap_eq_map, List.filterMap_filterMap]
  exact filterMap_allItems area _ Frame.pairs (fun k f => by
    rw [← frameItems_pairs area k f, ← List.filterMap_eq_map, List.filterMap_filterMap]) 0 scenes

/-- every paired row has status TP / FP / TN on both sides -/
def PairsIn (t : Table) : Prop := ∀ p ∈ getPairResults t, inStatus [.TP, .FP, .TN] p = true

theorem pairsIn_table (area : Rat → Rat → Option Nat) (scenes : List (List Frame)) : PairsIn (addAll area scenes).table := by
  intro p hp
  rcases table_pair_status area scenes hp with ⟨h1, h2⟩ | ⟨h1, h2⟩ <;> simp [inStatus, h1, h2]

theorem bothSides_rowFilter (l : List Status) (r : RowPair) :
    bothSides (r.gt.filter (fun c => l.contains c.status), r.est.filter (fun c => l.contains c.status)) =
      (bothSides r.strip).filter (inStatus l) := by
  cases hg : r.gt with
  | none => simp [bothSides, RowPair.strip, hg]
  | some g =>
    cases he : r.est with
    | none => by_cases h1 : g.status ∈ l <;> simp [bothSides, RowPair.strip, hg, he, Option.filter, h1]
    | some e =>
      by_cases h1 : g.status ∈ l <;> by_cases h2 : e.status ∈ l <;>
        simp [bothSides, RowPair.strip, hg, he, Option.filter, h1, h2, inStatus]

theorem getPairResults_rowFilter (l : List Status) (t : Table) :
    getPairResults (rowFilterStatus l t) = (getPairResults t).filter (inStatus l) := by
  rw [getPairResults_eq, getPairResults_eq, rowFilterStatus, List.filterMap_map, List.filter_filterMap]
  congr 1
  funext r
  exact bothSides_rowFilter l r

theorem calculateError_eq (col : Col) (t : Table) :
    calculateError col t = ((getPairResults t).filter (inStatus [.TP, .FP, .TN])).map (pairError col) := by
  unfold calculateError
  dsimp only
  rw [← getPairResults_rowFilter]
  split
  · rfl
  · next hguard =>
    -- a paired row has a ground-truth row and an estimate row: where the guard of `calculate_error` fails there is none
    refine (List.map_eq_nil_iff.mpr (List.eq_nil_iff_forall_not_mem.mpr fun p hp => hguard ?_)).symm
    obtain ⟨r, hr, hg, he⟩ := mem_getPairResults.mp hp
    exact Bool.and_eq_true_iff.mpr
      ⟨List.any_eq_true.mpr ⟨r, hr, by rw [hg]; rfl⟩, List.any_eq_true.mpr ⟨r, hr, by rw [he]; rfl⟩⟩

/-- GT − estimate on the objects (`none` = NaN) -/
def objError (col : Col) (g e : Obj) : Option Rat :=
  match col.get g, col.get e with
  | some a, some b => some (if col = .yaw then wrapYaw (a - b) else a - b)
  | _, _ => none

/-- the two masked assignments of `calculate_error` compute `_clip` (`Heading.clip`, the same wrap written as `if` / `elif`) -/
theorem wrapYaw_eq_clip (d : Rat) : wrapYaw d = Heading.clip d := Heading.clip_two_steps d

theorem wrapYaw_id (d : Rat) (h1 : -1 ≤ d) (h2 : d ≤ 1) : wrapYaw d = d := by
  unfold wrapYaw; grind

theorem sumR_cons (a : Rat) (l : List Rat) : sumR (a :: l) = a + sumR l := rfl

theorem sumR_var (l : List Rat) (a : Rat) :
    sumR (l.map fun v => (v - a) * (v - a)) = sumR (l.map fun v => v * v) - 2 * a * sumR l + (l.length : Rat) * a * a := by
  induction l with
  | nil => simp [sumR]
  | cons v l ih =>
    simp only [List.map_cons, sumR_cons, ih, List.length_cons]
    push_cast
    ring

/-- a fold that keeps its value unless the next one beats it (`lt`) ends at an element nothing in the list beats;
`max` of the absolute errors is `lt = (· < ·)`, `min` is `lt = (· > ·)` -/
theorem foldl_pick {α β : Type} (lt : β → β → Prop) [DecidableRel lt] (g : α → β)
    (hasym : ∀ a b, lt a b → ¬ lt b a) (htrans : ∀ a b c, ¬ lt b a → ¬ lt c b → ¬ lt c a) (es : List α) (e : α) :
    (∀ v ∈ e :: es, ¬ lt (es.foldl (fun m v => if lt m (g v) then g v else m) (g e)) (g v)) ∧
    ∃ v ∈ e :: es, es.foldl (fun m v => if lt m (g v) then g v else m) (g e) = g v := by
  induction es generalizing e with
  | nil => exact ⟨fun v hv => by rw [List.mem_singleton.mp hv]; exact fun h => hasym _ _ h h, e, List.mem_cons_self, rfl⟩
  | cons v es ih =>
    -- membership in `e :: v :: es` spelt out: head, second, tail
    simp only [List.mem_cons, forall_eq_or_imp, exists_eq_or_imp, List.foldl_cons] at ih ⊢
    by_cases hc : lt (g e) (g v)
    · rw [if_pos hc]
      obtain ⟨h1, h2⟩ := ih v
      exact ⟨⟨htrans _ _ _ (hasym _ _ hc) h1.1, h1⟩, Or.inr h2⟩
    · rw [if_neg hc]
      obtain ⟨h1, h2⟩ := ih e
      exact ⟨⟨h1.1, htrans _ _ _ hc h1.1, h1.2⟩, h2.imp_right Or.inr⟩

/-- per-row errors of a column over the paired rows of a table, NaN (missing velocity) dropped -/
def pairErrors (c : Col) (t : Table) : List Rat := (getPairResults t).filterMap (pairError c)

/-- one `_summarize` per modelled column over the paired rows of `t` -/
def errCols (t : Table) : List (Col × Option Summary) := summaryCols.map fun c => (c, summarize (pairErrors c t))

theorem PairsIn.filter {t : Table} (h : PairsIn t) (q : RowPair → Bool) : PairsIn (t.filter q) :=
  fun p hp => h p (getPairResults_subset (fun _ hr => (List.mem_filter.mp hr).1) hp)

theorem summarizeCols_eq (t : Table) (h : PairsIn t) : summarizeCols t = errCols t := by
  unfold summarizeCols errCols
  refine List.map_congr_left fun c _ => congrArg (Prod.mk c) ?_
  split
  · next he => rw [List.isEmpty_iff.mp he]; rfl
  · rw [calculateError_eq, List.filter_eq_self.mpr h, List.filterMap_map]; rfl

/-- the ground-truth row has a status TP / FP / TN and label `L` (`get_ground_truth(df, status=[…], label=L)`) -/
def gtLabelIs (L : String) (r : RowPair) : Bool :=
  r.gt.any fun c => [Status.TP, .FP, .TN].contains c.status && c.obj.label == L

theorem filter_index_contains (full : Table) (hnd : (full.map (·.index)).Nodup) (Q : RowPair → Bool) :
    full.filter (fun r => ((full.filter Q).map (·.index)).contains r.index) = full.filter Q :=
  List.filter_congr fun _ hr => Bool.eq_iff_iff.mpr (List.contains_iff_mem.trans (mem_map_filter_iff hnd Q hr))

theorem summarizeError_eq (labels : List String) (full : Table) (q : RowPair → Bool)
    (hnd : (full.map (·.index)).Nodup) (hp : PairsIn full) :
    summarizeError labels full (full.filter q) =
      ("ALL", errCols (full.filter q)) :: labels.map fun L => (L, errCols ((full.filter q).filter (gtLabelIs L))) := by
  unfold summarizeError
  rw [summarizeCols_eq _ (hp.filter q)]
  refine congrArg _ (List.map_congr_left fun L _ => congrArg (Prod.mk L) ?_)
  simp only [show (fun r : RowPair => r.gt.any fun c => [Status.TP, .FP, .TN].contains c.status && c.obj.label == L) =
    gtLabelIs L from rfl, List.filter_filter]
  -- `self.df.loc[index]`: with distinct pair indices the lookup gives back exactly the rows whose indices were collected
  rw [filter_index_contains full hnd]
  split
  · next hemp =>
    rw [List.map_eq_nil_iff.mp (List.isEmpty_iff.mp hemp)]
    exact summarizeCols_eq [] fun _ hp => nomatch hp
  · exact summarizeCols_eq _ (hp.filter _)

theorem getPairResults_gtLabel (t : Table) (h : PairsIn t) (L : String) :
    getPairResults (t.filter (gtLabelIs L)) = (getPairResults t).filter (fun p => p.1.obj.label == L) := by
  apply getPairResults_filter
  intro r hr p hp
  obtain ⟨hg, he⟩ := bothSides_eq_some.mp hp
  have hst := (Bool.and_eq_true _ _ ▸ h p (mem_getPairResults.mpr ⟨r, hr, hg, he⟩)).1
  rw [gtLabelIs, show r.gt = some p.1 from hg, Option.any_some, hst, Bool.true_and]

theorem pairErrors_gtLabel (t : Table) (h : PairsIn t) (L : String) (c : Col) :
    pairErrors c (t.filter (gtLabelIs L)) =
      ((getPairResults t).filter (fun p => p.1.obj.label == L)).filterMap (pairError c) := by
  unfold pairErrors
  rw [getPairResults_gtLabel t h L]

end PEval.Analyzer
