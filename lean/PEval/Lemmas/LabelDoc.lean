import PEval.Lemmas.Label
import PEval.Gen.DocLabels
/-!
The one fact about the DOCUMENTED label tables alone (`PEval.Gen.doc*`, parsed from docs/en/perception/label.md on every
run): the document's merged table is the `mergeImage` of its unmerged one.  No table of the code occurs in it, which is
why it stands apart from the comparisons of code and document in `Properties/C14.lean` (`C14.doc_merge_consistent` is this
theorem under the property's name), and its evaluation is not repeated when only that file changes.  It does import the
code's tables, through `Model/Label`, where `mergeImage` is defined.
-/
namespace PEval.Label

/-- the document's merged table is the merged image of its unmerged table, row for row as a set -/
theorem doc_merge_consistent :
    (∀ p ∈ Gen.docAutoware, (p.1, mergeImage p.2) ∈ Gen.docAutowareMerged) ∧
    (∀ q ∈ Gen.docAutowareMerged, ∃ p ∈ Gen.docAutoware, p.1 = q.1 ∧ mergeImage p.2 = q.2) := by decide +kernel

end PEval.Label
