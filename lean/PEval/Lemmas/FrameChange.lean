import PEval.Model.FrameChange
import PEval.Lemmas.GeometryPlane
/-! Frame change (used by C07, and by C06 for the plane distance): the inverse law of the ego pose (planar and
3-D), plane distance with explicit ranking keys under a rigid motion, injectivity of the pose on positions and
orientations (object identity), and what the filter reads from the map rendering. -/
namespace PEval.FrameChange
open PEval.Geometry

theorem toEgo2_apply2 (e : Pose) (h : e.rot.IsUnit) (p : V2) : toEgo2 e (e.motion.apply2 p) = p := by
  unfold Rot2.IsUnit at h
  cases p with
  | mk x y =>
    simp only [toEgo2, Pose.motion, Motion.apply2, Rot2.apply, V2.add]
    congr 1
    · linear_combination x * h
    · linear_combination y * h

theorem apply2_toEgo2 (e : Pose) (h : e.rot.IsUnit) (p : V2) : e.motion.apply2 (toEgo2 e p) = p := by
  unfold Rot2.IsUnit at h
  cases p with
  | mk x y =>
    simp only [toEgo2, Pose.motion, Motion.apply2, Rot2.apply, V2.add]
    congr 1
    · linear_combination (x - e.t.x) * h
    · linear_combination (y - e.t.y) * h

theorem planeDist2Of_eq_keys (est gt : List V2) :
    planeDist2Of est gt = planeDist2Keys (gt.map V2.norm2) est gt := rfl

theorem planeDist2Keys_eq (keys : List Rat) (est gt : List V2) :
    planeDist2Keys keys est gt =
      (dist2 (est.getD ((argsort keys).getD 0 0) V2.zero) (gt.getD ((argsort keys).getD 0 0) V2.zero)
        + dist2 (est.getD ((argsort keys).getD 1 0) V2.zero) (gt.getD ((argsort keys).getD 1 0) V2.zero)) / 2 :=
  leftRight_mean _ _ _ _

theorem getD_map_lt {f : V2 → V2} (l : List V2) (i : Nat) (hi : i < l.length) (d d' : V2) :
    (l.map f).getD i d' = f (l.getD i d) := by
  simp only [List.getD_eq_getElem?_getD, List.getElem?_map]
  rw [List.getElem?_eq_getElem hi]
  rfl

/-- moving both corner lists by a rigid motion, with ranking keys of full length, leaves the value
unchanged: the two selected positions are in range, and the motion preserves distances -/
theorem planeDist2Keys_motion {m : Motion} (hm : m.rot.IsUnit) (keys : List Rat) (est gt : List V2)
    (hk : 2 ≤ keys.length) (he : est.length = keys.length) (hg : gt.length = keys.length) :
    planeDist2Keys keys (est.map m.apply2) (gt.map m.apply2) = planeDist2Keys keys est gt := by
  obtain ⟨i, j, rest, h, hi, hj, _⟩ := argsort_first_two keys hk
  rw [planeDist2Keys_eq, planeDist2Keys_eq, h]
  simp only [List.getD_cons_zero, List.getD_cons_succ]
  rw [getD_map_lt est _ (he ▸ hi) V2.zero, getD_map_lt gt _ (hg ▸ hi) V2.zero,
    getD_map_lt est _ (he ▸ hj) V2.zero, getD_map_lt gt _ (hg ▸ hj) V2.zero,
    dist2_motion hm, dist2_motion hm]

/-- the plane distance of two boxes moved together, the ground-truth corners ranked by a key that undoes the
motion (`k (m p) = |p|²`), is the plane distance of the boxes where they were: a rotation about the ego with the
ego distance as key, the ego pose with the distance of the `base_link` image as key -/
theorem planeDist2Keys_move {m : Motion} (hm : m.rot.IsUnit) {k : V2 → Rat} (hk : ∀ p, k (m.apply2 p) = p.norm2)
    (e g : Box) :
    planeDist2Keys ((footprint (g.move m)).map k) (footprint (e.move m)) (footprint (g.move m)) = planeDist2 e g := by
  rw [planeDist2, planeDist2Of_eq_keys, footprint_move, footprint_move, List.map_map,
    List.map_congr_left fun p _ => show (k ∘ m.apply2) p = p.norm2 from hk p]
  exact planeDist2Keys_motion hm _ _ _ (by simp [footprint_length]) (by simp [footprint_length])
    (by simp [footprint_length])

/-! ### object identity is frame-free: a rigid motion is injective on positions and on orientations -/

theorem toEgo3_apply3 (e : Pose) (h : e.rot.IsUnit) (p : V3) : toEgo3 e (e.motion.apply3 p) = p := by
  cases p with
  | mk x y z =>
    have h2 := toEgo2_apply2 e h ⟨x, y⟩
    unfold toEgo3 Motion.apply3
    simp only
    rw [h2]
    congr 1
    simp only [Pose.motion]
    ring

theorem apply3_injective (e : Pose) (h : e.rot.IsUnit) {p q : V3}
    (hpq : e.motion.apply3 p = e.motion.apply3 q) : p = q := by
  have := congrArg (toEgo3 e) hpq
  rwa [toEgo3_apply3 e h, toEgo3_apply3 e h] at this

/-- composing with `r` acts on the complex number `a` as `r` acts on the point `(a.c, a.s)` -/
theorem rot_mul_injective (r : Rot2) (h : r.IsUnit) {a b : Rot2} (hab : r.mul a = r.mul b) : a = b := by
  have := apply2_inj (m := Motion.rotation r) h (p := ⟨a.c, a.s⟩) (q := ⟨b.c, b.s⟩)
    (by rw [rotation_apply2, rotation_apply2]; exact congrArg (fun q : Rot2 => (⟨q.c, q.s⟩ : V2)) hab)
  cases a; cases b
  cases this; rfl

theorem samePose_iff (a b : Obj) :
    a.samePose b = true ↔ (a.box.center = b.box.center ∧ a.box.rot = b.box.rot) := by
  simp [Obj.samePose]

/-- what the filter reads from the map rendering of a 3-D object is the planar rendering of the filter
model (`Filter.renderMap`) applied to what it reads from the ego rendering: neither the object's nor the ego's height is seen -/
theorem filterView_toMap (e : Pose) (t : Tagged) :
    filterViewMap e (t.toMap e) = Filter.renderMap e.planar (filterViewEgo t) := by
  simp only [filterViewMap, filterViewEgo, Filter.renderMap, Tagged.toMap, Obj.toMap, Box.move, Motion.apply3,
    Motion.apply2, Rot2.apply, V2.add, Pose.motion, Pose.planar, toEgo3, toEgo2, Filter.toMap, Filter.toEgo,
    Option.map_some]

end PEval.FrameChange
