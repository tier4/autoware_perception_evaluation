import PEval.Lemmas.MatchingBlocking
/-!
The relational specification "take *a* best available pair until none is left" (`GreedyRun`, `TwoStageRun`): the
implementation is one of its runs, and it is its ONLY run when, at the steps the implementation goes through, the best
score is carried by one candidate (`NoBestTies2`; implied by pairwise different scores, `NoTies`).  Under that condition
the pairs do not depend on the order in which the remaining estimates / ground truths are listed.

Last section: the certificate checker for that relation.  The property leaves the winner of an exact score tie open; the
model `matchFrom` fixes it (first best cell in row-major order).  When the real code pairs differently, the harness proposes
an ORDER in which the real pairs could have been picked (`picks1` in the compatible-only stage, `picks2` in the label-blind
stage); `checkTwoStage` verifies, step by step, that every pick is an available candidate of its stage, that no available
candidate is strictly better, and that each stage ends only when nothing is available.  Soundness (`checkStage_sound`,
`C02.certificate_sound`): an accepted certificate IS a run of the relation (making the proposed pairs), so the real outcome is
one the property admits.  (No completeness claim is needed: a rejected certificate makes the correspondence report a
disagreement.)
-/
namespace PEval.Matching

/-- no two entries of the table carry the same score -/
def NoTies (t : Tbl) : Prop :=
  ∀ i j i' j' s, t.score i j = some s → t.score i' j' = some s → i = i' ∧ j = j'

theorem cands_mem_congr (t : Tbl) (s1 : Bool) {es es' gs gs' : List Nat} (hE : es.Perm es') (hG : gs.Perm gs')
    (x : Nat × Nat × Rat) : x ∈ cands t s1 es gs ↔ x ∈ cands t s1 es' gs' := by
  obtain ⟨i, j, s⟩ := x
  rw [mem_cands_iff_avail, mem_cands_iff_avail, Avail, Avail, hE.mem_iff, hG.mem_iff]

/-! ## relational specification of one stage -/

/-- "pick *a* best available pair (w.r.t. the stage's filter) until none is left" -/
inductive GreedyRun (t : Tbl) (s1 : Bool) : St → St → Prop where
  | done (st : St) : cands t s1 st.es st.gs = [] → GreedyRun t s1 st st
  | pick (st st' : St) (i j : Nat) (s : Rat) :
      (i, j, s) ∈ cands t s1 st.es st.gs →
      (∀ x ∈ cands t s1 st.es st.gs, better t.maximize x.2.2 s = false) →
      GreedyRun t s1 { es := st.es.erase i, gs := st.gs.erase j, pairs := st.pairs ++ [(i, j)] } st' →
      GreedyRun t s1 st st'

theorem Picks.greedyRun {t : Tbl} {s1 : Bool} {st st' : St} (h : Picks t s1 st st')
    (hd : cands t s1 st'.es st'.gs = []) : GreedyRun t s1 st st' := by
  induction h with
  | refl st => exact .done st hd
  | @step st st' i j s hb _ ih =>
    exact .pick st st' i j s (argBest_mem _ _ _ hb) (argBest_opt _ _ (i, j, s) hb) (ih hd)

/-- the documented assignment as a relation: a run of the compatible-only stage followed by a run of the
label-blind stage -/
def TwoStageRun (t : Tbl) (es gs : List Nat) (st : St) : Prop :=
  ∃ s1, GreedyRun t true { es := es, gs := gs, pairs := [] } s1 ∧ GreedyRun t false s1 st

theorem matchFrom_refines (t : Tbl) (es gs : List Nat) : TwoStageRun t es gs (matchFrom t es gs) :=
  ⟨stage1State t es gs, (stage_picks t true es.length _).greedyRun (stage_done t true _ _ (Nat.le_refl _)),
    (stage_picks t false _ _).greedyRun (stage_done t false _ _ (Nat.le_refl _))⟩

/-! ## when the relation has one run

`NoTies` is global over the table and fails in the IoU modes as soon as two disjoint pairs both score 0.  What the
uniqueness argument needs is only that, at the steps the run actually goes through, the best score is carried by ONE
candidate. -/

/-- along the implementation's loop (fuel `n`, from `st`) the picked score is carried by no other candidate -/
def noBestTiesB (t : Tbl) (s1 : Bool) : Nat → St → Bool
  | 0, _ => true
  | fuel + 1, st =>
    match argBest t.maximize (cands t s1 st.es st.gs) with
    | none => true
    | some (i, j, s) =>
      (cands t s1 st.es st.gs).all (fun x => x.2.2 != s || x == (i, j, s)) &&
        noBestTiesB t s1 fuel { es := st.es.erase i, gs := st.gs.erase j, pairs := st.pairs ++ [(i, j)] }

def NoBestTiesFrom (t : Tbl) (s1 : Bool) (fuel : Nat) (st : St) : Prop := noBestTiesB t s1 fuel st = true

instance (t : Tbl) (s1 : Bool) (fuel : Nat) (st : St) : Decidable (NoBestTiesFrom t s1 fuel st) := by
  unfold NoBestTiesFrom; infer_instance

theorem noBestTiesFrom_succ_some {t : Tbl} {s1 : Bool} {n : Nat} {st : St} {i j : Nat} {s : Rat}
    (hb : argBest t.maximize (cands t s1 st.es st.gs) = some (i, j, s)) :
    NoBestTiesFrom t s1 (n + 1) st ↔
      (∀ x ∈ cands t s1 st.es st.gs, x.2.2 = s → x = (i, j, s)) ∧ NoBestTiesFrom t s1 n (st.pick i j) := by
  unfold NoBestTiesFrom
  rw [noBestTiesB, hb]
  simp only [Bool.and_eq_true, List.all_eq_true, Bool.or_eq_true, bne_iff_ne, ne_eq, beq_iff_eq]
  exact and_congr_left fun _ => forall₂_congr fun x _ => Decidable.imp_iff_not_or.symm

theorem noBestTiesFrom_of_noTies {t : Tbl} (hnt : NoTies t) (s1 : Bool) (fuel : Nat) (st : St) :
    NoBestTiesFrom t s1 fuel st := by
  fun_induction stage t s1 fuel st with
  | case1 st => rfl
  | case2 n st hb => unfold NoBestTiesFrom; rw [noBestTiesB, hb]
  | case3 n st i j s hb ih =>
    refine (noBestTiesFrom_succ_some hb).2 ⟨?_, ih⟩
    rintro ⟨i', j', _⟩ hx rfl
    obtain ⟨rfl, rfl⟩ := hnt _ _ _ _ _ (mem_cands_iff_avail.1 hx).2.2.1 (pick_spec hb).1.2.2.1
    rfl

theorem greedyRun_eq_stage_of_noBestTies {t : Tbl} {s1 : Bool} (fuel : Nat) (st : St) {b : St}
    (hnt : NoBestTiesFrom t s1 fuel st) (hf : st.es.length ≤ fuel) (hrun : GreedyRun t s1 st b) :
    b = stage t s1 fuel st := by
  induction hrun generalizing fuel with
  | done st hnil => exact (stage_of_cands_nil hnil fuel).symm
  | pick st b i' j' s' hmem' hopt' _ ih =>
    have hi' := (mem_cands_iff_avail.1 hmem').1
    obtain ⟨n, rfl⟩ : ∃ n, fuel = n + 1 := ⟨fuel - 1, by have := List.length_pos_of_mem hi'; omega⟩
    cases hb : argBest t.maximize (cands t s1 st.es st.gs) with
    | none => rw [argBest_none _ _ hb] at hmem'; cases hmem'
    | some c =>
      obtain ⟨i, j, s⟩ := c
      rw [noBestTiesFrom_succ_some hb] at hnt
      -- the run's pick scores as well as the loop's, so it IS the loop's
      have heq : s' = s := eq_of_not_better t.maximize _ _ (argBest_opt _ _ (i, j, s) hb (i', j', s') hmem')
        (hopt' (i, j, s) (argBest_mem _ _ _ hb))
      cases hnt.1 (i', j', s') hmem' heq
      rw [stage_succ_some hb]
      apply ih _ hnt.2
      show (st.es.erase _).length ≤ n
      rw [List.length_erase_of_mem hi']
      omega

/-- the local condition for both loops of a call -/
def NoBestTies2 (t : Tbl) (es gs : List Nat) : Prop :=
  NoBestTiesFrom t true es.length { es := es, gs := gs, pairs := [] } ∧
    NoBestTiesFrom t false (stage1State t es gs).es.length (stage1State t es gs)

instance (t : Tbl) (es gs : List Nat) : Decidable (NoBestTies2 t es gs) := by
  unfold NoBestTies2; infer_instance

theorem noBestTies2_of_noTies {t : Tbl} (hnt : NoTies t) (es gs : List Nat) : NoBestTies2 t es gs :=
  ⟨noBestTiesFrom_of_noTies hnt _ _ _, noBestTiesFrom_of_noTies hnt _ _ _⟩

theorem twoStageRun_eq_matchFrom_of_noBestTies {t : Tbl} {es gs : List Nat} (hnt : NoBestTies2 t es gs) {st : St}
    (hrun : TwoStageRun t es gs st) : st = matchFrom t es gs := by
  obtain ⟨s1, h1, h2⟩ := hrun
  cases greedyRun_eq_stage_of_noBestTies es.length _ hnt.1 (Nat.le_refl _) h1
  exact greedyRun_eq_stage_of_noBestTies _ _ hnt.2 (Nat.le_refl _) h2

theorem greedyRun_perm {t : Tbl} {s1 : Bool} {st a : St} (h : GreedyRun t s1 st a) :
    ∀ st' : St, st.es.Perm st'.es → st.gs.Perm st'.gs → st.pairs = st'.pairs →
      ∃ a', GreedyRun t s1 st' a' ∧ a.pairs = a'.pairs ∧ a.es.Perm a'.es ∧ a.gs.Perm a'.gs := by
  induction h with
  | done st hnil =>
    intro st' hE hG hP
    refine ⟨st', .done st' (List.eq_nil_iff_forall_not_mem.2 fun x hx => ?_), hP, hE, hG⟩
    exact List.not_mem_nil (hnil ▸ (cands_mem_congr t s1 hE hG x).2 hx)
  | pick st st'' i j s hmem hopt _ ih =>
    intro st' hE hG hP
    obtain ⟨a', hrun', hp⟩ := ih (st'.pick i j) (hE.erase i) (hG.erase j) (congrArg (· ++ [(i, j)]) hP)
    exact ⟨a', .pick st' a' i j s ((cands_mem_congr t s1 hE hG _).1 hmem)
      (fun x hx => hopt x ((cands_mem_congr t s1 hE hG x).2 hx)) hrun', hp⟩

theorem matchFrom_perm_of_noBestTies {t : Tbl} {es gs es' gs' : List Nat} (hnt : NoBestTies2 t es gs)
    (hE : es'.Perm es) (hG : gs'.Perm gs) : (matchFrom t es' gs').pairs = (matchFrom t es gs).pairs := by
  obtain ⟨s1, h1, h2⟩ := matchFrom_refines t es' gs'
  obtain ⟨s1', h1', hp1, he1, hg1⟩ := greedyRun_perm h1 { es := es, gs := gs, pairs := [] } hE hG rfl
  obtain ⟨fin', h2', hp2, _, _⟩ := greedyRun_perm h2 s1' he1 hg1 hp1
  rw [hp2, twoStageRun_eq_matchFrom_of_noBestTies hnt ⟨s1', h1', h2'⟩]

/-- executable check of `NoTies` for a table built from a scene -/
def noTiesCheck (c : Cfg) (sc : Scene) : Bool :=
  (List.range sc.ests.length).all fun i => (List.range sc.gts.length).all fun j =>
    (List.range sc.ests.length).all fun i' => (List.range sc.gts.length).all fun j' =>
      (((mkTbl c sc).score i j).isNone || (mkTbl c sc).score i j != (mkTbl c sc).score i' j')
        || (i == i' && j == j')

theorem noTies_of_check {c : Cfg} {sc : Scene} (h : noTiesCheck c sc = true) : NoTies (mkTbl c sc) := by
  intro i j i' j' s h1 h2
  obtain ⟨hi, hj⟩ := mkTbl_score_some_mem_range h1
  obtain ⟨hi', hj'⟩ := mkTbl_score_some_mem_range h2
  simp only [noTiesCheck, List.all_eq_true] at h
  simpa [h1, h2] using h i hi j hj i' hi' j' hj'

/-! ## certificates: a proposed order of picks, checked against the relation -/

/-- one stage: the picks, in order, are each a best available candidate; at the end nothing is available -/
def checkStage (t : Tbl) (s1 : Bool) : List (Nat × Nat) → St → Option St
  | [], st => if (cands t s1 st.es st.gs).isEmpty then some st else none
  | (i, j) :: ps, st =>
    match t.score i j with
    | none => none
    | some s =>
      if (cands t s1 st.es st.gs).contains (i, j, s) &&
          (cands t s1 st.es st.gs).all (fun x => !(better t.maximize x.2.2 s)) then
        checkStage t s1 ps { es := st.es.erase i, gs := st.gs.erase j, pairs := st.pairs ++ [(i, j)] }
      else none

theorem checkStage_sound (t : Tbl) (s1 : Bool) (ps : List (Nat × Nat)) (st st' : St)
    (h : checkStage t s1 ps st = some st') : GreedyRun t s1 st st' ∧ st'.pairs = st.pairs ++ ps := by
  -- along the checker's own recursion: its two accepting arms are the two constructors of `GreedyRun`
  fun_induction checkStage t s1 ps st
  case case1 hnil => cases h; exact ⟨.done _ (List.isEmpty_iff.1 hnil), (List.append_nil _).symm⟩
  case case4 i j _ st s _ hc ih =>
    simp only [Bool.and_eq_true, List.contains_iff_mem, List.all_eq_true, Bool.not_eq_true'] at hc
    obtain ⟨hrun, hp⟩ := ih h
    exact ⟨.pick st st' i j s hc.1 hc.2 hrun, by rw [hp, List.append_assoc]; rfl⟩
  all_goals cases h

/-- both stages from the full index lists -/
def checkTwoStage (t : Tbl) (es gs : List Nat) (picks1 picks2 : List (Nat × Nat)) : Option St :=
  (checkStage t true picks1 { es := es, gs := gs, pairs := [] }).bind (checkStage t false picks2)

end PEval.Matching
