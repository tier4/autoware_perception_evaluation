import Mathlib.Algebra.Order.Floor.Ring
import Mathlib.Data.Rat.Floor
import PEval.Lemmas.DatasetTotal
import PEval.Lemmas.Label
/-!
Helper lemmas for the 2-D part of C16 (`_sample_to_frame_2d`): the loader's label converter as C14's, inversion of the
`Except` pipelines, the annotation loop, `dedupFirst`, truncation, and totality on referentially intact tables.
-/
namespace PEval.Dataset
open PEval

/-- the loader model carries its own copies of `Label.convertLabel` (`LabelConverter.convert_label`; the comparison
written the other way round) and of `Label.trafficLightTable` (the same text: equal by `rfl`); what C14 proves of the
converter holds of the loader's labels through this -/
theorem convertWith_eq (table : List (String × String)) (name : String) :
    convertWith table name = Label.convertLabel table name := by
  unfold convertWith Label.convertLabel
  simp only [Bool.beq_comm (a := name.toLower)]
  cases table.find? _ <;> rfl

theorem mem_dedupFirst {x : String} : ∀ {l : List String}, x ∈ dedupFirst l ↔ x ∈ l
  | [] => by simp [dedupFirst]
  | y :: l => by
    simp only [dedupFirst, List.mem_cons, List.mem_filter, mem_dedupFirst (l := l)]
    by_cases h : x = y
    · simp [h]
    · simp [h]

theorem nodup_dedupFirst : ∀ (l : List String), (dedupFirst l).Nodup
  | [] => by simp [dedupFirst]
  | y :: l => by
    simp only [dedupFirst]
    refine List.nodup_cons.2 ⟨?_, (nodup_dedupFirst l).filter _⟩
    simp

theorem truncInt_nonneg {q : Rat} (h : 0 ≤ q) :
    0 ≤ truncInt q ∧ (truncInt q : Rat) ≤ q ∧ q < (truncInt q : Rat) + 1 := by
  have hf : truncInt q = ⌊q⌋ := by simp [truncInt, h, Rat.floor_def', Rat.floor_def]
  rw [hf]
  exact ⟨Int.floor_nonneg.2 h, Int.floor_le q, Int.lt_floor_add_one q⟩

theorem truncInt_neg {q : Rat} (h : q < 0) :
    truncInt q ≤ 0 ∧ q ≤ (truncInt q : Rat) ∧ (truncInt q : Rat) - 1 < q := by
  have hn : ¬ (0 ≤ q) := not_le.2 h
  have hf : truncInt q = -⌊-q⌋ := by simp [truncInt, hn, Rat.floor_def', Rat.floor_def]
  rw [hf]
  have h1 := Int.floor_le (-q)
  have h2 := Int.lt_floor_add_one (-q)
  have h3 : 0 ≤ ⌊-q⌋ := Int.floor_nonneg.2 (by linarith)
  refine ⟨by omega, ?_, ?_⟩
  · push_cast; linarith
  · push_cast; linarith

theorem mem_camerasOf {T : Tables} {tok : String} {frames : List String} {fr : String} {sd : SampleData} :
    (fr, sd) ∈ camerasOf T tok frames ↔ fr ∈ frames ∧ dataOf T tok (cameraType fr) = some sd := by
  unfold camerasOf
  simp only [List.mem_filterMap, Option.map_eq_some_iff, Prod.mk.injEq]
  constructor
  · rintro ⟨f, hf, sd', hsd, rfl, rfl⟩
    exact ⟨hf, hsd⟩
  · rintro ⟨hf, hsd⟩
    exact ⟨fr, hf, sd, hsd, rfl, rfl⟩

theorem camerasOf_sublist (T : Tables) (tok : String) :
    ∀ frames : List String, ((camerasOf T tok frames).map (·.1)).Sublist frames
  | [] => by simp [camerasOf]
  | f :: rest => by
    have ih := camerasOf_sublist T tok rest
    unfold camerasOf at ih ⊢
    simp only [List.filterMap_cons]
    cases hd : dataOf T tok (cameraType f) with
    | none => simpa using ih.cons f
    | some sd => simpa using ih.cons_cons f

/-- `_get_transforms` is run for every camera found; the transform kept is the ego pose of the LAST one -/
theorem transforms2D_last {T : Tables} {cams : List (String × SampleData)} {acc tf : Option Pose}
    (h : transforms2D T cams acc = .ok tf) {c : String × SampleData} (hc : cams.getLast? = some c) :
    ∃ ego, lookup EgoPose.token T.egoPoses c.2.egoPoseToken = .ok ego ∧ tf = some ⟨ego.translation, ego.rotation⟩ := by
  fun_induction transforms2D T cams acc with
  | case1 => cases hc
  | case2 | case3 => cases h
  | case4 fr sd rest _ ego he _ _ ih =>
    cases rest with
    | nil => cases h; cases hc; exact ⟨ego, he, rfl⟩
    | cons x r => exact ih h (by rwa [List.getLast?_cons_cons] at hc)

/-- once `_get_transforms` succeeds on the tables, the camera loop only resolves ego poses, and keeps the LAST -/
theorem transforms2D_of_sensorFrames {T : Tables} {frs : List String} (hs : sensorFrames T = .ok frs)
    (cams : List (String × SampleData)) (acc : Option Pose) : transforms2D T cams acc =
      (mapE (fun c => lookup EgoPose.token T.egoPoses c.2.egoPoseToken) cams).map fun egos =>
        (egos.getLast?.map fun e => (⟨e.translation, e.rotation⟩ : Pose)).or acc := by
  fun_induction transforms2D T cams acc with
  | case1 acc => cases acc <;> rfl
  | case2 _ sd rest _ e he => rw [mapE, he]; rfl
  | case3 _ _ _ _ _ _ e hs' => cases hs.symm.trans hs'
  | case4 _ sd rest _ ego he _ _ ih =>
    rw [ih, mapE, he]
    cases mapE (fun c => lookup EgoPose.token T.egoPoses c.2.egoPoseToken) rest with
    | error e => rfl
    | ok egos => cases egos <;> rfl

theorem object2DOf_ok {T : Tables} {cfg : Config2D} {time : Nat} {cams : List (String × SampleData)}
    {stale : Option String} {o : ObjectAnn} {obj : Obj2D} (h : object2DOf T cfg time cams stale o = .ok obj) :
    ∃ cat attrs uuid fr, lookup Named.token T.categories o.categoryToken = .ok cat ∧
      attributeNamesOfTokens T o.attributeTokens = .ok attrs ∧
      (if cfg.family = "traffic_light" then tlrUuid T stale o else .ok o.instanceToken) = .ok uuid ∧
      frameOfToken cams o.sampleDataToken = some fr ∧
      obj = { uuid := uuid, label := convertWith (pairTable2D cfg) cat.name, name := cat.name,
              attributes := attrs, roi := roiOf cfg.task o, frame := fr, time := time } := by
  revert h
  fun_cases object2DOf T cfg time cams stale o with
  | case5 cat hcat attrs hattrs uuid huuid fr hfr =>
    rintro ⟨⟩
    exact ⟨cat, attrs, uuid, fr, hcat, hattrs, huuid, hfr, rfl⟩
  | _ => nofun

/-- one round of the annotation loop: the object is built with the uuid the previous round left behind (`stale`; Python's
loop variable `uuid` is not reset), and leaves its own uuid to the next round -/
theorem objects2DLoop_cons_ok {T : Tables} {cfg : Config2D} {time : Nat} {cams : List (String × SampleData)}
    {o : ObjectAnn} {rest : List ObjectAnn} {stale : Option String} {objs : List Obj2D}
    (h : objects2DLoop T cfg time cams stale (o :: rest) = .ok objs) :
    ∃ obj objs', objs = obj :: objs' ∧ object2DOf T cfg time cams stale o = .ok obj ∧
      objects2DLoop T cfg time cams (some obj.uuid) rest = .ok objs' := by
  rw [objects2DLoop] at h
  split at h
  · cases h
  · rename_i obj ho
    split at h
    · cases h
    · rename_i objs' hr
      cases h
      exact ⟨obj, objs', rfl, ho, hr⟩

theorem objects2DLoop_forall₂ {T : Tables} {cfg : Config2D} {time : Nat} {cams : List (String × SampleData)}
    {l : List ObjectAnn} {stale : Option String} {objs : List Obj2D}
    (h : objects2DLoop T cfg time cams stale l = .ok objs) :
    List.Forall₂ (fun o obj => ∃ st, object2DOf T cfg time cams st o = .ok obj) l objs := by
  revert h
  fun_induction objects2DLoop T cfg time cams stale l generalizing objs with
  | case1 => rintro ⟨⟩; exact .nil
  | case4 stale _ _ obj ho objs' hr ih => rintro ⟨⟩; exact .cons ⟨stale, ho⟩ (ih hr)
  | _ => nofun

theorem objects2DLoop_total {T : Tables} {cfg : Config2D} {time : Nat} {cams : List (String × SampleData)} :
    ∀ (l : List ObjectAnn) (stale : Option String),
      (∀ o ∈ l, ∀ st, ∃ obj, object2DOf T cfg time cams st o = .ok obj) →
      ∃ objs, objects2DLoop T cfg time cams stale l = .ok objs
  | [], _, _ => ⟨[], rfl⟩
  | o :: rest, stale, h => by
    obtain ⟨obj, ho⟩ := h o List.mem_cons_self stale
    obtain ⟨objs, hr⟩ := objects2DLoop_total rest (some obj.uuid)
      (fun x hx => h x (List.mem_cons_of_mem _ hx))
    exact ⟨obj :: objs, by simp [objects2DLoop, ho, hr]⟩

theorem sampleToFrame2D_ok {T : Tables} {cfg : Config2D} {n : Nat} {s : Sample} {f : Frame2D}
    (h : sampleToFrame2D T cfg n s = .ok f) :
    ∃ tf objs objs',
      transforms2D T (camerasOf T s.token cfg.frames) none = .ok tf ∧
      objects2DLoop T cfg s.timestamp (camerasOf T s.token cfg.frames) none
        (objectAnnsOf T (camerasOf T s.token cfg.frames)) = .ok objs ∧
      (if cfg.family = "traffic_light" ∧ cfg.task = "CLASSIFICATION2D"
        then mergeTrafficLights s.timestamp objs else .ok objs) = .ok objs' ∧
      f = { unixTime := s.timestamp, frameName := toString n, objects := objs', ego2map := tf } := by
  revert h
  fun_cases sampleToFrame2D T cfg n s with
  | case4 _ tf htf objs hobjs objs' hm =>
    rintro ⟨⟩
    exact ⟨tf, objs, objs', htf, hobjs, hm, rfl⟩
  | _ => nofun

theorem loadFrom2D_eq_mapM (T : Tables) (cfg : Config2D) : ∀ (l : List Sample) (n : Nat),
    loadFrom2D T cfg n l = (l.zipIdx n).mapM fun p => sampleToFrame2D T cfg p.2 p.1
  | [], _ => rfl
  | s :: l, n => by
    rw [loadFrom2D, List.zipIdx_cons, mapM_cons_eq, loadFrom2D_eq_mapM T cfg l]
    cases sampleToFrame2D T cfg n s with
    | error e => rfl
    | ok f => cases List.mapM (fun p => sampleToFrame2D T cfg p.2 p.1) (l.zipIdx (n + 1)) <;> rfl

theorem mergeOne_ok {time : Nat} {objs : List Obj2D} {uuid : String} {m : Obj2D}
    (h : mergeOne time objs uuid = .ok m) :
    m.uuid = uuid ∧ m.frame = "CAM_TRAFFIC_LIGHT" ∧ m.roi = none ∧ m.time = time ∧
    ∃ c ∈ objs, c.uuid = uuid ∧ m.label = c.label ∧ m.name = c.name ∧ m.attributes = c.attributes ∧
      ((∀ c' ∈ objs, c'.uuid = uuid → c'.label = m.label) ∨
       (m.label ≠ "UNKNOWN" ∧ (dedupFirst ((objs.filter (fun o => o.uuid == uuid)).map (·.label))).length = 2)) := by
  unfold mergeOne at h
  dsimp only at h
  split at h
  · cases h
  · rename_i c0 tl hc
    obtain ⟨c, hpick, rfl⟩ := map_eq_ok.1 h
    have hmem : ∀ {c}, c ∈ objs.filter (fun o => o.uuid == uuid) ↔ c ∈ objs ∧ c.uuid = uuid := by
      intro c
      rw [List.mem_filter, beq_iff_eq]
    refine ⟨rfl, rfl, rfl, rfl, c, ?_⟩
    split at hpick
    · rename_i hall
      cases hpick
      have hc0 := hmem.1 (hc ▸ List.mem_cons_self)
      exact ⟨hc0.1, hc0.2, rfl, rfl, rfl,
        .inl fun c' hc' hu => by simpa using List.all_eq_true.1 hall c' (hmem.2 ⟨hc', hu⟩)⟩
    · split at hpick
      · rename_i hlen
        split at hpick
        · rename_i c' hfind
          cases hpick
          have hcm := hmem.1 (List.mem_of_find?_eq_some hfind)
          exact ⟨hcm.1, hcm.2, rfl, rfl, rfl, .inr ⟨by simpa using List.find?_some hfind, hlen⟩⟩
        · cases hpick
      · cases hpick

/-- what "well-formed" means for the 2-D loader: every token it follows resolves, every sensor channel is
a `FrameID` value and no calibrated rotation is the zero quaternion (the signs of the quaternions are free) -/
structure WellFormed2D (T : Tables) : Prop where
  samples_ne : T.samples ≠ []
  ego : ∀ sd ∈ T.sampleData, ∃ e, lookup EgoPose.token T.egoPoses sd.egoPoseToken = .ok e
  sensors : ∀ cs ∈ T.calibratedSensors, ∃ sen m, lookup Sensor.token T.sensors cs.sensorToken = .ok sen ∧
    Enums.frameFromValue sen.channel = .ok m
  rotations : ∀ cs ∈ T.calibratedSensors, cs.rotation ≠ Quat.zero
  oann_category : ∀ o ∈ T.objectAnns, ∃ c, lookup Named.token T.categories o.categoryToken = .ok c
  oann_attributes : ∀ o ∈ T.objectAnns, ∀ t ∈ o.attributeTokens, ∃ x, lookup Named.token T.attributes t = .ok x
  oann_instance : ∀ o ∈ T.objectAnns, ∃ i ∈ T.instances, i.token = o.instanceToken

theorem transforms2D_total {T : Tables} (wf : WellFormed2D T) (cams : List (String × SampleData))
    (acc : Option Pose) (h : ∀ c ∈ cams, c.2 ∈ T.sampleData) : ∃ tf, transforms2D T cams acc = .ok tf := by
  obtain ⟨frs, hfrs⟩ := sensorFrames_total wf.sensors wf.rotations
  obtain ⟨egos, he⟩ := mapE_ok_of_forall (f := fun c => lookup EgoPose.token T.egoPoses c.2.egoPoseToken)
    fun c hc => wf.ego c.2 (h c hc)
  exact ⟨_, by rw [transforms2D_of_sensorFrames hfrs, he]; rfl⟩

theorem frameOfToken_some {cams : List (String × SampleData)} {tok : String}
    (h : (cams.map (·.2.token)).contains tok = true) : ∃ fr, frameOfToken cams tok = some fr := by
  obtain ⟨c, hc, hct⟩ := List.mem_map.1 (List.contains_iff_mem.1 h)
  unfold frameOfToken
  cases hf : cams.reverse.find? (fun c => c.2.token == tok) with
  | some c => exact ⟨c.1, rfl⟩
  | none => exact absurd (List.find?_eq_none.1 hf c (List.mem_reverse.2 hc)) (by simp [hct])

theorem object2DOf_total {T : Tables} (wf : WellFormed2D T) (cfg : Config2D) (time : Nat)
    (cams : List (String × SampleData)) (st : Option String) {o : ObjectAnn} (ho : o ∈ objectAnnsOf T cams) :
    ∃ obj, object2DOf T cfg time cams st o = .ok obj := by
  have hf := List.mem_filter.1 ho
  obtain ⟨cat, hcat⟩ := wf.oann_category o hf.1
  obtain ⟨attrs, hattrs⟩ := attributeNamesOfTokens_total (wf.oann_attributes o hf.1)
  obtain ⟨uuid, huuid⟩ : ∃ u, (if cfg.family = "traffic_light" then tlrUuid T st o
      else Except.ok o.instanceToken) = .ok u := by
    split
    · unfold tlrUuid
      cases hfi : T.instances.find? (fun i => i.token == o.instanceToken) with
      | some i => exact ⟨_, rfl⟩
      | none =>
        obtain ⟨i, hi, hit⟩ := wf.oann_instance o hf.1
        have := List.find?_eq_none.1 hfi i hi
        simp [hit] at this
    · exact ⟨_, rfl⟩
  obtain ⟨fr, hfr⟩ := frameOfToken_some hf.2
  simp only [object2DOf, hcat, hattrs, huuid, hfr]
  exact ⟨_, rfl⟩

theorem sampleToFrame2D_total {T : Tables} (wf : WellFormed2D T) (cfg : Config2D)
    (hnm : ¬ (cfg.family = "traffic_light" ∧ cfg.task = "CLASSIFICATION2D")) (n : Nat) (s : Sample) :
    ∃ f, sampleToFrame2D T cfg n s = .ok f := by
  have hc : ∀ c ∈ camerasOf T s.token cfg.frames, c.2 ∈ T.sampleData := by
    intro c hc
    exact dataOf_mem (mem_camerasOf.1 (show (c.1, c.2) ∈ _ from hc)).2
  obtain ⟨tf, htf⟩ := transforms2D_total wf _ none hc
  obtain ⟨objs, hobjs⟩ := objects2DLoop_total (T := T) (cfg := cfg) (time := s.timestamp)
    (cams := camerasOf T s.token cfg.frames) (objectAnnsOf T (camerasOf T s.token cfg.frames)) none
    (fun o ho st => object2DOf_total wf cfg _ _ st ho)
  simp only [sampleToFrame2D, htf, hobjs, hnm, if_false]
  exact ⟨_, rfl⟩

end PEval.Dataset
