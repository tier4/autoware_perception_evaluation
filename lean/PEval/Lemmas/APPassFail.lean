import PEval.Lemmas.Pipeline
import PEval.Lemmas.APMono
/-!
Threshold monotonicity of the PASS/FAIL accounting (C08): the model of C03 (`PEval/Model/PassFail.lean`:
`get_positive_objects` / `get_negative_objects` as `PassFailResult.evaluate` calls them, plane distance, `value < t`)
and the composed pipeline (`Pipeline.detectFrame`), next to the AP-model versions `AP.getPositive_runs` /
`AP.getNegative_runs`.

`ThrLooser r r'`: `r'` is the same object result as `r` (estimate, critical flag, ground truth, label compatibility,
plane distance) looked at under a pass/fail threshold that is at least as large, or under no threshold in both.
-/
namespace PEval.PassFail

def ThrLooser (r r' : Res) : Prop :=
  r'.est = r.est ∧ r'.estCrit = r.estCrit ∧ r'.gt = r.gt ∧ r'.labelOk = r.labelOk ∧ r'.score = r.score ∧
  (match r.thr, r'.thr with
   | none, none => True
   | some t, some t' => t ≤ t'
   | _, _ => False)

theorem isBetterThan_mono {s : Option Rat} {t t' : Rat} (h : t ≤ t') (hb : isBetterThan s t = true) :
    isBetterThan s t' = true := by
  cases s with
  | none => simp [isBetterThan] at hb
  | some v =>
    simp only [isBetterThan, decide_eq_true_eq] at hb ⊢
    exact lt_of_lt_of_le hb h

/-- ordinary ground truth: correct under the tighter threshold ⇒ correct under the looser one -/
theorem isResultCorrect_mono {r r' : Res} (h : ThrLooser r r') {g : GT} (hg : r.gt = some g)
    (hord : g.isFP = false) (hc : isResultCorrect r = true) : isResultCorrect r' = true := by
  obtain ⟨_, _, hgt, hlab, hsc, hthr⟩ := h
  unfold isResultCorrect at hc ⊢
  rw [hgt, hg, hlab, hsc]
  rw [hg] at hc
  generalize r.thr = o at hc hthr
  generalize r'.thr = o' at hthr ⊢
  match o, o', hthr with
  | none, none, _ => exact hc
  | some t, some t', hle =>
    simp only [hord, Bool.false_eq_true, if_false, Bool.and_eq_true] at hc ⊢
    exact ⟨isBetterThan_mono hle hc.1, hc.2⟩

theorem isTP_mono {r r' : Res} (h : ThrLooser r r') (ht : isTP r = true) : isTP r' = true := by
  obtain ⟨g, hg, hord, hc⟩ := (isTP_iff r).1 ht
  exact (isTP_iff r').2 ⟨g, h.2.2.1 ▸ hg, hord, isResultCorrect_mono h hg hord hc⟩

theorem gtStatusIs_fn_iff (r : Res) :
    gtStatusIs .FN r = true ↔ ∃ g, r.gt = some g ∧ g.isFP = false ∧ isResultCorrect r = false := by
  unfold gtStatusIs
  cases hg : r.gt with
  | none =>
    rw [getStatus_none r hg]
    exact ⟨fun h => (nomatch h), fun ⟨_, h, _⟩ => nomatch h⟩
  | some g =>
    rw [getStatus_some r g hg, show (∃ g', some g = some g' ∧ g'.isFP = false ∧ isResultCorrect r = false) ↔
      g.isFP = false ∧ isResultCorrect r = false from ⟨fun ⟨_, e, h⟩ => Option.some.inj e ▸ h, fun h => ⟨g, rfl, h⟩⟩]
    cases isResultCorrect r <;> cases g.isFP <;> decide

theorem gtStatusIs_fn_anti {r r' : Res} (h : ThrLooser r r') (hf : gtStatusIs .FN r' = true) :
    gtStatusIs .FN r = true := by
  obtain ⟨g, hg, hord, hc⟩ := (gtStatusIs_fn_iff r').1 hf
  have hg0 : r.gt = some g := h.2.2.1 ▸ hg
  refine (gtStatusIs_fn_iff r).2 ⟨g, hg0, hord, ?_⟩
  cases hc0 : isResultCorrect r with
  | false => rfl
  | true => rw [isResultCorrect_mono h hg0 hord hc0] at hc; cases hc

theorem resSurvives_eq {r r' : Res} (h : ThrLooser r r') : resSurvives r' = resSurvives r := by
  unfold resSurvives
  rw [h.2.1, h.2.2.1]

section Lists
variable {rs rs' : List Res}

theorem criticalResults_rel (h : List.Forall₂ ThrLooser rs rs') :
    List.Forall₂ ThrLooser (criticalResults rs) (criticalResults rs') := by
  unfold criticalResults
  induction h with
  | nil => exact .nil
  | @cons a b t t' hab _ ih =>
    simp only [List.filter_cons, resSurvives_eq hab]
    split
    · exact .cons hab ih
    · exact ih

theorem gtsOf_rel (h : List.Forall₂ ThrLooser rs rs') : gtsOf rs' = gtsOf rs := by
  unfold gtsOf
  induction h with
  | nil => rfl
  | @cons a b t t' hab _ ih => simp only [List.filterMap_cons, hab.2.2.1, ih]

/-- TP list: estimate ids under the tighter thresholds are a sub-list of those under the looser ones -/
theorem tp_rel (h : List.Forall₂ ThrLooser rs rs') :
    ((rs.filter isTP).map (·.est)).Sublist ((rs'.filter isTP).map (·.est)) := by
  induction h with
  | nil => exact List.Sublist.refl _
  | @cons a b t t' hab _ ih =>
    simp only [List.filter_cons]
    cases ha : isTP a with
    | true =>
      simp only [isTP_mono hab ha, if_true, List.map_cons, hab.1]
      exact List.Sublist.cons_cons _ ih
    | false =>
      cases hb : isTP b with
      | true =>
        simp only [Bool.false_eq_true, if_false, if_true, List.map_cons]
        exact List.Sublist.cons _ ih
      | false => simpa using ih

/-- FN ground truths attached to results: under the looser thresholds a sub-list of those under the tighter ones -/
theorem fn_rel (h : List.Forall₂ ThrLooser rs rs') :
    (gtsOf (rs'.filter (gtStatusIs .FN))).Sublist (gtsOf (rs.filter (gtStatusIs .FN))) := by
  unfold gtsOf
  induction h with
  | nil => exact List.Sublist.refl _
  | @cons a b t t' hab _ ih =>
    simp only [List.filter_cons]
    cases hb : gtStatusIs .FN b with
    | true =>
      obtain ⟨g, hg, _, _⟩ := (gtStatusIs_fn_iff b).1 hb
      have hga : a.gt = some g := hab.2.2.1 ▸ hg
      simp only [gtStatusIs_fn_anti hab hb, if_true, List.filterMap_cons, hg, hga]
      exact List.Sublist.cons_cons _ ih
    | false =>
      cases ha : gtStatusIs .FN a with
      | true =>
        simp only [Bool.false_eq_true, if_false, if_true, List.filterMap_cons]
        cases a.gt with
        | none => exact ih
        | some g => exact List.Sublist.cons _ ih
      | false => simpa using ih

/-- `PassFailResult.evaluate` on the same results under looser thresholds: TP (estimate ids) only grows, FN only shrinks -/
theorem evaluate_mono (gts : List GT) (h : List.Forall₂ ThrLooser rs rs') :
    ((evaluate rs gts).tp.map (·.est)).Sublist ((evaluate rs' gts).tp.map (·.est))
      ∧ (evaluate rs' gts).fn.Sublist (evaluate rs gts).fn := by
  unfold evaluate
  simp only [getPositive_fst, getNegative_eq, gtsOf_rel h]
  exact ⟨tp_rel h, List.Sublist.append (fn_rel h) (List.Sublist.refl _)⟩

end Lists

end PEval.PassFail

namespace PEval.Pipeline
open PEval

/-- the frame with another pass/fail threshold list (everything else untouched) -/
def withPfThrs (f : Frame) (th' : List Rat) : Frame := { f with pfThrs := some th' }

theorem looser_plane_of_le {th th' : List Rat} (h : List.Forall₂ (· ≤ ·) th th') :
    List.Forall₂ (AP.looser .planeDistance) th th' :=
  forall₂_imp h fun _ _ _ hab => by simpa [AP.looser, AP.Mode.isDistance] using hab

/-- the pass/fail threshold of ground truth `j` under the larger list: none under both, or not smaller (the last component
of `ThrLooser`) -/
theorem pfThr_rel (f : Frame) {th th' : List Rat} (hf : f.pfThrs = some th)
    (hth : List.Forall₂ (· ≤ ·) th th') (j : Nat) : AP.optLe (pfThr f j) (pfThr (withPfThrs f th') j) := by
  unfold pfThr pfThrOf withPfThrs
  dsimp only
  rw [hf]
  rcases AP.getLabelThreshold_rel (m := .planeDistance) (f.gt j).label f.pfTargets (looser_plane_of_le hth)
    with ⟨e, he, he'⟩ | ⟨o, o', ho, ho', hoo, _⟩
  · rw [he, he']
    trivial
  · rw [ho, ho']
    cases o <;> cases o' <;> simp_all [AP.optLe, AP.optLooser, AP.looser, AP.Mode.isDistance]

theorem toPFRes_thrLooser (f : Frame) {th th' : List Rat} (hf : f.pfThrs = some th)
    (hth : List.Forall₂ (· ≤ ·) th th') (r : Matching.Res) :
    PassFail.ThrLooser (toPFRes f r) (toPFRes (withPfThrs f th') r) := by
  obtain ⟨i, o⟩ := r
  cases o with
  | none => exact ⟨rfl, rfl, rfl, rfl, rfl, trivial⟩
  | some j => exact ⟨rfl, rfl, rfl, rfl, rfl, pfThr_rel f hf hth j⟩

theorem map_toPFRes_rel (f : Frame) {th th' : List Rat} (hf : f.pfThrs = some th)
    (hth : List.Forall₂ (· ≤ ·) th th') (rs : List Matching.Res) :
    List.Forall₂ PassFail.ThrLooser (rs.map (toPFRes f)) (rs.map (toPFRes (withPfThrs f th'))) := by
  induction rs with
  | nil => exact .nil
  | cons r t ih => exact .cons (toPFRes_thrLooser f hf hth r) ih

end PEval.Pipeline
