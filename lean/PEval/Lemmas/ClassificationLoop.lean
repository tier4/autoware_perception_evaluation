import PEval.Model.Classification
/-!
The double loops of the id-based matchers are one loop over the pairs `pairs es gs` (`outer_eq_loop`). The guarded loop in
closed form (`loop_stepG`): it raises iff a pair has a null uuid and otherwise folds `pick` (take the pair iff it satisfies
the condition and both members are still available) over the pairs; the unguarded loop, when it answers, has done the same
and has taken every pair that satisfies the condition (`stepU_ok`, `loop_ok`, `loop_stepU_complete`). `Stage` says what a
fold of `pick` does: the pairs it appends, the split of estimates / ground truths between working copy and result list
(`WF`) that it keeps, and that no pair satisfying the condition stays available.
-/
namespace PEval.Classification

/-- identity of an object for matching purposes: uuid and camera frame -/
def key (o : Obj) : Option String × String := (o.uuid, o.frame)

/-- the pairs in the order the double loop visits them -/
def pairs {α β : Type} (es : List α) (gs : List β) : List (α × β) := es.flatMap fun e => gs.map fun g => (e, g)

theorem mem_pairs {α β : Type} {es : List α} {gs : List β} {p : α × β} : p ∈ pairs es gs ↔ p.1 ∈ es ∧ p.2 ∈ gs := by
  simp only [pairs, List.mem_flatMap, List.mem_map]
  exact ⟨fun ⟨e, he, g, hg, h⟩ => h ▸ ⟨he, hg⟩, fun h => ⟨p.1, h.1, p.2, h.2, rfl⟩⟩

theorem pairs_map {α β γ δ : Type} (f : α → γ) (h : β → δ) (es : List α) (gs : List β) :
    pairs (es.map f) (gs.map h) = (pairs es gs).map (Prod.map f h) := by
  simp only [pairs, List.flatMap_map, List.map_flatMap, List.map_map]
  rfl

/-- the loop body run over a list of pairs; an exception ends the loop -/
def loop (step : Obj → Obj → St → Except Err St) : List (Obj × Obj) → St → Except Err St
  | [], s => .ok s
  | p :: ps, s =>
    match step p.1 p.2 s with
    | .ok s' => loop step ps s'
    | .error x => .error x

theorem loop_append (step : Obj → Obj → St → Except Err St) (qs ps : List (Obj × Obj)) (s : St) :
    loop step (ps ++ qs) s = match loop step ps s with | .ok s' => loop step qs s' | .error x => .error x := by
  fun_induction loop step ps s with
  | case1 s => rfl
  | case2 p ps s s' h ih => rw [List.cons_append, loop, h]; exact ih
  | case3 p ps s x h => rw [List.cons_append, loop, h]

theorem inner_eq_loop (step : Obj → Obj → St → Except Err St) (e : Obj) (gs : List Obj) (s : St) :
    inner step e gs s = loop step (gs.map fun g => (e, g)) s := by
  fun_induction inner step e gs s with
  | case1 s => rfl
  | case2 g gs s s' h ih => rw [List.map_cons, loop, h]; exact ih
  | case3 g gs s x h => rw [List.map_cons, loop, h]

theorem outer_eq_loop (step : Obj → Obj → St → Except Err St) (gs es : List Obj) (s : St) :
    outer step gs es s = loop step (pairs es gs) s := by
  have hp (e : Obj) (es : List Obj) : pairs (e :: es) gs = (gs.map fun g => (e, g)) ++ pairs es gs := rfl
  fun_induction outer step gs es s with
  | case1 s => rfl
  | case2 e es s s' h ih => rw [hp, loop_append, ← inner_eq_loop, h]; exact ih
  | case3 e es s x h => rw [hp, loop_append, ← inner_eq_loop, h]

variable {step : Obj → Obj → St → Except Err St} {c : Obj → Obj → Bool}

/-- the only state changes: take a pair satisfying the condition whose members are both still in the
working copies, or leave the state alone -/
inductive Move (c : Obj → Obj → Bool) (e g : Obj) (s : St) : St → Prop
  | take : c e g = true → e ∈ s.es → g ∈ s.gs → Move c e g s (take e g s)
  | skip : Move c e g s s

structure Shrinks (s s' : St) : Prop where
  es : s'.es.Sublist s.es
  gs : s'.gs.Sublist s.gs

theorem Move.shrinks {e g : Obj} {s s' : St} (h : Move c e g s s') : Shrinks s s' := by
  cases h with
  | take _ _ _ => exact ⟨List.erase_sublist, List.erase_sublist⟩
  | skip => exact ⟨.refl _, .refl _⟩

/-- every estimate (ground truth) is either still in the working copy or in exactly one pair -/
structure WF (ests gts : List Obj) (s : St) : Prop where
  es : ests.Perm (s.es ++ s.res.map Prod.fst)
  gs : gts.Perm (s.gs ++ s.res.map Prod.snd)

theorem wf_init (ests gts : List Obj) : WF ests gts (initSt ests gts) := by
  constructor <;> simp [initSt]

theorem perm_take {l r : List Obj} {a : Obj} (h : a ∈ l) : (l ++ r).Perm (l.erase a ++ (r ++ [a])) :=
  ((List.perm_cons_erase h).append_right r).trans <| by
    rw [← List.append_assoc]; exact (List.perm_append_singleton a _).symm

theorem Move.wf {e g : Obj} {s s' : St} {ests gts : List Obj}
    (h : Move c e g s s') (w : WF ests gts s) : WF ests gts s' := by
  cases h with
  | take _ he hg =>
    constructor
    · show ests.Perm (s.es.erase e ++ (s.res ++ [(e, g)]).map Prod.fst)
      rw [List.map_append]; exact w.es.trans (perm_take he)
    · show gts.Perm (s.gs.erase g ++ (s.res ++ [(e, g)]).map Prod.snd)
      rw [List.map_append]; exact w.gs.trans (perm_take hg)
  | skip => exact w

def AllRes (d : Obj → Obj → Prop) (s : St) : Prop := ∀ p ∈ s.res, d p.1 p.2

theorem Move.allRes {c : Obj → Obj → Bool} {d : Obj → Obj → Prop} {e g : Obj} {s s' : St}
    (h : Move c e g s s') (hd : c e g = true → d e g) (a : AllRes d s) : AllRes d s' := by
  cases h with
  | take hc _ _ => exact List.forall_mem_append.2 ⟨a, fun p hp => List.mem_singleton.1 hp ▸ hd hc⟩
  | skip => exact a

theorem WF.mem_es {ests gts : List Obj} {s : St} (w : WF ests gts s) (x : Obj) :
    x ∈ ests ↔ x ∈ s.es ∨ x ∈ s.res.map Prod.fst := by
  rw [w.es.mem_iff, List.mem_append]

theorem WF.mem_gs {ests gts : List Obj} {s : St} (w : WF ests gts s) (x : Obj) :
    x ∈ gts ↔ x ∈ s.gs ∨ x ∈ s.res.map Prod.snd := by
  rw [w.gs.mem_iff, List.mem_append]

theorem WF.mem_of_res {ests gts : List Obj} {s : St} (w : WF ests gts s) {p : Obj × Obj} (hp : p ∈ s.res) :
    p.1 ∈ ests ∧ p.2 ∈ gts :=
  ⟨(w.mem_es _).2 (Or.inr (List.mem_map_of_mem hp)), (w.mem_gs _).2 (Or.inr (List.mem_map_of_mem hp))⟩

/-- what a loop body that does not raise does to the state: the pair is taken iff it satisfies the condition and both
members are still in the working copies -/
def pick (c : Obj → Obj → Bool) (s : St) (p : Obj × Obj) : St :=
  if c p.1 p.2 = true ∧ p.1 ∈ s.es ∧ p.2 ∈ s.gs then take p.1 p.2 s else s

theorem stepG_eq (c : Obj → Obj → Bool) (e g : Obj) (s : St) :
    stepG c e g s = if nullUuid e g then .error "RuntimeError" else .ok (pick c s (e, g)) := by
  unfold stepG pick
  split
  · rfl
  · simp only [Bool.and_eq_true, decide_eq_true_eq, and_assoc]
    split <;> rfl

theorem loop_stepG (c : Obj → Obj → Bool) : ∀ (ps : List (Obj × Obj)) (s : St),
    loop (stepG c) ps s =
      if ps.any (fun p => nullUuid p.1 p.2) then .error "RuntimeError" else .ok (ps.foldl (pick c) s)
  | [], _ => rfl
  | p :: ps, s => by
    rw [loop, stepG_eq, List.any_cons, List.foldl_cons]
    cases nullUuid p.1 p.2
    · exact loop_stepG c ps _
    · rfl

theorem pick_move (c : Obj → Obj → Bool) (s : St) (p : Obj × Obj) : Move c p.1 p.2 s (pick c s p) := by
  unfold pick
  split
  · rename_i h
    exact .take h.1 h.2.1 h.2.2
  · exact .skip

/-- `s'` arises from `s` by folding `pick c` over `ps`; `t` are the pairs appended on the way.  `max` needs distinct
estimates only: a pair that is taken removes its estimate from `es`, so it is not available afterwards whether or not a
duplicate of its ground truth stays in `gs`; a pair that is skipped lacked the condition or a member, and members never
come back -/
structure Stage (c : Obj → Obj → Bool) (ps : List (Obj × Obj)) (s s' : St) (t : List (Obj × Obj)) : Prop where
  res : s'.res = s.res ++ t
  new : ∀ p ∈ t, p ∈ ps ∧ c p.1 p.2 = true ∧ p.1 ∈ s.es ∧ p.2 ∈ s.gs
  es : s'.es.Sublist s.es
  gs : s'.gs.Sublist s.gs
  wf : ∀ {E G : List Obj}, WF E G s → WF E G s'
  max : s.es.Nodup → ∀ p ∈ ps, ¬(c p.1 p.2 = true ∧ p.1 ∈ s'.es ∧ p.2 ∈ s'.gs)

theorem stage_foldl (c : Obj → Obj → Bool) :
    ∀ (ps : List (Obj × Obj)) (s : St), ∃ t, Stage c ps s (ps.foldl (pick c) s) t
  | [], s => ⟨[], (List.append_nil _).symm, (fun _ h => nomatch h), .refl _, .refl _, id, fun _ _ h => nomatch h⟩
  | p :: ps, s => by
    obtain ⟨t, S⟩ := stage_foldl c ps (pick c s p)
    have hm := pick_move c s p
    have sh := hm.shrinks
    rw [List.foldl_cons]
    by_cases hp : c p.1 p.2 = true ∧ p.1 ∈ s.es ∧ p.2 ∈ s.gs
    · have e1 : pick c s p = take p.1 p.2 s := if_pos hp
      refine ⟨p :: t, by rw [S.res, e1]; simp [take], List.forall_mem_cons.2 ⟨⟨List.mem_cons_self, hp⟩, fun q hq => ?_⟩,
        S.es.trans sh.es, S.gs.trans sh.gs, fun w => S.wf (hm.wf w),
        fun hnd => List.forall_mem_cons.2 ⟨fun hh => ?_, S.max (sh.es.nodup hnd)⟩⟩
      · obtain ⟨h1, h2, h3, h4⟩ := S.new q hq
        exact ⟨List.mem_cons_of_mem _ h1, h2, sh.es.subset h3, sh.gs.subset h4⟩
      · have hh1 := S.es.subset hh.2.1
        rw [e1] at hh1
        exact hnd.not_mem_erase hh1
    · rw [show pick c s p = s from if_neg hp] at S ⊢
      exact ⟨t, S.res, fun q hq => let ⟨h1, h2⟩ := S.new q hq; ⟨List.mem_cons_of_mem _ h1, h2⟩, S.es, S.gs, S.wf,
        fun hnd => List.forall_mem_cons.2 ⟨fun hh => hp ⟨hh.1, S.es.subset hh.2.1, S.gs.subset hh.2.2⟩, S.max hnd⟩⟩

theorem loop_stepG_ok {ps : List (Obj × Obj)} {s s' : St} (h : loop (stepG c) ps s = .ok s') :
    (ps.any fun p => nullUuid p.1 p.2) = false ∧ ∃ t, Stage c ps s s' t := by
  rw [loop_stepG] at h
  split at h
  · cases h
  · cases h
    exact ⟨Bool.eq_false_iff.2 ‹_›, stage_foldl c ps s⟩

theorem stepG_is_move {e g : Obj} {s s' : St} (h : stepG c e g s = .ok s') : Move c e g s s' := by
  rw [stepG_eq] at h
  split at h
  · cases h
  · cases h
    exact pick_move c s (e, g)

theorem stepU_ok {e g : Obj} {s s' : St} (h : stepU c e g s = .ok s') :
    stepG c e g s = .ok s' ∧ (c e g = true → (e, g) ∈ s'.res) := by
  rw [stepG_eq]
  revert h
  -- the five exits of the unguarded body: it answers when the pair is taken and when the condition fails
  fun_cases stepU c e g s
  case case2 hn hc he hg =>
    rintro ⟨⟩
    exact ⟨by rw [if_neg hn, pick, if_pos ⟨hc, he, hg⟩], fun _ => by simp [take]⟩
  case case5 hn hc =>
    rintro ⟨⟩
    exact ⟨by rw [if_neg hn, pick, if_neg fun hh => hc hh.1], fun h => absurd h hc⟩
  all_goals exact nofun

theorem loop_ok (hstep : ∀ e g s s', step e g s = .ok s' → stepG c e g s = .ok s')
    (ps : List (Obj × Obj)) (s s' : St) (h : loop step ps s = .ok s') : loop (stepG c) ps s = .ok s' := by
  fun_induction loop step ps s with
  | case1 s => exact h
  | case2 p ps s s1 h1 ih => rw [loop, hstep _ _ _ _ h1]; exact ih h
  | case3 p ps s x h1 => cases h

theorem loop_stepU_complete (ps : List (Obj × Obj)) (s s' : St) (h : loop (stepU c) ps s = .ok s') :
    ∀ p ∈ ps, c p.1 p.2 = true → p ∈ s'.res := by
  fun_induction loop (stepU c) ps s with
  | case1 s => exact fun _ hq => nomatch hq
  | case2 p ps s s1 h1 ih =>
    -- the pair just visited was taken by `stepU` and the rest of the loop only appends; the later pairs by induction
    rw [List.forall_mem_cons]
    refine ⟨fun hc => ?_, ih h⟩
    obtain ⟨_, t, S⟩ := loop_stepG_ok (loop_ok (fun _ _ _ _ h => (stepU_ok h).1) ps s1 s' h)
    rw [S.res]
    exact List.mem_append_left _ ((stepU_ok h1).2 hc)
  | case3 p ps s x h1 => cases h

end PEval.Classification
