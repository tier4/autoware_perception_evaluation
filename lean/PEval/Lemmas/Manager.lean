import PEval.Model.Manager
import PEval.Lemmas.ListBasics
/-!
The machines of the manager models (`run`, `runW`, `ManagerTracking.trun`, `ManagerHeap.hrunV`) all thread
a state through a list of operations and collect the answers.  `runWith` is that shape; what holds of
every such machine — runs compose, a property that every step keeps is kept by the run, a step-wise
simulation is a run-wise one — is proved once for it, and each machine is tied to it by one equation.

Then: what a per-label accumulation loop (`get_scene_result`) leaves at index `l`, the search of
`get_now_frame`, the invariants of `run` over arbitrary operation lists, and the scene accumulators in
closed form.
-/

namespace PEval.Manager

section Machine
variable {S S' O O' R R' A : Type}

def runWith (step : S → O → S × R) : S → List O → S × List R
  | s, [] => (s, [])
  | s, op :: ops => ((runWith step (step s op).1 ops).1, (step s op).2 :: (runWith step (step s op).1 ops).2)

theorem runWith_append (step : S → O → S × R) (s : S) (a b : List O) :
    runWith step s (a ++ b)
      = ((runWith step (runWith step s a).1 b).1, (runWith step s a).2 ++ (runWith step (runWith step s a).1 b).2) := by
  induction a generalizing s with
  | nil => rfl
  | cons op a ih => simp only [List.cons_append, runWith, ih]

theorem runWith_getLast? (step : S → O → S × R) (s : S) (pre : List O) (op : O) :
    (runWith step s (pre ++ [op])).2.getLast? = some (step (runWith step s pre).1 op).2 := by
  rw [runWith_append]; simp [runWith]

theorem runWith_inv {step : S → O → S × R} (P : S → Prop) {ops : List O}
    (h : ∀ s, ∀ op ∈ ops, P s → P (step s op).1) {s : S} (hs : P s) : P (runWith step s ops).1 := by
  induction ops generalizing s with
  | nil => exact hs
  | cons op ops ih =>
    exact ih (fun s o ho => h s o (List.mem_cons_of_mem _ ho)) (h s op List.mem_cons_self hs)

/-- two machines, operations translated by `fo`, answers compared through `fr` / `fr'`: if every step
keeps the states related and gives matching answers, so does every run -/
theorem runWith_sim {step : S → O → S × R} {step' : S' → O' → S' × R'} (Rel : S → S' → Prop) (fo : O → O')
    (fr : R → A) (fr' : R' → A) {ops : List O}
    (h : ∀ s s', ∀ op ∈ ops, Rel s s' →
      Rel (step s op).1 (step' s' (fo op)).1 ∧ fr (step s op).2 = fr' (step' s' (fo op)).2)
    {s : S} {s' : S'} (hs : Rel s s') :
    Rel (runWith step s ops).1 (runWith step' s' (ops.map fo)).1 ∧
    (runWith step s ops).2.map fr = (runWith step' s' (ops.map fo)).2.map fr' := by
  induction ops generalizing s s' with
  | nil => exact ⟨hs, rfl⟩
  | cons op ops ih =>
    obtain ⟨h1, h2⟩ := h s s' op List.mem_cons_self hs
    obtain ⟨i1, i2⟩ := ih (fun s s' o ho => h s s' o (List.mem_cons_of_mem _ ho)) h1
    exact ⟨i1, by simp only [List.map_cons, runWith, h2, i2]⟩

/-- operations that leave the state alone (queries) can be struck from the end of a list: after `pre, op, qs` the
machine is where `op` left it -/
theorem runWith_snoc_fixed {step : S → O → S × R} {qs : List O} (hq : ∀ s, ∀ q ∈ qs, (step s q).1 = s) (s : S)
    (pre : List O) (op : O) :
    (runWith step s (pre ++ [op] ++ qs)).1 = (step (runWith step s pre).1 op).1 := by
  rw [runWith_append, runWith_append]
  exact runWith_inv (· = (step (runWith step s pre).1 op).1) (fun s' q h e => (hq s' q h).trans e) rfl

end Machine

section Folds
variable {α β : Type}

theorem foldl_snoc (h : β → α) (xs : List β) (b : List α) :
    xs.foldl (fun b x => b ++ [h x]) b = b ++ xs.map h := by
  induction xs generalizing b with
  | nil => simp
  | cons x xs ih => simp [ih]

theorem getElem?_foldl_mapIdx (g : Nat → α → β → α) (xs : List β) (acc : List α) (l : Nat) :
    (xs.foldl (fun acc x => acc.mapIdx fun l a => g l a x) acc)[l]? = acc[l]?.map fun a => xs.foldl (g l) a := by
  induction xs generalizing acc with
  | nil => simp
  | cons x xs ih =>
    rw [List.foldl_cons, ih, List.getElem?_mapIdx]
    cases acc[l]? <;> rfl

/-- `get_now_frame`'s search keeps the first element with the strictly smallest key `d`: the winner is the
start value or one of the elements -/
theorem foldl_best_mem (d : α → Nat) (ds : List α) (b : α × Nat) (S : List α) (hb : b.1 ∈ S)
    (hds : ∀ f ∈ ds, f ∈ S) : (ds.foldl (fun (b : α × Nat) f => if d f < b.2 then (f, d f) else b) b).1 ∈ S := by
  induction ds generalizing b with
  | nil => exact hb
  | cons f fs ih =>
    refine ih _ ?_ fun g hg => hds g (List.mem_cons_of_mem _ hg)
    show (if _ then _ else _ : α × Nat).1 ∈ S
    split
    · exact hds f List.mem_cons_self
    · exact hb

theorem foldl_best_map (φ : α → β) (d : β → Nat) (ds : List α) (b : α × Nat) :
    (ds.map φ).foldl (fun (b : β × Nat) f => if d f < b.2 then (f, d f) else b) (φ b.1, b.2)
      = Prod.map φ id (ds.foldl (fun (b : α × Nat) r => if d (φ r) < b.2 then (r, d (φ r)) else b) b) := by
  rw [List.foldl_map]
  exact List.foldl_hom (Prod.map φ id) fun x y => by
    show (if d (φ y) < x.2 then _ else _) = _
    split <;> rfl

/-- `get_now_frame` over any kind of element with a distance `d` to the requested time: `IndexError` on
an empty list, nothing beyond the tolerance `thr`, else the first element at the smallest distance.
`getGT` searches frames, `ManagerHeap.hgetGT` references. -/
def nearest (d : α → Nat) (thr : Int) (ds : List α) : Except Err (Option α) :=
  match ds with
  | [] => .error "IndexError"
  | f0 :: _ =>
    let best := ds.foldl (fun (b : α × Nat) f => if d f < b.2 then (f, d f) else b) (f0, d f0)
    if (best.2 : Int) > thr then .ok none else .ok (some best.1)

theorem nearest_mem {d : α → Nat} {thr : Int} {ds : List α} {a : α} (h : nearest d thr ds = .ok (some a)) :
    a ∈ ds := by
  cases ds with
  | nil => cases h
  | cons f0 rest =>
    simp only [nearest] at h
    split at h
    · cases h
    · cases h; exact foldl_best_mem d _ _ _ List.mem_cons_self fun _ hg => hg

theorem nearest_map (φ : α → β) (d : β → Nat) (thr : Int) (ds : List α) :
    (nearest (fun a => d (φ a)) thr ds).map (Option.map φ) = nearest d thr (ds.map φ) := by
  cases ds with
  | nil => rfl
  | cons f0 rest =>
    simp only [nearest, List.map_cons]
    rw [← List.map_cons, foldl_best_map φ d (f0 :: rest) (f0, d (φ f0))]
    exact apply_ite (Except.map (Option.map φ)) ..

end Folds

variable {E C T : Type}

theorem run_eq (sem : Sem E C T) (s : State T) (ops : List (Op E C)) : run sem s ops = runWith (step sem) s ops := by
  induction ops generalizing s with
  | nil => rfl
  | cons op ops ih => simp only [run, runWith, ih]

theorem runW_eq (sem : Sem E C T) (w : World E T) (ops : List (OpW C)) :
    runW sem w ops = runWith (stepW sem) w ops := by
  induction ops generalizing w with
  | nil => rfl
  | cons op ops ih => simp only [runW, runWith, ih]

theorem step_dataset (sem : Sem E C T) (s : State T) (op : Op E C) : (step sem s op).1.dataset = s.dataset := by
  cases op <;> rfl

theorem run_dataset (sem : Sem E C T) (s : State T) (ops : List (Op E C)) : (run sem s ops).1.dataset = s.dataset := by
  rw [run_eq]
  exact runWith_inv (·.dataset = s.dataset) (fun s' op _ h => (step_dataset sem s' op).trans h) rfl

theorem step_query (sem : Sem E C T) (s : State T) (op : Op E C) (h : op.isQuery = true) : (step sem s op).1 = s := by
  cases op
  · cases h
  · rfl
  · rfl

theorem run_queries (sem : Sem E C T) (s : State T) (ops : List (Op E C)) (h : ∀ op ∈ ops, op.isQuery = true) :
    (run sem s ops).1 = s := by
  rw [run_eq]
  exact runWith_inv (· = s) (fun s' op ho hs => (step_query sem s' op (h op ho)).trans hs) rfl

theorem run_state_append (sem : Sem E C T) (s : State T) (a b : List (Op E C)) :
    (run sem s (a ++ b)).1 = (run sem (run sem s a).1 b).1 := by
  simp only [run_eq, runWith_append]

theorem lastOut_append_one (sem : Sem E C T) (s : State T) (pre : List (Op E C)) (op : Op E C) :
    lastOut sem s (pre ++ [op]) = some (step sem (run sem s pre).1 op).2 := by
  simp only [lastOut, run_eq]; exact runWith_getLast? _ s pre op

/-- the calls `add(g, e, c)` of an operation list, in order: `addsDet` (and `addsTB`, `addsDetT` of the
tracking machine) evaluate each of them afresh -/
def adds : List (Op E C) → List (Frame × E × C)
  | [] => []
  | .add g e c :: ops => (g, e, c) :: adds ops
  | _ :: ops => adds ops

theorem adds_append (a b : List (Op E C)) : adds (a ++ b) = adds a ++ adds b := by
  induction a with
  | nil => rfl
  | cons op a ih => cases op <;> simp only [List.cons_append, adds, ih]

theorem adds_queries {ops : List (Op E C)} (h : ∀ op ∈ ops, op.isQuery = true) : adds ops = [] := by
  fun_induction adds ops with
  | case1 => rfl
  | case2 g e c ops => cases h _ List.mem_cons_self
  | case3 op ops _ ih => exact ih fun o ho => h o (List.mem_cons_of_mem _ ho)

theorem adds_single {qs₁ qs₂ : List (Op E C)} (h₁ : ∀ op ∈ qs₁, op.isQuery = true)
    (h₂ : ∀ op ∈ qs₂, op.isQuery = true) (g : Frame) (e : E) (c : C) :
    adds (qs₁ ++ [.add g e c] ++ qs₂) = [(g, e, c)] := by
  rw [adds_append, adds_append, adds_queries h₁, adds_queries h₂]; rfl

theorem addsDet_eq (sem : Sem E C T) (ops : List (Op E C)) :
    addsDet sem ops = (adds ops).map fun a => sem.evalDet a.1 a.2.1 a.2.2 := by
  induction ops with
  | nil => rfl
  | cons op ops ih => cases op <;> simp only [addsDet, adds, ih, List.map_cons]

theorem map_det {α : Type} (f : Det → α) (rs : List (FrameResult T)) :
    rs.map (fun r => f r.det) = (rs.map (·.det)).map f :=
  (List.map_map ..).symm

/-- the stored detection parts are exactly the fresh evaluations of the `add`s, in order -/
theorem run_frameResults_det (sem : Sem E C T) (s : State T) (ops : List (Op E C)) :
    (run sem s ops).1.frameResults.map (·.det) = s.frameResults.map (·.det) ++ addsDet sem ops := by
  induction ops generalizing s with
  | nil => simp [run, addsDet]
  | cons op ops ih =>
    simp only [run]
    rw [ih]
    cases op <;> simp [step, addFrameResult, evalFrame, addsDet]

/-- the predecessor seen by an `add` is the last stored result: after `… add(g, e, c), queries` its
detection part is the evaluation of that call -/
theorem run_last_det_add (sem : Sem E C T) (s : State T) (pre qs : List (Op E C))
    (hq : ∀ op ∈ qs, op.isQuery = true) (g : Frame) (e : E) (c : C) :
    (run sem s (pre ++ [.add g e c] ++ qs)).1.frameResults.getLast?.map (·.det) = some (sem.evalDet g e c) := by
  rw [run_eq, runWith_snoc_fixed fun s q h => step_query sem s q (hq q h)]
  simp [step, addFrameResult, evalFrame]

/-- the three accumulators are folded independently -/
theorem foldl_sceneAdd (frs : List (FrameResult T)) (sc : Scene) :
    frs.foldl sceneAdd sc =
      { results := frs.foldl (fun acc fr => acc.mapIdx fun l b => b ++ [fr.det.bucket l]) sc.results
        numGt := frs.foldl (fun acc fr => acc.mapIdx fun l n => n + fr.det.gt l) sc.numGt
        usedFrame := sc.usedFrame ++ frs.map (·.frameName) } := by
  induction frs generalizing sc with
  | nil => simp
  | cons fr frs ih => simp [ih, sceneAdd]

theorem foldl_sceneAdd_results (frs : List (FrameResult T)) (sc : Scene) (l : Nat) :
    (frs.foldl sceneAdd sc).results[l]? = sc.results[l]?.map (· ++ frs.map (·.det.bucket l)) := by
  simp only [foldl_sceneAdd, getElem?_foldl_mapIdx, foldl_snoc]

theorem foldl_sceneAdd_numGt (frs : List (FrameResult T)) (sc : Scene) (l : Nat) :
    (frs.foldl sceneAdd sc).numGt[l]? = sc.numGt[l]?.map (· + (frs.map (·.det.gt l)).sum) := by
  simp only [foldl_sceneAdd, getElem?_foldl_mapIdx, foldl_add]

theorem foldl_sceneAdd_length (frs : List (FrameResult T)) (sc : Scene) :
    (frs.foldl sceneAdd sc).numGt.length = sc.numGt.length := by
  induction frs generalizing sc with
  | nil => rfl
  | cons fr frs ih => simp only [List.foldl_cons]; rw [ih]; simp [sceneAdd]

/-- the nested list handed to `Ap` for label `l`: the initial `[]`, then one bucket per stored frame -/
theorem scene_results (nl : Nat) (s : State T) (l : Nat) (hl : l < nl) :
    (getSceneResult nl s).results.getD l [] = [] :: s.frameResults.map (·.det.bucket l) := by
  unfold getSceneResult
  rw [List.getD_eq_getElem?_getD, foldl_sceneAdd_results]
  simp [sceneInit, hl]

theorem scene_pooled (nl : Nat) (s : State T) (l : Nat) (hl : l < nl) :
    (getSceneResult nl s).pooled l = (s.frameResults.map (·.det.bucket l)).flatten := by
  unfold Scene.pooled
  rw [scene_results nl s l hl]
  rfl

theorem scene_gt (nl : Nat) (s : State T) (l : Nat) (hl : l < nl) :
    (getSceneResult nl s).gt l = (s.frameResults.map (·.det.gt l)).sum := by
  unfold Scene.gt getSceneResult
  rw [List.getD_eq_getElem?_getD, foldl_sceneAdd_numGt]
  simp [sceneInit, hl]

/-- the whole `all_num_gt` table -/
theorem scene_numGt_list (nl : Nat) (s : State T) :
    (getSceneResult nl s).numGt = (List.range nl).map (fun l => (s.frameResults.map (·.det.gt l)).sum) := by
  apply List.ext_getElem?
  intro l
  unfold getSceneResult
  rw [foldl_sceneAdd_numGt]
  by_cases hl : l < nl <;> simp [sceneInit, hl]

theorem scene_usedFrame (nl : Nat) (s : State T) :
    (getSceneResult nl s).usedFrame = s.frameResults.map (·.frameName) := by
  unfold getSceneResult
  rw [foldl_sceneAdd]; rfl

/-- a label outside the target labels has no bucket: nothing is pooled for it -/
theorem scene_pooled_out (nl : Nat) (s : State T) (l : Nat) (hl : nl ≤ l) :
    (getSceneResult nl s).pooled l = [] ∧ (getSceneResult nl s).gt l = 0 := by
  unfold Scene.pooled Scene.gt getSceneResult
  rw [List.getD_eq_getElem?_getD, List.getD_eq_getElem?_getD, foldl_sceneAdd_results, foldl_sceneAdd_numGt]
  simp [sceneInit, hl]

/-- the scene score reads a state only through the detection parts of its stored results -/
theorem scene_score (nl : Nat) (s : State T) (l : Nat) (hl : l < nl) (ap : List Res → Nat → Option Rat) :
    (getSceneResult nl s).score ap l
      = ap ((s.frameResults.map (·.det)).map (·.bucket l)).flatten ((s.frameResults.map (·.det)).map (·.gt l)).sum := by
  unfold Scene.score
  rw [scene_pooled nl s l hl, scene_gt nl s l hl, map_det (·.bucket l), map_det (·.gt l)]

theorem getGT_eq (s : State T) (t thr : Int) :
    getGT s t thr = if t > 10 ^ 17 then .error "DatasetLoadingError"
      else nearest (fun f => (t - f.time).natAbs) thr s.dataset := by
  unfold getGT nearest
  cases s.dataset <;> rfl

theorem getGT_mem (s : State T) (t thr : Int) (f : Frame) (h : getGT s t thr = .ok (some f)) : f ∈ s.dataset := by
  rw [getGT_eq] at h
  split at h
  · cases h
  · exact nearest_mem h

end PEval.Manager
