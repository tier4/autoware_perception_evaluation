import PEval.Lemmas.GeometryPlane
/-!
Helper lemmas for C06, clipper part: the exact Sutherland–Hodgman reference clipper
`clipConvex` / `interArea`.  One pass `clipEdge a b P` is "insert the crossing points into `P`, then keep the
vertices of the closed half-plane" (`clipEdge_eq`); everything else is read off from that form: the
clipper commutes with rigid motions and returns a subject lying inside the clip polygon unchanged (nested boxes).
-/
namespace PEval.Geometry

/-! ## one pass = insert the crossing points, then keep the vertices of the closed half-plane -/

def inside (a b : V2) (p : V2) : Bool := decide (0 ≤ cross a b p)

/-- what a pass inserts between two consecutive vertices `p`, `q`: the crossing point with the line `a → b`
when exactly one of them lies in the closed half-plane, nothing otherwise -/
def cut (a b p q : V2) : List V2 :=
  if inside a b p = inside a b q then [] else [isect p q (cross a b p) (cross a b q)]

theorem cut_on_line (a b p q : V2) : ∀ x ∈ cut a b p q, cross a b x = 0 := by
  unfold cut
  split_ifs with h
  · intro x hx; cases hx
  · have hd : cross a b p - cross a b q ≠ 0 := sub_ne_zero.2 (fun e => h (by unfold inside; rw [e]))
    rw [List.forall_mem_singleton, isect_eq_lerp, cross_lerp3]
    field_simp
    ring

/-- the vertex list with the crossing point inserted on every edge that crosses the line `a → b`
(`prev` = the vertex before the head of the list) -/
def subdivAux (a b : V2) : V2 → List V2 → List V2
  | _, [] => []
  | prev, cur :: rest => cut a b prev cur ++ cur :: subdivAux a b cur rest

/-- the loop keeps its output reversed -/
theorem clipStep_eq (a b prev cur : V2) (out : List V2) :
    clipStep a b (prev, out) cur
      = (cur, (cut a b prev cur ++ if inside a b cur then [cur] else []).reverse ++ out) := by
  unfold clipStep cut inside
  by_cases hc : 0 ≤ cross a b cur
  · by_cases hp : cross a b prev < 0
    · simp [hc, hp, not_le.2 hp]
    · simp [hc, hp, not_lt.1 hp]
  · by_cases hp : 0 ≤ cross a b prev <;> simp [hc, hp]

theorem foldl_clipStep_eq (a b : V2) (poly : List V2) : ∀ (prev : V2) (out : List V2),
    (poly.foldl (clipStep a b) (prev, out)).2
      = ((subdivAux a b prev poly).filter (inside a b)).reverse ++ out := by
  induction poly with
  | nil => intro prev out; rfl
  | cons cur rest ih =>
    intro prev out
    have hcut : (cut a b prev cur).filter (inside a b) = cut a b prev cur :=
      List.filter_eq_self.2 (fun x hx => by simp [inside, cut_on_line a b prev cur x hx])
    rw [List.foldl_cons, clipStep_eq, ih, subdivAux, List.filter_append, hcut, List.filter_cons]
    split <;> simp

/-- `d` is immaterial: it stands for the vertex before the first one only when there is no vertex -/
theorem clipEdge_eq (a b : V2) (P : List V2) (d : V2) :
    clipEdge a b P = (subdivAux a b (P.getLastD d) P).filter (inside a b) := by
  cases P with
  | nil => rfl
  | cons p0 M =>
    unfold clipEdge
    rw [List.getLast?_cons, List.getLastD_cons]
    dsimp only
    rw [foldl_clipStep_eq]
    simp

/-! ## the exact clipper commutes with rigid motions -/

theorem isect_motion (m : Motion) (p q : V2) (dp dq : Rat) :
    isect (m.apply2 p) (m.apply2 q) dp dq = m.apply2 (isect p q dp dq) := by
  simp only [isect, Motion.apply2, Rot2.apply, V2.add, V2.mk.injEq]
  constructor <;> ring

theorem inside_motion {m : Motion} (h : m.rot.IsUnit) (a b p : V2) :
    inside (m.apply2 a) (m.apply2 b) (m.apply2 p) = inside a b p := by
  unfold inside; rw [cross_motion h]

theorem cut_motion {m : Motion} (h : m.rot.IsUnit) (a b p q : V2) :
    cut (m.apply2 a) (m.apply2 b) (m.apply2 p) (m.apply2 q) = (cut a b p q).map m.apply2 := by
  unfold cut
  rw [inside_motion h, inside_motion h, cross_motion h, cross_motion h, isect_motion]
  split <;> rfl

theorem subdivAux_motion {m : Motion} (h : m.rot.IsUnit) (a b : V2) : ∀ (R : List V2) (prev : V2),
    subdivAux (m.apply2 a) (m.apply2 b) (m.apply2 prev) (R.map m.apply2) = (subdivAux a b prev R).map m.apply2
  | [], _ => rfl
  | cur :: rest, prev => by
    rw [List.map_cons, subdivAux, subdivAux, cut_motion h, subdivAux_motion h a b rest cur, List.map_append,
      List.map_cons]

theorem clipEdge_motion {m : Motion} (h : m.rot.IsUnit) (a b : V2) (poly : List V2) :
    clipEdge (m.apply2 a) (m.apply2 b) (poly.map m.apply2) = (clipEdge a b poly).map m.apply2 := by
  rw [clipEdge_eq _ _ _ (m.apply2 a), clipEdge_eq a b poly a, List.getLastD_map, subdivAux_motion h, List.filter_map]
  exact congrArg _ (List.filter_congr fun x _ => inside_motion h a b x)

theorem fan2_motion {m : Motion} (h : m.rot.IsUnit) (p0 : V2) : ∀ ps : List V2,
    fan2 (m.apply2 p0) (ps.map m.apply2) = fan2 p0 ps
  | [] | [_] => rfl
  | p :: q :: rest => by
    simp only [List.map_cons, fan2]
    rw [cross_motion h, ← fan2_motion h p0 (q :: rest)]; rfl

theorem signed2_motion {m : Motion} (h : m.rot.IsUnit) (ps : List V2) :
    signed2 (ps.map m.apply2) = signed2 ps := by
  cases ps with
  | nil => rfl
  | cons p0 rest => simp only [List.map_cons, signed2]; exact fan2_motion h p0 rest

theorem polyArea_motion {m : Motion} (h : m.rot.IsUnit) (ps : List V2) :
    polyArea (ps.map m.apply2) = polyArea ps := by
  unfold polyArea; rw [signed2_motion h]

theorem ccw_motion {m : Motion} (h : m.rot.IsUnit) (ps : List V2) :
    ccw (ps.map m.apply2) = (ccw ps).map m.apply2 := by
  unfold ccw; rw [signed2_motion h]; split <;> simp [List.map_reverse]

theorem edges_motion (m : Motion) (ps : List V2) :
    edges (ps.map m.apply2) = (edges ps).map (fun e => (m.apply2 e.1, m.apply2 e.2)) := by
  cases ps with
  | nil => rfl
  | cons p0 rest =>
    simp only [edges, List.map_cons]
    rw [← List.map_singleton, ← List.map_append, ← List.map_cons]
    exact List.zip_map ..

theorem clipConvex_motion {m : Motion} (h : m.rot.IsUnit) (subject clip : List V2) :
    clipConvex (subject.map m.apply2) (clip.map m.apply2) = (clipConvex subject clip).map m.apply2 := by
  unfold clipConvex
  rw [ccw_motion h, edges_motion, List.foldl_map]
  exact List.foldl_hom (List.map m.apply2) fun P e => clipEdge_motion h e.1 e.2 P

theorem interArea_motion {m : Motion} (h : m.rot.IsUnit) (p q : List V2) :
    interArea (p.map m.apply2) (q.map m.apply2) = interArea p q := by
  unfold interArea
  rw [signed2_motion h, signed2_motion h, clipConvex_motion h, polyArea_motion h]

theorem polyArea_nonneg (ps : List V2) : 0 ≤ polyArea ps := div_nonneg (rabs_nonneg _) zero_le_two

theorem interArea_nonneg (p q : List V2) : 0 ≤ interArea p q := by
  unfold interArea
  split
  · exact le_refl _
  · exact polyArea_nonneg _

/-! ## a subject lying inside the clip polygon is returned unchanged -/

theorem subdivAux_of_inside (a b : V2) : ∀ (R : List V2) (prev : V2), inside a b prev = true →
    (∀ p ∈ R, inside a b p = true) → subdivAux a b prev R = R
  | [], _, _, _ => rfl
  | cur :: rest, prev, hp, hall => by
    have hc := hall cur List.mem_cons_self
    rw [subdivAux, cut, if_pos (hp.trans hc.symm), List.nil_append,
      subdivAux_of_inside a b rest cur hc fun p h => hall p (List.mem_cons_of_mem _ h)]

theorem clipEdge_inside (a b : V2) (poly : List V2) (hall : ∀ p ∈ poly, 0 ≤ cross a b p) :
    clipEdge a b poly = poly := by
  have hin : ∀ p ∈ poly, inside a b p = true := fun p hp => decide_eq_true (hall p hp)
  cases poly with
  | nil => rfl
  | cons p0 M =>
    rw [clipEdge_eq a b _ p0, List.getLastD_cons, subdivAux_of_inside a b _ _ (hin _ List.getLastD_mem_cons) hin,
      List.filter_eq_self.2 hin]

def InsideOf (subject clip : List V2) : Prop :=
  ∀ e ∈ edges (ccw clip), ∀ p ∈ subject, 0 ≤ cross e.1 e.2 p

theorem clipConvex_inside (subject clip : List V2) (h : InsideOf subject clip) :
    clipConvex subject clip = subject :=
  List.foldlRecOn (motive := fun P => P = subject) _ _ rfl
    fun _ hP e he => hP ▸ clipEdge_inside e.1 e.2 subject (h e he)

theorem interArea_inside (subject clip : List V2) (h : InsideOf subject clip)
    (hs : signed2 subject ≠ 0) (hc : signed2 clip ≠ 0) : interArea subject clip = polyArea subject := by
  unfold interArea
  rw [if_neg (by simp [hs, hc]), clipConvex_inside subject clip h]

/-! ## box footprints: shoelace area -/

theorem signed2_footprint {b : Box} (hr : b.rot.IsUnit) : signed2 (footprint b) = 2 * (b.w * b.l) := by
  rw [footprint_eq_map_local, signed2_motion (m := b.placement) hr, signed2_localCorners]

theorem signed2_footprint_ne {b : Box} (hb : b.PosSize) (hr : b.rot.IsUnit) : signed2 (footprint b) ≠ 0 := by
  rw [signed2_footprint hr]; exact (mul_pos two_pos (mul_pos hb.1 hb.2.1)).ne'

theorem polyArea_footprint {b : Box} (hr : b.rot.IsUnit) : polyArea (footprint b) = areaBev b := by
  rw [footprint_eq_map_local, polyArea_motion (m := b.placement) hr]; rfl

end PEval.Geometry
