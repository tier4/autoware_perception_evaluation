import Mathlib.Data.List.Perm.Subperm
import PEval.Lemmas.DatasetTotal
/-!
The tracking history is EXACTLY a prefix of the `prev`-chain (C16, `tracking_history_exact`).

`PrevChain T a l` : `l` is the list of annotation records met when walking `prev` from `a` until a
record without `prev` (nearest first). `iterate_spec` evaluates the `while` loop of `PredictHelper._iterate`
along such a chain when the elapsed times grow strictly along it: the records less than 3.15 s back, at most 6.
-/
namespace PEval.Dataset
open PEval

/-- the records reached from `a` along `prev`, nearest first, down to the record whose `prev` is empty -/
inductive PrevChain (T : Tables) : Annotation → List Annotation → Prop
  | nil {a : Annotation} : a.prev = "" → PrevChain T a []
  | cons {a b : Annotation} {l : List Annotation} : a.prev ≠ "" →
      lookup Annotation.token T.annotations a.prev = .ok b → PrevChain T b l → PrevChain T a (b :: l)

theorem PrevChain.unique {T : Tables} {a : Annotation} {l l' : List Annotation}
    (h : PrevChain T a l) (h' : PrevChain T a l') : l = l' := by
  induction h generalizing l' with
  | nil he =>
    cases h' with
    | nil _ => rfl
    | cons hne _ _ => exact absurd he hne
  | cons hne hb _ ih =>
    cases h' with
    | nil he => exact absurd he hne
    | cons _ hb' hl' =>
      rw [hb] at hb'
      cases hb'
      rw [ih hl']

/-- a transitive relation that every `prev` link of the table satisfies holds between any two records of
`a :: l`, the later one first; all of them are records of the table -/
theorem PrevChain.pairwise {T : Tables} {R : Annotation → Annotation → Prop} {a : Annotation} {l : List Annotation}
    (h : PrevChain T a l) (ha : a ∈ T.annotations) (htrans : ∀ x y z, R x y → R y z → R x z)
    (hlink : ∀ b ∈ T.annotations, ∀ c, lookup Annotation.token T.annotations b.prev = .ok c → R b c) :
    (∀ r ∈ l, r ∈ T.annotations) ∧ (a :: l).Pairwise R := by
  induction h with
  | nil _ => exact ⟨by simp, List.pairwise_singleton _ _⟩
  | @cons a b l _ hb _ ih =>
    have hbm := (lookup_ok_mem hb).1
    obtain ⟨hm, hp⟩ := ih hbm
    have hab := hlink a ha b hb
    refine ⟨List.forall_mem_cons.2 ⟨hbm, hm⟩, List.pairwise_cons.2 ⟨?_, hp⟩⟩
    exact List.forall_mem_cons.2 ⟨hab, fun r hr => htrans _ _ _ hab ((List.pairwise_cons.1 hp).1 r hr)⟩

theorem PrevChain.desc {T : Tables} {tm : Annotation → Nat} {a : Annotation} {l : List Annotation}
    (h : PrevChain T a l) (ha : a ∈ T.annotations)
    (hearlier : ∀ b ∈ T.annotations, ∀ c, lookup Annotation.token T.annotations b.prev = .ok c → tm c < tm b) :
    (∀ r ∈ l, r ∈ T.annotations) ∧ (a :: l).Pairwise (fun x y => tm y < tm x) :=
  h.pairwise ha (fun _ _ _ h1 h2 => Nat.lt_trans h2 h1) hearlier

theorem PrevChain.length_lt {T : Tables} {tm : Annotation → Nat} {a : Annotation} {l : List Annotation}
    (h : PrevChain T a l) (ha : a ∈ T.annotations)
    (hearlier : ∀ b ∈ T.annotations, ∀ c, lookup Annotation.token T.annotations b.prev = .ok c → tm c < tm b) :
    l.length < T.annotations.length := by
  obtain ⟨hmem, hpw⟩ := h.desc ha hearlier
  have hnd : (a :: l).Nodup := hpw.imp fun {x y} hxy hEq => by subst hEq; exact Nat.lt_irrefl _ hxy
  exact (List.subperm_of_subset hnd (List.forall_mem_cons.2 ⟨ha, hmem⟩)).length_le

theorem PrevChain.exists_of_resolving {T : Tables} (tm : Annotation → Nat)
    (hprev : ∀ a ∈ T.annotations, a.prev ≠ "" → ∃ b, lookup Annotation.token T.annotations a.prev = .ok b)
    (hearlier : ∀ b ∈ T.annotations, ∀ c, lookup Annotation.token T.annotations b.prev = .ok c → tm c < tm b)
    (a : Annotation) (ha : a ∈ T.annotations) : ∃ l, PrevChain T a l := by
  by_cases he : a.prev = ""
  · exact ⟨[], .nil he⟩
  · obtain ⟨b, hb⟩ := hprev a ha he
    obtain ⟨l, hl⟩ := PrevChain.exists_of_resolving tm hprev hearlier b (lookup_ok_mem hb).1
    exact ⟨b :: l, .cons he hb hl⟩
termination_by tm a
decreasing_by exact hearlier a ha b hb

/-- The `while` loop of `_iterate` evaluated along the `prev`-chain `l` of the cursor, when the distances in time
`d r` of its records to `start` grow strictly along the chain (and are at least `elapsed`): it collects the records less
than 3.15 s away, up to the cap. A record at or beyond the window ends the collection, all later ones being further
away; the fuel suffices because it exceeds the length of the chain. -/
theorem iterate_spec {T : Tables} {start : Nat} {d : Annotation → Nat} {cur : Annotation} {l : List Annotation}
    (h : PrevChain T cur l) (hd : ∀ r ∈ l, ∃ t, timeOf T r.sampleToken = .ok t ∧ absDiff t start = d r)
    (hp : l.Pairwise (fun x y => d x < d y)) (fuel elapsed : Nat) (acc : List Annotation)
    (hf : l.length < fuel) (hgt : ∀ r ∈ l, elapsed ≤ d r) (hacc : acc.length ≤ maxPast) :
    iterate T start fuel cur elapsed acc =
      .ok ((acc ++ l.takeWhile (fun r => decide (d r < windowUs))).take maxPast) := by
  induction h generalizing fuel elapsed acc with
  | @nil a he =>
    obtain ⟨f, rfl⟩ := Nat.exists_eq_add_one_of_ne_zero (Nat.ne_zero_of_lt hf)
    simp [iterate, he, List.take_of_length_le hacc]
  | @cons a b l hne hb _ ih =>
    obtain ⟨f, rfl⟩ := Nat.exists_eq_add_one_of_ne_zero (Nat.ne_zero_of_lt hf)
    obtain ⟨t, ht, hdt⟩ := hd b List.mem_cons_self
    obtain ⟨hp1, hp2⟩ := List.pairwise_cons.1 hp
    have ih := fun acc' => ih (fun r hr => hd r (List.mem_cons_of_mem _ hr)) hp2 f (d b) acc'
      (by simpa using hf) fun r hr => Nat.le_of_lt (hp1 r hr)
    have hb' := hgt b List.mem_cons_self
    simp only [iterate, show (a.prev == "") = false by simpa using hne, Bool.false_eq_true, if_false, hb, ht, hdt]
    by_cases hin : d b < windowUs
    · rw [List.takeWhile_cons_of_pos (by simpa using hin), if_pos hin]
      split
      · rename_i hc
        rw [ih _ (by simpa using Nat.succ_le_of_lt hc.2), List.append_assoc]
        rfl
      · rw [List.take_left' (by omega)]
    · -- the records after `b` are further away still
      have hl : l.takeWhile (fun r => decide (d r < windowUs)) = [] := by
        cases l with
        | nil => rfl
        | cons x _ => exact List.takeWhile_cons_of_neg (by have := hp1 x List.mem_cons_self; simp; omega)
      rw [List.takeWhile_cons_of_neg (by simpa using hin), if_neg hin, ih _ hacc, hl, List.append_nil,
        List.take_of_length_le hacc, ite_self]

end PEval.Dataset
