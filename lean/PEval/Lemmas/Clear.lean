import PEval.Lemmas.ClearSpec
import PEval.Lemmas.ListBasics
/-!
The accumulation of `CLEAR.__init__` in normal form (core Lean only): the accumulators form a monoid, so the fold over
consecutive frame pairs is a sum of per-frame increments (`clear_cons`, `frameStep_eq`; as a sum over the events of the
history: `clear_eq_total` in `ClearCount`); the scan of the previous frame is a `find?` (`scan_eq_find`); the increment of one
result is a function of its `outcome` (`resStep_eq_outcome`); when the previous frame pairs tracks one-to-one, a switch is
booked iff the current result is TP and some previous TP has a conflicting pairing, whatever the scan order
(`countsSwitch_eq_switchedTp`).
-/

namespace PEval.Clear

theorem Acc.ext' {a b : Acc} (h1 : a.tp = b.tp) (h2 : a.fp = b.fp) (h3 : a.sw = b.sw) (h4 : a.score = b.score) :
    a = b := by
  cases a; cases b; simp_all

@[simp] theorem Acc.add_tp (a b : Acc) : (a.add b).tp = a.tp + b.tp := rfl
@[simp] theorem Acc.add_fp (a b : Acc) : (a.add b).fp = a.fp + b.fp := rfl
@[simp] theorem Acc.add_sw (a b : Acc) : (a.add b).sw = a.sw + b.sw := rfl
@[simp] theorem Acc.add_score (a b : Acc) : (a.add b).score = a.score + b.score := rfl
@[simp] theorem Acc.zero_tp : Acc.zero.tp = 0 := rfl
@[simp] theorem Acc.zero_fp : Acc.zero.fp = 0 := rfl
@[simp] theorem Acc.zero_sw : Acc.zero.sw = 0 := rfl
@[simp] theorem Acc.zero_score : Acc.zero.score = 0 := rfl

theorem Acc.add_assoc (a b c : Acc) : (a.add b).add c = a.add (b.add c) := by
  apply Acc.ext' <;> simp [Rat.add_assoc, Nat.add_assoc]

@[simp] theorem Acc.add_zero (a : Acc) : a.add Acc.zero = a := by
  apply Acc.ext' <;> simp [Rat.add_zero]

@[simp] theorem Acc.zero_add (a : Acc) : Acc.zero.add a = a := by
  apply Acc.ext' <;> simp [Rat.zero_add]

def accSum : List Acc → Acc
  | [] => Acc.zero
  | a :: l => a.add (accSum l)

@[simp] theorem accSum_nil : accSum [] = Acc.zero := rfl
@[simp] theorem accSum_cons (a : Acc) (l : List Acc) : accSum (a :: l) = a.add (accSum l) := rfl

theorem accSum_append (l₁ l₂ : List Acc) : accSum (l₁ ++ l₂) = (accSum l₁).add (accSum l₂) := by
  induction l₁ with
  | nil => simp
  | cons a l ih => simp [ih, Acc.add_assoc]

theorem foldl_add_eq {α : Type} (f : α → Acc) (l : List α) (a : Acc) :
    l.foldl (fun a c => a.add (f c)) a = a.add (accSum (l.map f)) := by
  induction l generalizing a with
  | nil => simp
  | cons x l ih => simp [ih, Acc.add_assoc]

theorem frameStep_eq (cfg : Cfg) (prev cur : List Res) :
    frameStep cfg prev cur = accSum (cur.map (resStep cfg prev)) := by
  unfold frameStep
  rw [foldl_add_eq]; simp

/-- the per-frame increments of `CLEAR.__init__` -/
def steps (cfg : Cfg) : List Res → List (List Res) → List Acc
  | _, [] => []
  | prev, cur :: rest => frameStep cfg prev cur :: steps cfg cur rest

theorem steps_eq_zip (cfg : Cfg) : ∀ (f0 : List Res) (rest : List (List Res)),
    steps cfg f0 rest = ((f0 :: rest).zip rest).map fun pc => frameStep cfg pc.1 pc.2
  | _, [] => rfl
  | _, c :: rest => by rw [steps, steps_eq_zip cfg c rest]; rfl

theorem clearLoop_eq (cfg : Cfg) (prev : List Res) (frames : List (List Res)) (a : Acc) :
    clearLoop cfg prev frames a = a.add (accSum (steps cfg prev frames)) := by
  induction frames generalizing prev a with
  | nil => simp [clearLoop, steps]
  | cons cur rest ih => simp [clearLoop, steps, ih, Acc.add_assoc]

theorem clear_cons (cfg : Cfg) (f0 : List Res) (rest : List (List Res)) :
    clear cfg (f0 :: rest) = accSum (steps cfg f0 rest) := by
  simp [clear, clearLoop_eq]

theorem accSum_proj {M : Type} [Add M] [Zero M] (π : Acc → M) (h0 : π Acc.zero = 0)
    (hadd : ∀ a b, π (a.add b) = π a + π b) (l : List Acc) : π (accSum l) = (l.map π).sum := by
  induction l with
  | nil => exact h0
  | cons a l ih => rw [accSum_cons, hadd, ih, List.map_cons, List.sum_cons]

theorem accSum_tp (l : List Acc) : (accSum l).tp = (l.map (·.tp)).sum := accSum_proj _ rfl (fun _ _ => rfl) l
theorem accSum_fp (l : List Acc) : (accSum l).fp = (l.map (·.fp)).sum := accSum_proj _ rfl (fun _ _ => rfl) l
theorem accSum_sw (l : List Acc) : (accSum l).sw = (l.map (·.sw)).sum := accSum_proj _ rfl (fun _ _ => rfl) l
theorem accSum_score (l : List Acc) : (accSum l).score = (l.map (·.score)).sum :=
  accSum_proj _ rfl (fun _ _ => rfl) l

/-- the previous results at which the scan stops: TP under `t`, and an id switch or the same pairing -/
def decisive (cfg : Cfg) (t : Rat) (c p : Res) : Bool := isTp cfg t p && (isIdSwitched c p || isSameMatch c p)

/-- the scan stops at the first decisive previous result; the id switch is tested first -/
theorem scan_eq_find (cfg : Cfg) (t : Rat) (c : Res) (prev : List Res) :
    scan cfg t c prev = match prev.find? (decisive cfg t c) with
      | none => .nothing
      | some p => if isIdSwitched c p then .switched else .same p := by
  fun_induction scan cfg t c prev <;> simp_all [decisive]

theorem scan_same (cfg : Cfg) (t : Rat) (c : Res) (prev : List Res) (p : Res)
    (h : scan cfg t c prev = .same p) :
    p ∈ prev ∧ isTp cfg t p = true ∧ isSameMatch c p = true := by
  fun_induction scan cfg t c prev with
  | case1 => cases h
  | case2 q qs _ ih | case5 q qs _ _ _ ih => exact (ih h).imp_left (List.mem_cons_of_mem q)
  | case3 => cases h
  | case4 q qs htp _ hsm => cases h; exact ⟨List.mem_cons_self, by simpa using htp, hsm⟩

theorem not_decisive_iff (cfg : Cfg) (t : Rat) (c q : Res) :
    (!decisive cfg t c q) = true ↔ (isTp cfg t q = true → isIdSwitched c q = false ∧ isSameMatch c q = false) := by
  unfold decisive
  cases isTp cfg t q <;> cases isIdSwitched c q <;> cases isSameMatch c q <;> simp

theorem scan_nothing_iff (cfg : Cfg) (t : Rat) (c : Res) (prev : List Res) :
    scan cfg t c prev = .nothing ↔
      ∀ p ∈ prev, isTp cfg t p = true → isIdSwitched c p = false ∧ isSameMatch c p = false := by
  simp only [← not_decisive_iff, Bool.not_eq_true', ← Bool.not_eq_true (decisive _ _ _ _)]
  rw [← List.find?_eq_none, scan_eq_find]
  cases prev.find? (decisive cfg t c) with
  | none => simp
  | some q => dsimp only; split <;> simp

theorem scan_switched_iff (cfg : Cfg) (t : Rat) (c : Res) (prev : List Res) :
    scan cfg t c prev = .switched ↔
      ∃ pre p post, prev = pre ++ p :: post ∧ isTp cfg t p = true ∧ isIdSwitched c p = true ∧
        ∀ q ∈ pre, isTp cfg t q = true → isIdSwitched c q = false ∧ isSameMatch c q = false := by
  rw [scan_eq_find]
  constructor
  · intro h
    split at h
    · cases h
    · rename_i p hf
      obtain ⟨hd, pre, post, he, hall⟩ := List.find?_eq_some_iff_append.1 hf
      split at h
      · rename_i hs
        exact ⟨pre, p, post, he, (Bool.and_eq_true_iff.1 hd).1, hs, fun q hq => (not_decisive_iff cfg t c q).1 (hall q hq)⟩
      · cases h
  · rintro ⟨pre, p, post, he, hp, hs, hall⟩
    rw [List.find?_eq_some_iff_append.2 ⟨by simp [decisive, hp, hs], pre, post, he,
      fun q hq => (not_decisive_iff cfg t c q).2 (hall q hq)⟩]
    simp [hs]

theorem isTp_gt_isSome {cfg : Cfg} {t : Rat} {r : Res} (h : isTp cfg t r = true) : r.gt.isSome = true := by
  unfold isTp at h
  cases hg : r.gt with
  | none => simp [hg] at h
  | some g => rfl

theorem isIdSwitched_eq_conflict (c p : Res) : isIdSwitched c p = conflict c p := by
  unfold isIdSwitched conflict bothGt sameEst sameGt
  cases c.gt with
  | none => cases p.gt <;> rfl
  | some gc =>
    cases p.gt with
    | none => rfl
    | some gp =>
      dsimp only [Option.isSome]
      generalize (c.est == p.est && c.estLabel == p.estLabel) = a
      generalize (gc.id == gp.id) = b
      cases a <;> cases b <;> rfl

theorem isSameMatch_eq_samePair (c p : Res) : isSameMatch c p = samePair c p := by
  unfold isSameMatch samePair bothGt sameEst sameGt
  cases hc : c.gt <;> cases hp : p.gt <;> simp

theorem not_conflict_and_samePair (c p : Res) : ¬ (conflict c p = true ∧ samePair c p = true) := by
  unfold conflict samePair
  cases bothGt c p <;> cases sameEst c p <;> cases sameGt c p <;> simp

def Outcome.acc (c : Res) : Outcome → Acc
  | .skipped => Acc.zero
  | .carried p => ⟨p.w, 0, 0, p.value⟩
  | .tp sw => ⟨c.w, 0, if sw then 1 else 0, c.value⟩
  | .fp => ⟨0, 1, 0, 0⟩

theorem resStep_eq_outcome (cfg : Cfg) (prev : List Res) (c : Res) :
    resStep cfg prev c = (outcome cfg prev c).acc c := by
  fun_cases outcome cfg prev c <;> simp [resStep, Outcome.acc, *]

theorem outcome_carried_mem (cfg : Cfg) (prev : List Res) (c p : Res)
    (h : outcome cfg prev c = .carried p) : p ∈ prev := by
  revert h
  fun_cases outcome cfg prev c with
  | case2 t _ q hs => exact fun h => Outcome.carried.inj h ▸ (scan_same cfg t c prev q hs).1
  | _ => nofun

theorem outcome_skipped_iff (cfg : Cfg) (prev : List Res) (c : Res) :
    outcome cfg prev c = .skipped ↔ evaluated cfg c = false := by
  unfold evaluated
  fun_cases outcome cfg prev c <;> simp [*]

theorem resStep_of_not_evaluated {cfg : Cfg} {c : Res} (prev : List Res) (h : evaluated cfg c = false) :
    resStep cfg prev c = Acc.zero := by
  rw [resStep_eq_outcome, (outcome_skipped_iff cfg prev c).mpr h]
  rfl

theorem countsSwitch_iff (cfg : Cfg) (prev : List Res) (c : Res) :
    countsSwitch cfg prev c = true ↔
      ∃ t, labelThreshold cfg (keyLabel c) = some t ∧ isTp cfg t c = true ∧ scan cfg t c prev = .switched := by
  unfold countsSwitch outcome
  cases labelThreshold cfg (keyLabel c) with
  | none => simp
  | some t =>
    simp only [Option.some.injEq, exists_eq_left']
    cases scan cfg t c prev <;> cases isTp cfg t c <;> simp

/-! When the previous frame pairs tracks one-to-one the switch does not depend on the scan order. -/

theorem sameEst_of_left {c q : Res} (h : sameEst c q = true) (p : Res) : sameEst c p = sameEst p q := by
  simp only [sameEst, Bool.and_eq_true, beq_iff_eq] at h
  rw [sameEst, sameEst, h.1, h.2, BEq.comm (a := q.est), BEq.comm (a := q.estLabel)]

theorem sameGt_of_left {c q : Res} (h : sameGt c q = true) (p : Res) : sameGt c p = sameGt p q := by
  unfold sameGt at h
  split at h
  · rename_i gc gq hc hq
    rw [sameGt, sameGt, hc, hq]
    cases p.gt with
    | none => rfl
    | some gp => exact (beq_iff_eq.1 h ▸ BEq.comm : (gc.id == gp.id) = (gp.id == gq.id))
  · cases h

theorem no_conflict_of_samePair {c p q : Res} (h1 : samePair c q = true) (h2 : sameEst p q = sameGt p q) :
    conflict c p = false := by
  simp only [samePair, Bool.and_eq_true] at h1
  rw [conflict, sameEst_of_left h1.1.2, sameGt_of_left h1.2, h2, bne_self_eq_false, Bool.and_false]

theorem scan_switched_iff_conflict (cfg : Cfg) (t : Rat) (c : Res) (prev : List Res) (h1 : OneToOne cfg t prev) :
    scan cfg t c prev = .switched ↔ ∃ p ∈ prev, isTp cfg t p = true ∧ conflict c p = true := by
  constructor
  · intro hs
    obtain ⟨pre, p, post, he, hp, hsw, _⟩ := (scan_switched_iff cfg t c prev).mp hs
    exact ⟨p, by simp [he], hp, by rwa [← isIdSwitched_eq_conflict]⟩
  · rintro ⟨p, hp, htp, hcf⟩
    cases hs : scan cfg t c prev with
    | switched => rfl
    | nothing =>
      have := ((scan_nothing_iff cfg t c prev).mp hs p hp htp).1
      rw [isIdSwitched_eq_conflict, hcf] at this
      cases this
    | same q =>
      obtain ⟨hq, htq, hsm⟩ := scan_same cfg t c prev q hs
      rw [isSameMatch_eq_samePair] at hsm
      rw [no_conflict_of_samePair hsm (h1 p hp q hq htp htq)] at hcf
      cases hcf

theorem countsSwitch_eq_switchedTp (cfg : Cfg) (prev : List Res) (c : Res)
    (h11 : ∀ t, labelThreshold cfg (keyLabel c) = some t → OneToOne cfg t prev) :
    countsSwitch cfg prev c = switchedTp cfg prev c := by
  rw [Bool.eq_iff_iff, countsSwitch_iff]
  unfold switchedTp
  cases ht : labelThreshold cfg (keyLabel c) with
  | none => simp
  | some t => simp [scan_switched_iff_conflict cfg t c prev (h11 t ht)]

/-- a result that passes its own test is booked TP, whatever the scan finds -/
theorem countsTp_of_isTp {cfg : Cfg} {c : Res} {t : Rat} (prev : List Res)
    (ht : labelThreshold cfg (keyLabel c) = some t) (hc : isTp cfg t c = true) :
    countsTp cfg prev c = true ∧ countsFp cfg prev c = false := by
  unfold countsTp countsFp outcome
  rw [ht]
  cases hs : scan cfg t c prev <;> simp [hs, hc]

end PEval.Clear
