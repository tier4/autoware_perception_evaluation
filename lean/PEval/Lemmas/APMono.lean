import PEval.Lemmas.APClassify
/-!
Loosening a matching threshold in the AP model (C08). `looser m t t'` is the per-mode direction (distance modes:
`t ≤ t'`; IoU modes: `t' ≤ t`). Every level states ONE fact about the run under a threshold list and the run under a looser
one, `Runs V R (run th) (run th')` (`Lemmas/ExceptLoop.lean`): with `V` = "every entry of the looser list is valid for the mode"
(the IoU modes' assertion `0 ≤ t ≤ 1`; `IndexError` depends on the lengths only, `AttributeError` / `KeyError` not on the
thresholds) the looser run answers whenever the tighter one does, and whatever it answers is related by `R` to the tighter
answer. One result first: every per-result function of the model looks a threshold up and lets `is_result_correct` judge the
result under it (`judgeAt`), so `judgeAt_runs` (from `getLabelThreshold_rel`, `isResultCorrect_mono_opt`) carries `classify_runs`,
`isPositive_runs` and `gtStatusOf_runs` through one read-off equation each;
then the loops through `List.mapM` (`getPositive_runs`, `getNegative_runs`, `apOf_runs`), then `Map` (`mapOf_runs`); the frame
level (`frameMap_runs`) is in `Lemmas/APDict.lean`, after the closed form of the `divide_objects` lookups.
-/

namespace PEval.AP

variable {tm : TpMetric} {m : Mode} {T : List Label} {th th' : List Rat} {G : Nat} {rs : List Res} {r : Res}

/-- `t'` is at least as loose as `t` for mode `m` -/
def looser (m : Mode) (t t' : Rat) : Prop := if m.isDistance then t ≤ t' else t' ≤ t

/-- the same on optional thresholds (a label without threshold has none under both lists) -/
def optLooser (m : Mode) : Option Rat → Option Rat → Prop
  | none, none => True
  | some t, some t' => looser m t t'
  | _, _ => False

theorem isBetter_mono {m : Mode} {v t t' : Rat} (hl : looser m t t') (h : isBetter m v t = true) :
    isBetter m v t' = true := by
  unfold isBetter looser at *
  cases hm : m.isDistance <;> simp only [hm, if_true, if_false, Bool.false_eq_true, decide_eq_true_eq] at *
  · exact lt_of_le_of_lt hl h
  · exact lt_of_lt_of_le h hl

theorem isBetterThan_mono {v : Option Rat} {t t' : Rat} (hl : looser m t t')
    (h : isBetterThan m v t = .ok true) {b : Bool} (h' : isBetterThan m v t' = .ok b) : b = true := by
  unfold isBetterThan at h h'
  split at h
  · split at h'
    · cases v with
      | none => simp at h
      | some x =>
        simp only [Except.ok.injEq] at h h'
        rw [← h']
        exact isBetter_mono hl h
    · cases h'
  · cases h

theorem isResultCorrect_mono_opt {o o' : Option Rat} (hord : ∀ g, r.gt = some g → g.label ≠ fpLabel)
    (hl : optLooser m o o') (h : isResultCorrect m o r = .ok true) {b : Bool}
    (h' : isResultCorrect m o' r = .ok b) :
    b = true := by
  unfold isResultCorrect at h h'
  cases hg : r.gt with
  | none => rw [hg] at h; cases h
  | some g =>
    rw [hg] at h h'
    -- without a threshold or without a score the answer does not depend on the threshold
    match o, o', hl with
    | none, none, _ => exact Except.ok.inj (h'.symm.trans h)
    | some t, some t', hl =>
      cases hs : r.score with
      | noMethod => rw [hs] at h h'; exact Except.ok.inj (h'.symm.trans h)
      | val v =>
        simp only [hs, beq_false_of_ne (hord g hg), Bool.false_eq_true, if_false] at h h'
        cases hb : isBetterThan m v t with
        | error e => rw [hb] at h; cases h
        | ok b1 =>
          cases hb' : isBetterThan m v t' with
          | error e => rw [hb'] at h'; cases h'
          | ok b2 =>
            simp only [hb, hb', Except.ok.injEq, Bool.and_eq_true] at h h'
            rw [← h', isBetterThan_mono hl (hb.trans (congrArg _ h.1)) hb', h.2]; rfl

/-- both lookups fail alike, or find nothing alike, or find related thresholds (the looser one an entry of its list) -/
theorem getLabelThreshold_rel (l : Label) (T : List Label) (h : List.Forall₂ (looser m) th th') :
    (∃ e, getLabelThreshold l T (some th) = .error e ∧ getLabelThreshold l T (some th') = .error e)
    ∨ ∃ o o', getLabelThreshold l T (some th) = .ok o ∧ getLabelThreshold l T (some th') = .ok o'
        ∧ optLooser m o o' ∧ ∀ t, o' = some t → t ∈ th' := by
  unfold getLabelThreshold
  cases hi : T.findIdx? (· == l) with
  | none => exact Or.inr ⟨none, none, rfl, rfl, trivial, fun _ h => nomatch h⟩
  | some i =>
    rcases forall₂_getElem? h i with ⟨h1, h2⟩ | ⟨a, b, h1, h2, hab⟩
    · exact Or.inl ⟨"IndexError", by simp [h1], by simp [h2]⟩
    · exact Or.inr ⟨some a, some b, by simp [h1], by simp [h2], hab,
        fun t ht => Option.some.inj ht ▸ List.mem_of_getElem? h2⟩

theorem getLabelThreshold_not_target {l : Label} (h : l ∉ T) (th : Option (List Rat)) :
    getLabelThreshold l T th = .ok none := by
  have : T.findIdx? (· == l) = none :=
    List.findIdx?_eq_none_iff.2 fun x hx => beq_eq_false_iff_ne.2 fun e => h (e ▸ hx)
  cases th <;> simp only [getLabelThreshold, this]

/-- the two steps every per-result function of the model starts with: the threshold of label `l` is looked up, then
`is_result_correct` judges the result under it -/
def judgeAt (m : Mode) (T : List Label) (thrs : Option (List Rat)) (l : Label) (r : Res) : Except Err (Option Rat × Bool) :=
  match getLabelThreshold l T thrs with
  | .error e => .error e
  | .ok thr => (isResultCorrect m thr r).map fun b => (thr, b)

/-- under a looser list: the thresholds found are related (and found only for a target label), and a result with an ordinary
ground truth that was correct stays correct -/
theorem judgeAt_runs (hth : List.Forall₂ (looser m) th th') (l : Label) :
    Runs (∀ t ∈ th', thrValid m t = true)
      (fun p p' => optLooser m p.1 p'.1 ∧ (p.1 ≠ none → l ∈ T) ∧
        ((∀ g, r.gt = some g → g.label ≠ fpLabel) → p.2 = true → p'.2 = true))
      (judgeAt m T (some th) l r) (judgeAt m T (some th') l r) := by
  unfold judgeAt
  rcases getLabelThreshold_rel (m := m) l T hth with ⟨e, he, _⟩ | ⟨o, o', ho, ho', hoo, hmem⟩
  · rw [he]
    exact fun _ h => nomatch h
  · rw [ho, ho']
    dsimp only
    have hT : o ≠ none → l ∈ T := fun hne => by
      by_contra h
      rw [getLabelThreshold_not_target h] at ho
      cases ho
      exact hne rfl
    have hr : Runs (∀ t ∈ th', thrValid m t = true)
        (fun b b' => (∀ g, r.gt = some g → g.label ≠ fpLabel) → b = true → b' = true)
        (isResultCorrect m o r) (isResultCorrect m o' r) := fun b hb =>
      ⟨fun hv => isResultCorrect_total o' r fun t ht => hv t (hmem t ht),
        fun b' hb' hord h => isResultCorrect_mono_opt hord hoo (h ▸ hb) hb'⟩
    exact hr.map fun _ _ h => ⟨hoo, hT, h⟩

theorem classify_eq_judgeAt :
    classify tm m T th r = (judgeAt m T (some th) (keyLabel r) r).map fun p =>
      match p.1 with
      | none => .ignored
      | some _ => if p.2 = true then .tp (tpValue tm r) else .fp := by
  unfold classify judgeAt
  cases getLabelThreshold (keyLabel r) T (some th) with
  | error e => rfl
  | ok o =>
    cases o with
    | none => unfold isResultCorrect; cases r.gt <;> rfl
    | some t =>
      dsimp only
      cases isResultCorrect m (some t) r with
      | error e => rfl
      | ok b => cases b <;> rfl

/-- FP may become TP, everything else stays as it is (a TP with its weight), so no TP weight falls. `hfp`: the result's
ground truth is ordinary, or the false-positive label is no target (then an FP-labelled ground truth has no threshold and the
result is ignored under both lists) -/
theorem classify_runs (hth : List.Forall₂ (looser m) th th')
    (hfp : fpLabel ∉ T ∨ ∀ g, r.gt = some g → g.label ≠ fpLabel) (hw : 0 ≤ tpValue tm r) :
    Runs (∀ t ∈ th', thrValid m t = true)
      (fun k k' => (0 ≤ k.tpw ∧ k.tpw ≤ k'.tpw) ∧ (k' = k ∨ k = .fp ∧ k'.isTp = true))
      (classify tm m T th r) (classify tm m T th' r) := by
  rw [classify_eq_judgeAt, classify_eq_judgeAt]
  refine (judgeAt_runs hth (keyLabel r)).map ?_
  rintro ⟨o, b⟩ ⟨o', b'⟩ ⟨hoo, hT, hb⟩
  cases o with
  | none => cases o' <;> [exact ⟨⟨le_rfl, le_rfl⟩, .inl rfl⟩; exact hoo.elim]
  | some t =>
    cases o' with
    | none => exact hoo.elim
    | some t' =>
      -- the label has a threshold, so it is a target: with `fpLabel ∉ T` the ground truth is not FP-labelled
      have hord : ∀ g, r.gt = some g → g.label ≠ fpLabel :=
        hfp.elim (fun hn g hg hfl => hn (by have := hT (by simp); simpa only [keyLabel, hg, hfl] using this)) id
      cases b with
      | false => cases b' <;> [exact ⟨⟨le_rfl, le_rfl⟩, .inl rfl⟩; exact ⟨⟨le_rfl, hw⟩, .inr ⟨rfl, rfl⟩⟩]
      | true => rw [hb hord rfl]; exact ⟨⟨hw, le_rfl⟩, .inl rfl⟩

/-- `Ap` of the same results under a looser list: not smaller, and defined iff it was -/
theorem apOf_runs (hth : List.Forall₂ (looser m) th th')
    (hfp : fpLabel ∉ T ∨ ∀ r ∈ rs, ∀ g, r.gt = some g → g.label ≠ fpLabel) (hw : ∀ r ∈ rs, 0 ≤ tpValue tm r) :
    Runs (∀ t ∈ th', thrValid m t = true) (fun a a' => optLe a.ap a'.ap)
      (apOf tm m T th G rs) (apOf tm m T th' G rs) := by
  intro a h
  obtain ⟨ks, hk, hany, rfl⟩ := apOf_ok_iff.1 h
  rw [classifyAll_eq_mapM] at hk
  -- the ranking does not depend on the thresholds: the two runs classify the same list
  obtain ⟨hex, hrel⟩ := Runs.mapM (V := ∀ t ∈ th', thrValid m t = true) (forall₂_refl _)
    (fun r hr _ _ e => by
      subst e
      exact classify_runs (tm := tm) hth (hfp.imp_right fun h => h r (mem_sortDesc.1 hr)) (hw r (mem_sortDesc.1 hr)))
    ks hk
  refine ⟨fun hv => ?_, fun a' h' => ?_⟩
  · obtain ⟨ks', hk'⟩ := hex hv
    exact ⟨_, apOf_ok_iff.2 ⟨ks', (classifyAll_eq_mapM ..).trans hk', hany, rfl⟩⟩
  · obtain ⟨ks', hk', rfl⟩ := apOf_ok h'
    exact apOfKinds_mono G (forall₂_imp (hrel ks' ((classifyAll_eq_mapM ..).symm.trans hk')) fun _ _ _ h => h.1)

/-- one iteration of `get_positive_objects` on a paired result: appended to the TP list iff judged correct under the threshold
of the ground truth's label and the ground truth is ordinary -/
theorem isPositive_of_gt {g : Gt} (hg : r.gt = some g) (thrs : Option (List Rat)) :
    isPositive m T thrs r = (judgeAt m T thrs g.label r).map fun p => p.2 && g.label != fpLabel := by
  unfold isPositive judgeAt getStatus
  simp only [hg, bne]
  cases getLabelThreshold g.label T thrs with
  | error e => rfl
  | ok thr =>
    dsimp only
    cases isResultCorrect m thr r with
    | error e => rfl
    | ok b => cases b <;> cases g.label == fpLabel <;> rfl

theorem isPositive_runs (hth : List.Forall₂ (looser m) th th') :
    Runs (∀ t ∈ th', thrValid m t = true) (fun b b' => b = true → b' = true)
      (isPositive m T (some th) r) (isPositive m T (some th') r) := by
  cases hg : r.gt with
  | none =>
    intro b hb
    rw [isPositive, hg] at hb
    cases hb
    exact ⟨fun _ => ⟨false, by rw [isPositive, hg]⟩, fun _ _ h => nomatch h⟩
  | some g =>
    rw [isPositive_of_gt hg, isPositive_of_gt hg]
    refine (judgeAt_runs hth g.label).map fun p p' ⟨_, _, hb⟩ h => ?_
    rw [Bool.and_eq_true] at h ⊢
    exact ⟨hb (fun g' hg' => by cases hg.symm.trans hg'; simpa using h.2) h.1, h.2⟩

/-- ids of the results flagged `true`, and of the others, both in input order -/
def splitIds : List Res → List Bool → List Nat × List Nat
  | r :: rs, b :: bs =>
    if b then (r.id :: (splitIds rs bs).1, (splitIds rs bs).2) else ((splitIds rs bs).1, r.id :: (splitIds rs bs).2)
  | _, _ => ([], [])

theorem getPositive_eq_mapM (thrs : Option (List Rat)) :
    ∀ rs, getPositive m T thrs rs = (rs.mapM (isPositive m T thrs)).map (splitIds rs)
  | [] => rfl
  | r :: rs => by
    rw [getPositive, mapM_cons_eq, getPositive_eq_mapM thrs rs]
    cases isPositive m T thrs r with
    | error e => rfl
    | ok b => cases List.mapM (isPositive m T thrs) rs <;> rfl

theorem splitIds_sublist : ∀ (rs : List Res) {bs bs' : List Bool},
    List.Forall₂ (fun b b' => b = true → b' = true) bs bs' →
    (splitIds rs bs).1.Sublist (splitIds rs bs').1 ∧ (splitIds rs bs').2.Sublist (splitIds rs bs).2
  | [], _, _, h => by cases h <;> exact ⟨.slnil, .slnil⟩
  | _ :: _, _, _, .nil => ⟨.slnil, .slnil⟩
  | r :: rs, b :: _, b' :: _, .cons hb h => by
    obtain ⟨i1, i2⟩ := splitIds_sublist rs h
    cases b with
    | true => rw [hb rfl]; exact ⟨i1.cons_cons _, i2⟩
    | false => cases b' <;> [exact ⟨i1, i2.cons_cons _⟩; exact ⟨i1.cons _, i2.cons _⟩]

/-- `get_positive_objects`: the TP list (estimate ids, order kept) only grows, the FP list only shrinks -/
theorem getPositive_runs (hth : List.Forall₂ (looser m) th th') :
    Runs (∀ t ∈ th', thrValid m t = true) (fun p p' => p.1.Sublist p'.1 ∧ p'.2.Sublist p.2)
      (getPositive m T (some th) rs) (getPositive m T (some th') rs) := by
  rw [getPositive_eq_mapM, getPositive_eq_mapM]
  exact (Runs.mapM (forall₂_refl rs) fun a _ c _ e => e ▸ isPositive_runs hth).map fun _ _ => splitIds_sublist rs

/-- relation between the ground-truth statuses of one result list under two threshold lists -/
def StRel : Option (Gt × Status) → Option (Gt × Status) → Prop
  | none, none => True
  | some (g, s), some (g', s') => g = g' ∧ (s' = Status.fn → s = Status.fn)
  | _, _ => False

/-- one iteration of the first loop of `get_negative_objects`: the result's ground truth with its status -/
def gtStatusOf (m : Mode) (T : List Label) (thrs : Option (List Rat)) (r : Res) : Except Err (Option (Gt × Status)) :=
  (judgeAt m T thrs (keyLabel r) r).map fun p =>
    r.gt.map fun g => (g, if g.label == fpLabel then (if p.2 then .tn else .fp) else (if p.2 then .tp else .fn))

theorem gtStatuses_eq_mapM (thrs : Option (List Rat)) :
    ∀ rs, gtStatuses m T thrs rs = rs.mapM (gtStatusOf m T thrs)
  | [] => rfl
  | r :: rs => by
    rw [gtStatuses, mapM_cons_eq, gtStatuses_eq_mapM thrs rs, gtStatusOf, judgeAt]
    generalize List.mapM (gtStatusOf m T thrs) rs = tail
    unfold getStatus
    cases getLabelThreshold (keyLabel r) T thrs with
    | error e => rfl
    | ok thr =>
      dsimp only
      cases hg : r.gt with
      | none =>
        have : isResultCorrect m thr r = .ok false := by rw [isResultCorrect, hg]
        rw [this]
        cases tail <;> rfl
      | some g =>
        dsimp only [Option.map_some]
        cases isResultCorrect m thr r with
        | error e => rfl
        | ok b => cases b <;> cases g.label == fpLabel <;> cases tail <;> rfl

theorem gtStatusOf_runs (hth : List.Forall₂ (looser m) th th') :
    Runs (∀ t ∈ th', thrValid m t = true) StRel (gtStatusOf m T (some th) r) (gtStatusOf m T (some th') r) := by
  refine (judgeAt_runs hth (keyLabel r)).map fun p p' ⟨_, _, hb⟩ => ?_
  cases hg : r.gt with
  | none => exact trivial
  | some g =>
    refine ⟨rfl, ?_⟩
    -- an FN is an ordinary ground truth whose result is not correct
    cases hf : g.label == fpLabel with
    | true => cases p.2 <;> cases p'.2 <;> simp
    | false =>
      have hord : ∀ g', r.gt = some g' → g'.label ≠ fpLabel := fun g' hg' => by
        cases hg.symm.trans hg'; simpa using hf
      cases h2 : p.2 with
      | false => simp
      | true => rw [hb hord h2]; simp

theorem stRel_filter {l l' : List (Option (Gt × Status))} (h : List.Forall₂ StRel l l') :
    (((l'.filterMap id).filter (fun gs => gs.2 == Status.fn)).map (fun gs => gs.1.id)).Sublist
      (((l.filterMap id).filter (fun gs => gs.2 == Status.fn)).map (fun gs => gs.1.id))
    ∧ (l.filterMap id).map (fun gs => gs.1.id) = (l'.filterMap id).map (fun gs => gs.1.id) := by
  induction h with
  | nil => exact ⟨List.Sublist.refl _, rfl⟩
  | @cons a b t t' hab _ ih =>
    match a, b, hab with
    | none, none, _ => simpa using ih
    | some (g, s), some (g', s'), ⟨e, hfn⟩ =>
      subst e
      simp only [List.filterMap_cons, id, List.filter_cons, List.map_cons]
      refine ⟨?_, congrArg (g.id :: ·) ih.2⟩
      by_cases hs' : s' = Status.fn
      · have hs := hfn hs'
        subst hs hs'
        simpa using List.Sublist.cons_cons g.id ih.1
      · rw [if_neg (by simpa using hs')]
        split
        · exact List.Sublist.cons _ ih.1
        · exact ih.1

/-- the TN and the FN id list `get_negative_objects` builds from the ground-truth statuses of the results -/
def negIds (gts : List Gt) (sts : List (Option (Gt × Status))) : List Nat × List Nat :=
  let paired := sts.filterMap id
  let tn1 := (paired.filter (fun gs => gs.2 == Status.tn)).map (fun gs => gs.1.id)
  let fn1 := (paired.filter (fun gs => gs.2 == Status.fn)).map (fun gs => gs.1.id)
  let nonCand := paired.map (fun gs => gs.1.id)
  let rest := gts.filter (fun g => !nonCand.contains g.id)
  (tn1 ++ (rest.filter (fun g => g.label == fpLabel)).map (·.id),
   fn1 ++ (rest.filter (fun g => g.label != fpLabel)).map (·.id))

theorem getNegative_eq_mapM (thrs : Option (List Rat)) (gts : List Gt) (rs : List Res) :
    getNegative m T thrs gts rs = (rs.mapM (gtStatusOf m T thrs)).map (negIds gts) := by
  rw [getNegative, gtStatuses_eq_mapM]
  cases List.mapM (gtStatusOf m T thrs) rs <;> rfl

/-- `get_negative_objects`: every FN under the looser list is an FN under the tighter one -/
theorem getNegative_runs (hth : List.Forall₂ (looser m) th th') {gts : List Gt} :
    Runs (∀ t ∈ th', thrValid m t = true) (fun n n' => n'.2.Sublist n.2)
      (getNegative m T (some th) gts rs) (getNegative m T (some th') gts rs) := by
  rw [getNegative_eq_mapM, getNegative_eq_mapM]
  refine (Runs.mapM (forall₂_refl rs) fun a _ c _ e => by subst e; exact gtStatusOf_runs hth).map fun l l' h => ?_
  obtain ⟨hsub, hids⟩ := stRel_filter h
  simp only [negIds]
  rw [hids]
  exact List.Sublist.append hsub (List.Sublist.refl _)

theorem zip_looser (T : List Label) (h : List.Forall₂ (looser m) th th') :
    List.Forall₂ (fun a b => a.1 = b.1 ∧ looser m a.2 b.2) (T.zip th) (T.zip th') := by
  induction h generalizing T with
  | nil => simp
  | cons hab _ ih =>
    cases T with
    | nil => simp
    | cons l ls => exact .cons ⟨rfl, hab⟩ (ih ls)

/-- `Map` over the same per-label dicts: every per-label AP and APH, mAP and mAPH are not smaller, and each is defined iff it
was. `hfp` as in `apOf_runs`: the false-positive label is no target, or every ground truth in the dicts is ordinary -/
theorem mapOf_runs {is2d : Bool} {buckets : List (Label × List (List Res))} {nums : List (Label × Nat)}
    (hth : List.Forall₂ (looser m) th th')
    (hfp : fpLabel ∉ T ∨
      ∀ l rss, lookupKey l buckets = .ok rss → ∀ r ∈ rss.flatten, ∀ g, r.gt = some g → g.label ≠ fpLabel)
    (hhw : ∀ l rss, lookupKey l buckets = .ok rss → ∀ r ∈ rss.flatten, 0 ≤ r.hw) :
    Runs (∀ t ∈ th', thrValid m t = true)
      (fun o o' => optLe o.map o'.map ∧ optLe o.maph o'.maph
        ∧ List.Forall₂ (fun a a' => optLe a.ap a'.ap) o.aps o'.aps
        ∧ List.Forall₂ (fun a a' => optLe a.ap a'.ap) o.aphs o'.aphs)
      (mapOf m is2d T th buckets nums) (mapOf m is2d T th' buckets nums) := by
  intro o h
  obtain ⟨f1, f2, hm, hmh⟩ := mapOf_spec.1 h
  -- label by label: once the tighter call has found the label's two entries, both calls are `Ap` of them for the target list `[l]`
  have H : ∀ (tm : TpMetric) (z z' : Label × Rat), z ∈ T.zip th → z' ∈ T.zip th' → (z.1 = z'.1 ∧ looser m z.2 z'.2) →
      Runs (∀ t ∈ th', thrValid m t = true) (fun a a' => optLe a.ap a'.ap)
        (apCall tm m buckets nums z.1 z.2) (apCall tm m buckets nums z'.1 z'.2) := by
    intro tm z z' hz hz' hzz a ha
    obtain ⟨rss, G, hb, hn, -⟩ := apCall_ok_iff.1 ha
    have e : ∀ t, apCall tm m buckets nums z.1 t = apOf tm m [z.1] [t] G rss.flatten := fun t => by
      rw [apCall, hb, hn]; rfl
    rw [← hzz.1, e]
    rw [e] at ha
    exact (apOf_runs (.cons hzz.2 .nil)
      (hfp.imp (fun hfp hm => hfp (List.mem_singleton.1 hm ▸ (List.of_mem_zip hz).1)) fun hord => hord z.1 rss hb)
      (fun r hr => tpValue_nonneg (hhw z.1 rss hb r hr)) a ha).imp
      (fun hex hv => hex fun t ht => List.mem_singleton.1 ht ▸ hv _ (List.of_mem_zip hz').2) id
  have hmem : ∀ {zs : List (Label × Rat)} {z : Label × Rat}, z ∈ (if is2d = true then [] else zs) → z ∈ zs :=
    fun h => by cases is2d; exacts [h, nomatch h]
  obtain ⟨e1, r1⟩ := Runs.forall₂ (zip_looser T hth) (fun z hz z' hz' => H .ap z z' hz hz') f1
  obtain ⟨e2, r2⟩ := Runs.forall₂
    (show List.Forall₂ _ (if is2d = true then [] else T.zip th) (if is2d = true then [] else T.zip th') by
      cases is2d; exacts [zip_looser T hth, .nil])
    (fun z hz z' hz' => H .aph z z' (hmem hz) (hmem hz')) f2
  refine ⟨fun hv => ?_, fun o' h' => ?_⟩
  · obtain ⟨as', g1⟩ := e1 hv
    obtain ⟨hs', g2⟩ := e2 hv
    exact ⟨⟨as', hs', meanDefined (as'.map (·.ap)), meanDefined (hs'.map (·.ap))⟩, mapOf_spec.2 ⟨g1, g2, rfl, rfl⟩⟩
  · obtain ⟨f1', f2', hm', hmh'⟩ := mapOf_spec.1 h'
    have i1 := r1 _ f1'
    have i2 := r2 _ f2'
    rw [hm, hm', hmh, hmh']
    exact ⟨meanDefined_mono (forall₂_map (R := optLe) ApOut.ap i1),
      meanDefined_mono (forall₂_map (R := optLe) ApOut.ap i2), i1, i2⟩

end PEval.AP

