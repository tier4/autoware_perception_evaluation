import Mathlib.Tactic.Ring
import PEval.Lemmas.APDTBridge
import PEval.Lemmas.APClassify
/-!
The bridge of the tables (c) — `Map.__init__` — for ALL inputs (any number of labels; does not import `PEval.Gen.*`):
whenever the model's `mapOf` answers, the skeleton `mapAtoms` at the shape (`shapeOfMap`: positions of the dict keys in
the target list) and at the valuation (`valMap`: which buckets are empty) of the input answers a leaf whose `Ap` calls,
read on the input (`readCall`), are exactly the model's per-label `Ap`s / APH `Ap`s, and whose mAP / mAPH normal forms,
read at the per-label values, are the model's mAP / mAPH (`map_bridge`).
-/
namespace PEval.APDT
open PEval.AP PEval.ClearDT

/-- an `ApCall` of a table leaf read on a concrete input: (APH?, target label, key of the result-dict entry, key of the
count-dict entry, position of the threshold), labels by their position in the target list -/
def readCall (m : Mode) (targets : List Label) (thrs : List Rat) (buckets : List (Label × List (List Res)))
    (nums : List (Label × Nat)) (c : ApCall) : Except Err ApOut :=
  match targets[c.2.1]?, targets[c.2.2.1]?, targets[c.2.2.2.1]?, thrs[c.2.2.2.2]? with
  | some lt, some lr, some ln, some t =>
    (match lookupKey lr buckets with
    | .error e => .error e
    | .ok rs =>
      match lookupKey ln nums with
      | .error e => .error e
      | .ok G => apOfNested (if c.1 then .aph else .ap) m [lt] [t] G rs)
  | _, _, _, _ => .error "IndexError"

/-- the shape of a concrete input: number of target labels, the dict keys as positions in the target list (a key that is
no target label gets position `targets.length`: an extra key) -/
def shapeOfMap (is2d : Bool) (targets : List Label) (buckets : List (Label × List (List Res)))
    (nums : List (Label × Nat)) : MapShape :=
  ⟨targets.length, buckets.map fun kv => targets.idxOf kv.1, nums.map fun kv => targets.idxOf kv.1, is2d⟩

/-- the valuation of a concrete input: `empty i` ⇔ the bucket of target label `i` holds no result -/
def valMap (targets : List Label) (buckets : List (Label × List (List Res))) : Val where
  b := fun a =>
    match a with
    | .empty i => (match targets[i]? with
      | some l => (match lookupKey l buckets with
        | .ok rs => rs.flatten.isEmpty
        | .error _ => false)
      | none => false)
    | _ => false
  o := fun _ => .eq

theorem valMap_consistent (targets : List Label) (buckets : List (Label × List (List Res))) :
    (valMap targets buckets).consistent := by
  refine ⟨?_, by simp [valMap]⟩
  intro r j s h
  simp [valMap] at h

/-- per-label values `ap i`, `aph i` of an output -/
def envMap (out : MapOut) : Var → Rat := fun v =>
  if v.1 = "ap" then ((out.aps[v.2]?).bind (·.ap)).getD 0
  else if v.1 = "aph" then ((out.aphs[v.2]?).bind (·.ap)).getD 0 else 0

theorem calls_eq_zip (m : Mode) (targets : List Label) (thrs : List Rat) (buckets : List (Label × List (List Res)))
    (nums : List (Label × Nat)) (aph : Bool) (hlen : thrs.length = targets.length) :
    (List.range targets.length).map (fun i => readCall m targets thrs buckets nums (aph, i, i, i, i)) =
      (targets.zip thrs).map fun lt => apCall (if aph then .aph else .ap) m buckets nums lt.1 lt.2 := by
  apply List.ext_getElem
  · simp [hlen]
  · intro i h1 h2
    simp only [List.length_map, List.length_range] at h1
    have h3 : i < thrs.length := by omega
    simp only [List.getElem_map, List.getElem_range, List.getElem_zip]
    simp only [readCall, List.getElem?_eq_getElem h1, List.getElem?_eq_getElem h3]
    rfl

theorem filterMap_eq_filter_map {α : Type} (f : α → Option Rat) :
    ∀ l : List α, l.filterMap f = (l.filter fun a => (f a).isSome).map fun a => (f a).getD 0 := by
  intro l
  induction l with
  | nil => rfl
  | cons a l ih =>
    cases h : f a with
    | none => simp [h, ih]
    | some x => simp [h, ih]

theorem definedLabels_eq (L : Nat) (p : Nat → Bool) :
    definedLabels L ((List.range L).map p) = (List.range L).filter fun i => !p i := by
  unfold definedLabels
  generalize List.range L = l
  induction l with
  | nil => rfl
  | cons a l ih =>
    simp only [List.map_cons, List.zip_cons_cons, List.filterMap_cons, List.filter_cons, ih]
    cases p a <;> simp

/-- the mean normal form over the defined labels, read at the per-label values, is `meanDefined` -/
theorem mean_bridge (kind : String) (as : List ApOut) (env : Var → Rat)
    (henv : ∀ i, env (kind, i) = ((as[i]?).bind (·.ap)).getD 0) (p : Nat → Bool)
    (hp : ∀ i, i < as.length → p i = ((as[i]?).bind (·.ap)).isNone) :
    (meanNF kind (definedLabels as.length ((List.range as.length).map p))).map (evalNF env) =
      meanDefined (as.map (·.ap)) := by
  have hfm : (as.map (·.ap)).filterMap id = (List.range as.length).filterMap fun i => (as[i]?).bind (·.ap) := by
    have : as.map (·.ap) = (List.range as.length).map fun i => (as[i]?).bind (·.ap) :=
      List.ext_getElem? fun i => by by_cases h : i < as.length <;> simp [h]
    rw [this, List.filterMap_map]
    rfl
  have hfilt : ((List.range as.length).filter fun i => !p i) =
      (List.range as.length).filter fun i => ((as[i]?).bind (·.ap)).isSome := by
    apply List.filter_congr
    intro i hi
    rw [hp i (List.mem_range.1 hi)]
    cases (as[i]?).bind (·.ap) <;> rfl
  rw [meanNF_eval, definedLabels_eq, meanDefined_eq, hfm, filterMap_eq_filter_map, hfilt]
  simp only [henv, List.length_map, List.isEmpty_iff, List.map_eq_nil_iff]

/-- what a leaf of the tables (c) says on a concrete input -/
structure MapLeafReads (m : Mode) (targets : List Label) (thrs : List Rat) (buckets : List (Label × List (List Res)))
    (nums : List (Label × Nat)) (leaf : MapLeaf) (out : MapOut) : Prop where
  aps : leaf.aps.map (readCall m targets thrs buckets nums) = out.aps.map .ok
  aphs : leaf.aphs.map (readCall m targets thrs buckets nums) = out.aphs.map .ok
  map : leaf.map.map (evalNF (envMap out)) = out.map
  maph : leaf.maph.map (evalNF (envMap out)) = out.maph

/-- which buckets are empty, read off the per-label `Ap`s (for the AP and for the APH instances alike) -/
theorem bucket_empty_bridge (tm : TpMetric) (m : Mode) (targets : List Label) (thrs : List Rat)
    (buckets : List (Label × List (List Res))) (nums : List (Label × Nat)) (hlen : thrs.length = targets.length)
    (xs : List ApOut)
    (hx : List.Forall₂ (fun lt a => apCall tm m buckets nums lt.1 lt.2 = .ok a) (targets.zip thrs) xs) :
    xs.length = targets.length ∧
    ∀ i, i < xs.length → (valMap targets buckets).b (.empty i) = ((xs[i]?).bind (·.ap)).isNone := by
  have hxl : xs.length = targets.length := by rw [← forall₂_length hx, List.length_zip, hlen, min_self]
  refine ⟨hxl, fun i hi => ?_⟩
  have hi' : i < targets.length := hxl ▸ hi
  have hget := forall₂_getElem hx i (by rw [forall₂_length hx]; exact hi) hi
  rw [List.getElem_zip] at hget
  obtain ⟨rs, G, hr, _, ha⟩ := apCall_ok_iff.1 hget
  have hnone : xs[i].ap = none ↔ rs.flatten = [] := apOf_ap_none_iff ha
  simp only [valMap, List.getElem?_eq_getElem hi', List.getElem?_eq_getElem hi, Option.bind_some, hr]
  cases hap : xs[i].ap with
  | none => simp [hnone.1 hap]
  | some x =>
    have hne : rs.flatten ≠ [] := fun h => by rw [hnone.2 h] at hap; cases hap
    simp [hne]

/-- **THE BRIDGE of (c)**, any number of labels: whenever the model's `Map` answers (pairwise distinct target labels, one
threshold per label), the skeleton at the shape and the valuation of the input answers a leaf whose `Ap` / APH calls —
label `i`'s `Ap` from the dict entries and the threshold OF LABEL `i` — read on the input are the model's per-label
`Ap`s, and whose mAP / mAPH normal forms read at the per-label values are the model's mAP / mAPH -/
theorem map_bridge (m : Mode) (is2d : Bool) (targets : List Label) (thrs : List Rat)
    (buckets : List (Label × List (List Res))) (nums : List (Label × Nat)) (hnd : targets.Nodup)
    (hlen : thrs.length = targets.length) (out : MapOut) (hout : mapOf m is2d targets thrs buckets nums = .ok out) :
    ∃ leaf, mapAtoms (shapeOfMap is2d targets buckets nums) (valMap targets buckets) = .ok leaf ∧
      MapLeafReads m targets thrs buckets nums leaf out := by
  obtain ⟨hloop, hm, hmh⟩ := mapOf_ok_iff.1 hout
  obtain ⟨f1, f2⟩ := mapLoop_ok_iff.1 hloop
  obtain ⟨haslen, hempty⟩ := bucket_empty_bridge .ap m targets thrs buckets nums hlen _ f1
  -- every target label is a key of both dicts
  have hkeys : (List.range targets.length).all (fun i =>
      (buckets.map fun kv => targets.idxOf kv.1).contains i && (nums.map fun kv => targets.idxOf kv.1).contains i) = true := by
    rw [List.all_eq_true]
    intro i hi
    have hi' : i < targets.length := List.mem_range.1 hi
    have hget := forall₂_getElem f1 i (by rw [forall₂_length f1, haslen]; exact hi') (haslen ▸ hi')
    rw [List.getElem_zip] at hget
    obtain ⟨rs, G, hr, hG, _⟩ := apCall_ok_iff.1 hget
    have hidx : targets.idxOf targets[i] = i := List.Nodup.idxOf_getElem hnd i hi'
    simp only [Bool.and_eq_true, List.contains_iff_mem, List.mem_map]
    exact ⟨⟨_, lookupKey_mem hr, hidx⟩, ⟨_, lookupKey_mem hG, hidx⟩⟩
  refine ⟨mapLeafOf (shapeOfMap is2d targets buckets nums)
    ((List.range targets.length).map fun i => (valMap targets buckets).b (.empty i)),
    by simp only [mapAtoms, shapeOfMap, hkeys, if_true], ?_⟩
  constructor
  · simp only [mapLeafOf, shapeOfMap, List.map_map]
    rw [← forall₂_ok_map f1]
    exact calls_eq_zip m targets thrs buckets nums false hlen
  · cases is2d with
    | true =>
      rw [if_pos rfl] at f2
      simp [mapLeafOf, shapeOfMap, f2]
    | false =>
      simp only [mapLeafOf, shapeOfMap, Bool.false_eq_true, if_false, List.map_map]
      rw [← forall₂_ok_map f2]
      exact calls_eq_zip m targets thrs buckets nums true hlen
  · simp only [mapLeafOf, shapeOfMap]
    rw [hm, ← haslen]
    exact mean_bridge "ap" out.aps _ (fun i => by simp [envMap]) _ hempty
  · cases is2d with
    | true =>
      rw [if_pos rfl] at f2
      simp [mapLeafOf, shapeOfMap, hmh, f2, meanDefined]
    | false =>
      obtain ⟨hhslen, hempty'⟩ := bucket_empty_bridge .aph m targets thrs buckets nums hlen _ f2
      simp only [mapLeafOf, shapeOfMap, Bool.false_eq_true, if_false]
      rw [hmh, ← hhslen]
      exact mean_bridge "aph" out.aphs _ (fun i => by simp [envMap]) _ hempty'

end PEval.APDT
