import PEval.Lemmas.AnalyzerCounts
/-!
# C19 lemmas: the lists produced by (the model of) `PassFailResult.evaluate` are well formed

For object results whose ground truths are pairwise distinct members of a duplicate-free critical
ground-truth list, `passFail` yields a frame satisfying `Frame.WF`; moreover the ordinary ground truths
kept in FP results are exactly the FN objects contributed by the first loop of `get_negative_objects`
— the double tabulation of finding F11.  Core Lean only.
-/


namespace PEval.Analyzer

/-- ground truths carried by the object results -/
def resGts (results : List (Pair × Bool)) : List Obj := results.filterMap (·.1.gt)

/-- GT status of a result that carries the ground truth `g` -/
def gtStatus (c : Bool) (g : Obj) : Status := if c then (if g.isFp then .TN else .TP) else (if g.isFp then .FP else .FN)

/-- what one object result puts into the TP list / the FP list -/
def tpOf (pc : Pair × Bool) : Option Pair := pc.1.gt.bind fun g => if gtStatus pc.2 g = .TP then some pc.1 else none
def fpOf (pc : Pair × Bool) : Option Pair :=
  match pc.1.gt with
  | none => some pc.1
  | some g => match gtStatus pc.2 g with
    | .TP => none
    | .TN => some ⟨pc.1.est, none⟩
    | _ => some pc.1

/-- the loop of `get_positive_objects` sorts result by result: all five lists of `evaluate` are `filterMap`s of the results,
and every fact below is a comparison of what ONE result contributes -/
theorem getPositive_eq (results : List (Pair × Bool)) :
    getPositive results = (results.filterMap tpOf, results.filterMap fpOf) := by
  induction results with
  | nil => rfl
  | cons pc rest ih =>
    obtain ⟨p, c⟩ := pc
    cases hg : p.gt with
    | none => simp [getPositive, hg, ih, tpOf, fpOf]
    | some g => cases c <;> cases hf : g.isFp <;> simp [getPositive, getStatus, hg, hf, ih, tpOf, fpOf, gtStatus]

theorem gtsWith_eq (q : Option Status → Bool) (results : List (Pair × Bool)) :
    gtsWith q results = results.filterMap fun pc => pc.1.gt.filter fun g => q (some (gtStatus pc.2 g)) := by
  refine congrArg (fun f => results.filterMap f) (funext fun pc => ?_)
  obtain ⟨p, c⟩ := pc
  cases hg : p.gt with
  | none => simp [getStatus, hg]
  | some g => cases c <;> cases hf : g.isFp <;> simp [getStatus, hg, hf, gtStatus, Option.filter]

theorem getPositive_tp_has_gt (results : List (Pair × Bool)) : ∀ p ∈ (getPositive results).1, p.gt.isSome = true := by
  rw [getPositive_eq]
  intro p hp
  obtain ⟨pc, _, h⟩ := List.mem_filterMap.mp hp
  obtain ⟨g, hg, h⟩ := Option.bind_eq_some_iff.1 h
  split at h <;> cases h
  rw [hg]; rfl

theorem fpOrd_eq_fn1 (results : List (Pair × Bool)) :
    (((getPositive results).2.filterMap (·.gt)).filter fun g => !g.isFp) = gtsWith (· == some .FN) results := by
  rw [getPositive_eq, gtsWith_eq, List.filterMap_filterMap, List.filter_filterMap]
  refine congrArg (fun f => results.filterMap f) (funext fun pc => ?_)
  obtain ⟨p, c⟩ := pc
  cases hg : p.gt with
  | none => simp [fpOf, hg]
  | some g => cases c <;> cases hf : g.isFp <;> simp [fpOf, hg, hf, gtStatus, Option.filter]

theorem gtsWith_isSome (results : List (Pair × Bool)) : gtsWith (·.isSome) results = resGts results := by
  rw [gtsWith_eq]
  exact congrArg (fun f => results.filterMap f) (funext fun pc => by cases pc.1.gt <;> simp [Option.filter])

theorem count_filterMap_sum {α β : Type} [BEq β] (f : α → Option β) (a : β) (l : List α) :
    (l.filterMap f).count a = sumN (l.map fun x => (f x).toList.count a) := by
  induction l with
  | nil => rfl
  | cons x l ih => cases h : f x <;> simp [h, ih, List.count_cons]; omega

/-- a ground truth carried by a result goes into exactly one of the four lists -/
theorem resGts_count (results : List (Pair × Bool)) (a : Obj) :
    (resGts results).count a =
      ((getPositive results).1.filterMap (·.gt)).count a +
      (((getPositive results).2.filterMap (·.gt)).filter (·.isFp)).count a +
      (gtsWith (· == some .TN) results).count a + (gtsWith (· == some .FN) results).count a := by
  simp only [getPositive_eq, gtsWith_eq, resGts, List.filterMap_filterMap, List.filter_filterMap, count_filterMap_sum,
    ← sumN_map_add]
  refine congrArg sumN (List.map_congr_left fun pc _ => ?_)
  obtain ⟨p, c⟩ := pc
  cases hg : p.gt with
  | none => simp [hg, tpOf, fpOf]
  | some g => cases c <;> cases hf : g.isFp <;> simp [hg, hf, tpOf, fpOf, gtStatus, Option.filter]

theorem Frame.WF.of_passFail (n : Nat) (critical : List Obj) (results : List (Pair × Bool))
    (hnd : critical.Nodup) (hres : (resGts results).Nodup) (hsub : ∀ g ∈ resGts results, g ∈ critical) :
    (passFail n critical results).WF := by
  refine ⟨getPositive_tp_has_gt results, ?_, ?_⟩
  · -- the critical ground truths that some result carries are, up to order, the carried ones (each of them in exactly one
    -- list, `resGts_count`); the others are left over and sorted by their label
    have hc : (critical.filter fun g => (resGts results).contains g).Perm (resGts results) :=
      (List.perm_ext_iff_of_nodup (hnd.filter _) hres).2 fun g => by
        rw [List.mem_filter, List.contains_iff_mem]
        exact ⟨fun h => h.2, fun h => ⟨hsub g h, h⟩⟩
    refine List.perm_iff_count.mpr fun a => ?_
    have h1 := resGts_count results a
    have h2 := List.countP_eq_countP_filter_add critical (· == a) fun g => (resGts results).contains g
    have h3 := List.countP_eq_countP_filter_add (critical.filter fun g => !((resGts results).contains g)) (· == a) (·.isFp)
    simp only [← List.count_eq_countP, hc.count_eq] at h2 h3
    simp only [passFail, getNegative, Frame.tpGts, Frame.fpFpl, Frame.fpGts, List.count_append, gtsWith_isSome]
    omega
  · intro g hg
    simp only [passFail, getNegative, Frame.fpOrd, Frame.fpGts] at hg ⊢
    rw [fpOrd_eq_fn1] at hg
    exact List.mem_append_left _ hg

/-- F11 at its source: an ordinary ground truth kept in an FP result is also put into the FN list -/
theorem passFail_fpOrd (n : Nat) (critical : List Obj) (results : List (Pair × Bool)) :
    (passFail n critical results).fpOrd = gtsWith (· == some .FN) results := by
  simp only [passFail, Frame.fpOrd, Frame.fpGts]
  exact fpOrd_eq_fn1 results

end PEval.Analyzer
