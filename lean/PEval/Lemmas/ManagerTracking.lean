import PEval.Model.ManagerTracking
import PEval.Lemmas.Manager
import PEval.Lemmas.Clear
/-!
The manager with concrete tracking scores (`Model/ManagerTracking.lean`; core Lean only): runs of the extended state
machine (an instance of `Manager.runWith`, and the machine of `Manager.lean` once the tracking view is
forgotten), what the accumulation loop of `get_scene_result` hands to the tracking metrics, reading a
single `CLEAR` out of `MetricsScore.tracking_scores`, and the invariant "every stored tracking score was
computed from the stored predecessor".
-/

namespace PEval.ManagerTracking
open PEval.Manager PEval PEval.Clear

variable {E C : Type}

theorem trun_eq (sem : TSem E C) (s : TState) (ops : List (Op E C)) : trun sem s ops = runWith (tstep sem) s ops := by
  induction ops generalizing s with
  | nil => rfl
  | cons op ops ih => simp only [trun, runWith, ih]

theorem tstep_query (sem : TSem E C) (s : TState) (op : Op E C) (h : op.isQuery = true) : (tstep sem s op).1 = s := by
  cases op
  · cases h
  · rfl
  · rfl

theorem trun_queries (sem : TSem E C) (s : TState) (ops : List (Op E C)) (h : ∀ op ∈ ops, op.isQuery = true) :
    (trun sem s ops).1 = s := by
  rw [trun_eq]
  exact runWith_inv (· = s) (fun s' op ho hs => (tstep_query sem s' op (h op ho)).trans hs) rfl

theorem tlastOut_append_one (sem : TSem E C) (s : TState) (pre : List (Op E C)) (op : Op E C) :
    tlastOut sem s (pre ++ [op]) = some (tstep sem (trun sem s pre).1 op).2 := by
  simp only [tlastOut, trun_eq]; exact runWith_getLast? _ s pre op

theorem tstep_forget (sem : TSem E C) (s : TState) (op : Op E C) :
    (tstep sem s op).1.forget = (step sem.forget s.forget op).1 ∧
    (tstep sem s op).2.forget = (step sem.forget s.forget op).2 := by
  cases op with
  | add g e c =>
    simp [tstep, step, taddFrameResult, addFrameResult, tevalFrame, evalFrame, TState.forget,
      TFrameResult.forget, TSem.forget, TOut.forget]
  | scene => exact ⟨rfl, rfl⟩
  | lookup t thr => exact ⟨rfl, rfl⟩

theorem trun_forget (sem : TSem E C) (s : TState) (ops : List (Op E C)) :
    (trun sem s ops).1.forget = (run sem.forget s.forget ops).1 ∧
    (trun sem s ops).2.map TOut.forget = (run sem.forget s.forget ops).2 := by
  have := runWith_sim (step := tstep sem) (step' := step sem.forget) (fun s t => s.forget = t) id TOut.forget id
    (ops := ops) (fun s _ op _ h => by subst h; exact tstep_forget sem s op) (rfl : s.forget = s.forget)
  simpa only [List.map_id, ← trun_eq, ← run_eq] using this

theorem trun_dataset (sem : TSem E C) (s : TState) (ops : List (Op E C)) : (trun sem s ops).1.dataset = s.dataset :=
  (congrArg State.dataset (trun_forget sem s ops).1).trans (run_dataset sem.forget s.forget ops)

theorem addsTB_eq (sem : TSem E C) (ops : List (Op E C)) :
    addsTB sem ops = (adds ops).map fun a => sem.evalTB a.1 a.2.1 a.2.2 := by
  induction ops with
  | nil => rfl
  | cons op ops ih => cases op <;> simp only [addsTB, adds, ih, List.map_cons]

theorem addsDetT_eq (sem : TSem E C) (ops : List (Op E C)) :
    addsDetT sem ops = (adds ops).map fun a => sem.evalDet a.1 a.2.1 a.2.2 := by
  induction ops with
  | nil => rfl
  | cons op ops ih => cases op <;> simp only [addsDetT, adds, ih, List.map_cons]

/-- whatever `tevalFrame` computes from the call alone (`w`), the stored results show it, in call order -/
theorem trun_frameResults_map {α : Type} (sem : TSem E C) (v : TFrameResult → α) (w : Frame × E × C → α)
    (hv : ∀ g e c prev, v (tevalFrame sem g e c prev) = w (g, e, c)) (s : TState) (ops : List (Op E C)) :
    (trun sem s ops).1.frameResults.map v = s.frameResults.map v ++ (adds ops).map w := by
  induction ops generalizing s with
  | nil => simp [trun, adds]
  | cons op ops ih =>
    simp only [trun]
    rw [ih]
    cases op <;> simp [tstep, taddFrameResult, adds, hv]

theorem trun_frameResults_tb (sem : TSem E C) (s : TState) (ops : List (Op E C)) :
    (trun sem s ops).1.frameResults.map (·.tb) = s.frameResults.map (·.tb) ++ addsTB sem ops := by
  rw [addsTB_eq]; exact trun_frameResults_map sem _ _ (fun _ _ _ _ => rfl) s ops

theorem trun_frameResults_det (sem : TSem E C) (s : TState) (ops : List (Op E C)) :
    (trun sem s ops).1.frameResults.map (·.det) = s.frameResults.map (·.det) ++ addsDetT sem ops := by
  rw [addsDetT_eq]; exact trun_frameResults_map sem _ _ (fun _ _ _ _ => rfl) s ops

theorem trun_last_tb_add (sem : TSem E C) (s : TState) (pre qs : List (Op E C))
    (hq : ∀ op ∈ qs, op.isQuery = true) (g : Frame) (e : E) (c : C) :
    (trun sem s (pre ++ [.add g e c] ++ qs)).1.frameResults.getLast?.map (·.tb) = some (sem.evalTB g e c) := by
  rw [trun_eq, runWith_snoc_fixed fun s q h => tstep_query sem s q (hq q h)]
  simp [tstep, taddFrameResult, tevalFrame]

theorem map_det_gt (rs : List TFrameResult) (l : Nat) : rs.map (·.det.gt l) = (rs.map (·.det)).map (·.gt l) := by
  rw [List.map_map]; rfl

theorem map_bucket (rs : List TFrameResult) (l : Nat) : rs.map (·.bucket l) = (rs.map (·.tb)).map (·.getD l []) := by
  rw [List.map_map]; rfl

theorem foldl_tsceneAdd (frs : List TFrameResult) (sc : TScene) :
    frs.foldl tsceneAdd sc =
      { results := frs.foldl (fun acc fr => acc.mapIdx fun l b => b ++ [fr.bucket l]) sc.results
        numGt := frs.foldl (fun acc fr => acc.mapIdx fun l n => n + fr.det.gt l) sc.numGt
        usedFrame := sc.usedFrame ++ frs.map (·.frameName) } := by
  induction frs generalizing sc with
  | nil => simp
  | cons fr frs ih => simp [ih, tsceneAdd]

/-- the nested list of label `l`: the initial `[]`, then one bucket per stored frame -/
theorem tscene_hist (nl : Nat) (s : TState) (l : Nat) (hl : l < nl) :
    (tsceneAcc nl s).hist l = [] :: s.frameResults.map (·.bucket l) := by
  unfold TScene.hist tsceneAcc
  simp only [List.getD_eq_getElem?_getD, foldl_tsceneAdd, getElem?_foldl_mapIdx, foldl_snoc]
  simp [tsceneInit, hl]

theorem tscene_gt (nl : Nat) (s : TState) (l : Nat) (hl : l < nl) :
    (tsceneAcc nl s).gt l = (s.frameResults.map (·.det.gt l)).sum := by
  unfold TScene.gt tsceneAcc
  simp only [List.getD_eq_getElem?_getD, foldl_tsceneAdd, getElem?_foldl_mapIdx, foldl_add]
  simp [tsceneInit, hl]

theorem tscene_usedFrame (nl : Nat) (s : TState) :
    (tsceneAcc nl s).usedFrame = s.frameResults.map (·.frameName) := by
  unfold tsceneAcc
  rw [foldl_tsceneAdd]; rfl

theorem getElem?_labelInputs (labels : List Nat) (cfg : TCfg) (gt : Nat → Nat)
    (hist : Nat → List (List TRes)) (l : Nat) :
    (labelInputs labels cfg gt hist)[l]?
      = (labels.zip cfg.thr)[l]?.map (fun lt => ⟨lt.1, lt.2, gt l, (hist l).map (viewBucket cfg.mode)⟩) := by
  unfold labelInputs
  rw [List.getElem?_map, List.getElem?_zipIdx]
  cases (labels.zip cfg.thr)[l]? <;> simp

theorem zip_index_lt {labels : List Nat} {thr : List Rat} {l lab : Nat} {t : Rat}
    (hl : (labels.zip thr)[l]? = some (lab, t)) : l < labels.length := by
  have := (List.getElem?_eq_some_iff.mp hl).1
  rw [List.length_zip] at this
  omega

/-- `evaluate_tracking` reads `num_ground_truth[label]` and `object_results[label]` for the target
labels only, and the nested lists only through the `CLEAR` it builds from them -/
theorem evaluateTracking_congr (labels : List Nat) (cfgs : List TCfg) (gt gt' : Nat → Nat)
    (hist hist' : Nat → List (List TRes))
    (h : ∀ l, l < labels.length → gt l = gt' l ∧ ∀ cc m,
      evalClear cc (gt l) ((hist l).map (viewBucket m)) = evalClear cc (gt l) ((hist' l).map (viewBucket m))) :
    evaluateTracking labels cfgs gt hist = evaluateTracking labels cfgs gt' hist' := by
  unfold evaluateTracking
  refine List.map_congr_left fun cfg _ => ?_
  have hc : trackingClears cfg.maximize (labelInputs labels cfg gt hist)
      = trackingClears cfg.maximize (labelInputs labels cfg gt' hist') := by
    unfold trackingClears labelInputs
    rw [List.map_map, List.map_map]
    -- both sides map over `zip(target_labels, thresholds)` with its indices, and an index of that list is below `labels.length`
    refine List.map_congr_left fun x hx => ?_
    obtain ⟨hg, hh⟩ := h x.2 (zip_index_lt (lab := x.1.1) (t := x.1.2) (List.mem_zipIdx_iff_getElem?.1 hx))
    simp only [Function.comp, ← hg, hh]
  simp only [trackingScore, hc]

/-- `tracking_scores[k].clears[l]` is the `CLEAR` of label `l`'s nested list with the singleton label and
threshold lists -/
theorem clearAt_evaluateTracking (labels : List Nat) (cfgs : List TCfg) (gt : Nat → Nat)
    (hist : Nat → List (List TRes)) (k l : Nat) (cfg : TCfg) (lab : Nat) (t : Rat)
    (hk : cfgs[k]? = some cfg) (hl : (labels.zip cfg.thr)[l]? = some (lab, t)) :
    clearAt (evaluateTracking labels cfgs gt hist) k l
      = some (evalClear ⟨cfg.maximize, [(lab, t)]⟩ (gt l) ((hist l).map (viewBucket cfg.mode))) := by
  unfold clearAt evaluateTracking
  rw [List.getElem?_map, hk]
  simp only [Option.map_some, Option.bind_some, trackingScore, trackingClears]
  rw [List.getElem?_map, getElem?_labelInputs, hl]
  rfl

/-- `_sum_clear()` of `tracking_scores[k]` sums the `CLEAR`s of that score -/
theorem totalAt_evaluateTracking (labels : List Nat) (cfgs : List TCfg) (gt : Nat → Nat)
    (hist : Nat → List (List TRes)) (k : Nat) (cfg : TCfg) (hk : cfgs[k]? = some cfg) :
    totalAt (evaluateTracking labels cfgs gt hist) k
      = some (sumClear (trackingClears cfg.maximize (labelInputs labels cfg gt hist))) := by
  unfold totalAt evaluateTracking
  rw [List.getElem?_map, hk]
  rfl

/-- the stored results with the predecessor each of them was evaluated against -/
def framePairs : Option (List (List TRes)) → List TFrameResult → List (Option (List (List TRes)) × TFrameResult)
  | _, [] => []
  | p, r :: rs => (p, r) :: framePairs (some r.tb) rs

/-- each stored `metrics_score.tracking_scores` is `evaluate_frame` against the stored predecessor -/
def Consistent (labels : List Nat) (cfgs : List TCfg) (p : Option (List (List TRes))) (rs : List TFrameResult) : Prop :=
  ∀ qr ∈ framePairs p rs, qr.2.track = frameTrack labels cfgs qr.1 qr.2.tb qr.2.det

theorem framePairs_append_one (p : Option (List (List TRes))) (rs : List TFrameResult) (r : TFrameResult) :
    framePairs p (rs ++ [r]) = framePairs p rs ++ [((rs.getLast?.map (·.tb)).or p, r)] := by
  fun_induction framePairs p rs with
  | case1 => rfl
  | case2 p x xs ih =>
    rw [List.cons_append, framePairs, ih, List.getLast?_cons]
    cases xs.getLast? <;> rfl

theorem framePairs_map_snd {α : Type} (f : TFrameResult → α) (p : Option (List (List TRes)))
    (rs : List TFrameResult) : (framePairs p rs).map (fun qr => f qr.2) = rs.map f := by
  fun_induction framePairs p rs <;> simp [*]

theorem consistent_tstep (sem : TSem E C) (s : TState) (op : Op E C)
    (h : Consistent sem.labels sem.cfgs none s.frameResults) :
    Consistent sem.labels sem.cfgs none (tstep sem s op).1.frameResults := by
  cases op with
  | add g e c =>
    intro qr hm
    simp only [tstep, taddFrameResult, framePairs_append_one, List.mem_append, List.mem_singleton] at hm
    rcases hm with hm | rfl
    · exact h qr hm
    · simp [tevalFrame]
  | scene => exact h
  | lookup t thr => exact h

theorem consistent_trun (sem : TSem E C) (s : TState) (ops : List (Op E C))
    (h : Consistent sem.labels sem.cfgs none s.frameResults) :
    Consistent sem.labels sem.cfgs none (trun sem s ops).1.frameResults := by
  rw [trun_eq]
  exact runWith_inv (fun s => Consistent sem.labels sem.cfgs none s.frameResults)
    (fun s op _ => consistent_tstep sem s op) h

theorem consistent_fresh (sem : TSem E C) (ds : List Frame) (ops : List (Op E C)) :
    Consistent sem.labels sem.cfgs none (trun sem (tfresh ds) ops).1.frameResults :=
  consistent_trun sem _ ops (fun _ hm => nomatch hm)

theorem clear_pair (cfg : Cfg) (p c : List Clear.Res) : clear cfg [p, c] = frameStep cfg p c := by
  rw [clear_cons]; simp [steps]

theorem predictNum_cons (f0 : List Clear.Res) (fs : List (List Clear.Res)) :
    predictNum (f0 :: fs) = (fs.map List.length).sum := by
  unfold predictNum
  rw [List.drop_one, List.tail_cons, foldl_add, Nat.zero_add]

/-- the increments of `CLEAR.__init__` over `prev :: buckets of the stored frames` are the increments
of the per-frame evaluations `[predecessor, frame]` -/
theorem steps_framePairs (cfg : Cfg) (m l : Nat) (p : Option (List (List TRes))) (rs : List TFrameResult) :
    steps cfg (viewBucket m (prevBucket p l)) (rs.map (fun r => viewBucket m (r.bucket l)))
      = (framePairs p rs).map (fun qr =>
          frameStep cfg (viewBucket m (prevBucket qr.1 l)) (viewBucket m (qr.2.bucket l))) := by
  fun_induction framePairs p rs with
  | case1 => rfl
  | case2 p r rs ih => simp only [List.map_cons, steps, ← ih]; rfl

end PEval.ManagerTracking
