import PEval.Model.Label
import PEval.Lemmas.StrTable
/-!
General facts about the two lookup loops of `LabelConverter` (core Lean only).  Both loops are a lookup by the
lower-cased name: `convertLabel` takes the first matching row, `convertName` the last; with pairwise distinct registered
names the two agree, and the answer for a name is read off the row that registers it.  Last, the equations of the
constructor's dispatch on prefix and task.
-/
namespace PEval.Label

/-- lookup by an already lower-cased key: the first matching row -/
def lookupFirst (t : Table) (k : String) : Option String := (t.find? (fun p => p.2 == k)).map (·.1)

theorem convertLabel_eq (t : Table) (s : String) :
    convertLabel t s = (lookupFirst t s.toLower).getD "UNKNOWN" := by
  unfold convertLabel lookupFirst
  cases t.find? (fun p => p.2 == s.toLower) <;> rfl

/-- the loop without `break` is a fold over the rows that match -/
theorem foldl_last_eq (t : Table) (k : String) (acc : Option String) :
    t.foldl (fun acc p => if p.2 == k then some p.1 else acc) acc =
      (t.filter (fun p => p.2 == k)).foldl (fun _ p => some p.1) acc :=
  List.foldl_filter.symm

theorem foldl_last_none (t : Table) (k : String) (acc : Option String) (h : k ∉ regNames t) :
    t.foldl (fun acc p => if p.2 == k then some p.1 else acc) acc = acc := by
  rw [foldl_last_eq, List.filter_eq_nil_iff.2 fun p hp hpk => h (List.mem_map.2 ⟨p, hp, eq_of_beq hpk⟩)]
  rfl

theorem convertName_eq_convertLabel {t : Table} (hnd : (regNames t).Nodup) (s : String) :
    convertName t s = convertLabel t s := by
  -- with pairwise distinct registered names the matching rows are the first match alone
  rw [convertName, convertLabel_eq, lookupFirst, foldl_last_eq, List.filter_key_eq_toList Prod.snd hnd]
  cases t.find? (fun p => p.2 == s.toLower) <;> rfl

theorem convertLabel_of_mem {t : Table} (hnd : (regNames t).Nodup) {p : String × String} (hp : p ∈ t) {s : String}
    (hs : s.toLower = p.2) : convertLabel t s = p.1 := by
  rw [convertLabel_eq, hs, lookupFirst, List.find?_key_of_mem Prod.snd hnd hp]; rfl

theorem convertLabel_of_lower (t : Table) {s : String} (hs : s.toLower = s) :
    convertLabel t s = (lookupFirst t s).getD "UNKNOWN" := by
  rw [convertLabel_eq, hs]

theorem convertLabel_mem {t : Table} {labels : List String} (h : ∀ p ∈ t, p.1 ∈ labels) (hu : "UNKNOWN" ∈ labels)
    (s : String) : convertLabel t s ∈ labels := by
  unfold convertLabel
  split
  · exact h _ (List.mem_of_find?_eq_some ‹_›)
  · exact hu

theorem convertLabel_map (f : String → String) (hf : f "UNKNOWN" = "UNKNOWN") (t : Table) (s : String) :
    convertLabel (t.map (fun p => (f p.1, p.2))) s = f (convertLabel t s) := by
  unfold convertLabel
  induction t with
  | nil => exact hf.symm
  | cons a t ih =>
    rw [List.map_cons, List.find?_cons, List.find?_cons]
    cases a.2 == s.toLower
    · exact ih
    · rfl

theorem trafficLightTable_cases (task : String) :
    trafficLightTable task = Gen.trafficLightPairsClassification ∨
    trafficLightTable task = Gen.trafficLightPairsOther := by
  unfold trafficLightTable; split <;> simp

theorem tableFor_autoware (merge : Bool) (task : String) :
    tableFor "autoware" merge task =
      .ok (if merge then Gen.autowarePairsMerged else Gen.autowarePairs, "autoware") := by
  simp [tableFor]

theorem tableFor_trafficLight (merge : Bool) (task : String) :
    tableFor "traffic_light" merge task = .ok (trafficLightTable task, "traffic_light") := by
  simp [tableFor]

end PEval.Label
