import PEval.Model.Heading
import Mathlib.Tactic.Linarith
import Mathlib.Tactic.Ring
/-!
Yaw arithmetic behind C09 (and the yaw error column of the analyzer, C19).  The functions of `PEval.Model.Heading` are
piecewise linear in one quantity, the yaw difference `x = a − b`:
* the circular distance is the code's fold of it, `circDist a b = foldAbs (a − b)`, for all rationals;
* `clip` picks the representative of `x` in `[−1, 1]`, the same for two differences whole turns apart except at `±1`
  (`clip_shift`); `foldAbs` is its magnitude (`absR_clip`), so it does not see whole turns either (`foldAbs_shift`);
* the two masked wraps of `get_heading_bev` and of `calculate_error` are `_clip` again (`clip_two_steps`): `headingBev τ = clip (−τ − 1/2)`;
  so `headingBev τ` and `wrapYaw t` differ from `−τ − 1/2` and `t` by a whole number of turns (`clip_cases`, `wrapYaw_cases`).
"A whole number of turns" is `∃ k : Int, y = x + 2 * k`; between two numbers less than two turns apart it is `0` or `±1`
(`turn_cases`), which is the only case analysis behind the invariance theorems.

The identities that are only "piecewise linear, check every piece" go to `grind` with the definitions to unfold; `split_ifs <;> linarith`
proves them too, but simplifies the whole goal again at each of up to twenty leaves.

Everything is proved on the closed yaw domain `[−1, 1]` (or for all rationals); the range `(−1, 1]` of
`yaw_pitch_roll[0]` is a part of it (`InDom.closed`).  Only `toEgoYaw_wrapYaw` needs the half-open range: `wrapYaw` never
returns `−1`.
-/
namespace PEval.Heading

/-- closed yaw domain `[−π, π]` in half-turns: `np.arctan2(-0.0, -x)` returns `−π`, so `yaw_pitch_roll[0]` can be `−π` in
floats although the mathematical range is `(−π, π]` -/
def InDomC (τ : Rat) : Prop := -1 ≤ τ ∧ τ ≤ 1

instance (τ : Rat) : Decidable (InDomC τ) := by unfold InDomC; infer_instance

theorem InDom.closed {τ : Rat} (h : InDom τ) : InDomC τ := ⟨le_of_lt h.1, h.2⟩

theorem InDomC.sub {a b : Rat} (ha : InDomC a) (hb : InDomC b) : -2 ≤ a - b ∧ a - b ≤ 2 :=
  ⟨by linarith [ha.1, hb.2], by linarith [ha.2, hb.1]⟩

theorem absR_eq_abs (x : Rat) : absR x = |x| := by
  unfold absR; split
  · rw [abs_of_neg ‹_›]
  · rw [abs_of_nonneg (not_lt.1 ‹_›)]

theorem absR_eq_zero_iff (x : Rat) : absR x = 0 ↔ x = 0 := by
  rw [absR_eq_abs, abs_eq_zero]

/-- the signed yaw error of one pair in two renderings: same magnitude and same strict sign, so equal, or `±1` and `∓1` -/
theorem eq_or_neg_of_sign {e e' : Rat} (r : InDomC e) (habs : absR e' = absR e)
    (hp : 0 < e ∧ e < 1 → 0 < e') (hn : -1 < e ∧ e < 0 → e' < 0) : e' = e ∨ (absR e = 1 ∧ e' = -e) := by
  simp only [absR_eq_abs] at habs ⊢
  rcases abs_eq_abs.1 habs with rfl | rfl
  · exact .inl rfl
  · by_cases h1 : |e| = 1
    · exact .inr ⟨h1, rfl⟩
    -- strictly inside the domain `−e` has the sign of `e` only for `e = 0`
    · have := abs_lt.1 (lt_of_le_of_ne (abs_le.2 r) h1)
      rcases lt_trichotomy e 0 with c | rfl | c
      · linarith [hn ⟨this.1, c⟩]
      · exact .inl neg_zero
      · linarith [hp ⟨c, this.2⟩]

theorem turn_cases {x y : Rat} (h : ∃ k : Int, y = x + 2 * k) (h1 : -4 < y - x) (h2 : y - x < 4) :
    y = x ∨ y = x + 2 ∨ y = x - 2 := by
  obtain ⟨k, rfl⟩ := h
  have k1 : -2 < k := by exact_mod_cast (by linarith : (-2 : Rat) < k)
  have k2 : k < 2 := by exact_mod_cast (by linarith : (k : Rat) < 2)
  obtain rfl | rfl | rfl : k = 0 ∨ k = 1 ∨ k = -1 := by omega
  · left; simp
  · right; left; simp
  · right; right; push_cast; ring

theorem turns_of_cases {x y : Rat} (h : y = x ∨ y = x + 2 ∨ y = x - 2) : ∃ k : Int, y = x + 2 * k := by
  rcases h with h | h | h
  · exact ⟨0, by rw [h]; simp⟩
  · exact ⟨1, by rw [h]; simp⟩
  · exact ⟨-1, by rw [h]; push_cast; ring⟩

/-- the specification's distance `min(|Δ|, 2 − |Δ|)` and the fold of `TPMetricsAph.get_value` are the same function of
the yaw difference -/
theorem circDist_eq_foldAbs (a b : Rat) : circDist a b = foldAbs (a - b) := by grind [circDist, foldAbs]

theorem circDist_comm (a b : Rat) : circDist a b = circDist b a := by
  unfold circDist; rw [absR_eq_abs, absR_eq_abs, abs_sub_comm]

theorem circDist_le_one (a b : Rat) : circDist a b ≤ 1 := by
  unfold circDist; simp only
  split <;> linarith

theorem circDist_nonneg {a b : Rat} (ha : InDomC a) (hb : InDomC b) : 0 ≤ circDist a b := by
  unfold circDist; simp only [absR_eq_abs]
  have := abs_nonneg (a - b)
  have := abs_le.2 (ha.sub hb)
  split <;> linarith

/-- for all rationals; in `[−1, 1]` the second alternative is the pair `−1`, `1`, the two names of the yaw π -/
theorem circDist_eq_zero_iff (a b : Rat) : circDist a b = 0 ↔ (a = b ∨ absR (a - b) = 2) := by
  unfold circDist; simp only
  constructor
  · intro h; split_ifs at h
    · left; exact sub_eq_zero.1 ((absR_eq_zero_iff _).1 h)
    · right; linarith
  · rintro (rfl | h)
    · simp [absR]
    · rw [h]; norm_num

theorem circDist_eq_one_iff (a b : Rat) : circDist a b = 1 ↔ absR (a - b) = 1 := by grind [circDist]

theorem aphWeight_comm (a b : Rat) : aphWeight a b = aphWeight b a := by
  have even : ∀ x, foldAbs (-x) = foldAbs x := fun x => by simp only [foldAbs, absR_eq_abs, abs_neg]
  unfold aphWeight
  rw [← even, neg_sub]

theorem clamp01_id {x : Rat} (h0 : 0 ≤ x) (h1 : x ≤ 1) : clamp01 x = x := by grind [clamp01]

theorem clamp01_range (x : Rat) : 0 ≤ clamp01 x ∧ clamp01 x ≤ 1 := by grind [clamp01]

theorem clip_neg (x : Rat) : clip (-x) = -clip x := by grind [clip]

theorem clip_range {x : Rat} (h : -2 ≤ x ∧ x ≤ 2) : -1 ≤ clip x ∧ clip x ≤ 1 := by grind [clip]

theorem clip_id {x : Rat} (h : -1 ≤ x ∧ x ≤ 1) : clip x = x := by grind [clip]

theorem clip_cases (x : Rat) : clip x = x ∨ clip x = x + 2 ∨ clip x = x - 2 := by
  unfold clip
  split_ifs
  · right; left; rfl
  · right; right; rfl
  · left; rfl

/-- `_clip` is the signed fold -/
theorem absR_clip {x : Rat} (h : -2 ≤ x ∧ x ≤ 2) : absR (clip x) = foldAbs x := by grind [clip, foldAbs, absR]

/-- `_clip` picks the same representative in `[−1, 1]` for two differences whole turns apart, except at `±π` where the two
representatives `+π`/`−π` are both fixed points: the two values are whole turns apart and at most one turn apart -/
theorem clip_shift {x y : Rat} (hx : -2 ≤ x ∧ x ≤ 2) (hy : -2 ≤ y ∧ y ≤ 2) (h : ∃ k : Int, y = x + 2 * k) :
    clip y = clip x ∨ (absR (clip x) = 1 ∧ clip y = -clip x) := by
  have rx := clip_range hx
  have ry := clip_range hy
  obtain ⟨i, hi⟩ := turns_of_cases (clip_cases x)
  obtain ⟨j, hj⟩ := turns_of_cases (clip_cases y)
  obtain ⟨k, hk⟩ := h
  have e : clip y = clip x + 2 * ((j + k - i : Int) : Rat) := by
    rw [hj, hi, hk]; push_cast; ring
  rcases turn_cases ⟨_, e⟩ (by linarith [rx.2, ry.1]) (by linarith [rx.1, ry.2]) with e | e | e
  · left; exact e
  · have : clip x = -1 := by linarith [rx.1, ry.2]
    right
    rw [e, this]
    norm_num [absR]
  · have : clip x = 1 := by linarith [rx.2, ry.1]
    right
    rw [e, this]
    norm_num [absR]

/-- the fold does not see whole turns either: it is the magnitude of the representative `_clip` picks -/
theorem foldAbs_shift {x y : Rat} (hx : -2 ≤ x ∧ x ≤ 2) (hy : -2 ≤ y ∧ y ≤ 2) (h : ∃ k : Int, y = x + 2 * k) :
    foldAbs y = foldAbs x := by
  rw [← absR_clip hx, ← absR_clip hy]
  rcases clip_shift hx hy h with e | ⟨_, e⟩
  · rw [e]
  · rw [e, absR_eq_abs, absR_eq_abs, abs_neg]

/-- the library wraps a yaw difference in three places: `_clip` (an `if`/`elif`) and, as two masked assignments in a row, in
`get_heading_bev` and in `calculate_error`; the two forms are the same function of every rational -/
theorem clip_two_steps (e : Rat) :
    (let r := if e > 1 then e - 2 else e; if r < -1 then r + 2 else r) = clip e := by grind [clip]

theorem headingBev_eq_clip (τ : Rat) : headingBev τ = clip (-τ - 1/2) := clip_two_steps _

/-- on the yaw domain the heading never reaches `+π`: the second wrap fires exactly for yaw > π/2 and lands below it -/
theorem headingBev_range {τ : Rat} (h : InDom τ) : -1 ≤ headingBev τ ∧ headingBev τ < 1 := by
  grind [headingBev, InDom]

/-- the headings are the negated yaws up to whole turns, which the fold does not see -/
theorem foldAbs_heading {a b : Rat} (ha : InDomC a) (hb : InDomC b) :
    foldAbs (headingBev a - headingBev b) = circDist a b := by
  rw [circDist_comm, circDist_eq_foldAbs, headingBev_eq_clip, headingBev_eq_clip]
  have ra : InDomC (clip (-a - 1/2)) := clip_range ⟨by linarith [ha.2], by linarith [ha.1]⟩
  have rb : InDomC (clip (-b - 1/2)) := clip_range ⟨by linarith [hb.2], by linarith [hb.1]⟩
  obtain ⟨i, hi⟩ := turns_of_cases (clip_cases (-a - 1/2))
  obtain ⟨j, hj⟩ := turns_of_cases (clip_cases (-b - 1/2))
  exact foldAbs_shift (hb.sub ha) (ra.sub rb) ⟨i - j, by rw [hi, hj]; push_cast; ring⟩

theorem wrapYaw_cases (t : Rat) : wrapYaw t = t ∨ wrapYaw t = t + 2 ∨ wrapYaw t = t - 2 := by
  unfold wrapYaw; split
  · right; right; rfl
  · split
    · right; left; rfl
    · left; rfl

theorem wrapYaw_inDom {t : Rat} (h : -2 ≤ t ∧ t ≤ 2) : InDom (wrapYaw t) := by grind [wrapYaw, InDom]

theorem wrapYaw_sum_inDom {a b : Rat} (ha : InDomC a) (hb : InDomC b) : InDom (wrapYaw (a + b)) :=
  wrapYaw_inDom ⟨by linarith [ha.1, hb.1], by linarith [ha.2, hb.2]⟩

/-- map → ego undoes ego → map on yaws, whatever the ego yaw -/
theorem toEgoYaw_wrapYaw (τ0 : Rat) {τ : Rat} (h : InDom τ) : toEgoYaw τ0 (wrapYaw (τ + τ0)) = τ := by
  grind [toEgoYaw, wrapYaw, InDom]

theorem wrapYaw_sub_turns (t a b : Rat) : ∃ k : Int, wrapYaw (a + t) - wrapYaw (b + t) = a - b + 2 * k := by
  obtain ⟨i, hi⟩ := turns_of_cases (wrapYaw_cases (a + t))
  obtain ⟨j, hj⟩ := turns_of_cases (wrapYaw_cases (b + t))
  exact ⟨i - j, by rw [hi, hj]; push_cast; ring⟩

theorem circDist_wrapYaw {t a b : Rat} (ht : InDomC t) (ha : InDomC a) (hb : InDomC b) :
    circDist (wrapYaw (a + t)) (wrapYaw (b + t)) = circDist a b := by
  rw [circDist_eq_foldAbs, circDist_eq_foldAbs]
  exact foldAbs_shift (ha.sub hb) ((wrapYaw_sum_inDom ha ht).closed.sub (wrapYaw_sum_inDom hb ht).closed)
    (wrapYaw_sub_turns t a b)

end PEval.Heading
