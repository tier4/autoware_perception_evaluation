import PEval.Lemmas.MatchingTable
/-!
From `getObjectResults` to the final matcher state: every successful call returns the pairs of
`matchAll` followed (outside FP validation) by the remaining estimates; the early returns for empty
inputs are special cases of the same formula.
-/
namespace PEval.Matching

/-- estimates that were paired with a ground truth, in result order -/
def pairedEsts (rs : List Res) : List Nat := (rs.filter (fun r => r.2.isSome)).map (·.1)
/-- estimates of the results without ground truth, in result order -/
def unpairedEsts (rs : List Res) : List Nat := (rs.filter (fun r => r.2.isNone)).map (·.1)
/-- ground truths used by the results, in result order -/
def usedGts (rs : List Res) : List Nat := rs.filterMap (·.2)

theorem mem_usedGts {rs : List Res} {j : Nat} : j ∈ usedGts rs ↔ ∃ i, (i, some j) ∈ rs := by
  rw [usedGts, List.mem_filterMap]
  exact ⟨fun ⟨⟨i, o⟩, hr, e⟩ => ⟨i, by cases (e : o = some j); exact hr⟩, fun ⟨i, h⟩ => ⟨(i, some j), h, rfl⟩⟩

theorem stage_of_cands_nil {t : Tbl} {s1 : Bool} {st : St} (h : cands t s1 st.es st.gs = []) (fuel : Nat) :
    stage t s1 fuel st = st := by
  cases fuel with
  | zero => rfl
  | succ n => exact stage_succ_none (by rw [h]; rfl)

theorem matchFrom_nil_es (t : Tbl) (gs : List Nat) : matchFrom t [] gs = { es := [], gs := gs, pairs := [] } := by
  simp [matchFrom, stage]

theorem matchFrom_nil_gs (t : Tbl) (es : List Nat) : matchFrom t es [] = { es := es, gs := [], pairs := [] } := by
  unfold matchFrom
  have h1 : stage t true es.length { es := es, gs := [], pairs := [] } = { es := es, gs := [], pairs := [] } :=
    stage_of_cands_nil (cands_nil_gs _ _ _) _
  simp only [h1]
  exact stage_of_cands_nil (cands_nil_gs _ _ _) _

/-- the formula of the general branch, valid for every successful call -/
def resultsOf (fpVal : Bool) (st : St) : List Res :=
  pairResults st.pairs ++ (if fpVal then [] else fpResults st.es)

/-! `getObjectResults`, branch by branch -/

theorem getObjectResults_of_ests_nil {c : Cfg} {sc : Scene} (he : sc.ests = []) : getObjectResults c sc = .ok [] := by
  rw [getObjectResults, he]; rfl

theorem getObjectResults_of_gts_nil {c : Cfg} {sc : Scene} (he : sc.ests ≠ []) (hg : sc.gts = []) :
    getObjectResults c sc = .ok (if c.fpValidation then [] else fpResults (List.range sc.ests.length)) := by
  rw [getObjectResults, if_neg (by rwa [List.isEmpty_iff]), hg]; rfl

theorem tableError_of_nil {c : Cfg} {sc : Scene} (h : sc.ests = [] ∨ sc.gts = []) : tableError c sc = none := by
  unfold tableError
  rcases h with h | h <;> simp [h]

/-- the call in one formula: the exception of the table construction, or the results read off the final state of the two
loops; the early returns are the instances of this formula for an empty list -/
theorem getObjectResults_eq (c : Cfg) (sc : Scene) :
    getObjectResults c sc =
      match tableError c sc with
      | some e => .error e
      | none => .ok (resultsOf c.fpValidation (matchAll (mkTbl c sc) sc.ests.length sc.gts.length)) := by
  by_cases he : sc.ests = []
  · rw [getObjectResults_of_ests_nil he, tableError_of_nil (.inl he), he, List.length_nil, matchAll, List.range_zero,
      matchFrom_nil_es]
    cases c.fpValidation <;> rfl
  · by_cases hg : sc.gts = []
    · rw [getObjectResults_of_gts_nil he hg, tableError_of_nil (.inr hg), hg, List.length_nil, matchAll, List.range_zero,
        matchFrom_nil_gs]
      rfl
    · rw [getObjectResults, if_neg (by rwa [List.isEmpty_iff]), if_neg (by rwa [List.isEmpty_iff])]; rfl

theorem getObjectResults_ok {c : Cfg} {sc : Scene} {rs : List Res} (h : getObjectResults c sc = .ok rs) :
    rs = resultsOf c.fpValidation (matchAll (mkTbl c sc) sc.ests.length sc.gts.length) := by
  rw [getObjectResults_eq] at h
  cases ht : tableError c sc <;> rw [ht] at h <;> cases h
  rfl

theorem mkTbl_fpVal (c : Cfg) (sc : Scene) (b : Bool) : mkTbl { c with fpValidation := b } sc = mkTbl c sc := rfl

theorem tableError_fpVal (c : Cfg) (sc : Scene) (b : Bool) :
    tableError { c with fpValidation := b } sc = tableError c sc := rfl

theorem matchAll_inv (t : Tbl) (nE nG : Nat) : MInv t (List.range nE) (List.range nG) (matchAll t nE nG) :=
  matchFrom_inv t List.nodup_range List.nodup_range

theorem filter_const_true {α} (l : List α) : l.filter (fun _ => true) = l :=
  List.filter_eq_self.2 (by simp)

theorem filter_const_false {α} (l : List α) : l.filter (fun _ => false) = [] :=
  List.filter_eq_nil_iff.2 (by simp)

theorem resultsOf_map_fst (b : Bool) (st : St) :
    (resultsOf b st).map (·.1) = st.pairs.map (·.1) ++ (if b then [] else st.es) := by
  cases b <;> simp [resultsOf, pairResults, fpResults, Function.comp_def]

theorem resultsOf_map_fst_sublist (b : Bool) (st : St) :
    ((resultsOf b st).map (·.1)).Sublist (st.pairs.map (·.1) ++ st.es) := by
  rw [resultsOf_map_fst]
  cases b
  · exact .refl _
  · exact List.sublist_append_of_sublist_left (List.append_nil _ ▸ .refl _)

theorem usedGts_resultsOf (b : Bool) (st : St) : usedGts (resultsOf b st) = st.pairs.map (·.2) := by
  cases b <;> simp [usedGts, resultsOf, pairResults, fpResults, List.filterMap_append, List.filterMap_map,
    Function.comp_def]

theorem filter_isSome_resultsOf (b : Bool) (st : St) :
    (resultsOf b st).filter (fun r => r.2.isSome) = pairResults st.pairs := by
  cases b <;> simp [resultsOf, pairResults, fpResults, List.filter_map, Function.comp_def,
    filter_const_true, filter_const_false]

theorem filter_isNone_resultsOf (b : Bool) (st : St) :
    (resultsOf b st).filter (fun r => r.2.isNone) = if b then [] else fpResults st.es := by
  cases b <;> simp [resultsOf, pairResults, fpResults, List.filter_map, Function.comp_def,
    filter_const_true, filter_const_false]

theorem pairedEsts_resultsOf (b : Bool) (st : St) : pairedEsts (resultsOf b st) = st.pairs.map (·.1) := by
  simp [pairedEsts, filter_isSome_resultsOf, pairResults, Function.comp_def]

theorem unpairedEsts_resultsOf (b : Bool) (st : St) :
    unpairedEsts (resultsOf b st) = if b then [] else st.es := by
  cases b <;> simp [unpairedEsts, filter_isNone_resultsOf, fpResults, Function.comp_def]

theorem mem_resultsOf_some {b : Bool} {st : St} {i j : Nat} :
    (i, some j) ∈ resultsOf b st ↔ (i, j) ∈ st.pairs := by
  have hf : (i, some j) ∉ (if b then [] else fpResults st.es) := by
    cases b <;> simp [fpResults]
  rw [resultsOf, List.mem_append, or_iff_left hf, pairResults, List.mem_map]
  exact ⟨fun ⟨p, hp, e⟩ => by cases e; exact hp, fun h => ⟨(i, j), h, rfl⟩⟩

theorem mem_resultsOf_none {b : Bool} {st : St} {i : Nat} :
    (i, none) ∈ resultsOf b st ↔ b = false ∧ i ∈ st.es := by
  cases b <;> simp [resultsOf, pairResults, fpResults]

/-- a successful call uses every estimate position and every ground-truth position at most once -/
theorem results_one_to_one {c : Cfg} {sc : Scene} {rs : List Res} (h : getObjectResults c sc = .ok rs) :
    (rs.map (·.1)).Nodup ∧ (∀ r ∈ rs, r.1 < sc.ests.length) ∧
      (usedGts rs).Nodup ∧ ∀ j ∈ usedGts rs, j < sc.gts.length := by
  have hinv := matchAll_inv (mkTbl c sc) sc.ests.length sc.gts.length
  have hperm := hinv.permE List.nodup_range
  have hsub := resultsOf_map_fst_sublist c.fpValidation (matchAll (mkTbl c sc) sc.ests.length sc.gts.length)
  rw [getObjectResults_ok h, usedGts_resultsOf]
  exact ⟨(hperm.nodup_iff.2 List.nodup_range).sublist hsub,
    fun r hr => List.mem_range.1 (hperm.mem_iff.1 (hsub.subset (List.mem_map_of_mem hr))), hinv.pG,
    fun j hj => List.mem_range.1 (List.forall_mem_map.2 hinv.subG j hj)⟩

end PEval.Matching
