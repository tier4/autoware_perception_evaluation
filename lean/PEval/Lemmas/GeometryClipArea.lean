import PEval.Lemmas.GeometryConvex
/-!
Helper lemmas for C06, area part of the exact clipper.  A pass is "insert the crossing points, then keep the
vertices of the closed half-plane" (`clipEdge_eq`); the crossing points lie on the edges, so for a subject
in convex position (`Cvx`) the result is again in convex position and its shoelace area is between 0 and that
of the subject.  Folding over the clip polygon's edges: `interArea P Q ≤ polyArea P` for every subject in
convex position and ANY clip polygon.  Every vertex of the result satisfies every convex predicate that
all subject vertices satisfy; hence a subject lying in the closed outer half-plane of a (non-degenerate) edge
of the clip polygon is clipped to a polygon on that edge's line, of area 0 (`interArea_eq_zero_of_line`).  When the
separating edge belongs to the subject and the clip polygon is a box, the same statement applies with
`footprint_bound`: the result lies in the clip box, and an affine bound that holds at the corners of a convex
quadrilateral holds throughout it (C06, `clip_interArea_separated`).
-/
namespace PEval.Geometry

/-! ## the crossing point lies inside the edge -/

theorem cut_cases (a b p q : V2) :
    cut a b p q = [] ∨ ∃ t, 0 ≤ t ∧ t ≤ 1 ∧ cut a b p q = [lerp p q t] := by
  unfold cut inside
  rcases le_or_gt 0 (cross a b p) with hp | hp <;> rcases le_or_gt 0 (cross a b q) with hq | hq
  · exact Or.inl (by simp [hp, hq])
  · have hd : 0 < cross a b p - cross a b q := by linarith
    exact Or.inr ⟨_, div_nonneg hp hd.le, (div_le_one hd).2 (by linarith), by simp [hp, not_le.2 hq, isect_eq_lerp]⟩
  · have hd : cross a b p - cross a b q < 0 := by linarith
    exact Or.inr ⟨_, div_nonneg_of_nonpos hp.le hd.le, (div_le_one_of_neg hd).2 (by linarith),
      by simp [hq, not_le.2 hp, isect_eq_lerp]⟩
  · exact Or.inl (by simp [not_le.2 hp, not_le.2 hq])

/-! ## subdivision keeps convex position, the last vertex and the shoelace area -/

theorem subdivAux_getLastD (a b : V2) : ∀ (R : List V2) (prev d : V2),
    (subdivAux a b prev R).getLastD d = R.getLastD d
  | [], _, _ => rfl
  | cur :: rest, prev, d => by
    rw [subdivAux, List.getLastD_cons, ← subdivAux_getLastD a b rest cur cur]
    simp [List.getLastD_eq_getLast?, List.getLast?_append, List.getLast?_cons]

theorem subdivAux_cvx (a b : V2) : ∀ (R X : List V2) (prev : V2), Cvx (X ++ prev :: R) →
    Cvx (X ++ prev :: subdivAux a b prev R) ∧
      signed2 (X ++ prev :: subdivAux a b prev R) = signed2 (X ++ prev :: R)
  | [], _, _, hc => ⟨hc, rfl⟩
  | cur :: rest, X, prev, hc => by
    -- what the pass emits before `cur` (the vertex `prev` and the crossing point, if any) joins the prefix
    have hi := subdivAux_cvx a b rest (X ++ prev :: cut a b prev cur) cur
    simp only [List.append_assoc, List.cons_append] at hi
    rw [subdivAux]
    rcases cut_cases a b prev cur with h | ⟨t, h0, h1, h⟩ <;> rw [h] at hi ⊢
    · exact hi hc
    · obtain ⟨c1, c2⟩ := hi (Cvx.insert_mid h0 h1 prev cur rest X hc)
      exact ⟨c1, c2.trans (signed2_insert_mid prev cur t X rest)⟩

theorem subdiv_cvx (a b d : V2) {L : List V2} (hc : Cvx L) :
    Cvx (subdivAux a b (L.getLastD d) L) ∧ signed2 (subdivAux a b (L.getLastD d) L) = signed2 L := by
  -- subdivide the polygon with its last vertex repeated in front: the closing edge is then an ordinary one
  obtain ⟨c1, c2⟩ := subdivAux_cvx a b L [] (L.getLastD d) (hc.cons_last d)
  refine ⟨c1.2, ?_⟩
  rw [← signed2_cons_last d (subdivAux _ _ _ _), subdivAux_getLastD]
  exact c2.trans (signed2_cons_last d L)

/-! ## convex position is kept, the shoelace area does not grow -/

/-- one pass: a sublist of the subdivided polygon -/
theorem clipEdge_cvx (a b : V2) {P : List V2} (hc : Cvx P) :
    Cvx (clipEdge a b P) ∧ signed2 (clipEdge a b P) ≤ signed2 P := by
  obtain ⟨c1, c2⟩ := subdiv_cvx a b a hc
  rw [clipEdge_eq a b P a, ← c2]
  exact ⟨Cvx.sublist List.filter_sublist c1, signed2_sublist_le List.filter_sublist c1⟩

theorem clipConvex_cvx {P : List V2} (Q : List V2) (hc : Cvx P) :
    Cvx (clipConvex P Q) ∧ signed2 (clipConvex P Q) ≤ signed2 P :=
  List.foldlRecOn (motive := fun P' => Cvx P' ∧ signed2 P' ≤ signed2 P) _ _ ⟨hc, le_refl _⟩
    fun _ h e _ => ⟨(clipEdge_cvx e.1 e.2 h.1).1, le_trans (clipEdge_cvx e.1 e.2 h.1).2 h.2⟩

theorem polyArea_of_cvx {P : List V2} (hc : Cvx P) : polyArea P = signed2 P / 2 := by
  unfold polyArea; rw [rabs_of_nonneg (signed2_nonneg_of_cvx hc)]

theorem interArea_le_subject {P : List V2} (Q : List V2) (hc : Cvx P) : interArea P Q ≤ polyArea P := by
  unfold interArea
  split
  · exact polyArea_nonneg P
  · rw [polyArea_of_cvx hc, polyArea_of_cvx (clipConvex_cvx Q hc).1]
    exact div_le_div_of_nonneg_right (clipConvex_cvx Q hc).2 zero_le_two

/-! ## convex predicates are inherited by the vertices of the clipped polygon -/

def ConvexPred (S : V2 → Prop) : Prop := ∀ p q t, S p → S q → 0 ≤ t → t ≤ 1 → S (lerp p q t)

theorem subdivAux_forall {S : V2 → Prop} (hS : ConvexPred S) (a b : V2) : ∀ (R : List V2) (prev : V2),
    S prev → (∀ p ∈ R, S p) → ∀ p ∈ subdivAux a b prev R, S p
  | [], _, _, _ => fun p hp => by cases hp
  | cur :: rest, prev, hprev, hall => by
    rw [List.forall_mem_cons] at hall
    rw [subdivAux, List.forall_mem_append, List.forall_mem_cons]
    refine ⟨?_, hall.1, subdivAux_forall hS a b rest cur hall.1 hall.2⟩
    rcases cut_cases a b prev cur with h | ⟨t, h0, h1, h⟩ <;> rw [h]
    · exact fun _ hp => nomatch hp
    · exact List.forall_mem_singleton.2 (hS _ _ _ hprev hall.1 h0 h1)

theorem clipEdge_forall {S : V2 → Prop} (hS : ConvexPred S) (a b : V2) {P : List V2}
    (hall : ∀ p ∈ P, S p) : ∀ p ∈ clipEdge a b P, S p := by
  cases P with
  | nil => intro p hp; cases hp
  | cons p0 M =>
    rw [clipEdge_eq a b _ p0, List.getLastD_cons]
    intro p hp
    exact subdivAux_forall hS a b (p0 :: M) _ (hall _ List.getLastD_mem_cons) hall p (List.mem_filter.1 hp).1

theorem clipEdge_inside_mem (a b : V2) {P : List V2} : ∀ p ∈ clipEdge a b P, 0 ≤ cross a b p := by
  rw [clipEdge_eq a b P a]
  intro p hp
  simpa [inside] using (List.mem_filter.1 hp).2

theorem foldl_clipEdge_forall {S : V2 → Prop} (hS : ConvexPred S) (es : List (V2 × V2)) {P : List V2}
    (h : ∀ p ∈ P, S p) : ∀ p ∈ es.foldl (fun poly e => clipEdge e.1 e.2 poly) P, S p :=
  List.foldlRecOn (motive := fun P => ∀ p ∈ P, S p) es _ h fun _ hP e _ => clipEdge_forall hS e.1 e.2 hP

theorem convexPred_nonneg (u v : V2) : ConvexPred (fun p => 0 ≤ cross u v p) := by
  intro p q t hp hq h0 h1
  show 0 ≤ cross u v (lerp p q t)
  rw [cross_lerp3]
  exact conv_nonneg h0 h1 hp hq

theorem convexPred_nonpos (u v : V2) : ConvexPred (fun p => cross u v p ≤ 0) := by
  simpa only [cross_swap u v, neg_nonneg] using convexPred_nonneg v u

/-! ## the clipped polygon lies in the convex hull of the subject and in the clip polygon -/

theorem clipConvex_mem_inside {P Q : List V2} {e : V2 × V2} (he : e ∈ edges (ccw Q)) :
    ∀ x ∈ clipConvex P Q, 0 ≤ cross e.1 e.2 x := by
  unfold clipConvex
  obtain ⟨es1, es2, hes⟩ := List.append_of_mem he
  rw [hes, List.foldl_append, List.foldl_cons]
  exact foldl_clipEdge_forall (convexPred_nonneg e.1 e.2) es2 (clipEdge_inside_mem e.1 e.2)

/-- three points of a line `a → b`, `a ≠ b`, are collinear: `|ab|² · cross p q r` is a combination of the
three incidences -/
theorem cross_collinear {a b p q r : V2} (hab : a ≠ b) (hp : cross a b p = 0) (hq : cross a b q = 0)
    (hr : cross a b r = 0) : cross p q r = 0 := by
  have h : dist2 a b * cross p q r = 0 := by
    unfold dist2 cross at *
    linear_combination
      ((a.x - b.x) * (q.x - p.x) + (a.y - b.y) * (q.y - p.y)) * (hp - hr)
        - ((a.x - b.x) * (r.x - p.x) + (a.y - b.y) * (r.y - p.y)) * (hp - hq)
  exact (mul_eq_zero.1 h).resolve_left fun h0 => hab (dist2_eq_zero h0)

theorem fan2_collinear {a b o : V2} (hab : a ≠ b) (ho : cross a b o = 0) : ∀ L : List V2,
    (∀ p ∈ L, cross a b p = 0) → fan2 o L = 0
  | [], _ => rfl
  | [_], _ => rfl
  | x :: y :: L, h => by
    rw [fan2_cons_cons, fan2_collinear hab ho (y :: L) (fun p hp => h p (by simp [hp])),
      cross_collinear hab ho (h x (by simp)) (h y (by simp)), add_zero]

theorem signed2_collinear {a b : V2} (hab : a ≠ b) {L : List V2} (h : ∀ p ∈ L, cross a b p = 0) :
    signed2 L = 0 := by
  cases L with
  | nil => rfl
  | cons o L => exact fan2_collinear hab (h o (by simp)) L (fun p hp => h p (by simp [hp]))

/-- the vertices of the clipped polygon satisfy every convex predicate `S` that the subject's vertices satisfy and
lie in every half-plane of the clip polygon: where these two regions meet in a line only, the area is 0 -/
theorem interArea_eq_zero_of_line {P Q : List V2} {u v : V2} (hne : u ≠ v) {S : V2 → Prop} (hS : ConvexPred S)
    (hP : ∀ p ∈ P, S p)
    (h : ∀ x, S x → (∀ e ∈ edges (ccw Q), 0 ≤ cross e.1 e.2 x) → cross u v x = 0) : interArea P Q = 0 := by
  have h0 : signed2 (clipConvex P Q) = 0 :=
    signed2_collinear hne fun x hx =>
      h x (foldl_clipEdge_forall hS _ hP x hx) (fun e he => clipConvex_mem_inside he x hx)
  unfold interArea polyArea
  split
  · rfl
  · rw [h0, rabs_of_nonneg le_rfl, zero_div]

/-- separation (touching allowed) by a non-degenerate edge of the clip polygon -/
theorem interArea_touching {P Q : List V2} {e : V2 × V2} (he : e ∈ edges (ccw Q)) (hne : e.1 ≠ e.2)
    (h : ∀ p ∈ P, cross e.1 e.2 p ≤ 0) : interArea P Q = 0 :=
  interArea_eq_zero_of_line hne (convexPred_nonpos e.1 e.2) h fun _ hs hq => le_antisymm hs (hq e he)

/-- strict separation: an edge with a vertex strictly on its outer side is not degenerate -/
theorem interArea_separated {P Q : List V2} {e : V2 × V2} (he : e ∈ edges (ccw Q))
    (h : ∀ p ∈ P, cross e.1 e.2 p < 0) : interArea P Q = 0 := by
  cases P with
  | nil => exact if_pos (Or.inl rfl)
  | cons p P =>
    refine interArea_touching he (fun hne => ?_) (fun q hq => (h q hq).le)
    have := h p List.mem_cons_self
    rw [hne, cross_self_left] at this
    exact lt_irrefl 0 this

/-! ## box footprints: orientation, non-degenerate edges -/

theorem ccw_footprint {b : Box} (hw : 0 ≤ b.w) (hl : 0 ≤ b.l) (hr : b.rot.IsUnit) :
    ccw (footprint b) = footprint b := by
  unfold ccw
  rw [signed2_footprint hr, if_neg]
  have := mul_nonneg hw hl
  linarith

theorem footprint_edges_ne {b : Box} (hb : b.PosSize) (hr : b.rot.IsUnit) :
    ∀ ed ∈ edges (footprint b), ed.1 ≠ ed.2 := by
  obtain ⟨c0, c1, c2, c3, h, h1, -, h3, -⟩ := footprint_quad hr
  have hp := (mul_pos hb.1 hb.2.1).ne'
  rw [h]
  -- an edge with equal ends would make one of the triangles `c0 c1 c2`, `c0 c2 c3` degenerate
  intro ed hed heq
  simp only [edges, List.cons_append, List.nil_append, List.zip_cons_cons, List.zip_nil_right, List.mem_cons,
    List.not_mem_nil, or_false] at hed
  rcases hed with rfl | rfl | rfl | rfl <;> simp only at heq
  · exact hp (by rw [← h1, heq, cross_self_left])
  · exact hp (by rw [← h1, heq, cross_self_right])
  · exact hp (by rw [← h3, heq, cross_self_right])
  · exact hp (by rw [← h3, heq, cross_self_outer])

/-! ## the symmetrised exact intersection area: symmetric, `InterOK`, rigid motions -/

theorem interSym_eq_min (p q : List V2) : interSym p q = min (interArea p q) (interArea q p) := rmin_eq_min _ _

theorem interSym_comm (p q : List V2) : interSym p q = interSym q p := min_comm _ _

/-- `0 ≤ I ≤ min(A1, A2)` for any two polygons in convex position -/
theorem interSym_ok {p q : List V2} (hp : Cvx p) (hq : Cvx q) : InterOK (interSym p q) (polyArea p) (polyArea q) :=
  ⟨le_min (interArea_nonneg p q) (interArea_nonneg q p), le_trans (min_le_left _ _) (interArea_le_subject q hp),
    le_trans (min_le_right _ _) (interArea_le_subject p hq)⟩

theorem interSym_motion {m : Motion} (h : m.rot.IsUnit) (p q : List V2) :
    interSym (p.map m.apply2) (q.map m.apply2) = interSym p q := by
  unfold interSym; rw [interArea_motion h, interArea_motion h]

theorem interSym_eq_of_symm {p q : List V2} (h : interArea p q = interArea q p) : interSym p q = interArea p q := by
  rw [interSym_eq_min, ← h, min_self]

theorem interSym_eq_zero_of_left {p q : List V2} (h : interArea p q = 0) : interSym p q = 0 := by
  rw [interSym_eq_min, h]; exact min_eq_left (interArea_nonneg q p)

theorem interSym_eq_zero_of_right {p q : List V2} (h : interArea q p = 0) : interSym p q = 0 := by
  rw [interSym_eq_min, h]; exact min_eq_right (interArea_nonneg p q)

/-! ## an affine bound that holds at the corners of a convex quadrilateral holds inside it -/

/-- barycentric coordinates: the value at `x` of the affine function `cross u v ·`, weighted by the triangle -/
theorem cross_barycentric (a b c x u v : V2) :
    cross a b c * cross u v x
      = cross b c x * cross u v a + cross c a x * cross u v b + cross a b x * cross u v c := by
  unfold cross; ring

theorem triangle_bound {a b c x u v : V2} (hD : 0 < cross a b c)
    (hab : 0 ≤ cross a b x) (hbc : 0 ≤ cross b c x) (hca : 0 ≤ cross c a x)
    (fa : cross u v a ≤ 0) (fb : cross u v b ≤ 0) (fc : cross u v c ≤ 0) : cross u v x ≤ 0 := by
  refine nonpos_of_mul_nonpos_right ?_ hD
  rw [cross_barycentric]
  exact add_nonpos (add_nonpos (mul_nonpos_of_nonneg_of_nonpos hbc fa) (mul_nonpos_of_nonneg_of_nonpos hca fb))
    (mul_nonpos_of_nonneg_of_nonpos hab fc)

/-- … and so for a convex quadrilateral `c0 c1 c2 c3`: the point lies in one of the two triangles cut off by
the diagonal `c0 → c2` -/
theorem quad_bound {c0 c1 c2 c3 x u v : V2} (hD1 : 0 < cross c0 c1 c2) (hD2 : 0 < cross c0 c2 c3)
    (h01 : 0 ≤ cross c0 c1 x) (h12 : 0 ≤ cross c1 c2 x) (h23 : 0 ≤ cross c2 c3 x) (h30 : 0 ≤ cross c3 c0 x)
    (f0 : cross u v c0 ≤ 0) (f1 : cross u v c1 ≤ 0) (f2 : cross u v c2 ≤ 0) (f3 : cross u v c3 ≤ 0) :
    cross u v x ≤ 0 := by
  rcases le_total 0 (cross c0 c2 x) with h | h
  · exact triangle_bound hD2 h h23 h30 f0 f2 f3
  · exact triangle_bound hD1 h01 h12 (by rw [cross_swap]; linarith) f0 f1 f2

theorem footprint_bound {g : Box} (hg : g.PosSize) (hr : g.rot.IsUnit) (u v x : V2)
    (hin : ∀ ed ∈ edges (footprint g), 0 ≤ cross ed.1 ed.2 x)
    (hf : ∀ c ∈ footprint g, cross u v c ≤ 0) : cross u v x ≤ 0 := by
  obtain ⟨c0, c1, c2, c3, h, h1, -, h3, -⟩ := footprint_quad hr
  have hp := mul_pos hg.1 hg.2.1
  rw [h] at hin hf
  simp only [edges, List.cons_append, List.nil_append, List.zip_cons_cons, List.zip_nil_right, List.mem_cons,
    List.not_mem_nil, or_false, forall_eq_or_imp, forall_eq] at hin hf
  obtain ⟨h01, h12, h23, h30⟩ := hin
  obtain ⟨f0, f1, f2, f3⟩ := hf
  exact quad_bound (h1 ▸ hp) (h3 ▸ hp) h01 h12 h23 h30 f0 f1 f2 f3

/-! ## separated boxes -/

def SepByEdge (e g : Box) : Prop :=
  ∃ ed ∈ edges (footprint g), ∀ p ∈ footprint e, cross ed.1 ed.2 p ≤ 0

/-- the two footprints have disjoint interiors, witnessed by a separating edge of either box (touching
allowed).  By the separating-axis theorem this is every pair of rectangles with disjoint interiors (that
direction is not formalised; the definition is the hypothesis of the theorems on separated boxes). -/
def Separated (e g : Box) : Prop := SepByEdge e g ∨ SepByEdge g e

instance (e g : Box) : Decidable (SepByEdge e g) := by unfold SepByEdge; infer_instance
instance (e g : Box) : Decidable (Separated e g) := by unfold Separated; infer_instance

theorem Separated.symm {e g : Box} (h : Separated e g) : Separated g e := Or.symm h

end PEval.Geometry
