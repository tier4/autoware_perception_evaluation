import PEval.Lemmas.APClassify
import PEval.Model.APVariants
/-!
The AP model on extreme inputs: from RESULTS to the ranking's shape.

* `isCorrectAt` for the per-label call of `Map` spelled out in the property's words (`isCorrectAt_iff`);
* the stable descending sort puts every element of a class `P` before every other element exactly when the INPUT
  order satisfies `RankOK` pairwise (`sortDesc_split`): no non-`P` element has a larger key than a `P` element, and
  among equal keys no non-`P` element stands before a `P` element;
* counting: if every ground truth of a duplicate-free list is the ground truth of a correct result and no ground
  truth is used twice, the number of correct results is the number of ground truths (`correct_count_eq`); without the
  first condition it is at most that number (`correct_count_le`);
* `apW` on `G` full weights followed by zeros is 1; on no ground truth it is 0.
-/

namespace PEval.AP

variable {m : Mode} {T : List Label} {th : List Rat} {r : Res}

/-- the threshold `Map`'s per-label call finds: `t` when the key label is `L`, none otherwise -/
theorem getLabelThreshold_singleton (l L : Label) (t : Rat) :
    getLabelThreshold l [L] (some [t]) = .ok (if l = L then some t else none) := by
  by_cases h : l = L
  · subst h; simp [getLabelThreshold, List.findIdx?_cons]
  · have hne : (L == l) = false := by simpa using fun e : L = l => h e.symm
    simp [getLabelThreshold, List.findIdx?_cons, hne, h]

/-- "counted correct" by the per-label evaluation (`target_labels = [L]`, `L` an ordinary label), in the property's
words: the result has a ground truth of label `L`, is label-compatible under its policy, and its matching score beats
the label's threshold (a result without matching method is judged by its label alone) -/
theorem isCorrectAt_iff (m : Mode) (L : Label) (t : Rat) (r : Res) (hL : L ≠ fpLabel) :
    isCorrectAt m [L] [t] r = true ↔
      ∃ g, r.gt = some g ∧ g.label = L ∧ isLabelCorrect r = true ∧
        (r.score = .noMethod ∨
          ∃ v, r.score = .val (some v) ∧ thrValid m t = true ∧ isBetter m v t = true) := by
  unfold isCorrectAt
  rw [getLabelThreshold_singleton]
  cases hg : r.gt with
  | none => simp [keyLabel, hg, isResultCorrect]; split <;> simp
  | some g =>
    by_cases hl : g.label = L
    · subst hl
      have hfp : (g.label == fpLabel) = false := beq_false_of_ne hL
      cases hs : r.score with
      | noMethod => simp [keyLabel, hg, isResultCorrect, hs]
      | val v =>
        by_cases hv : thrValid m t = true
        · cases v with
          | none =>
            -- a matching method without value: `is_better_than` answers `False`
            simp [keyLabel, hg, isResultCorrect, hs, isBetterThan, hv, hfp]
          | some x =>
            -- the comparison itself, together with the label test
            simp [keyLabel, hg, isResultCorrect, hs, isBetterThan, hv, hfp, and_comm]
        · -- the IoU modes' assertion on the threshold fails: `is_better_than` raises, nothing is counted correct
          cases v <;> simp [keyLabel, hg, isResultCorrect, hs, isBetterThan, hv]
    · simp [keyLabel, hg, hl]

theorem isCorrectAt_gt_some (h : isCorrectAt m T th r = true) : ∃ g, r.gt = some g := by
  cases hg : r.gt with
  | some g => exact ⟨g, rfl⟩
  | none =>
    unfold isCorrectAt at h
    split at h
    · simp [isResultCorrect, hg] at h
    · cases h

/-- per-label call: a result counted correct has a ground truth of THAT label (also for `L = false_positive`) -/
theorem isCorrectAt_gt_label {L : Label} {t : Rat} (h : isCorrectAt m [L] [t] r = true) :
    ∃ g, r.gt = some g ∧ g.label = L := by
  obtain ⟨g, hg⟩ := isCorrectAt_gt_some h
  refine ⟨g, hg, ?_⟩
  unfold isCorrectAt at h
  rw [getLabelThreshold_singleton] at h
  simp only [keyLabel, hg] at h
  by_cases hl : g.label = L
  · exact hl
  · simp [hl] at h

section Split
variable {α : Type} (key : α → Rat) (P : α → Bool)

/-- `a` stands BEFORE `b` in the input. The sort will not put a non-`P` element before a `P` element iff: a `P`
element in front is not out-keyed by a later non-`P` element (ties keep the input order), and a non-`P` element in
front has a strictly smaller key than every later `P` element (a tie would keep it in front) -/
def RankOK (a b : α) : Prop :=
  (P a = true → P b = false → key b ≤ key a) ∧ (P a = false → P b = true → key a < key b)

instance (a b : α) : Decidable (RankOK key P a b) := by unfold RankOK; infer_instance

/-- input order `RankOK` pairwise ⇒ in the ranking every `P` element precedes every non-`P` element -/
theorem sortDesc_split {l : List α} (h : l.Pairwise (RankOK key P)) :
    (sortDesc key l).Pairwise (fun a b => P b = true → P a = true) := by
  induction l with
  | nil => exact List.Pairwise.nil
  | cons x xs ih =>
    rw [List.pairwise_cons] at h
    have hx : ∀ y ∈ sortDesc key xs, RankOK key P x y := fun y hy => h.1 y ((sortDesc_perm key xs).mem_iff.1 hy)
    -- `x` in `P` passes no non-`P` element, `x` outside `P` stays in front of no `P` element
    refine insertDesc_pairwise key x (sortDesc_sorted key xs) (ih h.2) (fun y hy hlt hPx => ?_) fun y hy hle hPy => ?_
    · by_contra hPy
      exact absurd hlt (not_lt.2 ((hx y hy).1 hPx (Bool.eq_false_iff.2 hPy)))
    · by_contra hPx
      exact absurd ((hx y hy).2 (Bool.eq_false_iff.2 hPx) hPy) (not_lt.2 hle)

/-- the simple sufficient condition: every non-`P` element has a strictly smaller key than every `P` element -/
theorem rankOK_of_strict {l : List α}
    (h : ∀ a ∈ l, ∀ b ∈ l, P a = true → P b = false → key b < key a) : l.Pairwise (RankOK key P) := by
  apply List.pairwise_of_forall_mem_list
  intro a ha b hb
  exact ⟨fun h1 h2 => le_of_lt (h a ha b hb h1 h2), fun h1 h2 => h b hb a ha h2 h1⟩

/-- weights along a list whose `P` elements come first: the `P` weights, then zeros -/
theorem map_weights_of_split (w : α → Rat) {l : List α}
    (h : l.Pairwise (fun a b => P b = true → P a = true)) :
    l.map (fun a => if P a = true then w a else 0)
      = (l.filter P).map w ++ List.replicate (l.filter (fun a => !P a)).length 0 := by
  induction l with
  | nil => rfl
  | cons a t ih =>
    rw [List.pairwise_cons] at h
    cases hPa : P a with
    | true =>
      simp only [List.map_cons, hPa, if_true, List.filter_cons, Bool.not_true, Bool.false_eq_true,
        if_false, List.cons_append, ih h.2]
    | false =>
      -- no `P` element after a non-`P` one
      have hnil : t.filter P = [] := List.filter_eq_nil_iff.2 fun b hb hPb => by rw [h.1 b hb hPb] at hPa; cases hPa
      simp only [List.map_cons, hPa, Bool.false_eq_true, if_false, List.filter_cons, Bool.not_false, if_true, ih h.2, hnil,
        List.map_nil, List.nil_append, List.length_cons, List.replicate_succ]

theorem sortDesc_filter_perm (l : List α) : ((sortDesc key l).filter P).Perm (l.filter P) :=
  (sortDesc_perm key l).filter P

end Split

theorem length_filterMap_gt {rs : List Res} (h : ∀ r ∈ rs, ∃ g, r.gt = some g) :
    (rs.filterMap (·.gt)).length = rs.length :=
  List.filterMap_length_eq_length.mpr fun r hr => by
    obtain ⟨g, hg⟩ := h r hr
    rw [hg]; rfl

/-- every ground truth of the duplicate-free list `gts` is the ground truth of a `P` result, the ground truth of a `P`
result is one of `gts`, no ground truth is used twice ⇒ #`P` results = #`gts` -/
theorem correct_count_eq {rs : List Res} {gts : List Gt} (P : Res → Bool) (hgn : gts.Nodup)
    (hnd : (rs.filterMap (·.gt)).Nodup)
    (hP : ∀ r ∈ rs, P r = true → ∃ g ∈ gts, r.gt = some g)
    (hall : ∀ g ∈ gts, ∃ r ∈ rs, r.gt = some g ∧ P r = true) :
    (rs.filter P).length = gts.length := by
  have hP' : ∀ r ∈ rs.filter P, ∃ g ∈ gts, r.gt = some g := fun r hr =>
    hP r (List.mem_filter.1 hr).1 (List.mem_filter.1 hr).2
  rw [← length_filterMap_gt fun r hr => (hP' r hr).imp fun _ h => h.2]
  -- the ground truths of the `P` results: distinct, and the same members as `gts`
  refine ((List.perm_ext_iff_of_nodup (hnd.sublist (List.filter_sublist.filterMap _)) hgn).2 fun g =>
    ⟨fun hg => ?_, fun hg => ?_⟩).length_eq
  · obtain ⟨r, hr, hrg⟩ := List.mem_filterMap.1 hg
    obtain ⟨g', hg', hrg'⟩ := hP' r hr
    cases hrg'.symm.trans hrg
    exact hg'
  · obtain ⟨r, hr, hrg, hPr⟩ := hall g hg
    exact List.mem_filterMap.2 ⟨r, List.mem_filter.2 ⟨hr, hPr⟩, hrg⟩

/-- per-label call: no ground truth used twice, every used ground truth one of `gts` ⇒ at most as many results are counted
correct as `gts` has ground truths of the label (no hypothesis that the classification answers: where it raises,
`isCorrectAt` is `false`) -/
theorem correct_count_le (m : Mode) (L : Label) (t : Rat) (rs : List Res) (gts : List Gt)
    (hnd : (rs.filterMap (·.gt)).Nodup) (hsub : ∀ g ∈ rs.filterMap (·.gt), g ∈ gts) :
    rs.countP (isCorrectAt m [L] [t]) ≤ (gts.filter (fun g => g.label == L)).length := by
  -- a result counted correct by the per-label evaluation carries a ground truth of that label
  have hgt : ∀ r ∈ rs.filter (isCorrectAt m [L] [t]), ∃ g, r.gt = some g ∧ g.label = L := fun r hr =>
    isCorrectAt_gt_label (List.mem_filter.1 hr).2
  rw [List.countP_eq_length_filter, ← length_filterMap_gt fun r hr => (hgt r hr).imp fun _ h => h.1]
  -- these ground truths are distinct, and each is one of `gts` with label `L`
  refine List.Nodup.length_le_of_subset (hnd.sublist (List.filter_sublist.filterMap _)) fun g hg => ?_
  obtain ⟨r, hr, hrg⟩ := List.mem_filterMap.1 hg
  obtain ⟨g', hg', hl⟩ := hgt r hr
  cases hg'.symm.trans hrg
  exact List.mem_filter.2 ⟨hsub _ (List.mem_filterMap.2 ⟨r, (List.mem_filter.1 hr).1, hg'⟩), beq_iff_eq.2 hl⟩

/-- no ground truth: every recall is `0.0` (the code's own branch), the area is 0 -/
theorem apW_no_gt (i : Nat) (c : Rat) (ws : List Rat) : apW 0 i c ws = 0 := by
  induction ws generalizing i c with
  | nil => rfl
  | cons w t ih => rw [apW, recallOf, if_neg (Nat.lt_irrefl 0), zero_mul, zero_add, ih]

theorem apW_perfect (G : Nat) (hG : 0 < G) (k : Nat) :
    apW G 0 0 (List.replicate G 1 ++ List.replicate k 0) = 1 :=
  apW_perfect_of_zero G hG fun _ hz => (List.mem_replicate.1 hz).2

theorem sum_lt_length {ws : List Rat} (h : ∀ w ∈ ws, w ≤ 1) (hlt : ∃ w ∈ ws, w < 1) :
    ws.sum < (ws.length : Rat) := by
  -- split at the witness: it stays below 1, the entries on both sides are at most 1
  obtain ⟨w, hw, hw1⟩ := hlt
  obtain ⟨s, t, rfl⟩ := List.append_of_mem hw
  have hs := sum_le_mul_length (v := s) fun x hx => h x (List.mem_append_left _ hx)
  have ht := sum_le_mul_length (v := t) fun x hx => h x (List.mem_append_right _ (List.mem_cons_of_mem _ hx))
  simp only [List.sum_append, List.sum_cons, List.length_append, List.length_cons]
  push_cast
  linarith

/-- `G` weights in `[0,1]` ranked first, zeros after them: the area lies between 0 and the mean weight, and is 1 exactly
when every weight is 1 (at most the final recall `Σ u / G`, which is below 1 as soon as one weight is) -/
theorem apW_unit_then_zeros (G : Nat) (hG : 0 < G) {us : List Rat} (hlen : us.length = G)
    (hb : ∀ u ∈ us, 0 ≤ u ∧ u ≤ 1) (k : Nat) :
    0 ≤ apW G 0 0 (us ++ List.replicate k 0) ∧ apW G 0 0 (us ++ List.replicate k 0) ≤ us.sum / (G : Rat)
      ∧ (apW G 0 0 (us ++ List.replicate k 0) = 1 ↔ ∀ u ∈ us, u = 1) := by
  have hGq : (0 : Rat) < (G : Rat) := Nat.cast_pos.2 hG
  have hbnd : ∀ w ∈ us ++ List.replicate k 0, 0 ≤ w ∧ w ≤ 1 :=
    List.forall_mem_append.2 ⟨hb, fun w h => by rw [(List.mem_replicate.1 h).2]; exact ⟨le_rfl, zero_le_one⟩⟩
  have hle := apW_le_recall_total G (i := 0) (c := 0) le_rfl (Nat.cast_nonneg 0) hbnd
  rw [List.sum_append, sum_zero (fun z hz => (List.mem_replicate.1 hz).2), add_zero, recallOf, if_pos hG] at hle
  refine ⟨apW_nonneg G le_rfl fun w hw => (hbnd w hw).1, hle, fun hx u hu => ?_, fun hall => ?_⟩
  · by_contra hne
    have hs := sum_lt_length (fun w hw => (hb w hw).2) ⟨u, hu, lt_of_le_of_ne (hb u hu).2 hne⟩
    rw [hlen] at hs
    rw [hx] at hle
    exact absurd hle (not_le.2 ((div_lt_one hGq).2 hs))
  · rw [List.eq_replicate_iff.2 ⟨hlen, hall⟩, apW_perfect G hG]

theorem perm_sum_eq {l₁ l₂ : List Rat} (h : l₁.Perm l₂) : l₁.sum = l₂.sum := by
  induction h with
  | nil => rfl
  | cons x _ ih => simp only [List.sum_cons, ih]
  | swap x y l => simp only [List.sum_cons]; ring
  | trans _ _ ih1 ih2 => exact ih1.trans ih2

end PEval.AP
