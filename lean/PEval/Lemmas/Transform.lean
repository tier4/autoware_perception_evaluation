import PEval.Model.Transform
import Mathlib.Tactic.Ring
import Mathlib.Tactic.LinearCombination
/-!
Algebra of the quaternion / rigid-motion model (`PEval.Model.Transform`).  Quaternions form a monoid with an anti-involution
`conj` and a multiplicative norm, and the rotation action is conjugation, `rotate q v = q v q̄` on pure quaternions
(`Quat.ofV3_rotate`): multiplicativity and the inverse law are the quaternion laws read through it (so is the isometry,
`PEval.C18.rotate_isometry`).  Unit length enters only through `q̄ q = |q|²`.  Rigid motions compose by `HM.comp`, with `inv` the inverse; the registry's
`lookup` is `find?` from the back.
-/
namespace PEval.Transform

theorem Quat.mul_assoc' (p q r : Quat) : (p * q) * r = p * (q * r) := by
  ext <;> simp only [Quat.mul_w, Quat.mul_x, Quat.mul_y, Quat.mul_z] <;> ring

theorem Quat.one_mul' (q : Quat) : Quat.one * q = q := by
  ext <;> simp [Quat.one]

theorem Quat.mul_one' (q : Quat) : q * Quat.one = q := by
  ext <;> simp [Quat.one]

theorem Quat.neg_mul_left (p q : Quat) : (-p) * q = -(p * q) := by
  ext <;> simp only [Quat.mul_w, Quat.mul_x, Quat.mul_y, Quat.mul_z, Quat.neg_w, Quat.neg_x, Quat.neg_y, Quat.neg_z] <;> ring

theorem Quat.neg_mul_right (p q : Quat) : p * (-q) = -(p * q) := by
  ext <;> simp only [Quat.mul_w, Quat.mul_x, Quat.mul_y, Quat.mul_z, Quat.neg_w, Quat.neg_x, Quat.neg_y, Quat.neg_z] <;> ring

theorem Quat.normSq_mul (p q : Quat) : (p * q).normSq = p.normSq * q.normSq := by
  simp only [Quat.normSq, Quat.mul_w, Quat.mul_x, Quat.mul_y, Quat.mul_z]; ring

theorem Quat.normSq_mul_unit {p q : Quat} (hp : p.normSq = 1) (hq : q.normSq = 1) : (p * q).normSq = 1 := by
  rw [Quat.normSq_mul, hp, hq, mul_one]

theorem Quat.normSq_conj (q : Quat) : q.conj.normSq = q.normSq := by
  simp [Quat.normSq, Quat.conj]

theorem Quat.normSq_neg (q : Quat) : (-q).normSq = q.normSq := by
  simp [Quat.normSq]

theorem Quat.conj_conj (q : Quat) : q.conj.conj = q := by
  ext <;> simp [Quat.conj]

theorem Quat.conj_mul (p q : Quat) : (p * q).conj = q.conj * p.conj := by
  ext <;> simp only [Quat.conj, Quat.mul_w, Quat.mul_x, Quat.mul_y, Quat.mul_z] <;> ring

theorem Quat.conj_mul_self (q : Quat) : q.conj * q = ⟨q.normSq, 0, 0, 0⟩ := by
  ext <;> simp only [Quat.conj, Quat.normSq, Quat.mul_w, Quat.mul_x, Quat.mul_y, Quat.mul_z] <;> ring

theorem Quat.conj_mul_self_unit (q : Quat) (h : q.normSq = 1) : q.conj * q = Quat.one := by
  rw [Quat.conj_mul_self, h]; rfl

theorem Quat.self_mul_conj (q : Quat) : q * q.conj = ⟨q.normSq, 0, 0, 0⟩ := by
  have := Quat.conj_mul_self q.conj
  rwa [Quat.conj_conj, Quat.normSq_conj] at this

theorem Quat.self_mul_conj_unit (q : Quat) (h : q.normSq = 1) : q * q.conj = Quat.one := by
  rw [Quat.self_mul_conj, h]; rfl

def Quat.ofV3 (v : V3) : Quat := ⟨0, v.x, v.y, v.z⟩

theorem Quat.normSq_ofV3 (v : V3) : (Quat.ofV3 v).normSq = v.dot v := by
  simp only [Quat.normSq, Quat.ofV3, V3.dot, mul_zero, zero_add]

/-- the rotation action is conjugation (all quaternions; the real part of `q v q̄` vanishes) -/
theorem Quat.ofV3_rotate (q : Quat) (v : V3) : Quat.ofV3 (rotate q v) = q * Quat.ofV3 v * q.conj := by
  ext <;> simp only [rotate, rotMat, Mat3.mulVec, V3.dot, Quat.mul_w, Quat.mul_x, Quat.mul_y, Quat.mul_z, Quat.conj,
    Quat.ofV3] <;> ring

theorem rotate_mul (p q : Quat) (v : V3) : rotate (p * q) v = rotate p (rotate q v) := by
  have h : Quat.ofV3 (rotate (p * q) v) = Quat.ofV3 (rotate p (rotate q v)) := by
    simp only [Quat.ofV3_rotate, Quat.conj_mul, Quat.mul_assoc']
  exact V3.ext (congrArg Quat.x h) (congrArg Quat.y h) (congrArg Quat.z h)

theorem rotate_real (s : Rat) (v : V3) : rotate ⟨s, 0, 0, 0⟩ v = ⟨s * s * v.x, s * s * v.y, s * s * v.z⟩ := by
  ext <;> simp [rotate, rotMat, Mat3.mulVec, V3.dot]

theorem rotate_one (v : V3) : rotate Quat.one v = v := by
  rw [Quat.one, rotate_real]
  ext <;> simp

/-- `q` and `-q` are the same rotation: every entry of `rotMat` is quadratic -/
theorem rotMat_neg (q : Quat) : rotMat (-q) = rotMat q := by
  simp only [rotMat, Quat.neg_w, Quat.neg_x, Quat.neg_y, Quat.neg_z, neg_mul_neg]

theorem rotate_neg (q : Quat) (v : V3) : rotate (-q) v = rotate q v := by
  simp only [rotate, rotMat_neg]

-- linearity holds for any matrix: `rotMat q` is not unfolded
theorem rotate_add (q : Quat) (u v : V3) : rotate q (u + v) = rotate q u + rotate q v := by
  ext <;> simp only [rotate, Mat3.mulVec, V3.dot, V3.add_x, V3.add_y, V3.add_z] <;> ring

theorem rotate_vneg (q : Quat) (v : V3) : rotate q (-v) = -(rotate q v) := by
  ext <;> simp only [rotate, Mat3.mulVec, V3.dot, V3.neg_x, V3.neg_y, V3.neg_z] <;> ring

theorem rotate_rotate_conj_normSq (q : Quat) (v : V3) :
    rotate q (rotate q.conj v) = ⟨q.normSq * q.normSq * v.x, q.normSq * q.normSq * v.y, q.normSq * q.normSq * v.z⟩ := by
  rw [← rotate_mul, Quat.self_mul_conj, rotate_real]

theorem rotate_rotate_conj (q : Quat) (h : q.normSq = 1) (v : V3) : rotate q (rotate q.conj v) = v := by
  rw [← rotate_mul, Quat.self_mul_conj_unit q h, rotate_one]

theorem V3.add_assoc' (a b c : V3) : a + b + c = a + (b + c) := by
  ext <;> simp only [V3.add_x, V3.add_y, V3.add_z, add_assoc]

theorem V3.add_zero' (a : V3) : a + V3.zero = a := by
  ext <;> simp [V3.zero]

theorem V3.add_neg_self' (a : V3) : a + -a = V3.zero := by
  ext <;> simp [V3.zero]

theorem V3.neg_add_self' (a : V3) : -a + a = V3.zero := by
  ext <;> simp [V3.zero]

/-- the composite `B ∘ A` that `B.dot(A)` returns when the frames fit -/
def HM.comp (B A : HM) : HM := ⟨rotate B.rot A.pos + B.pos, B.rot * A.rot, A.src, B.dst⟩

theorem dot_of_eq {B A : HM} (h : B.src = A.dst) : dot B A = .ok (B.comp A) :=
  if_neg (not_not.2 h)

theorem dot_ok_inv {B A C : HM} (h : dot B A = .ok C) : B.src = A.dst ∧ C = B.comp A := by
  unfold dot at h
  split_ifs at h with hs
  exact ⟨not_not.1 hs, (Except.ok.inj h).symm⟩

theorem transformPose_comp (B A : HM) (pr : V3 × Quat) :
    transformPose (B.comp A) pr = transformPose B (transformPose A pr) :=
  Prod.ext (by simp only [HM.comp, transformPose, transformPos, rotate_mul, rotate_add, V3.add_assoc'])
    (Quat.mul_assoc' _ _ _)

theorem transformPose_id (s d : String) (pr : V3 × Quat) : transformPose ⟨V3.zero, Quat.one, s, d⟩ pr = pr :=
  Prod.ext (by simp only [transformPose, transformPos, rotate_one, V3.add_zero']) (Quat.one_mul' _)

theorem inv_comp_self (A : HM) (hA : A.rot.normSq = 1) : (inv A).comp A = ⟨V3.zero, Quat.one, A.src, A.src⟩ := by
  simp only [HM.comp, inv, Quat.conj_mul_self_unit _ hA, V3.add_neg_self']

theorem comp_inv_self (A : HM) (hA : A.rot.normSq = 1) : A.comp (inv A) = ⟨V3.zero, Quat.one, A.dst, A.dst⟩ := by
  simp only [HM.comp, inv, Quat.self_mul_conj_unit _ hA, rotate_vneg, rotate_rotate_conj _ hA, V3.neg_add_self']

theorem chain_cons (A m : HM) (ms : List HM) (C : HM) :
    (m :: ms).foldlM (fun acc m => dot m acc) A = .ok C ↔
      m.src = A.dst ∧ ms.foldlM (fun acc m => dot m acc) (m.comp A) = .ok C := by
  rw [List.foldlM_cons, dot]
  split_ifs with h
  · exact ⟨nofun, fun hC => (h hC.1).elim⟩
  · exact ⟨fun hC => ⟨not_not.1 h, hC⟩, And.right⟩

/-- a Python dict keeps the last value written under a key: `lookup` is the first match from the back -/
theorem lookup_eq_find (d : List HM) (k : String × String) : lookup d k = d.reverse.find? (fun m => m.key = k) := by
  induction d with
  | nil => rfl
  | cons a d ih =>
    rw [lookup, ih, List.reverse_cons, List.find?_append]
    cases d.reverse.find? (fun m => m.key = k) <;> by_cases h : a.key = k <;> simp [h]

/-! ## the registry's access paths, once the key has been read -/

open PEval.Enums

theorem transformKey_ok_iff {a b : Arg} {s t : String} :
    transformKey a b = .ok (s, t) ↔ frameOfArg a = .ok s ∧ frameOfArg b = .ok t := by
  unfold transformKey
  cases frameOfArg a <;> cases frameOfArg b <;> simp [bind, Except.bind, pure, Except.pure]

/-- `TransformDict.transform` once the key has been read as `(s, t)` -/
theorem dictTransform_key {d : List HM} {ks kd : Arg} {s t : String} (hk : transformKey ks kd = .ok (s, t)) (x : TArg) :
    dictTransform d ks kd x =
      if s = t then (match x.malformed with | some e => .error e | none => .ok x)
      else match lookup d (s, t) with
        | some m => m.transform x
        | none => match lookup d (t, s) with
          | some m => (inv m).transform x
          | none => .error "KeyError" := by
  simp only [dictTransform, hk]
  rfl

theorem dictGet_key {d : List HM} {ks kd : Arg} {k : String × String} (hk : transformKey ks kd = .ok k) :
    dictGet d ks kd = .ok (lookup d k) := by
  simp only [dictGet, hk]
  rfl

/-- every access path reads its key through `transformKey` only -/
theorem access_congr {a b a' b' : Arg} (h : transformKey a b = transformKey a' b') (d : List HM) :
    (∀ x, dictTransform d a b x = dictTransform d a' b' x) ∧ dictGet d a b = dictGet d a' b' ∧
    dictGetItem d a b = dictGetItem d a' b' ∧ dictContains d a b = dictContains d a' b' := by
  simp only [dictTransform, dictGet, dictGetItem, dictContains, h, implies_true, and_self]

theorem swap_ne {s t : String} (h : s ≠ t) : (s, t) ≠ (t, s) := fun e => h (congrArg Prod.fst e)

end PEval.Transform
