import PEval.Model.CriticalFrame
import PEval.Lemmas.FilterResults
import PEval.Lemmas.PassFail
/-!
# C03 — lemmas about the critical filter on objects with positions (`Model/CriticalFrame.lean`)

* the confidence stage of `_is_target_object` does not change the verdict on a ground truth whose
  confidence beats the threshold of its label (`isTarget_gt_conf`): the only difference between the
  ground-truth test of `filter_object_results` and that of `filter_objects(is_gt=True, …)`;
* the ego-relative position the filter decides on, spelled with the frame's transforms (`egoPos_view`);
* what the two filter loops keep (`evaluateFrameWith_ok`, `kept_criteria`) and the refinement into the opaque-flag model
  (`evaluateFrameWith_refines`);
* frame change: the view of the MAP rendering of an object is C10's `renderMap` of its view (`view_toMap`,
  `toFRes_toMap`), so both loop bodies and both abstractions are the same on a BASE_LINK object and on its
  rendering (`…_inMap`, for any call site `s` and the site `s.inMap e` the rendering presents), by C10's frame
  invariance of `isTarget` / `resultTarget`;
* Booleans that evaluate on a concrete frame and refute `SitesAgree` / `Filter.Criteria` there (`sitesAgreeB`, `outB`), for the
  defective wirings of `Properties/C03Critical.lean`.
-/
namespace PEval.CritFrame
open PEval PEval.Filter

/-- the confidence of a ground truth beats the critical confidence threshold of its label -/
def ConfBeats (P : Params) (o : Obj) : Prop :=
  IsFP o.label ∨ ∀ l, P.conf = some l → ∃ t, LabelBound P o l t ∧ t < o.score

theorem isTarget_gt_conf {P : Params} {o : Obj} (hg : P.isGt = true) (hc : ConfBeats P o) :
    isTarget P o = isTarget { P with conf := none } o := by
  unfold isTarget
  by_cases hfp : isFP o.label = true
  · rw [if_pos hfp, if_pos hfp]
  · rw [if_neg hfp, if_neg hfp]
    have hu : useUnknown P o = false := useUnknown_eq_false hg
    have hu' : useUnknown { P with conf := none } o = false := useUnknown_eq_false hg
    have hnfp : ¬ IsFP o.label := fun c => hfp ((isFP_iff _).2 c)
    have hconf : ∀ ok, stage P false o ok P.conf (fun _ => some 0) (fun t => decide (t < o.score)) = .ok ok := by
      intro ok
      unfold stage
      cases ok with
      | false => cases P.conf <;> rfl
      | true =>
        cases hl : P.conf with
        | none => rfl
        | some l =>
          rcases hc with h | h
          · exact absurd h hnfp
          · obtain ⟨t, hb, hlt⟩ := h l hl
            simp only [bound, Bool.false_eq_true, if_false, getLabelThreshold_eq_some.2 hb, cmpB,
              decide_eq_true hlt]
    have hs : ∀ (Q : Params) (ok : Bool) (unk : List Rat → Option Rat) (test : Rat → Bool),
        stage Q false o ok none unk test = .ok ok := by
      intro Q ok unk test; cases ok <;> rfl
    simp only [hu, hu']
    rw [hconf, hs]
    rfl

theorem criteria_drop_conf {P : Params} {o : Obj} (h : Criteria P o) : Criteria { P with conf := none } o := by
  rcases h with h | ⟨h1, h2, _, h4, h5⟩
  · exact Or.inl h
  · exact Or.inr ⟨h1, h2, fun l hl => (by cases hl), h4, h5⟩

theorem range_of_criteria {P : Params} {o : Obj} (h : Criteria P o) (hfp : ¬ IsFP o.label) {p : Pos}
    (hp : EgoPos P o p) : RangeOK P o p :=
  h.elim (fun c => absurd c hfp) fun c => c.2.2.2.1 p hp

/-- `p` is the ego-relative planar position of object `o` of a frame with transforms `tr`: its own
position when it is given in BASE_LINK; otherwise its position carried through the inverse of the ego
pose registered for its frame id -/
def EgoRel (tr : Option Transforms) (o : CObj) (p : Pos) : Prop :=
  (o.frame = "base_link" ∧ o.pos = some p) ∨
  (o.frame ≠ "base_link" ∧ ∃ d e q, tr = some d ∧ poseOf d o.frame = some e ∧ o.pos = some q ∧ p = toEgo e q)

theorem egoOf_eq_some (tr : Option Transforms) (o : CObj) (p : Pos) :
    egoOf tr o = some p ↔ ∃ d e q, tr = some d ∧ poseOf d o.frame = some e ∧ o.pos = some q ∧ p = toEgo e q := by
  constructor
  · intro h
    unfold egoOf at h
    split at h
    · cases h
    · split at h
      · cases h
      · next d _ e he =>
        obtain ⟨q, hq, hp⟩ := Option.map_eq_some_iff.1 h
        exact ⟨d, e, q, rfl, he, hq, hp.symm⟩
  · rintro ⟨d, e, q, rfl, he, hq, rfl⟩
    simp only [egoOf, he, hq, Option.map_some]

theorem egoPos_view {P : Params} {tr : Option Transforms} (hP : P.hasTransforms = tr.isSome) (o : CObj) (p : Pos) :
    EgoPos P (view tr o) p ↔ EgoRel tr o p := by
  unfold EgoPos EgoRel
  simp only [view, egoOf_eq_some]
  -- transforms and a position are there as soon as the transformed position is
  refine or_congr Iff.rfl (and_congr Iff.rfl ⟨fun h => h.2.2, fun ⟨d, e, q, hd, he, hq, hp⟩ =>
    ⟨by rw [hP, hd]; rfl, by rw [hq]; simp, d, e, q, hd, he, hq, hp⟩⟩)

theorem isOkTrue_iff (x : Except Err Bool) : isOkTrue x = true ↔ x = .ok true := by
  cases x with
  | error e => simp [isOkTrue]
  | ok b => cases b <;> simp [isOkTrue]

theorem isOkTrue_ok (b : Bool) : isOkTrue (.ok b) = b := by cases b <;> rfl

theorem resTarget_flag {s : Site} {r : CRes} {b : Bool} (h : resTarget s r = .ok b) :
    b = (estFlag s r && (match r.gt with
      | none => true
      | some g => gtFlagRes s g)) := by
  unfold estFlag gtFlagRes
  simp only [resTarget, resultTarget, toFRes] at h
  cases he : isTarget (estParams s.P) (view s.transforms r.est) with
  | error e => rw [he] at h; cases h
  | ok v =>
    rw [he] at h
    cases hg : r.gt with
    | none => rw [hg] at h; cases v <;> cases h <;> cases truthy s.P.uuids <;> rfl
    | some g =>
      rw [hg] at h
      cases v with
      | false => cases h; rfl
      | true => simp only [Option.map_some] at h; simp [h, isOkTrue_ok]

/-- the result-side test and the list-side test give the same verdict on the ground truth of every
result whose estimate passes: "both call sites apply the same predicate with the same transforms" -/
def SitesAgree (w : Wiring) (f : Frame) : Prop :=
  ∀ r ∈ f.results, ∀ g, r.gt = some g → estFlag (w.resSite f) r = true →
    gtFlagRes (w.resSite f) g = gtFlagList (w.gtSite f) g

/-- what `SitesAgree` implies, as a Boolean (evaluated to refute it on a concrete frame) -/
def sitesAgreeB (w : Wiring) (f : Frame) : Bool :=
  f.results.all (fun r =>
    match r.gt with
    | none => true
    | some g => !estFlag (w.resSite f) r || (gtFlagRes (w.resSite f) g == gtFlagList (w.gtSite f) g))

theorem sitesAgreeB_of {w : Wiring} {f : Frame} (h : SitesAgree w f) : sitesAgreeB w f = true := by
  unfold sitesAgreeB
  rw [List.all_eq_true]
  intro r hr
  cases hg : r.gt with
  | none => rfl
  | some g =>
    cases he : estFlag (w.resSite f) r with
    | false => rfl
    | true => simp [h r hr g hg he]

theorem resSurvives_absRes (sR sG : Site) (r : CRes) :
    PassFail.resSurvives (absRes sR sG r) = (estFlag sR r && (match r.gt with
      | none => true
      | some g => gtFlagList sG g)) := by
  unfold PassFail.resSurvives absRes
  cases r.gt <;> rfl

theorem evaluateFrameWith_ok {w : Wiring} {f : Frame} {out : Out} (h : evaluateFrameWith w f = .ok out) :
    (∀ r ∈ f.results, ∃ b, resTarget (w.resSite f) r = .ok b) ∧
    out.keptResults = f.results.filter (fun r => isOkTrue (resTarget (w.resSite f) r)) ∧
    out.keptGts = f.gts.filter (gtFlagList (w.gtSite f)) ∧
    out.pf = PassFail.evaluate (out.keptResults.map (absRes (w.resSite f) (w.gtSite f)))
      (out.keptGts.map (absGT (w.gtSite f))) := by
  have e : ∀ x : Except Err Bool, decide (x = .ok true) = isOkTrue x := fun x =>
    Bool.eq_iff_iff.2 (decide_eq_true_iff.trans (isOkTrue_iff x).symm)
  revert h
  fun_cases evaluateFrameWith w f
  case case3 rs h1 gs h2 =>
    rintro ⟨⟩
    obtain ⟨a1, e1⟩ := filterE_ok h1
    obtain ⟨_, e2⟩ := filterE_ok h2
    simp only [e] at e1 e2
    exact ⟨a1, e1, e2, rfl⟩
  all_goals nofun  -- one of the two filters raised

/-- **refinement**: when the two sites agree, `evaluate_frame` on objects with positions IS
`PassFail.evaluateFrame` on the frame whose opaque Booleans are the computed flags -/
theorem evaluateFrameWith_refines {w : Wiring} {f : Frame} {out : Out}
    (h : evaluateFrameWith w f = .ok out) (ha : SitesAgree w f) :
    out.pf = PassFail.evaluateFrame (absFrame w f) ∧
    out.keptResults.map (absRes (w.resSite f) (w.gtSite f)) = PassFail.criticalResults (absFrame w f).results ∧
    out.keptGts.map (absGT (w.gtSite f)) = PassFail.criticalGts (absFrame w f).gts := by
  obtain ⟨a1, e1, e2, e3⟩ := evaluateFrameWith_ok h
  have k1 : out.keptResults.map (absRes (w.resSite f) (w.gtSite f)) = PassFail.criticalResults (absFrame w f).results := by
    unfold PassFail.criticalResults absFrame
    rw [List.filter_map, e1]
    refine congrArg _ (List.filter_congr fun r hr => ?_)
    obtain ⟨b, hb⟩ := a1 r hr
    rw [hb, isOkTrue_ok, resTarget_flag hb]
    simp only [Function.comp, resSurvives_absRes]
    cases he : estFlag (w.resSite f) r with
    | false => rfl
    | true =>
      cases hg : r.gt with
      | none => rfl
      | some g => simp only [Bool.true_and]; exact ha r hr g hg he
  have k2 : out.keptGts.map (absGT (w.gtSite f)) = PassFail.criticalGts (absFrame w f).gts := by
    unfold PassFail.criticalGts absFrame
    rw [List.filter_map, e2]
    rfl
  refine ⟨?_, k1, k2⟩
  rw [e3, k1, k2]
  rfl

/-- the parameters both call sites of the code share (`transforms is not None` included) -/
def critP (f : Frame) : Params := { f.critical with hasTransforms := f.transforms.isSome }

/-- every ground truth attached to a result beats the critical confidence threshold of its label
(ground-truth confidence is 1.0 in every loaded dataset; vacuous without a critical confidence list) -/
def GtConfOK (f : Frame) : Prop :=
  ∀ r ∈ f.results, ∀ g, r.gt = some g → ConfBeats f.critical (view f.transforms g)

theorem poseOf_map (e : Pose) : poseOf [("map", e)] "map" = some e := by
  simp [poseOf, List.lookup]

theorem view_toMap (e : Pose) (tr : Option Transforms) (o : CObj) :
    view (some [("map", e)]) (o.toMap e) = renderMap e (view tr o) := by
  simp only [view, CObj.toMap, renderMap, egoOf, poseOf_map]

/-- `o` is given in BASE_LINK with a position -/
def CObj.ego (o : CObj) : Prop := o.frame = "base_link" ∧ o.pos ≠ none

theorem allEgo_iff (f : Frame) : f.allEgo = true ↔
    (∀ g ∈ f.gts, g.ego) ∧ ∀ r ∈ f.results, r.est.ego ∧ ∀ g, r.gt = some g → g.ego := by
  unfold Frame.allEgo CObj.ego
  simp only [Bool.and_eq_true, List.all_eq_true, beq_iff_eq, Option.isSome_iff_ne_none]
  -- the two sides differ only in how "the ground truth, if any" is said
  refine and_congr Iff.rfl (forall₂_congr fun r _ => and_congr Iff.rfl ?_)
  cases r.gt <;> simp [Option.isSome_iff_ne_none]

/-- the keyword arguments a call receives on the MAP rendering under ego pose `e`: the same parameters, the
pose registered for the frame id `map` -/
def Site.inMap (e : Pose) (s : Site) : Site := ⟨s.params, some [("map", e)]⟩

theorem toFRes_toMap (e : Pose) (tr : Option Transforms) (r : CRes) :
    toFRes (some [("map", e)]) (r.toMap e) = (toFRes tr r).renderMap e := by
  unfold toFRes CRes.toMap Res.renderMap
  simp only [view_toMap e tr, Option.map_map, Function.comp_def]
  rfl

section inMap
variable (s : Site) (e : Pose) (he : e.c * e.c + e.s * e.s = 1)
include he

/-- C10's frame invariance on the view: an object of a BASE_LINK frame and its MAP rendering under any ego pose
(unit yaw, any translation), filtered with the transform supplied, are judged alike.  `P` / `P'` are the argument
sets of one call (`estParams`, `gtParams` or all of them) at the site and at its rendering: `hP` is `rfl`. -/
theorem isTarget_inMap {P P' : Params} (hP : P' = { P with hasTransforms := true }) {o : CObj} (ho : o.ego) :
    isTarget P' (view (s.inMap e).transforms (o.toMap e)) = isTarget P (view s.transforms o) :=
  hP ▸ (view_toMap e s.transforms o).symm ▸ isTarget_renderMap P (view s.transforms o) e he ho.1 ho.2

theorem gtTarget_inMap {g : CObj} (hg : g.ego) : gtTarget (s.inMap e) (g.toMap e) = gtTarget s g :=
  isTarget_inMap s e he (P := s.P) rfl hg

theorem absGT_inMap {g : CObj} (hg : g.ego) : absGT (s.inMap e) (g.toMap e) = absGT s g := by
  unfold absGT gtFlagList
  rw [gtTarget_inMap s e he hg]
  rfl

theorem resTarget_inMap {r : CRes} (hr : r.est.ego ∧ ∀ g, r.gt = some g → g.ego) :
    resTarget (s.inMap e) (r.toMap e) = resTarget s r := by
  unfold resTarget
  rw [show (s.inMap e).transforms = some [("map", e)] from rfl, toFRes_toMap e s.transforms]
  refine resultTarget_renderMap s.P _ e he hr.1 fun g hg => ?_
  obtain ⟨cg, hcg, rfl⟩ := Option.map_eq_some_iff.1 hg
  exact hr.2 cg hcg

theorem absRes_inMap (sG : Site) {r : CRes} (hr : r.est.ego ∧ ∀ g, r.gt = some g → g.ego) :
    absRes (s.inMap e) (sG.inMap e) (r.toMap e) = absRes s sG r := by
  obtain ⟨est, gt, lo, th, sc⟩ := r
  have h1 := isTarget_inMap s e he (P := estParams s.P) (P' := estParams (s.inMap e).P) rfl hr.1
  cases gt with
  | none => simp only [absRes, estFlag, CRes.toMap, Option.map_none, h1]; rfl
  | some g => simp only [absRes, estFlag, CRes.toMap, Option.map_some, h1, absGT_inMap sG e he (hr.2 g rfl)]; rfl

end inMap

/-- ground truths attached to a list of results, in order -/
def gtsOfC (rs : List CRes) : List CObj := rs.filterMap (·.gt)

/-- what the matcher guarantees (C01) on a frame whose ground truths are a set, stated on the objects:
pairwise different objects, pairwise different under `__eq__`; the ground truths of the results are
distinct members of the ground-truth list -/
def FrameWF (f : Frame) : Prop :=
  f.gts.Pairwise (fun a b => a.id ≠ b.id ∧ a.eqKey ≠ b.eqKey) ∧ (gtsOfC f.results).Nodup ∧
    ∀ g ∈ gtsOfC f.results, g ∈ f.gts

theorem gtsOf_absRes (sR sG : Site) (rs : List CRes) :
    PassFail.gtsOf (rs.map (absRes sR sG)) = (gtsOfC rs).map (absGT sG) := by
  unfold PassFail.gtsOf gtsOfC
  rw [List.filterMap_map, List.map_filterMap]
  rfl

theorem matcherWF_abs (w : Wiring) (f : Frame) (h : FrameWF f) : PassFail.MatcherWF (absFrame w f) := by
  obtain ⟨hd, hn, hsub⟩ := h
  have hgts : PassFail.gtsOf (absFrame w f).results = (gtsOfC f.results).map (absGT (w.gtSite f)) :=
    gtsOf_absRes _ _ _
  refine ⟨List.pairwise_map.2 hd, ?_, hgts ▸ List.map_subset _ hsub⟩
  -- ground truths with different ids have different records
  rw [hgts]
  exact nodup_map_on (fun a ha b hb hab => inj_on_of_pairwise (E := fun a b : CObj => a.id = b.id)
    (fun _ _ => Eq.symm) (hd.imp fun h => h.1) a (hsub a ha) b (hsub b hb) (congrArg PassFail.GT.id hab)) hn

theorem kept_criteria {w : Wiring} {f : Frame} {out : Out} (h : evaluateFrameWith w f = .ok out) :
    (∀ cr ∈ out.keptResults, cr ∈ f.results ∧
      Criteria (estParams (w.resSite f).P) (view (w.resSite f).transforms cr.est) ∧
      ∀ cg, cr.gt = some cg → Criteria (gtParams (w.resSite f).P) (view (w.resSite f).transforms cg)) ∧
    (∀ cg ∈ out.keptGts, cg ∈ f.gts ∧ Criteria (w.gtSite f).P (view (w.gtSite f).transforms cg)) := by
  obtain ⟨_, e1, e2, _⟩ := evaluateFrameWith_ok h
  constructor
  · intro cr hcr
    obtain ⟨hm, hk⟩ := List.mem_filter.1 (e1 ▸ hcr)
    obtain ⟨c1, c2, _⟩ := (resultTarget_ok_iff ((isOkTrue_iff _).1 hk)).1 rfl
    exact ⟨hm, c1, fun cg hg => c2 _ (congrArg (Option.map (view _)) hg)⟩
  · intro cg hcg
    obtain ⟨hm, hk⟩ := List.mem_filter.1 (e2 ▸ hcg)
    exact ⟨hm, (isTarget_ok_iff ((isOkTrue_iff _).1 hk)).1 rfl⟩

/-! ## refuting `Criteria` on concrete objects by evaluation -/

/-- `_is_target_object` returned `False` -/
def outB (P : Params) (o : Filter.Obj) : Bool :=
  match isTarget P o with
  | .ok false => true
  | _ => false

theorem not_criteria_of_outB {P : Params} {o : Filter.Obj} (h : outB P o = true) : ¬ Criteria P o := by
  revert h
  fun_cases outB P o
  case case1 hx => exact fun _ hc => nomatch (isTarget_ok_iff hx).2 hc
  case case2 => nofun

theorem not_criteria_of_all_outB {α} {l : List α} {key : α → Nat} {n : Nat} {P : Params} {v : α → Filter.Obj}
    (h : l.all (fun x => key x != n || outB P (v x)) = true) {x : α} (hx : x ∈ l) (hid : n = key x) :
    ¬ Criteria P (v x) := by
  rcases Bool.or_eq_true_iff.1 (List.all_eq_true.1 h x hx) with h' | h'
  · simp [hid] at h'
  · exact not_criteria_of_outB h'

end PEval.CritFrame

