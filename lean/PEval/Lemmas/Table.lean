import PEval.Model.Enums
import PEval.Lemmas.StrTable
import PEval.Lemmas.ExceptLoop
/-!
General facts about lookup by value in `(name, value)` tables (no Mathlib needed): the first member with a value, every
member with it (the same, when values are distinct), and the shape four of the five `from_value` constructors share: the
first member with that value, else `ValueError`.
-/
namespace PEval.Enums

theorem firstByValue_none {t : Table} {s : String} (h : s ∉ values t) : firstByValue t s = none := by
  rw [firstByValue, List.find?_key_eq_none Prod.snd h]; rfl

theorem firstByValue_mem {t : Table} {p : String × String} (hnd : (values t).Nodup) (hp : p ∈ t) :
    firstByValue t p.2 = some p.1 := by
  rw [firstByValue, List.find?_key_of_mem Prod.snd hnd hp]; rfl

theorem firstByValue_some_mem {t : Table} {s m : String} (h : firstByValue t s = some m) :
    (m, s) ∈ t := by
  obtain ⟨p, hf, rfl⟩ := Option.map_eq_some_iff.1 h
  have hs : p.2 = s := eq_of_beq (List.find?_some hf :)
  exact hs ▸ List.mem_of_find?_eq_some hf

/-- the loop without `break` (`set_task_lists`) finds what the loop with `return` (`set_task`) finds -/
theorem membersNamed_eq_toList {t : Table} (hnd : (values t).Nodup) (s : String) :
    membersNamed t s = (firstByValue t s).toList := by
  rw [membersNamed, List.filter_key_eq_toList Prod.snd hnd, firstByValue, Option.toList_map]

theorem firstMemberV_eq (enum : String) (t : Table) (s : String) :
    firstMemberV enum t s = (firstByValue t s).map (PyRet.member enum) := by
  unfold firstMemberV firstByValue; cases t.find? (fun p => p.2 == s) <;> rfl

theorem firstKey_F12_eq (t : Table) (s : String) : firstKey_F12 t s = (firstByValue t s).map PyRet.str := by
  unfold firstKey_F12 firstByValue; cases t.find? (fun p => p.2 == s) <;> rfl

/-- the first member with that value, else `ValueError`: what `taskFromValue`, `sensorFromValue`, `shapeTypeFromValue` and
(on the lower-cased string) `frameFromValue` unfold to -/
def fromValue (t : Table) (s : String) : Res :=
  match firstByValue t s with
  | some m => .ok m
  | none => .error "ValueError"

theorem fromValue_mem {t : Table} {p : String × String} (hnd : (values t).Nodup) (hp : p ∈ t) :
    fromValue t p.2 = .ok p.1 := by
  rw [fromValue, firstByValue_mem hnd hp]

theorem fromValue_none {t : Table} {s : String} (h : s ∉ values t) : fromValue t s = .error "ValueError" := by
  rw [fromValue, firstByValue_none h]

/-- the same handing back the member itself: what the `…V` forms of those four unfold to -/
def fromValueV (enum : String) (t : Table) (s : String) : PyRes :=
  match firstMemberV enum t s with
  | some v => .ok v
  | none => .error "ValueError"

theorem fromValueV_eq (enum : String) (t : Table) (s : String) :
    fromValueV enum t s = (fromValue t s).map (PyRet.member enum) := by
  rw [fromValueV, fromValue, firstMemberV_eq]; cases firstByValue t s <;> rfl

theorem fromValueV_sound {enum : String} {t : Table} {s : String} {v : PyRet} (h : fromValueV enum t s = .ok v) :
    ∃ m, (m, s) ∈ t ∧ v = .member enum m := by
  rw [fromValueV, firstMemberV_eq] at h
  cases hf : firstByValue t s with
  | none => rw [hf] at h; cases h
  | some m => rw [hf] at h; cases h; exact ⟨m, firstByValue_some_mem hf, rfl⟩

end PEval.Enums
