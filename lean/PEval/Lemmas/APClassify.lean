import PEval.Lemmas.AP
import PEval.Lemmas.ExceptLoop
import PEval.Lemmas.APSort
import PEval.Model.APVariants
/-!
Classification and the `Ap` / `Map` constructors of the AP model: from rankings of `Kind`s to `apW`; when `classify`, `classifyAll`, `apOf` and
the per-label loop of `Map` answer, and with what (`classify_ok_iff`, `classifyAll_ok_iff`, `apOf_ok`,
`mapLoop_ok_iff`): a list-level run answers iff every element does, so relations between two runs (APH vs AP here,
two thresholds in `APMono`) are `Forall₂` facts; definedness: `is_result_correct` and the loop body of `_calculate_tp_fp`
return for a threshold valid for the mode (`isResultCorrect_total`, `classify_total`); the TPs of a
classification counted per result (`classifyAll_countTp`); the mean over the defined APs.
-/

namespace PEval.AP

variable {tm : TpMetric} {m : Mode} {T : List Label} {th : List Rat} {G : Nat} {rs : List Res} {r : Res}
  {k : Kind} {ks : List Kind}

/-- order on possibly undefined scores: both undefined, or both defined and `≤` -/
def optLe : Option Rat → Option Rat → Prop
  | none, none => True
  | some a, some b => a ≤ b
  | _, _ => False

theorem optLe_refl (a : Option Rat) : optLe a a := by
  cases a <;> simp [optLe]

theorem apOfKinds_nil (G : Nat) : (apOfKinds G []).ap = none := rfl

theorem apOfKinds_ap (h : ks ≠ []) :
    (apOfKinds G ks).ap = some (apW G 0 0 (ks.map Kind.tpw)) := by
  cases ks with
  | nil => exact absurd rfl h
  | cons k t =>
    have h2 := apSpec_eq_apW G 0 0 ((k :: t).map Kind.tpw)
    rw [recallOf_zero] at h2
    exact congrArg some ((calculateAp_eq_apSpec _ _).trans h2)

theorem apOfKinds_ap_some {x : Rat} (h : (apOfKinds G ks).ap = some x) : x = apW G 0 0 (ks.map Kind.tpw) := by
  cases ks with
  | nil => cases h
  | cons k t => exact Option.some.inj (h.symm.trans (apOfKinds_ap (List.cons_ne_nil _ _)))

/-- pointwise larger TP weights (all non-negative) never lower the AP, and keep it (un)defined -/
theorem apOfKinds_mono (G : Nat) {ks ks' : List Kind}
    (h : List.Forall₂ (fun k k' => 0 ≤ k.tpw ∧ k.tpw ≤ k'.tpw) ks ks') :
    optLe (apOfKinds G ks).ap (apOfKinds G ks').ap := by
  cases h with
  | nil => simp [apOfKinds_nil, optLe]
  | cons hab htl =>
    rw [apOfKinds_ap (List.cons_ne_nil _ _), apOfKinds_ap (List.cons_ne_nil _ _)]
    exact apW_mono G (le_refl 0) (le_refl 0) (forall₂_map Kind.tpw (.cons hab htl))

theorem sum_tpw_le_count (h : ∀ k ∈ ks, k.tpw ≤ 1) :
    (ks.map Kind.tpw).sum ≤ ((ks.filter Kind.isTp).length : Rat) := by
  induction ks with
  | nil => simp
  | cons k t ih =>
    rw [List.forall_mem_cons] at h
    have ht := ih h.2
    cases k with
    | tp w =>
      simp only [List.map_cons, List.sum_cons, List.filter_cons, Kind.isTp, if_true, List.length_cons,
        Nat.cast_succ, Kind.tpw] at h ⊢
      linarith
    | fp | ignored => simpa [Kind.tpw, Kind.isTp, List.filter_cons] using ht

theorem classify_ok_iff :
    classify tm m T th r = .ok k ↔
      (getLabelThreshold (keyLabel r) T (some th) = .ok none ∧ k = .ignored) ∨
      ∃ t b, getLabelThreshold (keyLabel r) T (some th) = .ok (some t) ∧
        isResultCorrect m (some t) r = .ok b ∧ k = if b then .tp (tpValue tm r) else .fp := by
  fun_cases classify tm m T th r with
  | case1 e he => simp [he]
  | case2 he => simp [he, eq_comm]
  | case3 t he e hc => simp [he, hc]
  | case4 t he hc => simp [he, hc, eq_comm]
  | case5 t he hc => simp [he, hc, eq_comm]

/-- the decision (TP or not) is `isCorrectAt`, whatever the TP metric; the weight of a TP is `tpValue`, FP and
ignored results weigh 0 -/
theorem classify_isTp (h : classify tm m T th r = .ok k) :
    k.isTp = isCorrectAt m T th r ∧ k.tpw = if isCorrectAt m T th r = true then tpValue tm r else 0 := by
  unfold isCorrectAt
  rcases classify_ok_iff.1 h with ⟨hg, rfl⟩ | ⟨t, b, hg, hc, rfl⟩
  · simp [hg, Kind.isTp, Kind.tpw]
  · cases b <;> simp [hg, hc, Kind.isTp, Kind.tpw]

theorem classify_tpw (h : classify tm m T th r = .ok k) : k.tpw = 0 ∨ k.tpw = tpValue tm r := by
  rw [(classify_isTp h).2]
  split
  · exact Or.inr rfl
  · exact Or.inl rfl

theorem tpValue_aph (r : Res) : tpValue .aph r = 0 ∨ tpValue .aph r = r.hw := by
  by_cases hg : r.gt.isNone = true
  · exact Or.inl (if_pos hg)
  · exact Or.inr (if_neg hg)

theorem tpValue_nonneg (h : 0 ≤ r.hw) : 0 ≤ tpValue tm r := by
  cases tm with
  | ap => exact zero_le_one
  | aph =>
    rcases tpValue_aph r with e | e
    · exact e.ge
    · exact e ▸ h

theorem tpValue_bounds (h : 0 ≤ r.hw ∧ r.hw ≤ 1) : 0 ≤ tpValue tm r ∧ tpValue tm r ≤ 1 := by
  refine ⟨tpValue_nonneg h.1, ?_⟩
  cases tm with
  | ap => exact le_rfl
  | aph =>
    rcases tpValue_aph r with e | e
    · exact e.le.trans zero_le_one
    · exact e ▸ h.2

/-- `is_result_correct` raises only through the IoU modes' assertion on the threshold -/
theorem isResultCorrect_total (o : Option Rat) (r : Res) (hv : ∀ t, o = some t → thrValid m t = true) :
    ∃ b, isResultCorrect m o r = .ok b := by
  fun_cases isResultCorrect m o r with
  | case4 g _ t v _ e he => simp [isBetterThan, hv t rfl] at he
  | case1 | case2 | case3 | case5 => exact ⟨_, rfl⟩

theorem getStatus_total (o : Option Rat) (r : Res) (hv : ∀ t, o = some t → thrValid m t = true) :
    ∃ s, getStatus m o r = .ok s := by
  fun_cases getStatus m o r with
  | case2 g _ e he => obtain ⟨b, hb⟩ := isResultCorrect_total o r hv; cases hb.symm.trans he
  | case1 | case3 | case4 => exact ⟨_, rfl⟩

theorem getLabelThreshold_mem {l : Label} {t : Rat} (h : getLabelThreshold l T (some th) = .ok (some t)) :
    t ∈ th := by
  simp only [getLabelThreshold] at h
  split at h
  · cases h
  · split at h
    · next x hx => cases h; exact List.mem_of_getElem? hx
    · cases h

/-- the lookup raises only through a threshold list shorter than the target list -/
theorem getLabelThreshold_total (l : Label) (hlen : T.length ≤ th.length) :
    ∃ o, getLabelThreshold l T (some th) = .ok o := by
  simp only [getLabelThreshold]
  split
  · exact ⟨_, rfl⟩
  · next i hi =>
    have : i < th.length := (List.findIdx?_eq_some_iff_findIdx_eq.1 hi).1.trans_le hlen
    exact ⟨some th[i], by rw [List.getElem?_eq_getElem this]⟩

/-- the loop body of `_calculate_tp_fp` returns: the lookup does, with a threshold of the list, valid for the mode -/
theorem classify_total {tm : TpMetric} (r : Res) (hlen : T.length ≤ th.length) (hv : ∀ t ∈ th, thrValid m t = true) :
    ∃ k, classify tm m T th r = .ok k := by
  obtain ⟨o, hg⟩ := getLabelThreshold_total (keyLabel r) hlen
  cases o with
  | none => exact ⟨_, classify_ok_iff.2 (Or.inl ⟨hg, rfl⟩)⟩
  | some t =>
    obtain ⟨b, hb⟩ := isResultCorrect_total (some t) r fun _ h => Option.some.inj h ▸ hv t (getLabelThreshold_mem hg)
    exact ⟨_, classify_ok_iff.2 (Or.inr ⟨t, b, hg, hb, rfl⟩)⟩

theorem classifyAll_eq_mapM (tm : TpMetric) (m : Mode) (T : List Label) (th : List Rat) :
    ∀ rs, classifyAll tm m T th rs = rs.mapM (classify tm m T th)
  | [] => rfl
  | r :: rs => by
    rw [classifyAll, mapM_cons_eq, classifyAll_eq_mapM tm m T th rs]
    cases classify tm m T th r with
    | error e => rfl
    | ok k => cases List.mapM (classify tm m T th) rs <;> rfl

theorem classifyAll_ok_iff :
    classifyAll tm m T th rs = .ok ks ↔ List.Forall₂ (fun r k => classify tm m T th r = .ok k) rs ks := by
  rw [classifyAll_eq_mapM]
  exact mapM_ok_iff

theorem classifyAll_cons_ok (h : classifyAll tm m T th (r :: rs) = .ok ks) :
    ∃ k ks0, classify tm m T th r = .ok k ∧ classifyAll tm m T th rs = .ok ks0 ∧ ks = k :: ks0 := by
  cases classifyAll_ok_iff.1 h with
  | cons hk ht => exact ⟨_, _, hk, classifyAll_ok_iff.2 ht, rfl⟩

theorem classifyAll_length (h : classifyAll tm m T th rs = .ok ks) : ks.length = rs.length :=
  (forall₂_length (classifyAll_ok_iff.1 h)).symm

/-- Two runs: `P x y` = "the first run answers `y` on `x`", `Q x' z` = "the second run answers `z` on `x'`", over input
lists related elementwise by `S`. Whatever relates the answers on related elements (`H`) relates the answer lists. -/
theorem forall₂_of_runs {α β γ δ : Type} {P : α → γ → Prop} {Q : β → δ → Prop} {S : α → β → Prop}
    {R : γ → δ → Prop} {l : List α} {l' : List β} {a : List γ} {b : List δ}
    (H : ∀ x ∈ l, ∀ x' ∈ l', ∀ y z, S x x' → P x y → Q x' z → R y z) (hs : List.Forall₂ S l l')
    (hp : List.Forall₂ P l a) (hq : List.Forall₂ Q l' b) : List.Forall₂ R a b := by
  induction hs generalizing a b with
  | nil => cases hp; cases hq; exact .nil
  | cons hxy _ ih =>
    cases hp with
    | cons hy hp' =>
      cases hq with
      | cons hz hq' =>
        exact .cons (H _ List.mem_cons_self _ List.mem_cons_self _ _ hxy hy hz)
          (ih (fun x hx x' hx' => H x (List.mem_cons_of_mem _ hx) x' (List.mem_cons_of_mem _ hx')) hp' hq')

theorem classifyAll_rel {R : Kind → Kind → Prop} {tm tm' : TpMetric} {m m' : Mode} {T T' : List Label}
    {th th' : List Rat} {L : List Res}
    (h : ∀ r ∈ L, ∀ k k', classify tm m T th r = .ok k → classify tm' m' T' th' r = .ok k' → R k k')
    {ks ks' : List Kind} (h1 : classifyAll tm m T th L = .ok ks)
    (h2 : classifyAll tm' m' T' th' L = .ok ks') : List.Forall₂ R ks ks' :=
  forall₂_of_runs (S := Eq) (fun r hr _ _ k k' e => e ▸ h r hr k k') (forall₂_refl L)
    (classifyAll_ok_iff.1 h1) (classifyAll_ok_iff.1 h2)

theorem classifyAll_forall {P : Kind → Prop} {L : List Res}
    (h : ∀ r ∈ L, ∀ k, classify tm m T th r = .ok k → P k) (h1 : classifyAll tm m T th L = .ok ks) :
    ∀ k ∈ ks, P k :=
  forall₂_right_forall (classifyAll_ok_iff.1 h1) h

theorem classifyAll_ok_iff_forall :
    (∃ ks, classifyAll tm m T th rs = .ok ks) ↔ ∀ r ∈ rs, ∃ k, classify tm m T th r = .ok k := by
  rw [classifyAll_eq_mapM]
  exact ⟨fun ⟨_, h⟩ => mapM_ok_forall h, mapM_ok_of_forall⟩

theorem classifyAll_tpw {L : List Res} (h : classifyAll tm m T th L = .ok ks) :
    ks.map Kind.tpw = L.map (fun r => if isCorrectAt m T th r = true then tpValue tm r else 0) :=
  forall₂_map_eq (forall₂_imp (classifyAll_ok_iff.1 h) fun _ _ _ hk => (classify_isTp hk).2)

theorem classifyAll_countTp {tm : TpMetric} {m : Mode} {T : List Label} {th : List Rat} {rs : List Res}
    {ks : List Kind} (h : classifyAll tm m T th rs = .ok ks) :
    (ks.filter Kind.isTp).length = rs.countP (isCorrectAt m T th) := by
  -- the TP flags of the kinds are the verdicts on the results, list for list; count the `true`s
  have e : ks.map Kind.isTp = rs.map (isCorrectAt m T th) :=
    forall₂_map_eq (forall₂_imp (classifyAll_ok_iff.1 h) fun _ _ _ hk => (classify_isTp hk).1)
  rw [← List.countP_eq_length_filter]
  exact (List.countP_map (p := id)).symm.trans ((congrArg (List.countP id) e).trans List.countP_map)

variable {a : ApOut}

theorem apOf_ok_iff :
    apOf tm m T th G rs = .ok a ↔
      ∃ ks, classifyAll tm m T th (sortDesc Res.conf rs) = .ok ks ∧
        rs.any (fun r => r.score == Score.noMethod) = false ∧ a = apOfKinds G ks := by
  unfold apOf
  cases classifyAll tm m T th (sortDesc Res.conf rs) with
  | error e => simp
  | ok ks => cases rs.any (fun r => r.score == Score.noMethod) <;> simp [eq_comm]

theorem apOf_ok (h : apOf tm m T th G rs = .ok a) :
    ∃ ks, classifyAll tm m T th (sortDesc Res.conf rs) = .ok ks ∧ a = apOfKinds G ks :=
  let ⟨ks, hk, _, ha⟩ := apOf_ok_iff.1 h
  ⟨ks, hk, ha⟩

theorem mem_sortDesc : r ∈ sortDesc Res.conf rs ↔ r ∈ rs :=
  (sortDesc_perm Res.conf rs).mem_iff

theorem classifyAll_sort_length (h : classifyAll tm m T th (sortDesc Res.conf rs) = .ok ks) :
    ks.length = rs.length :=
  (classifyAll_length h).trans (sortDesc_perm Res.conf rs).length_eq

theorem apOf_ok_ap (h : apOf tm m T th G rs = .ok a) (hne : rs ≠ []) :
    ∃ ks, classifyAll tm m T th (sortDesc Res.conf rs) = .ok ks ∧
      a.ap = some (apW G 0 0 (ks.map Kind.tpw)) := by
  obtain ⟨ks, hk, rfl⟩ := apOf_ok h
  refine ⟨ks, hk, apOfKinds_ap fun he => hne (List.length_eq_zero_iff.1 ?_)⟩
  rw [← classifyAll_sort_length hk, he]
  rfl

theorem apOf_ap_none_iff (h : apOf tm m T th G rs = .ok a) : a.ap = none ↔ rs = [] := by
  constructor
  · intro hn
    by_contra hne
    obtain ⟨ks, _, hap⟩ := apOf_ok_ap h hne
    rw [hn] at hap
    cases hap
  · rintro rfl
    obtain ⟨ks, hk, rfl⟩ := apOf_ok h
    cases ks with
    | nil => rfl
    | cons k t => cases classifyAll_sort_length hk

theorem lookupKey_mem {β : Type} {l : Label} {L : List (Label × β)} {v : β}
    (h : lookupKey l L = .ok v) : (l, v) ∈ L := by
  fun_induction lookupKey l L with
  | case1 => cases h
  | case2 k w rest hk => cases h; rw [beq_iff_eq.1 hk]; exact List.mem_cons_self
  | case3 k w rest hk ih => exact List.mem_cons_of_mem _ (ih h)

theorem forall₂_ok_map {α β ε : Type} {f : α → Except ε β} {l : List α} {a : List β}
    (h : List.Forall₂ (fun x y => f x = .ok y) l a) : l.map f = a.map .ok :=
  (forall₂_map_eq (forall₂_imp h fun _ _ _ e => e.symm)).symm

/-- the `Ap` that `Map.__init__` builds for target label `l` with threshold `t`: both dicts are read by key -/
def apCall (tm : TpMetric) (m : Mode) (buckets : List (Label × List (List Res))) (nums : List (Label × Nat))
    (l : Label) (t : Rat) : Except Err ApOut :=
  match lookupKey l buckets with
  | .error e => .error e
  | .ok rs =>
    match lookupKey l nums with
    | .error e => .error e
    | .ok G => apOfNested tm m [l] [t] G rs

variable {is2d : Bool} {b : List (Label × List (List Res))} {n : List (Label × Nat)}

theorem apCall_ok_iff {l : Label} {t : Rat} :
    apCall tm m b n l t = .ok a ↔
      ∃ rss G, lookupKey l b = .ok rss ∧ lookupKey l n = .ok G ∧ apOfNested tm m [l] [t] G rss = .ok a := by
  unfold apCall
  cases lookupKey l b with
  | error e => simp
  | ok rss => cases lookupKey l n <;> simp

theorem mapLoop_cons (m : Mode) (is2d : Bool) (b : List (Label × List (List Res))) (n : List (Label × Nat))
    (l : Label) (t : Rat) (rest : List (Label × Rat)) :
    mapLoop m is2d b n ((l, t) :: rest) =
      match apCall .ap m b n l t with
      | .error e => .error e
      | .ok a =>
        match (if is2d then .ok none else (apCall .aph m b n l t).map some) with
        | .error e => .error e
        | .ok h =>
          match mapLoop m is2d b n rest with
          | .error e => .error e
          | .ok (as, hs) => .ok (a :: as, match h with | some x => x :: hs | none => hs) := by
  rw [mapLoop]
  unfold apCall
  cases lookupKey l b with
  | error e => rfl
  | ok rss => cases lookupKey l n <;> rfl

/-- the loop answers iff every per-label call does; its lists are the answers, in target order (no APH in 2-D).
Proved on the recursion itself: the loop fills two lists, the second one only in 3-D, so a `mapM` bridge would have to
unzip a list of pairs and the same case analysis would come back on the way from `mapM_ok_iff` to the two `Forall₂`s. -/
theorem mapLoop_ok_iff {zs : List (Label × Rat)} {as hs : List ApOut} :
    mapLoop m is2d b n zs = .ok (as, hs) ↔
      List.Forall₂ (fun z a => apCall .ap m b n z.1 z.2 = .ok a) zs as ∧
      (if is2d = true then hs = []
       else List.Forall₂ (fun z a => apCall .aph m b n z.1 z.2 = .ok a) zs hs) := by
  induction zs generalizing as hs with
  | nil =>
    rw [mapLoop]
    constructor
    · rintro ⟨⟩
      refine ⟨.nil, ?_⟩
      cases is2d
      · exact .nil
      · rfl
    · rintro ⟨⟨⟩, f2⟩
      cases is2d
      · cases f2; rfl
      · cases f2; rfl
  | cons z t ih =>
    obtain ⟨l, thr⟩ := z
    rw [mapLoop_cons]
    constructor
    · intro h
      cases ha : apCall .ap m b n l thr with
      | error e => simp [ha] at h
      | ok a =>
        cases hr : mapLoop m is2d b n t with
        | error e => cases is2d <;> cases hh : apCall .aph m b n l thr <;> simp [ha, hr, hh, Except.map] at h
        | ok q =>
          obtain ⟨i1, i2⟩ := ih.1 hr
          cases is2d with
          | true =>
            simp only [ha, hr, if_true, Except.ok.injEq, Prod.mk.injEq] at h
            obtain ⟨rfl, rfl⟩ := h
            exact ⟨.cons ha i1, i2⟩
          | false =>
            cases hh : apCall .aph m b n l thr with
            | error e => simp [ha, hh, Except.map] at h
            | ok x =>
              simp only [ha, hr, hh, Except.map, Bool.false_eq_true, if_false, Except.ok.injEq,
                Prod.mk.injEq] at h
              obtain ⟨rfl, rfl⟩ := h
              exact ⟨.cons ha i1, .cons hh i2⟩
    · rintro ⟨f1, f2⟩
      cases f1 with
      | cons ha f1' =>
        cases is2d with
        | true =>
          have := ih.2 ⟨f1', f2⟩
          simp only [ha, this, if_true]
        | false =>
          cases f2 with
          | cons hh f2' =>
            have := ih.2 ⟨f1', f2'⟩
            simp only [ha, hh, this, Except.map, Bool.false_eq_true, if_false]

theorem mapOf_ok_iff {o : MapOut} :
    mapOf m is2d T th b n = .ok o ↔
      mapLoop m is2d b n (T.zip th) = .ok (o.aps, o.aphs) ∧
        o.map = meanDefined (o.aps.map (·.ap)) ∧ o.maph = meanDefined (o.aphs.map (·.ap)) := by
  unfold mapOf
  cases mapLoop m is2d b n (T.zip th) with
  | error e => exact ⟨fun h => (nomatch h), fun h => nomatch h.1⟩
  | ok q =>
    constructor
    · rintro ⟨⟩
      exact ⟨rfl, rfl, rfl⟩
    · rintro ⟨h, h1, h2⟩
      cases h
      exact congrArg Except.ok (by rw [← h1, ← h2])

/-- `Map.__init__` answers iff every per-label `Ap` call does — APH calls for the same (label, threshold) pairs in 3-D, for
none in 2-D —; its lists are the answers in target order, mAP / mAPH the means over the defined ones -/
theorem mapOf_spec {o : MapOut} :
    mapOf m is2d T th b n = .ok o ↔
      List.Forall₂ (fun z a => apCall .ap m b n z.1 z.2 = .ok a) (T.zip th) o.aps ∧
      List.Forall₂ (fun z a => apCall .aph m b n z.1 z.2 = .ok a) (if is2d = true then [] else T.zip th) o.aphs ∧
      o.map = meanDefined (o.aps.map (·.ap)) ∧ o.maph = meanDefined (o.aphs.map (·.ap)) := by
  have hnil : ∀ hs, hs = [] ↔ List.Forall₂ (fun (z : Label × Rat) a => apCall .aph m b n z.1 z.2 = .ok a) [] hs :=
    fun hs => ⟨fun e => by rw [e]; exact .nil, fun f => by cases f; rfl⟩
  rw [mapOf_ok_iff, mapLoop_ok_iff, and_assoc]
  cases is2d
  · exact Iff.rfl
  · exact and_congr_right fun _ => and_congr_left fun _ => hnil _

theorem filterMap_id_forall₂ {l l' : List (Option Rat)} (h : List.Forall₂ optLe l l') :
    List.Forall₂ (· ≤ ·) (l.filterMap id) (l'.filterMap id) := by
  induction h with
  | nil => exact .nil
  | @cons a b t t' hab _ ih =>
    cases a <;> cases b <;> simp only [optLe] at hab
    · simpa using ih
    · simpa using List.Forall₂.cons hab ih

theorem forall₂_le_sum {v v' : List Rat} (h : List.Forall₂ (· ≤ ·) v v') : v.sum ≤ v'.sum := by
  induction h with
  | nil => exact le_refl _
  | cons hab _ ih =>
    simp only [List.sum_cons]
    exact add_le_add hab ih

theorem meanDefined_eq (l : List (Option Rat)) : meanDefined l =
    if l.filterMap id = [] then none else some ((l.filterMap id).sum / ((l.filterMap id).length : Rat)) := by
  simp only [meanDefined, List.length_pos_iff, ite_not]

theorem meanDefined_mono {l l' : List (Option Rat)} (h : List.Forall₂ optLe l l') :
    optLe (meanDefined l) (meanDefined l') := by
  have hs := forall₂_le_sum (filterMap_id_forall₂ h)
  have hl := forall₂_length (filterMap_id_forall₂ h)
  unfold meanDefined
  dsimp only
  rw [← hl]
  split
  · next hpos =>
    simp only [optLe]
    exact div_le_div_of_nonneg_right hs (Nat.cast_nonneg _)
  · simp [optLe]

end PEval.AP
