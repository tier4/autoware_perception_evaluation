import PEval.Lemmas.Threshold
import PEval.Model.Config
/-!
# Lemmas about the configuration model (C15)

Every configuration class is a chain of checks, each of which either raises or hands a value on.  For each chain
there is one inversion lemma (`extractParams_inv`, `perceptionConfig_inv`, `sensingConfig_inv`,
`criticalFilterConfig_inv`, `passFailConfig_inv`): if the whole succeeded, every step did, with these values.  The facts about accepted
configurations are read off from them together with what each single step guarantees (`*_ok`).  `target_labels` enters
only through the list of names `set_target_lists` converts (`targetNames`: `targetLabelCount_eq` here, `targetLabelList_eq`
in `ThresholdTargets`).  Also the keys the model reads (`readKeys`) and the congruence lemma behind the
characterisation of finding F8.  Core Lean only.
-/
namespace PEval.Config
open PEval PEval.Threshold

/-- exactly one complete kind of range bound (x/y position or max/min distance) is given -/
def OneRangeKind (d : Dict) : Prop :=
  (given (get d "max_x_position") = true ∧ given (get d "max_y_position") = true ∧
     given (get d "max_distance") = false ∧ given (get d "min_distance") = false) ∨
  (given (get d "max_x_position") = false ∧ given (get d "max_y_position") = false ∧
     given (get d "max_distance") = true ∧ given (get d "min_distance") = true)

theorem given_iff {v : PyVal} : given v = true ↔ v ≠ .none := by
  cases v <;> simp [given]

theorem optFlat_eq (v : PyVal) (n : Nat) :
    optFlat v n = if given v then setThresholds v n false else .ok .none := by
  cases v <;> rfl

theorem optCheck_eq (v : PyVal) (n : Nat) :
    optCheck v n = if given v then checkThresholds v n else .ok .none := by
  cases v <;> rfl

theorem optFlat_ok {v : PyVal} {n : Nat} {r : PyVal} (h : optFlat v n = .ok r) :
    (v = .none ∧ r = .none) ∨ (given v = true ∧ IsFlatNorm n r) := by
  by_cases hv : v = .none
  · subst hv; cases h; exact Or.inl ⟨rfl, rfl⟩
  · have hg := given_iff.mpr hv
    rw [optFlat_eq, if_pos hg] at h
    exact Or.inr ⟨hg, flat_result_norm h⟩

theorem optFlat_list {v : PyVal} {n : Nat} {r : PyVal} (h : optFlat v n = .ok r) :
    r = .none ∨ IsFlatNorm n r :=
  (optFlat_ok h).imp And.right And.right

theorem optNested_ok {v : PyVal} {n : Nat} {r : PyVal} (h : optNested v n = .ok r) :
    r = .list [] ∨ IsNestedNorm n r := by
  unfold optNested at h
  split at h
  · exact Or.inr (nested_result_norm h)
  · cases h; exact Or.inl rfl

theorem optCheck_ok {v : PyVal} {n : Nat} {r : PyVal} (h : optCheck v n = .ok r) (hn : 1 ≤ n) :
    r = .none ∨ (r = v ∧ IsFlatNorm n r) := by
  by_cases hv : v = .none
  · subst hv; cases h; exact Or.inl rfl
  · rw [optCheck_eq, if_pos (given_iff.mpr hv)] at h
    obtain ⟨rfl, hN⟩ := checkThresholds_ok h hn
    exact Or.inr ⟨rfl, hN⟩

theorem checkTasks_ok {sup : List String} {d : Dict} {t : String} (h : checkTasks sup d = .ok t) :
    d.lookup "evaluation_task" = some (.str t) ∧ t ∈ sup := by
  revert h
  fun_cases checkTasks sup d with
  | case2 t' heq hc => rintro ⟨⟩; exact ⟨heq, List.contains_iff_mem.mp hc⟩
  | _ => nofun

theorem checkParameters_iff (valid keys : List String) :
    checkParameters valid keys = .ok () ↔ ∀ k ∈ keys, k ∈ valid := by
  rw [checkParameters, ok_ite_iff]
  simp only [List.all_eq_true, List.contains_iff_mem, and_true]

/-- the names `set_target_lists` converts (none: it takes every label of the family), or its exception: `len(number)`
is a `TypeError`, `name.lower()` of an entry that is not a string an `AttributeError`, a `str` is iterated character by
character.  `target_labels` enters the configuration only through this list: `targetLabelCount_eq`,
`targetLabelList_eq`. -/
def targetNames : PyVal → Except Err (List String)
  | .none => .ok []
  | .list xs => if xs.all isStr then .ok (xs.map strOf) else .error "AttributeError"
  | .str s => .ok (s.toList.map String.singleton)
  | _ => .error "TypeError"

theorem chars_eq_nil (s : String) : s.toList.map String.singleton = [] ↔ (s.length == 0) = true := by
  rw [List.map_eq_nil_iff, ← List.length_eq_zero_iff, String.length_toList, beq_iff_eq]

theorem targetLabelCount_eq (v : PyVal) (nAll : Nat) :
    targetLabelCount v nAll = (targetNames v).map fun l => if l = [] then nAll else l.length := by
  cases v with
  | list xs =>
    cases xs with
    | nil => rfl
    | cons x t => simp only [targetLabelCount, targetNames]; cases (x :: t).all isStr <;> simp [Except.map]
  | str s =>
    simp only [targetLabelCount, targetNames, Except.map, chars_eq_nil, List.length_map, String.length_toList,
      apply_ite Except.ok]
  | _ => rfl

theorem targetLabelCount_pos {v : PyVal} {nAll n : Nat} (h : targetLabelCount v nAll = .ok n)
    (hAll : 1 ≤ nAll) : 1 ≤ n := by
  revert h
  fun_cases targetLabelCount v nAll with
  | case1 | case2 | case5 => rintro ⟨⟩; exact hAll
  | case3 _ h0 | case6 _ h0 => rintro ⟨⟩; exact Nat.pos_of_ne_zero (by simpa using h0)
  | _ => nofun

/-- the range-bound facts of an accepted configuration -/
structure RangeFacts (task : String) (d : Dict) (n : Nat) (xl yl dl ml : PyVal) : Prop where
  kinds :
    (given (get d "max_x_position") = true ∧ given (get d "max_y_position") = true ∧
      given (get d "max_distance") = false ∧ given (get d "min_distance") = false ∧
      IsFlatNorm n xl ∧ IsFlatNorm n yl ∧ dl = .none ∧ ml = .none) ∨
    (given (get d "max_x_position") = false ∧ given (get d "max_y_position") = false ∧
      given (get d "max_distance") = true ∧ given (get d "min_distance") = true ∧
      xl = .none ∧ yl = .none ∧ IsFlatNorm n dl ∧ IsFlatNorm n ml) ∨
    (is3d task = false ∧ xl = .none ∧ yl = .none ∧ dl = .none ∧ ml = .none)

theorem rangeParams_ok {task : String} {d : Dict} {n : Nat} {xl yl dl ml : PyVal}
    (h : rangeParams task d n = .ok (xl, yl, dl, ml)) : RangeFacts task d n xl yl dl ml := by
  -- not both kinds, and one of them complete: that one is given and the other is not
  have one_kind : ∀ {a b c e : Bool}, ¬ ((a || b) && (c || e)) = true → (a && b) = true →
      a = true ∧ b = true ∧ c = false ∧ e = false := by decide
  revert h
  fun_cases rangeParams task d n with
  | case4 _ _ _ _ hboth hxy a ha b hb =>
    rintro ⟨⟩
    obtain ⟨gx, gy, gd, gm⟩ := one_kind hboth hxy
    exact ⟨Or.inl ⟨gx, gy, gd, gm, flat_result_norm ha, flat_result_norm hb, rfl, rfl⟩⟩
  | case7 _ _ _ _ hboth _ hd a ha b hb =>
    rintro ⟨⟩
    obtain ⟨gd, gm, gx, gy⟩ := one_kind (by rwa [Bool.and_comm] at hboth) hd
    exact ⟨Or.inr (Or.inl ⟨gx, gy, gd, gm, rfl, rfl, flat_result_norm ha, flat_result_norm hb⟩)⟩
  | case8 _ _ _ _ _ _ _ h3 =>
    rintro ⟨⟩
    exact ⟨Or.inr (Or.inr ⟨by simpa using h3, rfl, rfl, rfl, rfl⟩)⟩
  | _ => nofun

theorem RangeFacts.lists {task : String} {d : Dict} {n : Nat} {xl yl dl ml : PyVal}
    (h : RangeFacts task d n xl yl dl ml) :
    (xl = .none ∨ IsFlatNorm n xl) ∧ (yl = .none ∨ IsFlatNorm n yl) ∧
    (dl = .none ∨ IsFlatNorm n dl) ∧ (ml = .none ∨ IsFlatNorm n ml) := by
  rcases h.kinds with ⟨_, _, _, _, a, b, c, e⟩ | ⟨_, _, _, _, a, b, c, e⟩ | ⟨_, a, b, c, e⟩
  · exact ⟨Or.inr a, Or.inr b, Or.inl c, Or.inl e⟩
  · exact ⟨Or.inl a, Or.inl b, Or.inr c, Or.inr e⟩
  · exact ⟨Or.inl a, Or.inl b, Or.inl c, Or.inl e⟩

/-- every step of an accepted `_extract_params` (`xl … conf` are what the steps returned), and where the seven
per-label lists stand in `f_params` -/
structure ExtractSteps (task : String) (nAll : Nat) (d : Dict) (n : Nat) (f m : Dict)
    (xl yl dl ml radii minPts conf : PyVal) : Prop where
  count : targetLabelCount (get d "target_labels") nAll = .ok n
  range : rangeParams task d n = .ok (xl, yl, dl, ml)
  radiiOk : optFlat (get d "max_matchable_radii") n = .ok radii
  minPtsOk : optFlat (get d "min_point_numbers") n = .ok minPts
  detection : task = "detection" → given minPts = true
  confOk : optFlat (get d "confidence_threshold") n = .ok conf
  metrics : m = metricThresholdKeys.map fun k => (k, get d k)
  atX : f.lookup "max_x_position_list" = some xl
  atY : f.lookup "max_y_position_list" = some yl
  atMaxDist : f.lookup "max_distance_list" = some dl
  atMinDist : f.lookup "min_distance_list" = some ml
  atRadii : f.lookup "max_matchable_radii" = some radii
  atMinPts : f.lookup "min_point_numbers" = some minPts
  atConf : f.lookup "confidence_threshold_list" = some conf

theorem extractParams_inv {task : String} {nAll : Nat} {d : Dict} {n : Nat} {f m : Dict}
    (h : extractParams task nAll d = .ok (n, f, m)) :
    ∃ xl yl dl ml radii minPts conf, ExtractSteps task nAll d n f m xl yl dl ml radii minPts conf := by
  revert h
  fun_cases extractParams task nAll d with
  | case7 n' hn xl yl dl ml hr radii hrad minPts hmp hdet conf hconf =>
    rintro ⟨⟩
    refine ⟨xl, yl, dl, ml, radii, minPts, conf, hn, hr, hrad, hmp, ?_, hconf, rfl, ?_, ?_, ?_, ?_, ?_, ?_, ?_⟩
    · rintro rfl
      simpa using hdet
    all_goals simp only [List.lookup, String.reduceBEq]
  | _ => nofun

/-- what an accepted `_extract_params` guarantees -/
structure ExtractFacts (task : String) (d : Dict) (n : Nat) (f m : Dict) : Prop where
  range : ∃ xl yl dl ml, RangeFacts task d n xl yl dl ml ∧
    f.lookup "max_x_position_list" = some xl ∧ f.lookup "max_y_position_list" = some yl ∧
    f.lookup "max_distance_list" = some dl ∧ f.lookup "min_distance_list" = some ml
  minPts : task = "detection" → given (get d "min_point_numbers") = true
  perLabel : ∀ k ∈ perLabelFilterKeys, ∃ v, f.lookup k = some v ∧ (v = .none ∨ IsFlatNorm n v)
  metrics : m = metricThresholdKeys.map fun k => (k, get d k)

theorem extractParams_ok {task : String} {nAll : Nat} {d : Dict} {n : Nat} {f m : Dict}
    (h : extractParams task nAll d = .ok (n, f, m)) : ExtractFacts task d n f m := by
  obtain ⟨xl, yl, dl, ml, radii, minPts, conf, S⟩ := extractParams_inv h
  have R := rangeParams_ok S.range
  obtain ⟨l1, l2, l3, l4⟩ := R.lists
  refine ⟨⟨xl, yl, dl, ml, R, S.atX, S.atY, S.atMaxDist, S.atMinDist⟩, fun ht => ?_, ?_, S.metrics⟩
  · rcases optFlat_ok S.minPtsOk with ⟨_, rfl⟩ | ⟨g, _⟩
    · cases S.detection ht
    · exact g
  · simp only [perLabelFilterKeys, List.forall_mem_cons, List.not_mem_nil, false_imp_iff, implies_true, and_true]
    exact ⟨⟨xl, S.atX, l1⟩, ⟨yl, S.atY, l2⟩, ⟨dl, S.atMaxDist, l3⟩, ⟨ml, S.atMinDist, l4⟩,
      ⟨radii, S.atRadii, optFlat_list S.radiiOk⟩, ⟨minPts, S.atMinPts, optFlat_list S.minPtsOk⟩,
      ⟨conf, S.atConf, optFlat_list S.confOk⟩⟩

theorem metricsConfigBase_ok {m : Dict} {n : Nat} {r : Dict} (h : metricsConfigBase m n = .ok r) :
    r.map (·.1) = metricThresholdKeys ∧ ∀ kv ∈ r, kv.2 = .list [] ∨ IsNestedNorm n kv.2 := by
  revert h
  fun_cases metricsConfigBase m n with
  | case5 c hc p hp i2 hi2 i3 hi3 =>
    rintro ⟨⟩
    refine ⟨rfl, ?_⟩
    simp only [List.forall_mem_cons, List.not_mem_nil, false_imp_iff, implies_true, and_true]
    exact ⟨optNested_ok hc, optNested_ok hp, optNested_ok hi2, optNested_ok hi3⟩
  | _ => nofun

theorem metricsScoreConfig_ok {task : String} {m : Dict} {n : Nat} {mc : Option Dict}
    (h : metricsScoreConfig task m n = .ok mc) :
    task ≠ "prediction" ∧
    (∀ valid, metricParamNames task = some valid → ∀ k ∈ "target_labels" :: m.map (·.1), k ∈ valid) ∧
    ∀ r, mc = some r →
      r.map (·.1) = metricThresholdKeys ∧ ∀ kv ∈ r, kv.2 = .list [] ∨ IsNestedNorm n kv.2 := by
  revert h
  fun_cases metricsScoreConfig task m n with
  | case1 hnone =>
    rintro ⟨⟩
    refine ⟨?_, ?_, nofun⟩
    · rintro rfl; simp [metricParamNames] at hnone
    · intro valid hv; rw [hnone] at hv; cases hv
  | case5 valid hvalid hcheck hpred r hr =>
    rintro ⟨⟩
    refine ⟨?_, ?_, ?_⟩
    · rintro rfl; simp at hpred
    · intro valid' hv; rw [hvalid] at hv; cases hv
      exact (checkParameters_iff _ _).mp hcheck
    · rintro _ ⟨⟩
      exact metricsConfigBase_ok hr
  | _ => nofun

/-- every step of an accepted `PerceptionEvaluationConfig` (`pre`, `nAll`, `m`: the value of `label_prefix`, the size of
its label enum, the metric parameters handed on) -/
structure ConfigSteps (d : Dict) (frames : List String) (a : Accepted) (pre : PyVal) (nAll : Nat) (m : Dict) : Prop where
  task : checkTasks Gen.perceptionSupportTasks d = .ok a.task
  policy : matchingPolicy d = .ok ()
  labelPrefix : d.lookup "label_prefix" = some pre
  size : labelTypeSize pre = .ok nAll
  params : extractParams a.task nAll d = .ok (a.nLabels, a.filtering, m)
  validFrames : framesOk frames = true
  oneFrame : is3d a.task = true → frames.length = 1
  metrics : metricsScoreConfig a.task m a.nLabels = .ok a.metrics

theorem perceptionConfig_inv {d : Dict} {frames : List String} {a : Accepted}
    (h : perceptionConfig d frames = .ok a) : ∃ pre nAll m, ConfigSteps d frames a pre nAll m := by
  revert h
  fun_cases perceptionConfig d frames with
  | case9 task htask hpol pre hpre nAll hnAll n f m hex hfr hcnt mc hmc =>
    rintro ⟨⟩
    exact ⟨pre, nAll, m, htask, hpol, hpre, hnAll, hex, by simpa using hfr, fun h3 => by simpa [h3] using hcnt, hmc⟩
  | _ => nofun

theorem sensingConfig_inv {d : Dict} {frames : List String} {a : Accepted} (h : sensingConfig d frames = .ok a) :
    checkTasks Gen.sensingSupportTasks d = .ok a.task ∧ (is3d a.task = true → frames.length = 1) := by
  revert h
  fun_cases sensingConfig d frames with
  | case5 task htask _ _ _ hcnt =>
    rintro ⟨⟩
    exact ⟨htask, fun h3 => by simpa [show is3d task = true from h3] using hcnt⟩
  | _ => nofun

/-- the keys of the evaluation config dictionary the model of `PerceptionEvaluationConfig` reads -/
def readKeys : List String :=
  ["evaluation_task", "matching_label_policy", "label_prefix", "target_labels",
   "max_x_position", "max_y_position", "max_distance", "min_distance",
   "max_matchable_radii", "min_point_numbers", "confidence_threshold",
   "ignore_attributes", "target_uuids", "uuid_matching_first"] ++ metricThresholdKeys

/-- the model consults the dictionary only through `lookup` of the keys in `readKeys` -/
theorem perceptionConfig_congr (d d' : Dict) (frames : List String)
    (h : ∀ k ∈ readKeys, d.lookup k = d'.lookup k) :
    perceptionConfig d frames = perceptionConfig d' frames := by
  simp only [readKeys, metricThresholdKeys, List.cons_append, List.nil_append, List.forall_mem_cons] at h
  obtain ⟨e1, e2, e3, e4, e5, e6, e7, e8, e9, e10, e11, e12, e13, e14, e15, e16, e17, e18, -⟩ := h
  -- unfold the left side down to the `lookup`s and replace them; the right side then unfolds to the same term
  conv =>
    lhs
    simp only [perceptionConfig, checkTasks, matchingPolicy, extractParams, rangeParams, get, metricThresholdKeys,
      List.map, e1, e2, e3, e4, e5, e6, e7, e8, e9, e10, e11, e12, e13, e14, e15, e16, e17, e18]
  rfl

/-- the two bounds of one kind of range, checked in a row: both are flat normal forms and are handed on unchanged.
Stated with the `match` of the range block of `criticalFilterConfig`, so that it applies to it as it stands -/
theorem checkPair_ok {u v : PyVal} {n : Nat} {g : PyVal → PyVal → PyVal × PyVal × PyVal × PyVal}
    {r : PyVal × PyVal × PyVal × PyVal} (hn : 1 ≤ n)
    (h : (match checkThresholds u n with
          | .error e => (.error e : Except Err (PyVal × PyVal × PyVal × PyVal))
          | .ok a =>
            match checkThresholds v n with
            | .error e => .error e
            | .ok b => .ok (g a b)) = .ok r) :
    r = g u v ∧ IsFlatNorm n u ∧ IsFlatNorm n v := by
  split at h
  · cases h
  · rename_i a ha
    split at h
    · cases h
    · rename_i b hb
      cases h
      obtain ⟨rfl, na⟩ := checkThresholds_ok ha hn
      obtain ⟨rfl, nb⟩ := checkThresholds_ok hb hn
      exact ⟨rfl, na, nb⟩

/-- every step of an accepted `CriticalObjectFilterConfig`; the four range lists are the arguments of the one kind
that is given (checked), `None` otherwise -/
structure CriticalSteps (is2d : Bool) (nAll : Nat) (args : Dict) (n : Nat) (f : Dict)
    (xl yl dl ml minPts conf : PyVal) : Prop where
  count : targetLabelCount (get args "target_labels") nAll = .ok n
  pos : 1 ≤ n
  range :
    (xl = get args "max_x_position_list" ∧ yl = get args "max_y_position_list" ∧
        IsFlatNorm n xl ∧ IsFlatNorm n yl ∧ dl = .none ∧ ml = .none) ∨
    (xl = .none ∧ yl = .none ∧ dl = get args "max_distance_list" ∧ ml = get args "min_distance_list" ∧
        IsFlatNorm n dl ∧ IsFlatNorm n ml) ∨
    (is2d = true ∧ xl = .none ∧ yl = .none ∧ dl = .none ∧ ml = .none)
  minPtsOk : optCheck (get args "min_point_numbers") n = .ok minPts
  confOk : optCheck (get args "confidence_threshold_list") n = .ok conf
  dict : f = [("max_x_position_list", xl), ("max_y_position_list", yl), ("max_distance_list", dl),
              ("min_distance_list", ml), ("min_point_numbers", minPts), ("confidence_threshold_list", conf)]

theorem criticalFilterConfig_inv {is2d : Bool} {nAll : Nat} {args : Dict} {n : Nat} {f : Dict}
    (h : criticalFilterConfig is2d nAll args = .ok (n, f)) (hAll : 1 ≤ nAll) :
    ∃ xl yl dl ml minPts conf, CriticalSteps is2d nAll args n f xl yl dl ml minPts conf := by
  revert h
  fun_cases criticalFilterConfig is2d nAll args with
  | case5 n' hn' _ _ _ _ range xl yl dl ml hr minPts hmp conf hconf =>
    rintro ⟨⟩
    have hn : 1 ≤ n := targetLabelCount_pos hn' hAll
    refine ⟨xl, yl, dl, ml, minPts, conf, hn', hn, ?_, hmp, hconf, rfl⟩
    rcases ite_cases hr with ⟨-, hr⟩ | ⟨-, hr⟩
    · obtain ⟨⟨⟩, na, nb⟩ := checkPair_ok hn hr
      exact Or.inl ⟨rfl, rfl, na, nb, rfl, rfl⟩
    rcases ite_cases hr with ⟨-, hr⟩ | ⟨-, hr⟩
    · obtain ⟨⟨⟩, na, nb⟩ := checkPair_ok hn hr
      exact Or.inr (Or.inl ⟨rfl, rfl, rfl, rfl, na, nb⟩)
    rcases ite_cases hr with ⟨h2, hr⟩ | ⟨-, hr⟩
    · cases hr
      exact Or.inr (Or.inr ⟨h2, rfl, rfl, rfl, rfl⟩)
    · cases hr
  | _ => nofun

theorem passFailConfig_inv {nAll : Nat} {args : Dict} {n : Nat} {f : Dict}
    (h : passFailConfig nAll args = .ok (n, f)) :
    ∃ mt conf, targetLabelCount (get args "target_labels") nAll = .ok n ∧
      optCheck (get args "matching_threshold_list") n = .ok mt ∧
      optCheck (get args "confidence_threshold_list") n = .ok conf ∧
      f = [("matching_threshold_list", mt), ("confidence_threshold_list", conf)] := by
  revert h
  fun_cases passFailConfig nAll args with
  | case4 n' hn mt hmt conf hconf => rintro ⟨⟩; exact ⟨mt, conf, hn, hmt, hconf, rfl⟩
  | _ => nofun

end PEval.Config
