import Mathlib.Tactic.Ring
import Mathlib.Tactic.Linarith
import PEval.Lemmas.APDTBridge
import PEval.Lemmas.APClassify
/-!
The remaining bridges of the AP tables (a) — `Ap.__init__` up to `tp_list` / `fp_list` — for ALL inputs
(does not import `PEval.Gen.*`, so Lake caches it):

* COVERAGE. `rankPat cs` (rank of every entry = number of entries strictly below it) is, for a list of rationals of ANY
  length, order-isomorphic to the list (`rankPat_iso`), a fixed point of `countRank` and a member of the enumerated weak
  orderings `countPatterns cs.length` (`rankPat_mem_countPatterns`); hence for every list of ≤ 3 numbers one of the
  enumerated rank patterns applies (`rankPat_mem_tpfpShapes`, `rankPat_mem_patShapes`): "some table row applies to every
  input of length ≤ 3" is a theorem, not a construction argument of the translator.
* BRIDGE. `valAP` is the valuation a concrete result list induces on the atoms hasGt / inTargets / isTp, `envW` the
  assignment of the weight variables `w j`. `tpfp_bridge`: whenever the model's `apOf` answers (no exception), its
  `tp_list` / `fp_list` / "ap defined" are the skeleton `tpfpAtoms pat G` read at `valAP` / `envW`, for every pattern `pat`
  ordered like the confidences (classification AND cumulative sums AND ranking; any number of results).
-/
namespace PEval.APDT
open PEval.AP PEval.ClearDT

/-- the rank pattern of a list of numbers: entry ↦ number of entries strictly below it -/
def rankPat (cs : List Rat) : List Nat := cs.map fun x => cs.countP (· < x)

theorem countP_lt_countP {α : Type} (p q : α → Bool) :
    ∀ (l : List α), (∀ a ∈ l, p a = true → q a = true) → (∃ w ∈ l, q w = true ∧ p w = false) →
      l.countP p < l.countP q := by
  rintro l himp ⟨w, hw, hqw, hpw⟩
  -- split at the witness: it counts for `q` only, and on both sides of it `p` counts no more than `q`
  obtain ⟨s, t, rfl⟩ := List.append_of_mem hw
  have hs := List.countP_mono_left (l := s) fun a ha => himp a (List.mem_append_left _ ha)
  have ht := List.countP_mono_left (l := t) fun a ha => himp a (List.mem_append_right _ (List.mem_cons_of_mem _ ha))
  simp only [List.countP_append, List.countP_cons, hqw, hpw, if_true, Bool.false_eq_true, if_false]
  omega

theorem rank_lt_iff (cs : List Rat) (x y : Rat) (hx : x ∈ cs) :
    cs.countP (· < x) < cs.countP (· < y) ↔ x < y := by
  -- both directions by comparing the two counts predicate-wise
  refine ⟨fun h => lt_of_not_ge fun hyx => h.not_ge (List.countP_mono_left fun z _ hz => ?_),
    fun h => countP_lt_countP _ _ cs (fun z _ hz => ?_) ⟨x, hx, decide_eq_true h, decide_eq_false (lt_irrefl x)⟩⟩
  · exact decide_eq_true ((of_decide_eq_true hz).trans_le hyx)
  · exact decide_eq_true ((of_decide_eq_true hz).trans h)

theorem rankPat_length (cs : List Rat) : (rankPat cs).length = cs.length := by simp [rankPat]

theorem rankPat_getD (cs : List Rat) {i : Nat} (hi : i < cs.length) :
    (rankPat cs).getD i 0 = cs.countP (· < cs.getD i 0) := by
  simp [rankPat, List.getD_eq_getElem?_getD, List.getElem?_eq_getElem hi]

theorem rankPat_iso (cs : List Rat) (i j : Nat) (hi : i < cs.length) (hj : j < cs.length) :
    (rankPat cs).getD i 0 < (rankPat cs).getD j 0 ↔ cs.getD i 0 < cs.getD j 0 := by
  rw [rankPat_getD cs hi, rankPat_getD cs hj]
  exact rank_lt_iff cs _ _ (by simp [List.getD_eq_getElem?_getD, List.getElem?_eq_getElem hi])

/-- the same with the ranks cast to `Rat`: for `pat = rankPat cs` this is the hypothesis `hiso` of
`C04.table_ranking_is_model_sort` (whose keys are the cast pattern entries) -/
theorem rankPat_iso_cast (cs : List Rat) (i j : Nat) (hi : i < cs.length) (hj : j < cs.length) :
    (((rankPat cs).getD i 0 : Nat) : Rat) < (((rankPat cs).getD j 0 : Nat) : Rat) ↔ cs.getD i 0 < cs.getD j 0 := by
  rw [← rankPat_iso cs i j hi hj]
  exact Nat.cast_lt

theorem countRank_rankPat (cs : List Rat) : countRank (rankPat cs) = rankPat cs := by
  unfold countRank rankPat
  rw [List.map_map]
  apply List.map_congr_left
  intro x hx
  simp only [Function.comp, List.countP_map]
  apply List.countP_congr
  intro z hz
  simp only [Function.comp, decide_eq_true_eq]
  exact rank_lt_iff cs z x hz

theorem mem_allLists (n : Nat) : ∀ (k : Nat) (l : List Nat), l ∈ allLists n k ↔ l.length = k ∧ ∀ x ∈ l, x < n := by
  intro k
  induction k with
  | zero =>
    intro l
    rw [allLists, List.mem_singleton, List.length_eq_zero_iff]
    exact ⟨fun h => ⟨h, h ▸ fun _ hx => nomatch hx⟩, And.left⟩
  | succ k ih =>
    intro l
    cases l with
    | nil => exact ⟨fun h => by simp [allLists] at h, fun h => nomatch h.1⟩
    | cons x t =>
      simp only [allLists, List.mem_flatMap, List.mem_range, List.mem_map, List.cons.injEq, ih,
        List.length_cons, Nat.add_right_cancel_iff, List.forall_mem_cons]
      exact ⟨fun ⟨y, hy, t', ht, e1, e2⟩ => e1 ▸ e2 ▸ ⟨ht.1, hy, ht.2⟩,
        fun ⟨h1, hx, h2⟩ => ⟨x, hx, t, ⟨h1, h2⟩, rfl, rfl⟩⟩

theorem rankPat_mem_allLists (cs : List Rat) : rankPat cs ∈ allLists cs.length cs.length := by
  refine (mem_allLists _ _ _).2 ⟨rankPat_length cs, List.forall_mem_map.2 fun y hy => ?_⟩
  have := countP_lt_countP (fun z => decide (z < y)) (fun _ => true) cs (fun _ _ _ => rfl) ⟨y, hy, rfl, by simp⟩
  simpa using this

/-- COVERAGE, any length: the rank pattern of a list of `n` numbers is one of the enumerated weak orderings of `n` items -/
theorem rankPat_mem_countPatterns (cs : List Rat) : rankPat cs ∈ countPatterns cs.length := by
  unfold countPatterns
  rw [List.mem_filter]
  exact ⟨rankPat_mem_allLists cs, by simp [countRank_rankPat]⟩

/-- COVERAGE of the tables (a): every list of 1 … 3 confidences has its row among the tabulated shapes -/
theorem rankPat_mem_tpfpShapes (cs : List Rat) (h1 : 1 ≤ cs.length) (h3 : cs.length ≤ 3) :
    (rankPat cs, 1) ∈ tpfpShapes := by
  have h := rankPat_mem_countPatterns cs
  refine List.mem_append_right _ (List.mem_map.2 ⟨rankPat cs, ?_, rfl⟩)
  have : cs.length = 1 ∨ cs.length = 2 ∨ cs.length = 3 := by omega
  rcases this with hl | hl | hl <;> rw [hl] at h <;> simp only [List.mem_append, h, true_or, or_true]

/-- COVERAGE of the tables (b): every list of `lo … 3` precisions has its row among `patShapes lo` -/
theorem rankPat_mem_patShapes (lo : Nat) (cs : List Rat) (h1 : lo ≤ cs.length) (h3 : cs.length ≤ 3) :
    rankPat cs ∈ patShapes lo := by
  unfold patShapes
  rw [List.mem_flatMap]
  refine ⟨cs.length, ?_, rankPat_mem_allLists cs⟩
  rw [List.mem_filter, List.mem_range]
  exact ⟨by omega, by simpa using h1⟩

def sideLabel (r : Res) (gtSide : Bool) : Option Label :=
  if gtSide then r.gt.map (·.label) else some r.label

/-- the threshold `get_label_threshold` answers for result `j`'s ground-truth / estimate label (`none`: no threshold, or the lookup raised) -/
def thrOfAP (targets : List Label) (thrs : List Rat) (rs : List Res) (j : Nat) (gtSide : Bool) : Option Rat :=
  (rs[j]?).bind fun r => (sideLabel r gtSide).bind fun l =>
    match getLabelThreshold l targets (some thrs) with
    | .ok (some t) => some t
    | _ => none

def correctB (m : Mode) (t : Rat) (r : Res) : Bool :=
  match isResultCorrect m (some t) r with
  | .ok true => true
  | _ => false

/-- the valuation of the atoms of the (a) tables that a concrete result list (input order) induces -/
def valAP (m : Mode) (targets : List Label) (thrs : List Rat) (rs : List Res) : Val where
  b := fun a =>
    match a with
    | .hasGt (.cur j) => match rs[j]? with
      | some r => r.gt.isSome
      | none => false
    | .inTargets j s => (thrOfAP targets thrs rs j s).isSome
    | .isTp (.cur i) j s => match rs[i]?, thrOfAP targets thrs rs j s with
      | some r, some t => correctB m t r
      | _, _ => false
    | _ => false
  o := fun _ => .eq

theorem valAP_hasGt (m : Mode) (targets : List Label) (thrs : List Rat) (rs : List Res) (j : Nat) :
    (valAP m targets thrs rs).b (.hasGt (.cur j)) = match rs[j]? with
      | some r => r.gt.isSome
      | none => false := rfl

theorem valAP_inTargets (m : Mode) (targets : List Label) (thrs : List Rat) (rs : List Res) (j : Nat) (s : Bool) :
    (valAP m targets thrs rs).b (.inTargets j s) = (thrOfAP targets thrs rs j s).isSome := rfl

theorem valAP_isTp (m : Mode) (targets : List Label) (thrs : List Rat) (rs : List Res) (i j : Nat) (s : Bool) :
    (valAP m targets thrs rs).b (.isTp (.cur i) j s) = match rs[i]?, thrOfAP targets thrs rs j s with
      | some r, some t => correctB m t r
      | _, _ => false := rfl

/-- "is a TP" is only ever true of a result with a ground truth -/
theorem valAP_consistent (m : Mode) (targets : List Label) (thrs : List Rat) (rs : List Res) :
    (valAP m targets thrs rs).consistent := by
  refine ⟨?_, fun h => nomatch h⟩
  intro r j s h
  cases r with
  | prev i => cases h
  | cur i =>
    rw [valAP_isTp] at h
    rw [valAP_hasGt]
    cases hr : rs[i]? with
    | none => simp [hr] at h
    | some x =>
      cases ht : thrOfAP targets thrs rs j s with
      | none => simp [hr, ht] at h
      | some t =>
        simp only [hr, ht, correctB] at h ⊢
        cases hg : x.gt with
        | none => simp [isResultCorrect, hg] at h
        | some g => rfl

/-- the weight variables `w j` read on a concrete result list: `tp_metrics.get_value(result j)` -/
def envW (tm : TpMetric) (rs : List Res) : Var → Rat := fun v =>
  if v.1 = "w" then (match rs[v.2]? with
    | some r => tpValue tm r
    | none => 0) else 0

/-- a symbolic kind read on a concrete result list -/
def kOf (tm : TpMetric) (rs : List Res) : K → Kind
  | .tp j => (match rs[j]? with
    | some r => .tp (tpValue tm r)
    | none => .ignored)
  | .fp => .fp
  | .ign => .ignored

theorem thrOfAP_key (targets : List Label) (thrs : List Rat) (rs : List Res) (j : Nat) (r : Res) (hr : rs[j]? = some r) :
    thrOfAP targets thrs rs j r.gt.isSome =
      match getLabelThreshold (keyLabel r) targets (some thrs) with
      | .ok (some t) => some t
      | _ => none := by
  unfold thrOfAP sideLabel keyLabel
  simp only [hr, Option.bind_some]
  cases r.gt <;> simp

/-- the loop body of `_calculate_tp_fp` of the model on result `j` = the skeleton's kind at the induced valuation -/
theorem kind_bridge (tm : TpMetric) (m : Mode) (targets : List Label) (thrs : List Rat) (rs : List Res) (j : Nat)
    (r : Res) (hr : rs[j]? = some r) (k : Kind) (hk : classify tm m targets thrs r = .ok k) :
    k = kOf tm rs (kindAtoms (valAP m targets thrs rs) j) := by
  have hthr := thrOfAP_key targets thrs rs j r hr
  unfold kindAtoms
  simp only [valAP_hasGt, valAP_inTargets, valAP_isTp, hr]
  rcases classify_ok_iff.1 hk with ⟨hl, rfl⟩ | ⟨t, b, hl, hc, rfl⟩
  · rw [hl] at hthr
    simp only [hthr, Option.isSome_none, Bool.not_false, if_true, kOf]
  · rw [hl] at hthr
    simp only [hthr, Option.isSome_some, Bool.not_true, Bool.false_eq_true, if_false, correctB, hc]
    cases b <;> simp only [Bool.false_eq_true, if_false, if_true, kOf, hr]

theorem classifyAll_bridge (tm : TpMetric) (m : Mode) (targets : List Label) (thrs : List Rat) (rs : List Res) :
    ∀ (l : List (Res × Nat)), (∀ p ∈ l, rs[p.2]? = some p.1) → ∀ ks,
      classifyAll tm m targets thrs (l.map (·.1)) = .ok ks →
      ks = l.map fun p => kOf tm rs (kindAtoms (valAP m targets thrs rs) p.2) := by
  intro l
  induction l with
  | nil => intro _ ks h; cases h; rfl
  | cons p l ih =>
    intro hmem ks h
    rw [List.forall_mem_cons] at hmem
    obtain ⟨k, ks', hk, hr, rfl⟩ := classifyAll_cons_ok h
    rw [List.map_cons, ← ih hmem.2 ks' hr, ← kind_bridge tm m targets thrs rs p.2 p.1 hmem.1 k hk]

/-- the model's ranking of a result list, as ranking of the input positions -/
theorem sortDesc_zipIdx (rs : List Res) :
    ∃ sz : List (Res × Nat), (∀ p ∈ sz, rs[p.2]? = some p.1) ∧ sz.map (·.1) = sortDesc Res.conf rs ∧
      sz.map (·.2) = sortDesc (fun j => (rs.map Res.conf).getD j 0) (List.range rs.length) := by
  refine ⟨sortDesc (fun p => p.1.conf) rs.zipIdx, ?_, ?_, ?_⟩
  · intro p hp
    have : p ∈ rs.zipIdx := (sortDesc_perm _ _).mem_iff.1 hp
    exact List.mem_zipIdx_iff_getElem?.1 this
  · rw [← sortDesc_map Res.conf (fun p : Res × Nat => p.1)]
    simp
  · have hkey : sortDesc (fun p : Res × Nat => p.1.conf) rs.zipIdx =
        sortDesc (fun p : Res × Nat => (rs.map Res.conf).getD p.2 0) rs.zipIdx := by
      apply sortDesc_congr
      intro a ha b hb
      have ha' := List.mem_zipIdx_iff_getElem?.1 ha
      have hb' := List.mem_zipIdx_iff_getElem?.1 hb
      simp [List.getD_eq_getElem?_getD, List.getElem?_map, ha', hb']
    rw [hkey, ← sortDesc_map (fun j => (rs.map Res.conf).getD j 0) (fun p : Res × Nat => p.2)]
    congr 1
    simp [List.zipIdx_map_snd, List.range_eq_range']

def sumW (env : Var → Rat) (acc : List Nat) : Rat := (acc.map fun j => env ("w", j)).sum

theorem evalNF_wTerms (env : Var → Rat) (acc : List Nat) : evalNF env (acc.map wTerm) = sumW env acc := by
  induction acc with
  | nil => simp [evalNF, sumW]
  | cons j acc ih =>
    simp only [List.map_cons, wTerm, evalNF, evalMono, sumW, List.sum_cons] at ih ⊢
    rw [ih]
    simp [npow]

theorem sumW_insW (env : Var → Rat) (j : Nat) (acc : List Nat) : sumW env (insW j acc) = sumW env acc + env ("w", j) := by
  fun_induction insW j acc with
  | case1 => simp [sumW]
  | case2 x xs h => simp [sumW]; ring
  | case3 x xs h ih => simp only [sumW, List.map_cons, List.sum_cons] at ih ⊢; rw [ih]; ring

theorem evalNF_natNF (env : Var → Rat) (c : Nat) : evalNF env (natNF c) = (c : Rat) := by
  unfold natNF
  split
  · next h => subst h; simp [evalNF]
  · simp [evalNF, evalMono]

theorem tpw_kOf (tm : TpMetric) (rs : List Res) (k : K) :
    (kOf tm rs k).tpw = match k with
      | .tp j => envW tm rs ("w", j)
      | _ => 0 := by
  cases k with
  | tp j =>
    simp only [kOf, envW, if_true]
    cases rs[j]? <;> rfl
  | fp => rfl
  | ign => rfl

/-- the running sums of the skeleton, read at the weights, are the model's `np.cumsum`s -/
theorem prefixes_eval (tm : TpMetric) (rs : List Res) :
    ∀ (ks : List K) (acc : List Nat) (c : Nat),
      (prefixes acc c ks).1.map (evalNF (envW tm rs)) =
        cumsumFrom (sumW (envW tm rs) acc) (ks.map fun k => (kOf tm rs k).tpw) ∧
      (prefixes acc c ks).2.map (evalNF (envW tm rs)) =
        cumsumFrom (c : Rat) (ks.map fun k => (kOf tm rs k).fpw) := by
  intro ks
  induction ks with
  | nil => intro acc c; exact ⟨rfl, rfl⟩
  | cons k ks ih =>
    intro acc c
    -- one step: the TP positions and the FP count after `k`, which add the kind's two weights to the running sums
    obtain ⟨acc', c', e, hs, hc⟩ : ∃ acc' c',
        prefixes acc c (k :: ks) = (acc'.map wTerm :: (prefixes acc' c' ks).1, natNF c' :: (prefixes acc' c' ks).2) ∧
        sumW (envW tm rs) acc' = sumW (envW tm rs) acc + (kOf tm rs k).tpw ∧ (c' : Rat) = c + (kOf tm rs k).fpw := by
      cases k with
      | tp j =>
        refine ⟨insW j acc, c, rfl, by rw [sumW_insW, tpw_kOf], ?_⟩
        simp only [kOf]
        cases rs[j]? <;> exact (add_zero _).symm
      | fp => exact ⟨acc, c + 1, rfl, (add_zero _).symm, Nat.cast_succ c⟩
      | ign => exact ⟨acc, c, rfl, (add_zero _).symm, (add_zero _).symm⟩
    obtain ⟨h1, h2⟩ := ih acc' c'
    rw [e, List.map_cons, List.map_cons, List.map_cons, List.map_cons, cumsumFrom, cumsumFrom, h1, h2, evalNF_wTerms,
      evalNF_natNF, hs, hc]
    exact ⟨rfl, rfl⟩

/-- a symbolic leaf read at the weights: `tp_list`, `fp_list`, "ap is not inf" -/
def TpFp.read (env : Var → Rat) (x : TpFp) : List Rat × List Rat × Bool :=
  (x.tp.map (evalNF env), x.fp.map (evalNF env), x.defined)

/-- `leafOfKinds` read at the weights = the model's `apOfKinds` on the kinds read on the results -/
theorem leafOfKinds_eval (tm : TpMetric) (rs : List Res) (G : Nat) (ks : List K) :
    (leafOfKinds G ks).read (envW tm rs) =
      ((apOfKinds G (ks.map (kOf tm rs))).tpList, (apOfKinds G (ks.map (kOf tm rs))).fpList,
       (apOfKinds G (ks.map (kOf tm rs))).ap.isSome) := by
  unfold leafOfKinds apOfKinds tpFpLists TpFp.read
  cases ks with
  | nil =>
    by_cases hG : G = 0
    · simp [hG]
    · simp only [List.isEmpty_nil, if_true, hG, if_false, List.map_nil, Option.isSome_none, List.map_replicate, evalNF,
        List.map_map]
      refine Prod.ext rfl (Prod.ext ?_ rfl)
      apply List.map_congr_left
      intro i _
      simp only [Function.comp, evalNF_natNF]
      push_cast
      rfl
  | cons k ks =>
    obtain ⟨h1, h2⟩ := prefixes_eval tm rs (k :: ks) [] 0
    simp only [List.isEmpty_cons, Bool.false_eq_true, if_false, List.map_cons, Option.isSome_some, cumsum]
    simp only [List.map_cons] at h1 h2
    rw [h1, h2]
    refine Prod.ext ?_ (Prod.ext ?_ rfl) <;> simp [sumW] <;> rfl

/-- **THE BRIDGE of (a)**, any number of results: whenever the model's `Ap` answers (no exception), its `tp_list`,
`fp_list` and "ap defined" are the skeleton `tpfpAtoms pat G` — ranking by `sortIdx pat`, classification over the atoms,
running sums — read at the valuation and the weights the result list induces, for EVERY pattern ordered like the
confidences. -/
theorem tpfp_bridge (tm : TpMetric) (m : Mode) (targets : List Label) (thrs : List Rat) (G : Nat) (rs : List Res)
    (pat : List Nat) (hlen : pat.length = rs.length)
    (hiso : ∀ i j, i < rs.length → j < rs.length →
      (pat.getD i 0 < pat.getD j 0 ↔ (rs.map Res.conf).getD i 0 < (rs.map Res.conf).getD j 0))
    (out : ApOut) (hout : apOf tm m targets thrs G rs = .ok out) :
    (tpfpAtoms pat G (valAP m targets thrs rs)).read (envW tm rs) = (out.tpList, out.fpList, out.ap.isSome) := by
  obtain ⟨ks, hc, rfl⟩ := apOf_ok hout
  obtain ⟨sz, hmem, hfst, hsnd⟩ := sortDesc_zipIdx rs
  rw [← hfst] at hc
  have hks := classifyAll_bridge tm m targets thrs rs sz hmem ks hc
  have hidx : sortIdx pat = sz.map (·.2) := by
    rw [hsnd, ← hlen]
    exact sortDesc_congr _ _ _ fun a ha b hb =>
      Nat.cast_lt.trans (hiso a b (hlen ▸ List.mem_range.1 ha) (hlen ▸ List.mem_range.1 hb))
  unfold tpfpAtoms
  rw [leafOfKinds_eval, hidx, hks]
  simp only [List.map_map]
  rfl

theorem sortIdx_perm (pat : List Nat) : (sortIdx pat).Perm (List.range pat.length) :=
  sortDesc_perm _ _

/-- for a non-empty result list the ground-truth count does not enter `tp_list` / `fp_list` (the rows are tabulated with G = 1) -/
theorem tpfpAtoms_G (pat : List Nat) (hp : pat ≠ []) (G G' : Nat) (v : Val) : tpfpAtoms pat G v = tpfpAtoms pat G' v := by
  unfold tpfpAtoms leafOfKinds
  have : ((sortIdx pat).map (kindAtoms v)).isEmpty = false :=
    List.isEmpty_eq_false_iff.2 fun e => hp <| List.length_eq_zero_iff.1 <| List.range_eq_nil.1
      (List.map_eq_nil_iff.1 e ▸ sortIdx_perm pat).nil_eq.symm
  simp [this]

end PEval.APDT
