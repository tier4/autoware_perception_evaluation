import PEval.Lemmas.ThresholdConfig
/-!
# The target-label list of a configuration (C15)

Links `targetLabelCount` / `labelTypeSize` (lengths, used by the configuration model) to `targetLabelList` /
`converterOf` (the converted list, through the converter model of C14): the count is the length of the list, the
errors coincide (both are read off `targetNames`), and `perceptionConfig` fails as `configTargetLabels` does (`perceptionConfig_via_targets`).  Also the
two ways the range block of `_extract_params` rejects (`rangeParams_both_kinds`, `rangeParams_3d_incomplete`).
Core Lean only.
-/
namespace PEval.Config
open PEval PEval.Threshold

theorem familyMembers_length :
    (Label.familyMembers "autoware").length = Gen.autowareLabel.length ∧
    (Label.familyMembers "traffic_light").length = Gen.trafficLightLabel.length := by
  constructor <;> simp [Label.familyMembers]

/-- the regenerated label enums are not empty -/
theorem familyMembers_length_pos (fam : String) : 1 ≤ (Label.familyMembers fam).length := by
  unfold Label.familyMembers
  split <;> decide

/-- the size of the label enum the configuration computes from `label_prefix` is the number of members of the family of
the converter it builds, and both constructors fail alike -/
theorem labelTypeSize_eq_converterOf {d : Dict} {pre : PyVal} (task : String) (h : d.lookup "label_prefix" = some pre) :
    labelTypeSize pre =
      (match converterOf task d with
       | .ok r => .ok (Label.familyMembers r.2).length
       | .error e => .error e) := by
  unfold converterOf
  rw [h]
  cases pre with
  | str p =>
    -- the same three tests of `p` on both sides
    simp only [labelTypeSize, Label.tableFor]
    cases p == "autoware"
    · cases p == "traffic_light"
      · cases (p == "blinker" || p == "brake_lamp") <;> rfl
      · exact congrArg Except.ok familyMembers_length.2.symm
    · exact congrArg Except.ok familyMembers_length.1.symm
  | _ => rfl

theorem setTargetLists_length (l : List String) (t : Label.Table) (fam : String) :
    (Label.setTargetLists (some l) t fam).length = if l = [] then (Label.familyMembers fam).length else l.length := by
  cases l <;> simp [Label.setTargetLists]

theorem targetLabelList_eq (v : PyVal) (t : Label.Table) (fam : String) :
    targetLabelList v t fam = (targetNames v).map fun l => Label.setTargetLists (some l) t fam := by
  cases v with
  | list xs =>
    cases xs with
    | nil => rfl
    | cons x t => simp only [targetLabelList, targetNames]; cases (x :: t).all isStr <;> rfl
  | str s =>
    simp only [targetLabelList, targetNames, Except.map]
    split
    · rename_i h; rw [(chars_eq_nil s).mpr h]
    · rfl
  | _ => rfl

/-- `len(set_target_lists(..))`: the count the configuration model uses is the length of the converted list, and the
two fail alike -/
theorem targetLabelCount_eq_length (v : PyVal) (t : Label.Table) (fam : String) :
    targetLabelCount v (Label.familyMembers fam).length =
      (match targetLabelList v t fam with
       | .ok L => .ok L.length
       | .error e => .error e) := by
  rw [targetLabelCount_eq, targetLabelList_eq]
  cases targetNames v with
  | error e => rfl
  | ok l => simp only [Except.map, setTargetLists_length]

/-- no `target_labels`, an empty list, an empty string: every member of the label family -/
theorem targetLabelList_all {v : PyVal} (t : Label.Table) (fam : String)
    (hv : v = .none ∨ v = .list [] ∨ v = .str "") : targetLabelList v t fam = .ok (Label.familyMembers fam) := by
  rcases hv with rfl | rfl | rfl
  · rfl
  · rfl
  · rfl

theorem targetLabelList_of_count {v : PyVal} (t : Label.Table) {fam : String} {n : Nat}
    (h : targetLabelCount v (Label.familyMembers fam).length = .ok n) :
    ∃ L, targetLabelList v t fam = .ok L ∧ n = L.length ∧ L ≠ [] := by
  have hcl := targetLabelCount_eq_length v t fam
  rw [h] at hcl
  split at hcl
  · rename_i L hL
    injection hcl with hcl
    exact ⟨L, hL, hcl, List.ne_nil_of_length_pos (hcl ▸ targetLabelCount_pos h (familyMembers_length_pos fam))⟩
  · cases hcl

/-- every task the perception configuration supports is the value of an `EvaluationTask` member (regenerated lists).
This is what makes `(Enums.setTask task).getD task` in `converterOf` harmless: for a supported task that were no member,
`set_task` would return `None` and `LabelConverter` would raise, where the model goes on with the string -/
theorem supportTasks_are_members : ∀ t ∈ Gen.perceptionSupportTasks, (Enums.setTask t).isSome = true := by
  decide +kernel

/-- both kinds of range bound given (in part or completely): rejected, whatever the task (2-D tasks included) -/
theorem rangeParams_both_kinds (task : String) (d : Dict) (n : Nat)
    (h : ((given (get d "max_x_position") || given (get d "max_y_position")) &&
          (given (get d "max_distance") || given (get d "min_distance"))) = true) :
    rangeParams task d n = .error "RuntimeError" := by
  unfold rangeParams
  simp only [h, if_true]

/-- a 3-D task with no complete kind of range bound: rejected -/
theorem rangeParams_3d_incomplete (task : String) (d : Dict) (n : Nat) (h3 : is3d task = true)
    (hxy : (given (get d "max_x_position") && given (get d "max_y_position")) = false)
    (hd : (given (get d "max_distance") && given (get d "min_distance")) = false) :
    rangeParams task d n = .error "RuntimeError" := by
  simp only [rangeParams, hxy, hd, h3, Bool.false_eq_true, if_false, Bool.not_true, ite_self]

/-- the constructor up to and including `set_target_lists`, read off the target-label list: whatever makes the list
fail makes the configuration fail with the same exception; otherwise the first four stages succeed and the count that
`_extract_params` works with is the length of the list -/
theorem perceptionConfig_via_targets (d : Dict) (frames : List String) :
    match configTargetLabels d with
    | .error e => perceptionConfig d frames = .error e
    | .ok L => ∃ task pre nAll, checkTasks Gen.perceptionSupportTasks d = .ok task ∧ matchingPolicy d = .ok () ∧
        d.lookup "label_prefix" = some pre ∧ labelTypeSize pre = .ok nAll ∧
        targetLabelCount (get d "target_labels") nAll = .ok L.length := by
  unfold configTargetLabels perceptionConfig
  cases checkTasks Gen.perceptionSupportTasks d with
  | error e => rfl
  | ok task =>
    cases matchingPolicy d with
    | error e => rfl
    | ok u =>
      cases hpre : d.lookup "label_prefix" with
      | none => simp only [converterOf, hpre]
      | some pre =>
        have hsz := labelTypeSize_eq_converterOf task hpre
        cases hconv : converterOf task d with
        | error e => rw [hconv] at hsz; simp only [hconv, hsz]
        | ok r =>
          obtain ⟨t, fam⟩ := r
          rw [hconv] at hsz
          have hcl := targetLabelCount_eq_length (get d "target_labels") t fam
          cases hL : targetLabelList (get d "target_labels") t fam with
          | error e => rw [hL] at hcl; simp only [hconv, hL, hsz, extractParams, hcl]
          | ok L => rw [hL] at hcl; simp only [hconv, hL]; exact ⟨task, pre, _, rfl, trivial, rfl, hsz, hcl⟩

/-- the two error exits read off what a computation returns: a value, the first error (exactly when `P`) or the second
(exactly when `Q`) -/
theorem error_exits {α : Type} {r : Except Err α} {e₁ e₂ : Err} {P Q : Prop} (hne : e₁ ≠ e₂)
    (h : ((∃ L, r = .ok L) ∧ ¬P ∧ ¬Q) ∨ (r = .error e₁ ∧ P ∧ ¬Q) ∨ (r = .error e₂ ∧ ¬P ∧ Q)) :
    (r = .error e₁ ↔ P) ∧ (r = .error e₂ ↔ Q) ∧ ∀ e, r = .error e → e = e₁ ∨ e = e₂ := by
  rcases h with ⟨⟨L, rfl⟩, hp, hq⟩ | ⟨rfl, hp, hq⟩ | ⟨rfl, hp, hq⟩
  · exact ⟨⟨nofun, fun p => absurd p hp⟩, ⟨nofun, fun q => absurd q hq⟩, nofun⟩
  · exact ⟨⟨fun _ => hp, fun _ => rfl⟩, ⟨fun h => absurd (Except.error.inj h) hne, fun q => absurd q hq⟩,
      fun e h => Or.inl (Except.error.inj h).symm⟩
  · exact ⟨⟨fun h => absurd (Except.error.inj h).symm hne, fun p => absurd p hp⟩, ⟨fun _ => hq, fun _ => rfl⟩,
      fun e h => Or.inr (Except.error.inj h).symm⟩

end PEval.Config
