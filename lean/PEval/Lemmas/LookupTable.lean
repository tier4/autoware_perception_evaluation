import PEval.Model.LookupTable
import PEval.Lemmas.Lookup
/-!
Lemmas for the decision tables of C17 (core Lean only):

* soundness of the tree equivalence check `equiv` (for EVERY valuation);
* the reified skeletons evaluate to the skeleton functions (`getNowSkel`, `getInterpSkel`, any `n`);
* the bridges: the model functions `getNowFrame` / `getInterpolated` equal the skeletons applied to the
  valuation of the concrete input, for ALL frame lists (any length).  `getInterpolated_eq_atoms` is how
  C17 reads the code's table as the model's function; `getNowFrame_eq_atoms` is its counterpart for
  `get_now_frame`, where C17 demands less of the code's table than equality with the model (`NowSpec`, any
  arg-min): there it is how the skeleton inherits the arg-min property of the model's loop (`getNowAtoms_spec`).
-/
namespace PEval.LookupDT
open PEval PEval.Lookup

def Agrees (v : Valuation) (path : List (Atom × Sign)) : Prop := ∀ p ∈ path, v p.1 = p.2

theorem agrees_nil (v : Valuation) : Agrees v [] := fun _ hp => nomatch hp

theorem agrees_cons {v : Valuation} {path : List (Atom × Sign)} (h : Agrees v path) (a : Atom) :
    Agrees v ((a, v a) :: path) := List.forall_mem_cons.2 ⟨rfl, h⟩

theorem lookupA_agrees {v : Valuation} {path : List (Atom × Sign)} (h : Agrees v path) {a : Atom} {s : Sign}
    (hl : lookupA a path = some s) : v a = s := by
  fun_induction lookupA a path with
  | case1 => cases hl
  | case2 s' r => cases hl; exact h (a, s) List.mem_cons_self
  | case3 b s' r _ ih => exact ih (fun p hp => h p (List.mem_cons_of_mem _ hp)) hl

theorem pick_and {s : Sign} {x y z : Bool} (h : (x && y && z) = true) : s.pick x y z = true := by
  simp only [Bool.and_eq_true] at h
  cases s
  · exact h.1.1
  · exact h.1.2
  · exact h.2

/-- One induction for every check of a tree `chk st t` that carries a state `st` (decisions taken, constraints
collected): the check is sound for a property `P` of the leaf reached as soon as it is so at the leaves and, at a
node, the branch the valuation takes has been checked under a state that is still good. -/
theorem evalTree_of_check {σ : Type} {v : Valuation} {chk : σ → DTree → Bool} {Good : σ → Prop} {P : Res → Prop}
    (leaf : ∀ st r, Good st → chk st (.leaf r) = true → P r)
    (node : ∀ st a l e g, Good st → chk st (.node a l e g) = true →
      ∃ st', Good st' ∧ (v a).pick (chk st' l) (chk st' e) (chk st' g) = true)
    (t : DTree) (st : σ) (hst : Good st) (h : chk st t = true) : P (evalTree t v) := by
  induction t generalizing st with
  | leaf r => exact leaf st r hst h
  | node a l e g ihl ihe ihg =>
    obtain ⟨st', hst', h'⟩ := node st a l e g hst h
    rw [evalTree]
    cases hs : v a <;> rw [hs] at h'
    · exact ihl st' hst' h'
    · exact ihe st' hst' h'
    · exact ihg st' hst' h'

/-- the node step of a check that remembers the atoms already decided: under a valuation agreeing with the decisions
`dec`, the branch the valuation takes has been checked under decisions the valuation agrees with -/
theorem agrees_step {v : Valuation} {dec : List (Atom × Sign)} (hdec : Agrees v dec) (a : Atom)
    {chk : List (Atom × Sign) → DTree → Bool} {l e g : DTree}
    (h : (match lookupA a dec with
          | some s => s.pick (chk dec l) (chk dec e) (chk dec g)
          | none => chk ((a, .lt) :: dec) l && chk ((a, .eq) :: dec) e && chk ((a, .gt) :: dec) g) = true) :
    ∃ dec', Agrees v dec' ∧ (v a).pick (chk dec' l) (chk dec' e) (chk dec' g) = true := by
  split at h
  · next s hs => exact ⟨dec, hdec, lookupA_agrees hdec hs ▸ h⟩
  · -- each conjunct was checked under its own decision, so only the one for `v a` is under decisions `v` agrees with
    simp only [Bool.and_eq_true] at h
    refine ⟨_, agrees_cons hdec a, ?_⟩
    cases v a
    · exact h.1.1
    · exact h.1.2
    · exact h.2

theorem checkLeaf_sound {r : Res} {v : Valuation} (t : DTree) (path : List (Atom × Sign)) (hv : Agrees v path)
    (h : checkLeaf r path t = true) : evalTree t v = r :=
  evalTree_of_check (chk := checkLeaf r) (P := (· = r)) (fun _ _ _ h => (of_decide_eq_true h).symm)
    (fun _ a _ _ _ hd h => by unfold checkLeaf at h; exact agrees_step hd a h) t path hv h

theorem equiv_sound {t1 t2 : DTree} (h : equiv [] t1 t2 = true) (v : Valuation) :
    evalTree t1 v = evalTree t2 v :=
  evalTree_of_check (chk := fun d t => equiv d t t2) (P := (· = evalTree t2 v))
    (fun d _ hd h => (checkLeaf_sound t2 d hd h).symm)
    (fun _ a _ _ _ hd h => by
      unfold equiv at h; exact agrees_step hd a (chk := fun d t => equiv d t t2) h) t1 [] (agrees_nil v) h

theorem tableOk_sound {rows : List (Nat × DTree)} {skel : Nat → DTree} (h : tableOk rows skel = true) :
    ∀ p ∈ rows, ∀ v : Valuation, evalTree p.2 v = evalTree (skel p.1) v := by
  intro p hp v
  unfold tableOk at h
  exact equiv_sound (List.all_eq_true.1 h p hp) v

/-! A node is evaluated by the sign the valuation gives its atom, so each reified skeleton evaluates to the skeleton
function it was written from: one case split on that sign per node shape. -/

theorem evalTree_argminSkel (v : Valuation) (k : Nat → DTree) (m best i : Nat) :
    evalTree (argminSkel best i m k) v = evalTree (k (argminIdx v best i m)) v := by
  induction m generalizing best i with
  | zero => rfl
  | succ m ih =>
    simp only [argminSkel, evalTree, argminIdx]
    cases h : v (aCmp best i) <;> simp [Sign.pick, ih]

theorem evalTree_nowTailSkel (v : Valuation) (best : Nat) :
    evalTree (nowTailSkel best) v = nowTail v best := by
  simp only [nowTailSkel, evalTree, nowTail]
  cases h : v (aTolAbs best) <;> simp [Sign.pick]

theorem evalTree_getNowSkel (n : Nat) (v : Valuation) : evalTree (getNowSkel n) v = getNowAtoms n v := by
  unfold getNowSkel getNowAtoms
  simp only [evalTree]
  cases n with
  | zero => cases h : v aGuard <;> simp [Sign.pick, evalTree]
  | succ m =>
    cases h : v aGuard <;>
      simp [Sign.pick, evalTree_argminSkel, evalTree_nowTailSkel]

theorem evalTree_gateAfterSkel (v : Valuation) (b a : Option Nat) :
    evalTree (gateAfterSkel b a) v = outcomeOf b (gateAfter v a) := by
  cases a with
  | none => rfl
  | some a =>
    simp only [gateAfterSkel, evalTree, gateAfter]
    cases h : v (aAfter a) <;> simp [Sign.pick]

theorem evalTree_gateBeforeSkel (v : Valuation) (a b : Option Nat) :
    evalTree (gateBeforeSkel a b) v = outcomeOf (gateBefore v b) (gateAfter v a) := by
  cases b with
  | none => simp [gateBeforeSkel, gateBefore, evalTree_gateAfterSkel]
  | some b =>
    simp only [gateBeforeSkel, evalTree, gateBefore]
    cases h : v (aBefore b) <;> simp [Sign.pick, evalTree_gateAfterSkel]

theorem evalTree_scanSkel (v : Valuation) (m i : Nat) (b : Option Nat) :
    evalTree (scanSkel i m b) v =
      outcomeOf (gateBefore v (scanIdx v i m b).1) (gateAfter v (scanIdx v i m b).2) := by
  induction m generalizing i b with
  | zero => simp [scanSkel, scanIdx, evalTree_gateBeforeSkel]
  | succ m ih =>
    simp only [scanSkel, evalTree, scanIdx]
    cases h : v (aGe i) <;> simp [Sign.pick, ih, evalTree_gateBeforeSkel]

theorem evalTree_getInterpSkel (n : Nat) (v : Valuation) :
    evalTree (getInterpSkel n) v = getInterpAtoms n v := by
  unfold getInterpSkel getInterpAtoms
  exact evalTree_scanSkel v n 0 none

theorem signOf_lt {x : Int} : signOf x = .lt ↔ x < 0 := by
  unfold signOf
  by_cases h1 : x < 0
  · simp [h1]
  · by_cases h2 : x = 0
    · simp [h2]
    · simp [h1, h2]

theorem signOf_eq {x : Int} : signOf x = .eq ↔ x = 0 := by
  unfold signOf
  by_cases h1 : x < 0
  · simp [h1]; omega
  · by_cases h2 : x = 0
    · simp [h2]
    · simp [h1, h2]

theorem signOf_gt {x : Int} : signOf x = .gt ↔ 0 < x := by
  unfold signOf
  by_cases h1 : x < 0
  · simp [h1]; omega
  · by_cases h2 : x = 0
    · simp [h2]
    · simp [h1, h2]; omega

/-- `|q - t i|` -/
def absI (ts : List Int) (q : Int) (i : Nat) : Int := ((q - ts.getD i 0).natAbs : Int)

/-! What each atom of the skeletons says of the stamps `ts` (a stamp out of range reads as 0). -/

theorem val_guard (ts : List Int) (q tol : Int) : valuationOf ts q tol aGuard = .gt ↔ q > maxTime := by
  simp only [valuationOf, signOf_gt, Atom.eval, aGuard, evalTerms, Leaf.eval, maxTime]
  omega

theorem val_cmp (ts : List Int) (q tol : Int) (b i : Nat) :
    valuationOf ts q tol (aCmp b i) = .gt ↔ absI ts q i < absI ts q b := by
  simp only [valuationOf, signOf_gt, Atom.eval, aCmp, evalTerms, Leaf.eval, absI]
  omega

theorem val_tolabs (ts : List Int) (q tol : Int) (b : Nat) :
    valuationOf ts q tol (aTolAbs b) = .lt ↔ tol < absI ts q b := by
  simp only [valuationOf, signOf_lt, Atom.eval, aTolAbs, evalTerms, Leaf.eval, absI]
  omega

theorem val_ge (ts : List Int) (q tol : Int) (i : Nat) :
    valuationOf ts q tol (aGe i) = .lt ↔ q < ts.getD i 0 := by
  simp only [valuationOf, signOf_lt, Atom.eval, aGe, evalTerms, Leaf.eval]
  omega

theorem val_before (ts : List Int) (q tol : Int) (i : Nat) :
    valuationOf ts q tol (aBefore i) = .gt ↔ tol < q - ts.getD i 0 := by
  simp only [valuationOf, signOf_gt, Atom.eval, aBefore, evalTerms, Leaf.eval]
  omega

theorem val_after (ts : List Int) (q tol : Int) (j : Nat) :
    valuationOf ts q tol (aAfter j) = .lt ↔ tol < ts.getD j 0 - q := by
  simp only [valuationOf, signOf_lt, Atom.eval, aAfter, evalTerms, Leaf.eval]
  omega

def times (fs : List Frame) : List Int := fs.map (·.time)

theorem times_getD {fs : List Frame} {i : Nat} {f : Frame} (h : fs[i]? = some f) :
    (times fs).getD i 0 = f.time := by
  simp [times, List.getD, List.getElem?_map, h]

theorem absI_times {fs : List Frame} {i : Nat} {f : Frame} (h : fs[i]? = some f) (q : Int) :
    absI (times fs) q i = (absDt q f : Int) := by
  rw [absI, times_getD h, absDt]

theorem times_length (fs : List Frame) : (times fs).length = fs.length := List.length_map _

theorem times_pairwise {R : Int → Int → Prop} {fs : List Frame} (hs : fs.Pairwise (fun x y => R x.time y.time)) :
    (times fs).Pairwise R := List.pairwise_map.2 hs

theorem forall_absI_times {fs : List Frame} {q : Int} {P : Int → Prop} :
    (∀ j, j < fs.length → P (absI (times fs) q j)) ↔ ∀ g ∈ fs, P (absDt q g) := by
  rw [List.forall_mem_iff_forall_getElem]
  exact forall₂_congr fun j hj => by rw [absI_times (List.getElem?_eq_getElem hj)]

/-- the arg-min loop over the tail `rest` of `fs = pre ++ rest`, started with best = `fs[b]`, ends at
the frame whose index the skeleton's loop computes -/
theorem argminLoop_idx (fs : List Frame) (q tol : Int) (rest pre : List Frame) (b : Nat) (fb : Frame)
    (hfs : fs = pre ++ rest) (hb : fs[b]? = some fb) :
    fs[argminIdx (valuationOf (times fs) q tol) b pre.length rest.length]? = some (argminLoop q fb rest) := by
  induction rest generalizing pre b fb with
  | nil => exact hb
  | cons f rest ih =>
    have hi : fs[pre.length]? = some f := by rw [hfs]; simp
    have ih' := fun b fb => ih (pre ++ [f]) b fb (by rw [hfs]; simp)
    rw [List.length_append, List.length_singleton] at ih'
    simp only [List.length_cons, argminIdx, argminLoop, val_cmp, absI_times hb, absI_times hi, Int.ofNat_lt]
    split
    · exact ih' pre.length f hi
    · exact ih' b fb hb

/-- BRIDGE (all frame lists): the model's `get_now_frame` is the skeleton on the input's valuation -/
theorem getNowFrame_eq_atoms (fs : List Frame) (q tol : Int) :
    getNowFrame fs q tol = decodeNow fs (getNowAtoms fs.length (valuationOf (times fs) q tol)) := by
  rw [getNowAtoms.eq_def]
  simp only [val_guard]
  split
  · next hg => unfold getNowFrame; rw [if_pos hg]; rfl
  · cases fs with
    | nil => unfold getNowFrame; rw [if_neg ‹_›]; rfl
    | cons f0 rest =>
      have hidx : (f0 :: rest)[argminIdx (valuationOf (times (f0 :: rest)) q tol) 0 1 rest.length]? = _ :=
        argminLoop_idx (f0 :: rest) q tol rest [f0] 0 f0 rfl rfl
      rw [getNowFrame_cons (by omega)]
      simp only [List.length_cons, nowTail, val_tolabs, absI_times hidx]
      split
      · rfl
      · simp only [decodeNow, hidx]

/-- what the scan's index pair decodes to -/
def idxFrame (fs : List Frame) : Option Nat → Option Frame
  | none => none
  | some i => fs[i]?

theorem idxFrame_none (fs : List Frame) : idxFrame fs none = none := rfl

theorem idxFrame_some {fs : List Frame} {i : Nat} (h : i < fs.length) : idxFrame fs (some i) = some fs[i] := by
  simp [idxFrame, h]

theorem scanIdx_lt (v : Valuation) (n : Nat) (m i : Nat) (b : Option Nat) : i + m ≤ n → (∀ k, b = some k → k < n) →
    (∀ k, (scanIdx v i m b).1 = some k → k < n) ∧ ∀ k, (scanIdx v i m b).2 = some k → k < n := by
  fun_induction scanIdx v i m b with
  | case1 i b => exact fun _ hb => ⟨hb, nofun⟩
  | case2 i m b _ => exact fun hi hb => ⟨hb, fun k hk => by cases hk; omega⟩
  | case3 i m b _ ih => exact fun hi _ => ih (by omega) (fun k hk => by cases hk; omega)

/-- the scan over the tail `rest` of `fs = pre ++ rest`, started with before = `fs[b]`, ends at the frames whose
indices the skeleton's scan computes -/
theorem scan_idx (fs : List Frame) (q tol : Int) (rest pre : List Frame) (b : Option Nat) (db : Int)
    (hfs : fs = pre ++ rest) :
    (scan q rest (idxFrame fs b) db).before =
        idxFrame fs (scanIdx (valuationOf (times fs) q tol) pre.length rest.length b).1 ∧
    (scan q rest (idxFrame fs b) db).after =
        idxFrame fs (scanIdx (valuationOf (times fs) q tol) pre.length rest.length b).2 := by
  induction rest generalizing pre b db with
  | nil => exact ⟨rfl, rfl⟩
  | cons f rest ih =>
    have hi : fs[pre.length]? = some f := by rw [hfs]; simp
    simp only [List.length_cons, scanIdx, scan, val_ge, times_getD hi]
    by_cases hc : q < f.time
    · rw [if_pos hc, if_neg (by omega)]
      exact ⟨rfl, hi.symm⟩
    · rw [if_neg hc, if_pos (by omega)]
      have := ih (pre ++ [f]) (some pre.length) (q - f.time) (by rw [hfs]; simp)
      rwa [List.length_append, List.length_singleton, idxFrame, hi] at this

/-- gating a neighbour `slot` that sits at the optional index `s`: a gate `g` on indices that drops `i` exactly when the
gap of `fs[i]` exceeds the tolerance decodes to the model's gate on the frame.  Read twice in
`getInterpolated_eq_atoms`: `slot`, `dt` = the scan's `before`, `dtBefore`, `g = gateBefore v`, `c i` = "`v (aBefore i) = .gt`",
`gap f = q - f.time`, `hd = gate_before`; and the same with `after`, `gateAfter`, `aAfter … = .lt`, `f.time - q`, `gate_after`. -/
theorem gate_idx {fs : List Frame} {tol dt : Int} {slot : Option Frame} {s : Option Nat} {gap : Frame → Int}
    {g : Option Nat → Option Nat} {c : Nat → Prop} [DecidablePred c]
    (hv : ∀ k, s = some k → k < fs.length) (hs : slot = idxFrame fs s)
    (hd : ∀ f, slot = some f → gate tol dt slot = gate tol (gap f) (some f))
    (hg0 : g none = none) (hg1 : ∀ i, g (some i) = if c i then none else some i)
    (hc : ∀ i (hi : i < fs.length), c i ↔ tol < gap fs[i]) :
    gate tol dt slot = idxFrame fs (g s) ∧ ∀ k, g s = some k → k < fs.length := by
  cases s with
  | none => rw [hs, hg0]; exact ⟨gate_none_right _ _, nofun⟩
  | some i =>
    have hi := hv i rfl
    rw [idxFrame_some hi] at hs
    rw [hd _ hs, hg1]
    by_cases h : c i
    · rw [if_pos h, gate_neg ((hc i hi).1 h)]; exact ⟨rfl, nofun⟩
    · rw [if_neg h, gate_pos (by have := mt (hc i hi).2 h; omega)]
      exact ⟨(idxFrame_some hi).symm, fun k hk => by cases hk; exact hi⟩

/-- BRIDGE (all frame lists): the model's `get_interpolated_now_frame` is the skeleton on the
input's valuation -/
theorem getInterpolated_eq_atoms (fs : List Frame) (q tol : Int) :
    getInterpolated fs q tol = decodeInterp fs q (getInterpAtoms fs.length (valuationOf (times fs) q tol)) := by
  obtain ⟨hb, ha⟩ := scan_idx fs q tol fs [] none 0 rfl
  obtain ⟨hvb, hva⟩ := scanIdx_lt (valuationOf (times fs) q tol) fs.length fs.length 0 none (by omega) nofun
  -- the two gates are one statement, `gate_idx`, read at `before` and at `after`
  obtain ⟨eb, vb⟩ := gate_idx (slot := (neighbours fs q).before) (g := gateBefore (valuationOf (times fs) q tol)) hvb hb (fun _ => gate_before tol)
    rfl (fun _ => rfl) fun i hi => by rw [val_before, times_getD (List.getElem?_eq_getElem hi)]
  obtain ⟨ea, va⟩ := gate_idx (slot := (neighbours fs q).after) (g := gateAfter (valuationOf (times fs) q tol)) hva ha (fun _ => gate_after tol)
    rfl (fun _ => rfl) fun j hj => by rw [val_after, times_getD (List.getElem?_eq_getElem hj)]
  rw [getInterpolated, getInterpAtoms]
  rw [eb, ea]
  generalize gateBefore _ _ = gb at vb
  generalize gateAfter _ _ = ga at va
  cases gb with
  | none =>
    cases ga with
    | none => rfl
    | some j => simp [idxFrame, outcomeOf, decodeInterp, va j rfl]
  | some i =>
    have hi := vb i rfl
    cases ga with
    | none => simp [idxFrame, outcomeOf, decodeInterp, hi]
    | some j =>
      have hj := va j rfl
      simp only [idxFrame, outcomeOf, decodeInterp, hi, hj, List.getElem?_eq_getElem]
      cases interpolateFrames fs[i] fs[j] q <;> rfl

end PEval.LookupDT
