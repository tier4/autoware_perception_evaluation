import PEval.Model.HeadingQuat
import PEval.Lemmas.Transform
import Mathlib.Tactic.Linarith
import Mathlib.Tactic.Ring
import Mathlib.Tactic.LinearCombination
/-!
Algebra of heading directions (`PEval.Model.HeadingQuat`): the polynomial identities behind "the yaw of `q` and of `−q`",
"the yaw of a composed rotation", the dot / cross product of two directions on the circle, the two representatives
`withSign b q` of an orientation; at the end the monotonicity field of `YawBridge` as a `StrictAntiOn`, so that the library's
lemmas about it apply.
-/
namespace PEval.Heading
open PEval.Transform

/-- `q` and `−q` hand the same two numbers to `arctan2` — for every quaternion (3-D, unit or not): each term is a product of
two components -/
theorem yawDir_neg (q : Quat) : yawDir (-q) = yawDir q := by
  simp [yawDir]

theorem YawOnly.neg {q : Quat} (h : YawOnly q) : YawOnly (-q) := by
  obtain ⟨hx, hy, hn⟩ := h
  exact ⟨by simp [hx], by simp [hy], by rw [Quat.normSq_neg]; exact hn⟩

theorem YawOnly.mul {p q : Quat} (hp : YawOnly p) (hq : YawOnly q) : YawOnly (p * q) := by
  obtain ⟨px, py, pn⟩ := hp
  obtain ⟨qx, qy, qn⟩ := hq
  refine ⟨?_, ?_, ?_⟩
  · simp [px, py, qx, qy]
  · simp [px, py, qx, qy]
  · rw [Quat.normSq_mul, pn, qn]; norm_num

/-- the heading direction of a composed planar rotation is the product of the directions (angle addition, as a
polynomial identity) -/
theorem yawDir_mul {p q : Quat} (hp : YawOnly p) (hq : YawOnly q) :
    yawDir (p * q) = (yawDir p).mul (yawDir q) := by
  obtain ⟨hpx, hpy, pn⟩ := hp
  obtain ⟨hqx, hqy, qn⟩ := hq
  simp only [Quat.normSq, hpx, hpy, hqx, hqy] at pn qn
  simp only [yawDir, Dir.mul, Quat.mul_w, Quat.mul_x, Quat.mul_y, Quat.mul_z, Dir.mk.injEq, hpx, hpy, hqx, hqy]
  constructor
  · linear_combination (-2 * q.z * q.z) * pn + (-2 * p.z * p.z) * qn
  · linear_combination (2 * q.w * q.z) * pn + (2 * p.w * p.z) * qn

theorem cosDiff_comm (a b : Dir) : cosDiff a b = cosDiff b a := by
  simp only [cosDiff]; ring

theorem sinDiff_antisymm (a b : Dir) : sinDiff b a = -sinDiff a b := by
  simp only [sinDiff]; ring

/-- a common rotation `r` of both directions scales dot and cross product by `|r|²`: nothing for `r` on the circle -/
theorem dirDiff_mul_left (r a b : Dir) (hr : r.OnCircle) :
    cosDiff (r.mul a) (r.mul b) = cosDiff a b ∧ sinDiff (r.mul a) (r.mul b) = sinDiff a b := by
  simp only [Dir.OnCircle] at hr
  simp only [cosDiff, sinDiff, Dir.mul]
  exact ⟨by linear_combination (a.c * b.c + a.s * b.s) * hr, by linear_combination (a.c * b.s - a.s * b.c) * hr⟩

theorem Dir.mul_onCircle {a b : Dir} (ha : a.OnCircle) (hb : b.OnCircle) : (a.mul b).OnCircle := by
  simp only [Dir.OnCircle] at ha hb ⊢
  simp only [Dir.mul]
  linear_combination (b.c * b.c + b.s * b.s) * ha + hb

theorem Dir.opp_onCircle {a : Dir} (ha : a.OnCircle) : a.opp.OnCircle := by
  simp only [Dir.OnCircle, Dir.opp] at ha ⊢
  linear_combination ha

theorem chord_sq {a b : Dir} (ha : a.OnCircle) (hb : b.OnCircle) :
    (a.c - b.c) * (a.c - b.c) + (a.s - b.s) * (a.s - b.s) = 2 - 2 * cosDiff a b := by
  simp only [Dir.OnCircle] at ha hb
  simp only [cosDiff]
  linear_combination ha + hb

theorem cosDiff_opp (a b : Dir) : cosDiff a b.opp = -cosDiff a b := by
  simp only [cosDiff, Dir.opp]; ring

/-- Cauchy–Schwarz on the circle: the chord to `b` and the chord to `−b` have non-negative length -/
theorem cosDiff_mem_Icc {a b : Dir} (ha : a.OnCircle) (hb : b.OnCircle) : cosDiff a b ∈ Set.Icc (-1) 1 := by
  have h := chord_sq ha (Dir.opp_onCircle hb)
  rw [cosDiff_opp] at h
  exact ⟨by linarith [mul_self_nonneg (a.c - b.opp.c), mul_self_nonneg (a.s - b.opp.s)],
    by linarith [chord_sq ha hb, mul_self_nonneg (a.c - b.c), mul_self_nonneg (a.s - b.s)]⟩

theorem cosDiff_eq_one_iff {a b : Dir} (ha : a.OnCircle) (hb : b.OnCircle) : cosDiff a b = 1 ↔ a = b := by
  constructor
  · intro h
    obtain ⟨e1, e2⟩ := mul_self_add_mul_self_eq_zero.1 ((chord_sq ha hb).trans (by rw [h]; norm_num))
    cases a; cases b
    simp_all [sub_eq_zero]
  · rintro rfl
    simpa [cosDiff, Dir.OnCircle] using ha

theorem cosDiff_eq_neg_one_iff {a b : Dir} (ha : a.OnCircle) (hb : b.OnCircle) : cosDiff a b = -1 ↔ a = b.opp := by
  rw [← cosDiff_eq_one_iff ha (Dir.opp_onCircle hb), cosDiff_opp, neg_eq_iff_eq_neg]

theorem yawDir_withSign (b : Bool) (q : Quat) : yawDir (withSign b q) = yawDir q := by
  cases b
  · rfl
  · exact yawDir_neg q

theorem yawDir_withSign_mul (b0 b : Bool) (q0 q : Quat) : yawDir (withSign b0 q0 * withSign b q) = yawDir (q0 * q) := by
  cases b0 <;> cases b <;>
    simp only [withSign, if_true, Bool.false_eq_true, if_false, Quat.neg_mul_left, Quat.neg_mul_right, yawDir_neg]

theorem YawOnly.withSign {q : Quat} (h : YawOnly q) (b : Bool) : YawOnly (withSign b q) := by
  cases b
  · exact h
  · exact h.neg

section bridge
variable {at2 : Rat → Rat → Rat} {ac : Rat → Rat} {pts : Dir → Prop} (B : YawBridge at2 ac pts)
include B

theorem YawBridge.strictAntiOn : StrictAntiOn ac (Set.Icc (-1) 1) :=
  fun x hx y hy h => B.ac_anti x y hx.1 h hy.2

theorem YawBridge.ac_eq_zero_iff {x : Rat} (hx : x ∈ Set.Icc (-1) 1) : ac x = 0 ↔ x = 1 := by
  -- the `0` of the statement is `ac 1`
  rw [← B.ac_one, B.strictAntiOn.eq_iff_eq hx ⟨by norm_num, le_refl 1⟩, eq_comm]

theorem YawBridge.ac_eq_one_iff {x : Rat} (hx : x ∈ Set.Icc (-1) 1) : ac x = 1 ↔ x = -1 := by
  have := (B.strictAntiOn.eq_iff_eq hx ⟨le_refl (-1), by norm_num⟩).trans eq_comm
  rwa [B.ac_neg_one] at this

end bridge

end PEval.Heading
