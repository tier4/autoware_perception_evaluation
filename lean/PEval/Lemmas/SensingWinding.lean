import PEval.Model.Sensing
import PEval.Lemmas.SensingEdge
import Mathlib.Tactic.Positivity
import Mathlib.Tactic.FieldSimp
/-!
The winding counter of `crop_pointcloud` (C12), from the scan to the box.

1. `wn_eq_sum`: the `uint8` edge scan equals the sum of the per-edge contributions (`edgeK ∈ {−1,0,1}`)
   reduced modulo 256 — for every area and point.
2. `edgeK_eq_kE3`: the `valid` test of the code (a division) is the sign of a cross product; the
   contribution of an edge is `kE3 hs he c` with `hs, he` the heights of the point over the two end
   points and `c` the cross product.  An edge `a → b` counts `+1` when `a.y ≤ p.y < b.y` and `−1` when
   `b.y ≤ p.y < a.y`, both only when the point is STRICTLY left of the crossing.
3. On a parallelogram area `paraArea` the scan is the edge sum `paraSum` of `Lemmas/SensingEdge.lean`, hence its value for
   EVERY point (`wn_para_closed`).
4. The corner list of `get_corners` is a parallelogram area: when the counter of a box is positive, and the z-range,
   for EVERY point in terms of its coordinates in the box frame, with the half-open edge rule (`wn_box_pos_iff`, `inLen`);
   off the edge lines the rule is `|ξ| < L` (`inLen_iff_abs_lt`); a member of `[-L, L]` stays one when `L` grows
   (`inLen_mono`).

At the end the box with a pure yaw (`yawBox`) and the linear law of the scale (`scaleFactor_sub`).
-/

namespace PEval.Sensing

/-- `uint8` addition of an integer -/
def u8add (c : Nat) (k : Int) : Nat := (((c : Int) + k) % 256).toNat

/-- contribution of one edge `a → b` (`q` is the code's `area[i+1]`) for the point `p` -/
def edgeK (a b q : Corner) (p : Pt) : Int :=
  if a.y ≤ p.y ∧ b.y > p.y ∧
      p.x < a.x + (if q.y ≠ a.y then (p.y - a.y) / (b.y - a.y) else p.x) * (b.x - a.x) then 1
  else if a.y > p.y ∧ b.y ≤ p.y ∧
      p.x < a.x + (if q.y ≠ a.y then (p.y - a.y) / (b.y - a.y) else p.x) * (b.x - a.x) then -1
  else 0

theorem edgeStep_eq (area : List Corner) (n : Nat) (p : Pt) (cnt : Nat) (i : Nat) (hc : cnt < 256) :
    edgeStep area n p cnt i
      = u8add cnt (edgeK (cornerAt area i) (cornerAt area ((i + 1) % n)) (cornerAt area (i + 1)) p) := by
  unfold edgeStep edgeK
  simp only [Bool.and_eq_true, decide_eq_true_eq, and_assoc]
  generalize (if (cornerAt area (i + 1)).y ≠ (cornerAt area i).y then _ else p.x) = vt
  split_ifs with hd hi hi
  · exact absurd hi.1 (not_le.mpr hd.1)
  · unfold u8add  -- `cnt + 255` for `cnt - 1`
    rw [← Int.add_emod_right, show (cnt : Int) + -1 + 256 = ((cnt + 255 : Nat) : Int) by omega]
    rfl
  · rfl
  · exact (Nat.mod_eq_of_lt hc).symm

theorem u8add_lt (c : Nat) (k : Int) : u8add c k < 256 := by
  unfold u8add; omega

theorem u8add_add (c : Nat) (k m : Int) : u8add (u8add c k) m = u8add c (k + m) := by
  unfold u8add
  rw [Int.toNat_of_nonneg (Int.emod_nonneg _ (by decide)), Int.emod_add_emod, Int.add_assoc]

theorem foldl_edgeStep (area : List Corner) (n : Nat) (p : Pt) :
    ∀ (l : List Nat) (c : Nat), c < 256 →
      l.foldl (edgeStep area n p) c
        = u8add c ((l.map (fun i => edgeK (cornerAt area i) (cornerAt area ((i + 1) % n)) (cornerAt area (i + 1)) p)).sum)
  | [], c, hc => (Nat.mod_eq_of_lt hc).symm
  | i :: l, c, hc => by
    simp only [List.foldl_cons, List.map_cons, List.sum_cons]
    rw [edgeStep_eq _ _ _ _ _ hc, foldl_edgeStep area n p l _ (u8add_lt _ _), u8add_add]

theorem wn_eq_sum (area : List Corner) (p : Pt) :
    wn area p = u8add 0 (((List.range (area.length / 2)).map (fun i =>
      edgeK (cornerAt area i) (cornerAt area ((i + 1) % (area.length / 2))) (cornerAt area (i + 1)) p)).sum) := by
  unfold wn
  exact foldl_edgeStep area _ p _ 0 (by omega)

/-- an edge whose "quirk" corner `q` has the height of `b` contributes `kE3` of the two heights and the cross
product (no assumption that the latter is non-zero): on an ascending (descending) edge the division of the `valid`
test is by a positive (negative) number, and multiplying it out gives `0 < c` (`c < 0`) -/
theorem edgeK_eq_kE3 (a b q : Corner) (p : Pt) (hq : q.y = b.y) :
    edgeK a b q p = kE3 (p.y - a.y) (p.y - b.y) ((b.x - a.x) * (p.y - a.y) - (b.y - a.y) * (p.x - a.x)) := by
  unfold edgeK kE3
  rw [hq]
  refine if_congr ?_ rfl (if_congr ?_ rfl rfl)
  · rw [sub_nonneg, sub_neg]
    refine and_congr_right fun h1 => and_congr_right fun h2 => ?_
    have hlt : a.y < b.y := lt_of_le_of_lt h1 h2
    rw [if_pos hlt.ne', ← sub_lt_iff_lt_add', div_mul_eq_mul_div, lt_div_iff₀ (sub_pos.mpr hlt), ← sub_pos,
      mul_comm (p.y - a.y), mul_comm (p.x - a.x)]
  · rw [sub_nonneg, sub_neg]
    refine and_congr_right fun h1 => and_congr_right fun h2 => ?_
    have hlt : b.y < a.y := lt_of_le_of_lt h2 h1
    rw [if_pos hlt.ne, ← sub_lt_iff_lt_add', div_mul_eq_mul_div, lt_div_iff_of_neg (sub_neg.mpr hlt), ← sub_neg,
      mul_comm (p.y - a.y), mul_comm (p.x - a.x)]

/-- the area `c ± a ± b` in the corner order of the code (`+a+b, −a+b, −a−b, +a−b`; upper plane at
`zu`, then the lower plane at `zl`) -/
def paraArea (cx cy ax ay bx by_ zu zl : ℚ) : List Corner :=
  [⟨cx + ax + bx, cy + ay + by_, zu⟩, ⟨cx - ax + bx, cy - ay + by_, zu⟩,
   ⟨cx - ax - bx, cy - ay - by_, zu⟩, ⟨cx + ax - bx, cy + ay - by_, zu⟩,
   ⟨cx + ax + bx, cy + ay + by_, zl⟩, ⟨cx - ax + bx, cy - ay + by_, zl⟩,
   ⟨cx - ax - bx, cy - ay - by_, zl⟩, ⟨cx + ax - bx, cy + ay - by_, zl⟩]

/-- the scan over two planes of four corners: the four edges of the first plane; the code's `area[i + 1]` is the next
corner except for the last edge, where it is the first corner of the second plane -/
theorem wn_quad (A B C D A' B' C' D' : Corner) (p : Pt) :
    wn [A, B, C, D, A', B', C', D'] p
      = u8add 0 (edgeK A B B p + edgeK B C C p + edgeK C D D p + edgeK D A A' p) := by
  rw [wn_eq_sum, show [A, B, C, D, A', B', C', D'].length = 8 from rfl, show List.range (8 / 2) = [0, 1, 2, 3] from rfl]
  simp only [List.map_cons, List.map_nil, List.sum_cons, List.sum_nil, add_zero, add_assoc]
  rfl

theorem edgeK_mk_eq_kE3 (Ax Ay Az Bx By Bz Qx Qz : ℚ) (p : Pt) :
    edgeK ⟨Ax, Ay, Az⟩ ⟨Bx, By, Bz⟩ ⟨Qx, By, Qz⟩ p
      = kE3 (p.y - Ay) (p.y - By) ((Bx - Ax) * (p.y - Ay) - (By - Ay) * (p.x - Ax)) :=
  edgeK_eq_kE3 _ _ _ p rfl

theorem wn_paraArea (cx cy ax ay bx by_ zu zl u v : ℚ) (p : Pt)
    (hx : p.x = cx + u * ax + v * bx) (hy : p.y = cy + u * ay + v * by_) :
    wn (paraArea cx cy ax ay bx by_ zu zl) p = u8add 0 (paraSum ay by_ u v (2 * (ax * by_ - ay * bx))) := by
  unfold paraArea paraSum
  rw [wn_quad, edgeK_mk_eq_kE3, edgeK_mk_eq_kE3, edgeK_mk_eq_kE3, edgeK_mk_eq_kE3, hx, hy]
  congr 6 <;> ring

theorem wn_para_closed (cx cy ax ay bx by_ zu zl u v : ℚ) (p : Pt)
    (hD : ax * by_ - ay * bx ≠ 0)
    (hx : p.x = cx + u * ax + v * bx) (hy : p.y = cy + u * ay + v * by_) :
    wn (paraArea cx cy ax ay bx by_ zu zl) p
      = if inHalf u (stepU ax ay bx by_) ∧ inHalf v (stepV ax ay bx by_) then
          (if 0 < ax * by_ - ay * bx then 1 else 255) else 0 := by
  rw [wn_paraArea cx cy ax ay bx by_ zu zl u v p hx hy]
  rcases lt_or_gt_of_ne hD with hneg | hpos
  · rw [paraSum_cw (by linarith) _ _ _ _ _ _ hneg, if_neg (not_lt.mpr hneg.le)]
    split <;> rfl
  · rw [paraSum_ccw (by linarith) _ _ _ _ _ _ hpos, if_pos hpos]
    split <;> rfl

theorem wn_para_pos_iff (cx cy ax ay bx by_ zu zl u v : ℚ) (p : Pt)
    (hD : ax * by_ - ay * bx ≠ 0)
    (hx : p.x = cx + u * ax + v * bx) (hy : p.y = cy + u * ay + v * by_) :
    0 < wn (paraArea cx cy ax ay bx by_ zu zl) p
      ↔ inHalf u (stepU ax ay bx by_) ∧ inHalf v (stepV ax ay bx by_) := by
  rw [wn_para_closed cx cy ax ay bx by_ zu zl u v p hD hx hy]
  split
  · next h => exact iff_of_true (by split <;> decide) h
  · next h => exact iff_of_false (lt_irrefl 0) h

theorem boxCorners_eq_para (b : Box) (k : ℚ) :
    boxCorners b k = paraArea b.cx b.cy (b.l / 2 * k * b.e1x) (b.l / 2 * k * b.e1y)
      (b.w / 2 * k * b.e2x) (b.w / 2 * k * b.e2y) (b.cz + b.h / 2) (b.cz - b.h / 2) := by
  unfold boxCorners paraArea Box.corner
  simp only [List.cons.injEq, Corner.mk.injEq, and_true]
  refine ⟨⟨?_, ?_⟩, ⟨?_, ?_⟩, ⟨?_, ?_⟩, ⟨?_, ?_⟩, ⟨?_, ?_⟩, ⟨?_, ?_⟩, ⟨?_, ?_⟩, ⟨?_, ?_⟩⟩ <;> ring

/-- whatever the scale and the sign of the height -/
theorem zMin_box (b : Box) (k : ℚ) : zMin (boxCorners b k) = min (b.cz + b.h / 2) (b.cz - b.h / 2) := by
  rw [boxCorners_eq_para]
  by_cases h : b.cz - b.h / 2 < b.cz + b.h / 2
  · simp only [zMin, paraArea, List.foldl_cons, List.foldl_nil, lt_self_iff_false, if_false, if_pos h]
    exact (min_eq_right h.le).symm
  · simp only [zMin, paraArea, List.foldl_cons, List.foldl_nil, lt_self_iff_false, if_false, if_neg h]
    exact (min_eq_left (not_lt.1 h)).symm

theorem zMax_box (b : Box) (k : ℚ) : zMax (boxCorners b k) = max (b.cz + b.h / 2) (b.cz - b.h / 2) := by
  rw [boxCorners_eq_para]
  by_cases h : b.cz + b.h / 2 < b.cz - b.h / 2
  · simp only [zMax, paraArea, List.foldl_cons, List.foldl_nil, lt_self_iff_false, if_false, if_pos h]
    exact (max_eq_right h.le).symm
  · simp only [zMax, paraArea, List.foldl_cons, List.foldl_nil, lt_self_iff_false, if_false, if_neg h]
    exact (max_eq_left (not_lt.1 h)).symm

theorem stepU_scale (L W e1x e1y e2x e2y : ℚ) (hW : 0 < W) :
    stepU (L * e1x) (L * e1y) (W * e2x) (W * e2y) = (W * (L * W)) * stepU e1x e1y e2x e2y := by
  simp only [stepU, mul_ne_zero_iff, hW.ne', ne_eq, not_false_eq_true, true_and]
  split_ifs <;> ring

theorem stepV_scale (L W e1x e1y e2x e2y : ℚ) (hL : 0 < L) :
    stepV (L * e1x) (L * e1y) (W * e2x) (W * e2y) = (L * (L * W)) * stepV e1x e1y e2x e2y := by
  simp only [stepV, mul_ne_zero_iff, hL.ne', ne_eq, not_false_eq_true, true_and]
  split_ifs <;> ring

theorem inHalf_div (ξ L s c : ℚ) (hL : 0 < L) (hc : 0 < c) : inHalf (ξ / L) (c * s) ↔ inLen ξ L s := by
  unfold inHalf inLen
  rw [div_lt_one hL, lt_div_iff₀ hL, neg_one_mul, div_eq_one_iff_eq hL.ne', div_eq_iff hL.ne', neg_one_mul,
    mul_comm c, Rat.mul_neg_iff_of_pos_right hc, mul_pos_iff_of_pos_right hc]

theorem inLen_iff_abs_lt {ξ L : ℚ} (s : ℚ) (hL : 0 < L) (o : |ξ| ≠ L) : inLen ξ L s ↔ |ξ| < L :=
  (inLen_of_ne s (fun h => o (by rw [h, abs_of_pos hL])) (fun h => o (by rw [h, abs_neg, abs_of_pos hL]))).trans
    abs_lt.symm

theorem inLen_mono {ξ L L' s : ℚ} (hL : 0 < L) (hLL : L ≤ L') (h : inLen ξ L s) : inLen ξ L' s := by
  rcases lt_or_eq_of_le hLL with hlt | rfl
  · left
    have hn : -L' < -L := neg_lt_neg hlt
    rcases h with ⟨h1, h2⟩ | ⟨rfl, _⟩ | ⟨rfl, _⟩
    · exact ⟨hn.trans h1, h2.trans hlt⟩
    · exact ⟨hn.trans (neg_lt_self hL), hlt⟩
    · exact ⟨hn, (neg_lt_self hL).trans hlt⟩
  · exact h

theorem wn_box_pos_iff (b : Box) (k ξ η : ℚ) (p : Pt)
    (hk : 0 < k) (hl : 0 < b.l) (hw : 0 < b.w) (hdet : b.e1x * b.e2y - b.e1y * b.e2x ≠ 0)
    (hx : p.x = b.cx + ξ * b.e1x + η * b.e2x) (hy : p.y = b.cy + ξ * b.e1y + η * b.e2y) :
    0 < wn (boxCorners b k) p ↔
      inLen ξ (b.l / 2 * k) (stepU b.e1x b.e1y b.e2x b.e2y) ∧ inLen η (b.w / 2 * k) (stepV b.e1x b.e1y b.e2x b.e2y) := by
  have hL : 0 < b.l / 2 * k := by positivity
  have hW : 0 < b.w / 2 * k := by positivity
  rw [boxCorners_eq_para, wn_para_pos_iff b.cx b.cy _ _ _ _ _ _ (ξ / (b.l / 2 * k)) (η / (b.w / 2 * k)) p
      (by rw [show b.l / 2 * k * b.e1x * (b.w / 2 * k * b.e2y) - b.l / 2 * k * b.e1y * (b.w / 2 * k * b.e2x)
            = b.l / 2 * k * (b.w / 2 * k) * (b.e1x * b.e2y - b.e1y * b.e2x) by ring]
          exact mul_ne_zero (mul_ne_zero hL.ne' hW.ne') hdet)
      (by rw [hx, ← mul_assoc _ _ b.e1x, ← mul_assoc _ _ b.e2x, div_mul_cancel₀ _ hL.ne', div_mul_cancel₀ _ hW.ne'])
      (by rw [hy, ← mul_assoc _ _ b.e1y, ← mul_assoc _ _ b.e2y, div_mul_cancel₀ _ hL.ne', div_mul_cancel₀ _ hW.ne']),
    stepU_scale _ _ _ _ _ _ hW, stepV_scale _ _ _ _ _ _ hL,
    inHalf_div _ _ _ _ hL (by positivity), inHalf_div _ _ _ _ hW (by positivity)]

/-- a box with a pure yaw, `(c, s)` its cosine and sine (the theorems that use it assume `c² + s² = 1`) -/
def yawBox (cx cy cz c s w l h : ℚ) : Box :=
  { cx := cx, cy := cy, cz := cz, e1x := c, e1y := s, e2x := -s, e2y := c, w := w, l := l, h := h }

/-- the one fact behind the statements on the distance-dependent scale: differences of the scale are the slope times the
differences of the distance -/
theorem scaleFactor_sub (cfg : Cfg) (d d' : ℚ) :
    scaleFactor cfg d' - scaleFactor cfg d = (cfg.scale100 - cfg.scale0) / 100 * (d' - d) := by
  unfold scaleFactor; ring

end PEval.Sensing
