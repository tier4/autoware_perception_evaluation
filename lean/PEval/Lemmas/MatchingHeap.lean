import PEval.Lemmas.ListBasics
import PEval.Lemmas.MatchingResults
import PEval.Model.MatchHeap
/-!
The heap model of `get_object_results` (`Model/MatchHeap.lean`) simulates the index-level model
(`Matching.getObjectResults`) step by step, and writes only into the two working lists.  `stateOf` is the heap-level state
that stands for an index-level state (working lists = the objects of the remaining indices, everything else as in the heap
the loops were started on); the heap-level loop maps it to the `stateOf` of what the index-level loop computes
(`stageH_stateOf`), and `runH` is described branch by branch, then in one statement (`runH_spec`: refinement, frame, early
returns) whose parts are `C01.heap_results_are_input_objects`, `C01.existing_lists_untouched` and `C01.caller_lists_untouched`.
-/
namespace PEval.MatchHeap
open PEval PEval.Matching

/-! ## the store -/

theorem read_write_same {h : Heap} {r : LRef} {v : List ORef} (hr : r < h.cells.length) : (h.write r v).read r = v := by
  simp [Heap.read, Heap.write, List.getElem?_set_self hr]

theorem read_write_ne {h : Heap} {r r' : LRef} {v : List ORef} (hne : r' ≠ r) : (h.write r v).read r' = h.read r' := by
  simp [Heap.read, Heap.write, List.getElem?_set_ne (Ne.symm hne)]

theorem write_length {h : Heap} {r : LRef} {v : List ORef} : (h.write r v).cells.length = h.cells.length := by
  simp [Heap.write]

theorem read_alloc_old {h : Heap} {v : List ORef} {r : LRef} (hr : r < h.cells.length) :
    (h.alloc v).1.read r = h.read r := by
  simp [Heap.read, Heap.alloc, List.getElem?_append_left hr]

theorem read_alloc_new {h : Heap} {v : List ORef} : (h.alloc v).1.read (h.alloc v).2 = v := by
  simp [Heap.read, Heap.alloc]

theorem alloc_length {h : Heap} {v : List ORef} : (h.alloc v).1.cells.length = h.cells.length + 1 := by
  simp [Heap.alloc]

theorem alloc_ref {h : Heap} {v : List ORef} : (h.alloc v).2 = h.cells.length := rfl

theorem alloc_alloc {h : Heap} {v v' : List ORef} :
    (h.alloc v).2 ≠ ((h.alloc v).1.alloc v').2 ∧ (h.alloc v).2 < ((h.alloc v).1.alloc v').1.cells.length ∧
      ((h.alloc v).1.alloc v').2 < ((h.alloc v).1.alloc v').1.cells.length := by
  simp only [Heap.alloc, List.length_append, List.length_cons, List.length_nil]
  exact ⟨Nat.ne_of_lt (Nat.lt_succ_self _), Nat.lt_succ_of_lt (Nat.lt_succ_self _), Nat.lt_succ_self _⟩

theorem read_of_ge {h : Heap} {r : LRef} (hr : h.cells.length ≤ r) : h.read r = [] := by
  simp [Heap.read, List.getElem?_eq_none hr]

/-! ## lists -/

theorem map_eraseIdx {α β} (f : α → β) (l : List α) (k : Nat) : (l.map f).eraseIdx k = (l.eraseIdx k).map f := by
  induction l generalizing k with
  | nil => simp
  | cons x l ih =>
    cases k with
    | zero => simp
    | succ n => simp [ih]

theorem getD_mem_of_lt {l : List ORef} {i : Nat} (hi : i < l.length) : l.getD i 0 ∈ l := by
  rw [List.getD_eq_getElem?_getD, List.getElem?_eq_getElem hi]
  exact List.getElem_mem hi

/-- `lst.pop(position of a)` on a list that holds the objects of the remaining indices `l` -/
theorem pop_sim {h : Heap} {r : LRef} {l : List Nat} {f : Nat → ORef} {a : Nat} (hrd : h.read r = l.map f)
    (ha : a ∈ l) : h.pop r (l.idxOf a) = some (f a, h.write r ((l.erase a).map f)) := by
  have hlt := List.idxOf_lt_length_iff.2 ha
  unfold Heap.pop
  rw [hrd, List.getElem?_map, List.getElem?_eq_getElem hlt, List.getElem_idxOf hlt, map_eraseIdx,
    ← List.erase_eq_eraseIdx_of_idxOf rfl]
  rfl

/-! ## unfolding one loop -/

theorem stageH_zero (t : Tbl) (s1 : Bool) (wE wG : LRef) (st : HSt) : stageH t s1 wE wG 0 st = st := rfl

theorem stageH_succ_none {t : Tbl} {s1 : Bool} {wE wG : LRef} {n : Nat} {st : HSt}
    (hb : argBest t.maximize (cands t s1 st.es st.gs) = none) : stageH t s1 wE wG (n + 1) st = st := by
  simp [stageH, hb]

theorem stageH_succ_some {t : Tbl} {s1 : Bool} {wE wG : LRef} {n : Nat} {st : HSt} {i j : Nat} {s : Rat}
    {eo go : ORef} {h1 h2 : Heap}
    (hb : argBest t.maximize (cands t s1 st.es st.gs) = some (i, j, s))
    (hp1 : st.heap.pop wE (st.es.idxOf i) = some (eo, h1)) (hp2 : h1.pop wG (st.gs.idxOf j) = some (go, h2)) :
    stageH t s1 wE wG (n + 1) st =
      stageH t s1 wE wG n
        { st with heap := h2, es := st.es.eraseIdx (st.es.idxOf i), gs := st.gs.eraseIdx (st.gs.idxOf j),
                  results := st.results ++ [(eo, some go)] } := by
  simp [stageH, hb, hp1, hp2]

/-! ## simulation -/

/-- the heap-level state that stands for the index-level state `st` over the heap `h1` the loops were started on: the
working lists hold the objects of the remaining indices, the results are the pairs read as objects, nothing else differs
from `h1` -/
def stateOf (eL gL : List ORef) (wE wG : LRef) (h1 : Heap) (st : St) : HSt where
  heap := (h1.write wE (st.es.map fun i => eL.getD i 0)).write wG (st.gs.map fun j => gL.getD j 0)
  es := st.es
  gs := st.gs
  results := st.pairs.map fun p => (eL.getD p.1 0, some (gL.getD p.2 0))
  err := none

theorem read_stateOf_wE {eL gL : List ORef} {wE wG : LRef} {h1 : Heap} (hne : wE ≠ wG) (hE : wE < h1.cells.length) (st : St) :
    (stateOf eL gL wE wG h1 st).heap.read wE = st.es.map fun i => eL.getD i 0 := by
  show ((h1.write wE _).write wG _).read wE = _
  rw [read_write_ne hne, read_write_same hE]

theorem read_stateOf_other {eL gL : List ORef} {wE wG : LRef} {h1 : Heap} (st : St) {r : LRef} (hE : r ≠ wE) (hG : r ≠ wG) :
    (stateOf eL gL wE wG h1 st).heap.read r = h1.read r := by
  show ((h1.write wE _).write wG _).read r = _
  rw [read_write_ne hG, read_write_ne hE]

theorem write_collapse {h : Heap} {wE wG : LRef} (hne : wE ≠ wG) (a0 b0 a b : List ORef) :
    (((h.write wE a0).write wG b0).write wE a).write wG b = (h.write wE a).write wG b := by
  simp only [Heap.write, List.set_comm _ _ (Ne.symm hne), List.set_set]

theorem write_read_self {h : Heap} {r : LRef} (hr : r < h.cells.length) : h.write r (h.read r) = h := by
  simp [Heap.write, Heap.read, List.getElem?_eq_getElem hr]

/-- over a heap whose working lists already hold the objects of the remaining indices, nothing is written -/
theorem stateOf_heap {eL gL : List ORef} {wE wG : LRef} {h1 : Heap} {st : St} (hE : wE < h1.cells.length)
    (hG : wG < h1.cells.length) (rdE : h1.read wE = st.es.map fun i => eL.getD i 0)
    (rdG : h1.read wG = st.gs.map fun j => gL.getD j 0) : (stateOf eL gL wE wG h1 st).heap = h1 := by
  show (h1.write wE _).write wG _ = h1
  rw [← rdE, write_read_self hE, ← rdG, write_read_self hG]

/-- the heap-level loop on the representative of `st` ends in the representative of what the index-level loop makes of `st` -/
theorem stageH_stateOf {eL gL : List ORef} {wE wG : LRef} {h1 : Heap} (hne : wE ≠ wG) (hE : wE < h1.cells.length)
    (hG : wG < h1.cells.length) (t : Tbl) (s1 : Bool) (fuel : Nat) (st : St) :
    stageH t s1 wE wG fuel (stateOf eL gL wE wG h1 st) = stateOf eL gL wE wG h1 (stage t s1 fuel st) := by
  fun_induction stage t s1 fuel st with
  | case1 st => rfl
  | case2 n st hb => exact stageH_succ_none (st := stateOf eL gL wE wG h1 st) hb
  | case3 n st i j s hb ih =>
    obtain ⟨⟨hi, hj, _⟩, _⟩ := pick_spec hb
    have hrdG : ((stateOf eL gL wE wG h1 st).heap.write wE ((st.es.erase i).map fun i => eL.getD i 0)).read wG =
        st.gs.map fun j => gL.getD j 0 := by
      show (((h1.write wE _).write wG _).write wE _).read wG = _
      rw [read_write_ne (Ne.symm hne), read_write_same (by rw [write_length]; exact hG)]
    rw [stageH_succ_some (st := stateOf eL gL wE wG h1 st) hb (pop_sim (read_stateOf_wE hne hE st) hi) (pop_sim hrdG hj), ← ih]
    congr 1
    simp only [stateOf, write_collapse hne, ← List.erase_eq_eraseIdx_of_idxOf rfl, List.map_append, List.map_cons,
      List.map_nil]

/-! ## the whole call -/

theorem sceneOf_ests_length (w : World) (eL gL : List ORef) : (sceneOf w eL gL).ests.length = eL.length := by
  simp [sceneOf]

theorem sceneOf_gts_length (w : World) (eL gL : List ORef) : (sceneOf w eL gL).gts.length = gL.length := by
  simp [sceneOf]

theorem loops_stateOf (c : Cfg) (w : World) (h : Heap) (eL gL : List ORef) :
    let t := mkTbl c (sceneOf w eL gL)
    let a1 := h.alloc eL
    let a2 := a1.1.alloc gL
    let s0 : HSt := { heap := a2.1, es := List.range eL.length, gs := List.range gL.length, results := [], err := none }
    let s1 := stageH t true a1.2 a2.2 eL.length s0
    s1.err = none ∧
      stageH t false a1.2 a2.2 s1.es.length s1 = stateOf eL gL a1.2 a2.2 a2.1 (matchAll t eL.length gL.length) := by
  intro t a1 a2 s0 s1
  obtain ⟨hne, hE, hG⟩ : a1.2 ≠ a2.2 ∧ a1.2 < a2.1.cells.length ∧ a2.2 < a2.1.cells.length := alloc_alloc
  -- the copies hold the caller's lists, so the start state is the representative of the full index lists
  have h0 : s0 = stateOf eL gL a1.2 a2.2 a2.1 { es := List.range eL.length, gs := List.range gL.length, pairs := [] } := by
    show HSt.mk a2.1 _ _ [] none = HSt.mk _ _ _ _ none
    congr 1
    refine (stateOf_heap hE hG ?_ ?_).symm
    · show ((h.alloc eL).1.alloc gL).1.read (h.alloc eL).2 = _
      rw [read_alloc_old (by rw [alloc_length]; exact Nat.lt_succ_self _), read_alloc_new, map_getD_range]
    · show ((h.alloc eL).1.alloc gL).1.read ((h.alloc eL).1.alloc gL).2 = _
      rw [read_alloc_new, map_getD_range]
  have h1 : s1 = stateOf eL gL a1.2 a2.2 a2.1 (stage1State t (List.range eL.length) (List.range gL.length)) := by
    show stageH t true a1.2 a2.2 eL.length s0 = _
    rw [h0, stageH_stateOf hne hE hG, stage1State, List.length_range]
  rw [h1]
  refine ⟨rfl, ?_⟩
  rw [matchAll, matchFrom_eq]
  exact stageH_stateOf hne hE hG t false _ _

/-! `runH`, branch by branch -/

theorem runH_of_ests_nil {copy : Bool} {c : Cfg} {w : World} {h : Heap} {rE rG : LRef} (he : h.read rE = []) :
    runH copy c w h rE rG = (.ok [], h) := by
  rw [runH, he]; rfl

theorem runH_of_gts_nil {copy : Bool} {c : Cfg} {w : World} {h : Heap} {rE rG : LRef} (he : h.read rE ≠ [])
    (hg : h.read rG = []) :
    runH copy c w h rE rG = (.ok (if c.fpValidation then [] else (h.read rE).map fun o => (o, none)), h) := by
  rw [runH]
  simp only [hg, List.isEmpty_nil, if_true, if_neg (mt List.isEmpty_iff.1 he)]

theorem runH_of_tableError {copy : Bool} {c : Cfg} {w : World} {h : Heap} {rE rG : LRef} {err : Err}
    (he : h.read rE ≠ []) (hg : h.read rG ≠ []) (ht : tableError c (sceneOf w (h.read rE) (h.read rG)) = some err) :
    runH copy c w h rE rG = (.error err, h) := by
  rw [runH]
  simp only [if_neg (mt List.isEmpty_iff.1 he), if_neg (mt List.isEmpty_iff.1 hg), ht]

/-- what `runH true` computes in the general branch: results and working list are read off the representative of `matchAll`
over the heap with the two copies -/
theorem runH_general {c : Cfg} {w : World} {h : Heap} {rE rG : LRef} (he : h.read rE ≠ []) (hg : h.read rG ≠ [])
    (hT : tableError c (sceneOf w (h.read rE) (h.read rG)) = none) :
    let a1 := h.alloc (h.read rE)
    let a2 := a1.1.alloc (h.read rG)
    let s2 := stateOf (h.read rE) (h.read rG) a1.2 a2.2 a2.1
      (matchAll (mkTbl c (sceneOf w (h.read rE) (h.read rG))) (h.read rE).length (h.read rG).length)
    runH true c w h rE rG =
      (.ok (s2.results ++ (if c.fpValidation then [] else (s2.heap.read a1.2).map fun o => (o, none))), s2.heap) := by
  obtain ⟨he1, h2⟩ := loops_stateOf c w h (h.read rE) (h.read rG)
  intro a1 a2 s2
  rw [runH]
  simp only [if_neg (mt List.isEmpty_iff.1 he), if_neg (mt List.isEmpty_iff.1 hg), hT, if_true, he1,
    Option.isSome_none, Bool.false_eq_true, if_false, h2]
  rfl

theorem map_deref_resultsOf (eL gL : List ORef) (b : Bool) (st : St) :
    (resultsOf b st).map (deref eL gL) =
      (st.pairs.map fun p => (eL.getD p.1 0, some (gL.getD p.2 0))) ++
        (if b then [] else (st.es.map fun i => eL.getD i 0).map fun o => (o, none)) := by
  rw [resultsOf, List.map_append, pairResults, List.map_map]
  cases b
  · rw [if_neg Bool.false_ne_true, if_neg Bool.false_ne_true, fpResults, List.map_map, List.map_map]; rfl
  · rfl

/-- `runH true` in one statement: the answer is the index-level model's, read as objects of the caller's lists; every list
that existed before the call reads as before; and with an empty caller's list not even the copies are made -/
theorem runH_spec (c : Cfg) (w : World) (h : Heap) (rE rG : LRef) :
    (runH true c w h rE rG).1 =
        (getObjectResults c (sceneOf w (h.read rE) (h.read rG))).map (fun rs => rs.map (deref (h.read rE) (h.read rG))) ∧
      (∀ r : Nat, r < h.cells.length → (runH true c w h rE rG).2.read r = h.read r) ∧
      (h.read rE = [] ∨ h.read rG = [] → (runH true c w h rE rG).2 = h) := by
  by_cases he : h.read rE = []
  · rw [runH_of_ests_nil he, getObjectResults_of_ests_nil (by rw [sceneOf, he]; rfl)]
    exact ⟨rfl, fun _ _ => rfl, fun _ => rfl⟩
  · by_cases hg : h.read rG = []
    · rw [runH_of_gts_nil he hg, getObjectResults_of_gts_nil (fun e => he (List.map_eq_nil_iff.1 e)) (by rw [sceneOf, hg]; rfl),
        sceneOf_ests_length]
      have := map_deref_resultsOf (h.read rE) (h.read rG) c.fpValidation ⟨List.range (h.read rE).length, [], []⟩
      rw [map_getD_range] at this
      exact ⟨congrArg Except.ok this.symm, fun _ _ => rfl, fun _ => rfl⟩
    · rw [getObjectResults_eq]
      cases hT : tableError c (sceneOf w (h.read rE) (h.read rG)) with
      | some e => rw [runH_of_tableError he hg hT]; exact ⟨rfl, fun _ _ => rfl, fun _ => rfl⟩
      | none =>
        rw [runH_general he hg hT]
        refine ⟨?_, fun r hr => ?_, fun hn => (hn.elim he hg).elim⟩
        · rw [sceneOf_ests_length, sceneOf_gts_length, read_stateOf_wE alloc_alloc.1 alloc_alloc.2.1]
          exact congrArg Except.ok (map_deref_resultsOf _ _ _ _).symm
        · -- the two working lists are new addresses; every other address of the final heap reads as before the copies
          have hr1 : r < (h.alloc (h.read rE)).1.cells.length := by rw [alloc_length]; omega
          show (stateOf _ _ _ _ _ _).heap.read r = h.read r
          rw [read_stateOf_other _ (Nat.ne_of_lt (by rw [alloc_ref]; exact hr)) (Nat.ne_of_lt (by rw [alloc_ref]; exact hr1)),
            read_alloc_old hr1, read_alloc_old hr]

end PEval.MatchHeap
