import PEval.Lemmas.ClearDT
/-!
The bridge of the frame loop `CLEAR.__init__`, for histories of any length (core Lean only; does not import `PEval.Gen.*`,
so Lake caches it).  A history induces a valuation of the atoms `empty i` (`histVal`); at it the skeleton `initAtoms` selects,
in closed form, the pairs `(i-1, i)` of the non-empty frames `i ≥ 1` (`initAtoms_eq`, `selPairs`); the model's fold
`clear cfg hist` is the sum of `frameStep` over exactly these pairs and `objects_results_num` the sum of the sizes of their
current frames (`clear_bridge`, `predictNum_bridge`: the model folds over the consecutive frames at every position ≥ 1,
`foldl_eq_foldl_range'`; the positions the skeleton leaves out hold an empty current frame, which adds nothing,
`foldl_filter_neutral`); with each `frameStep` read through the step skeleton
(`frameStep_bridge`) the whole of `CLEAR.__init__` is the two skeletons at the induced valuations (`C05.init_loop_bridge_symbolic`, through `pairAccSym`).
-/

namespace PEval.ClearDT
open PEval.Clear

/-- frame `i` of a history (`[]` beyond its end; never consulted there) -/
def frameAt (hist : List (List Res)) (i : Nat) : List Res := (hist[i]?).getD []

/-- the valuation a concrete history induces: `empty i` ⇔ frame `i` holds no result -/
def histVal (hist : List (List Res)) : Val where
  b := fun a =>
    match a with
    | .empty i => (frameAt hist i).isEmpty
    | _ => false
  o := fun _ => .eq

theorem histVal_consistent (hist : List (List Res)) : (histVal hist).consistent := by
  refine ⟨?_, by simp [histVal]⟩
  intro r j s h
  simp [histVal] at h

/-- what one (previous, current) pair of an `__init__` table row stands for: `_calculate_tp_fp(cur, prev)` on those frames.
A row names a frame by its position in the history; `none` is the generator's mark for a list that is none of the
history's frames (`harness/dt_clear.py`, `table_init`), which the skeleton never produces -/
def pairAcc (cfg : Cfg) (hist : List (List Res)) : Option Nat × Option Nat → Acc
  | (some a, some b) => frameStep cfg (frameAt hist a) (frameAt hist b)
  | _ => Acc.zero

def sumPairsFrom (cfg : Cfg) (hist : List (List Res)) (a : Acc) (ps : List (Option Nat × Option Nat)) : Acc :=
  ps.foldl (fun a p => a.add (pairAcc cfg hist p)) a

def sumPairs (cfg : Cfg) (hist : List (List Res)) (ps : List (Option Nat × Option Nat)) : Acc :=
  sumPairsFrom cfg hist Acc.zero ps

def pairLen (hist : List (List Res)) : Option Nat × Option Nat → Nat
  | (_, some b) => (frameAt hist b).length
  | _ => 0

def lenPairsFrom (hist : List (List Res)) (n : Nat) (ps : List (Option Nat × Option Nat)) : Nat :=
  ps.foldl (fun n p => n + pairLen hist p) n

/-- the pairs the skeleton selects among frames `i, …, i+n-1`: `(k-1, k)` for every non-empty `k`, in order -/
def selPairs (v : Val) (i n : Nat) : List (Option Nat × Option Nat) :=
  ((List.range' i n).filter fun k => !v.b (.empty k)).map fun k => (some (k - 1), some k)

theorem selPairs_succ (v : Val) (i n : Nat) :
    selPairs v i (n + 1) = (if v.b (.empty i) then [] else [(some (i - 1), some i)]) ++ selPairs v (i + 1) n := by
  cases h : v.b (.empty i) <;> simp [selPairs, List.range'_succ, h]

theorem mem_selPairs {v : Val} {i n : Nat} {p : Option Nat × Option Nat} (hi : 1 ≤ i) (hp : p ∈ selPairs v i n) :
    ∃ k, p = (some k, some (k + 1)) ∧ k + 1 < i + n ∧ v.b (.empty (k + 1)) = false := by
  simp only [selPairs, List.mem_map, List.mem_filter, List.mem_range'_1] at hp
  obtain ⟨k, ⟨hk, he⟩, rfl⟩ := hp
  obtain ⟨k, rfl⟩ := Nat.exists_eq_add_of_le' (Nat.le_trans hi hk.1)
  exact ⟨k, rfl, hk.2, by simpa using he⟩

theorem initAtoms_eq (v : Val) (n i : Nat) (ps : List (Option Nat × Option Nat)) (c : Nat) :
    initAtoms v i n ps c = (ps ++ selPairs v i n, c + (selPairs v i n).length) := by
  fun_induction initAtoms v i n ps c with
  | case1 => simp [selPairs]
  | case2 i n ps c h ih => simp [ih, selPairs_succ, h]
  | case3 i n ps c h ih => simp [ih, selPairs_succ, h, Nat.add_assoc, Nat.add_comm]

theorem frameStep_nil (cfg : Cfg) (prev : List Res) : frameStep cfg prev [] = Acc.zero := rfl

theorem frameAt_eq {hist : List (List Res)} {i : Nat} {f : List Res} (h : hist[i]? = some f) : frameAt hist i = f := by
  rw [frameAt, h]; rfl

/-- **the frame loop, any length**: the model's `clear cfg hist` is the sum of `_calculate_tp_fp` over exactly the
(previous, current) pairs the skeleton of `CLEAR.__init__` selects at the valuation of the history: the model adds
`frameStep` at every position (`foldl_eq_foldl_range'` on the consecutive frames), the skeleton leaves out the positions
whose current frame is empty, where `frameStep` adds nothing (`foldl_filter_neutral`) -/
theorem clear_bridge (cfg : Cfg) (hist : List (List Res)) :
    clear cfg hist = sumPairs cfg hist (initAtoms (histVal hist) 1 (hist.length - 1) [] 0).1 := by
  rw [initAtoms_eq, List.nil_append, sumPairs, sumPairsFrom, selPairs, List.foldl_map,
    foldl_filter_neutral _ _ fun a k hk => by
      have : frameAt hist k = [] := by simpa [histVal] using hk
      rw [pairAcc, this, frameStep_nil, Acc.add_zero]]
  cases hist with
  | nil => rfl
  | cons f0 rest =>
    rw [clear_cons, steps_eq_zip, ← Acc.zero_add (accSum _), ← foldl_add_eq]
    rw [foldl_eq_foldl_range' _ (fun a k => a.add (pairAcc cfg (f0 :: rest) (some (k - 1), some k))) _ 1 _
      fun i pc hpc a => by
        obtain ⟨h1, h2⟩ := List.getElem?_zip_eq_some.1 hpc
        rw [pairAcc, Nat.add_sub_cancel_left, frameAt_eq h1, Nat.add_comm, frameAt_eq (i := i + 1) h2]]
    simp

/-- `objects_results_num` = the sizes of the current frames of the selected pairs, summed -/
theorem predictNum_bridge (hist : List (List Res)) :
    predictNum hist = lenPairsFrom hist 0 (initAtoms (histVal hist) 1 (hist.length - 1) [] 0).1 := by
  rw [initAtoms_eq, List.nil_append, lenPairsFrom, selPairs, List.foldl_map,
    foldl_filter_neutral _ _ fun n k hk => by
      have : frameAt hist k = [] := by simpa [histVal] using hk
      rw [pairLen, this]; rfl,
    predictNum, List.drop_one,
    foldl_eq_foldl_range' _ (fun n k => n + pairLen hist (some (k - 1), some k)) hist.tail 1 0 fun i f hf n => by
      rw [List.getElem?_tail] at hf
      rw [pairLen, Nat.add_comm 1, frameAt_eq hf],
    List.length_tail]

/-- one pair read through the step skeleton: the numbers its symbolic outcome stands for at the induced valuation -/
def pairAccSym (cfg : Cfg) (hist : List (List Res)) : Option Nat × Option Nat → Acc
  | (some a, some b) =>
    interp (frameAt hist a) (frameAt hist b)
      (stepAtoms (frameAt hist b).length (frameAt hist a).length (valOf cfg (frameAt hist a) (frameAt hist b)))
  | _ => Acc.zero

end PEval.ClearDT
