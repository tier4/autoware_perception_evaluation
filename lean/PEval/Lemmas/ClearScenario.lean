import PEval.Lemmas.ClearRename
import PEval.Lemmas.ClearSum
/-!
The scenario families of C05: a perfect tracker, and a perfect history whose track identities are exchanged or
replaced from some frame on.  One statement carries them, `good_totals`: over events whose results are all perfectly tracked
every result is a TP and the switches are the results whose pairing conflicts with one of their previous frame.
-/

namespace PEval.Clear

open Function

theorem labelThreshold_mem {cfg : Cfg} {l : Nat} {t : Rat} (h : labelThreshold cfg l = some t) :
    ∃ lt ∈ cfg.thresholds, lt.2 = t := by
  revert h
  fun_cases labelThreshold cfg l with
  | case1 p hf => exact fun h => ⟨p, List.mem_of_find?_eq_some hf, Option.some.inj h⟩
  | case2 => nofun

theorem good_threshold {cfg : Cfg} {c : Res} (h : Good cfg c) :
    ∃ t, labelThreshold cfg (keyLabel c) = some t := by
  have := h.2.1
  unfold evaluated at this
  exact Option.isSome_iff_exists.mp this

theorem good_tp {cfg : Cfg} {r : Res} (h : Good cfg r) {l : Nat} {t : Rat}
    (ht : labelThreshold cfg l = some t) : isTp cfg t r = true := by
  obtain ⟨lt, hm, rfl⟩ := labelThreshold_mem ht
  exact h.2.2.1 lt hm

theorem no_conflict_of_consistent {c : Res} {prev : List Res} (h : ∀ p ∈ prev, sameEst c p = sameGt c p) :
    prev.any (conflict c) = false :=
  List.any_eq_false.2 fun p hp => by rw [conflict, h p hp, bne_self_eq_false, Bool.and_false, Bool.not_eq_true]

/-- a perfectly tracked result after a perfectly tracked previous frame with one-to-one pairing: it is booked TP, and a
switch with it iff its pairing conflicts with one of the previous frame (the order-free reading, `countsSwitch_eq_switchedTp`) -/
theorem good_counts (cfg : Cfg) (prev : List Res) (c : Res) (hc : Good cfg c) (hprev : ∀ p ∈ prev, Good cfg p)
    (h11 : ∀ p ∈ prev, ∀ q ∈ prev, sameEst p q = sameGt p q) :
    countsTp cfg prev c = true ∧ countsFp cfg prev c = false ∧ countsSwitch cfg prev c = prev.any (conflict c) := by
  obtain ⟨t, ht⟩ := good_threshold hc
  have hc' := good_tp hc ht
  refine ⟨(countsTp_of_isTp prev ht hc').1, (countsTp_of_isTp prev ht hc').2, ?_⟩
  rw [countsSwitch_eq_switchedTp cfg prev c fun _ _ p hp q hq _ _ => h11 p hp q hq, switchedTp, ht]
  simp only [hc', Bool.true_and]
  exact any_congr_mem fun p hp => by rw [good_tp (hprev p hp) ht, Bool.true_and]

/-- THE statement of the scenario families, on any list of events: if every result is perfectly tracked and every previous
frame pairs one-to-one, every result is a TP and a switch is booked exactly for the results whose pairing conflicts with
one of their previous frame -/
theorem good_totals (cfg : Cfg) (l : List (List Res × Res))
    (h : ∀ e ∈ l, Good cfg e.2 ∧ (∀ p ∈ e.1, Good cfg p) ∧ ∀ p ∈ e.1, ∀ q ∈ e.1, sameEst p q = sameGt p q) :
    (total cfg l).tp = (l.length : Rat) ∧ (total cfg l).fp = 0 ∧
      (total cfg l).sw = l.countP fun e => e.1.any (conflict e.2) := by
  have hc := fun e he => good_counts cfg e.1 e.2 (h e he).1 (h e he).2.1 (h e he).2.2
  rw [total_tp_unit cfg l fun e he => ⟨(h e he).1.2.2.2, fun p hp => ((h e he).2.1 p hp).2.2.2⟩, total_fp, total_sw,
    List.countP_eq_length.2 fun e he => (hc e he).1]
  exact ⟨rfl, List.countP_eq_zero.2 fun e he => by simp [(hc e he).2.1],
    List.countP_congr fun e he => by rw [(hc e he).2.2]⟩

theorem good_clear (cfg : Cfg) (hist : List (List Res)) (hgood : ∀ f ∈ hist, ∀ r ∈ f, Good cfg r)
    (h11 : ∀ f ∈ hist, ∀ p ∈ f, ∀ q ∈ f, sameEst p q = sameGt p q) :
    (clear cfg hist).tp = (resultCount hist : Rat) ∧ (clear cfg hist).fp = 0 ∧
      (clear cfg hist).sw = (events hist).countP fun e => e.1.any (conflict e.2) := by
  rw [clear_eq_total, ← events_length]
  exact good_totals cfg _ fun e he => by
    obtain ⟨h1, f, hf, h2⟩ := events_mem he
    exact ⟨hgood f hf _ h2, hgood _ h1, h11 _ h1⟩

theorem Perfect.no_conflict {cfg : Cfg} {hist : List (List Res)} (h : Perfect cfg hist) :
    (events hist).countP (fun e => e.1.any (conflict e.2)) = 0 :=
  List.countP_eq_zero.2 fun e he => by
    obtain ⟨h1, f, hf, h2⟩ := events_mem he
    rw [Bool.not_eq_true]
    exact no_conflict_of_consistent (h.consistent f hf _ h2 _ h1)

theorem perfect_totals (cfg : Cfg) (hist : List (List Res)) (hP : Perfect cfg hist) :
    (clear cfg hist).tp = (resultCount hist : Rat) ∧ (clear cfg hist).fp = 0 ∧ (clear cfg hist).sw = 0 :=
  hP.no_conflict ▸ good_clear cfg hist hP.good fun f hf p hp => hP.consistent f hf p hp f hf

theorem Perfect.subset {cfg : Cfg} {hist hist' : List (List Res)} (h : Perfect cfg hist) (hsub : hist' ⊆ hist) :
    Perfect cfg hist' :=
  ⟨fun f hf => h.good f (hsub hf), fun f hf r hr f' hf' => h.consistent f (hsub hf) r hr f' (hsub hf')⟩

/-- two perfectly tracked stretches glued at a frame boundary: everything is a TP, and the switches are exactly the
results of the first frame of the second stretch whose pairing conflicts with one of the last frame of the first -/
theorem glued_totals (cfg : Cfg) (pre : List (List Res)) (prev cur : List Res) (rest : List (List Res))
    (hA : Perfect cfg (pre ++ [prev])) (hC : Perfect cfg (cur :: rest)) :
    (clear cfg (pre ++ prev :: cur :: rest)).tp = (resultCount (pre ++ prev :: cur :: rest) : Rat) ∧
    (clear cfg (pre ++ prev :: cur :: rest)).fp = 0 ∧
    (clear cfg (pre ++ prev :: cur :: rest)).sw = cur.countP fun c => prev.any (conflict c) := by
  have hmem : ∀ f ∈ pre ++ prev :: cur :: rest, f ∈ pre ++ [prev] ∨ f ∈ cur :: rest := fun f hf => by
    simpa [or_assoc] using hf
  have h := good_clear cfg _ (fun f hf => (hmem f hf).elim (hA.good f) (hC.good f))
    (fun f hf => (hmem f hf).elim (fun h p hp => hA.consistent f h p hp f h) (fun h p hp => hC.consistent f h p hp f h))
  rw [events_append_cons, events_cons_cons, List.countP_append, List.countP_append, hA.no_conflict, hC.no_conflict,
    List.countP_map, Nat.zero_add, Nat.add_zero] at h
  exact h

theorem gt_rename_id (x : Gt) : Gt.rename id x = x := rfl

theorem rename_id_gt (ρ : Nat → Nat) (r : Res) : (r.rename ρ id).gt = r.gt := by
  simp only [rename_gt]
  cases r.gt <;> rfl

theorem good_rename (cfg : Cfg) (ρ : Nat → Nat) (r : Res) (h : Good cfg r) : Good cfg (r.rename ρ id) := by
  obtain ⟨h1, h2, h3, h4⟩ := h
  refine ⟨by rw [rename_id_gt]; exact h1, by simpa using h2, fun lt hlt => by simpa using h3 lt hlt, by simpa using h4⟩

theorem bothGt_of_sameGt {c p : Res} (h : sameGt c p = true) : bothGt c p = true := by
  unfold sameGt at h
  unfold bothGt
  split at h
  · simp [*]
  · cases h

theorem sameGt_rename_left (ρ : Nat → Nat) (c p : Res) : sameGt (c.rename ρ id) p = sameGt c p := by
  unfold sameGt; rw [rename_id_gt]

theorem Perfect.rename {cfg : Cfg} {hist : List (List Res)} {ρ : Nat → Nat} (hρ : Injective ρ) (h : Perfect cfg hist) :
    Perfect cfg (renameHist ρ id hist) := by
  constructor
  · simp only [renameHist, renameFrame, List.forall_mem_map]
    exact fun f hf r hr => good_rename cfg ρ r (h.good f hf r hr)
  · simp only [renameHist, renameFrame, List.forall_mem_map]
    intro f hf r hr f' hf' r' hr'
    rw [sameGt_rename_left, sameGt, rename_id_gt, ← sameGt, ← h.consistent f hf r hr f' hf' r' hr']
    simp [sameEst, beq_of_injective hρ]

/-- the boundary: the current result's estimate id is renamed by `ρ`, the previous frame's are not.  Its pairing conflicts
with one of the previous frame iff its id changes -/
theorem boundary_conflict (ρ : Nat → Nat) (prev : List Res) (c : Res) (hcons : ∀ p ∈ prev, sameEst c p = sameGt c p)
    (hcont : ρ c.est ≠ c.est → ∃ p ∈ prev, sameGt c p = true) :
    prev.any (conflict (c.rename ρ id)) = decide (ρ c.est ≠ c.est) := by
  by_cases hρ : ρ c.est = c.est
  · have hfix : c.rename ρ id = c := by
      rw [Res.rename, hρ]
      cases c with | mk e l gt v ok w => cases gt <;> rfl
    rw [hfix, decide_eq_false (not_not.2 hρ)]
    exact no_conflict_of_consistent hcons
  · -- whoever shares the ground truth of `c` carried the old id of `c`, hence not the new one
    obtain ⟨p, hp, hg⟩ := hcont hρ
    have h1 : sameEst c p = true := (hcons p hp).trans hg
    simp only [sameEst, Bool.and_eq_true, beq_iff_eq] at h1
    rw [decide_eq_true hρ]
    refine List.any_eq_true.2 ⟨p, hp, ?_⟩
    rw [conflict, bothGt, rename_id_gt, ← bothGt, bothGt_of_sameGt hg, sameGt_rename_left, hg]
    simp [sameEst, ← h1.1, hρ]

/-- a perfect history whose frames from `cur` on have their estimate ids renamed by an injective `ρ`, with the ground-truth
number `g` = number of tracked results: the `k ≥ 1` renamed results of `cur` cost `k` switches and nothing else, and MOTA is
1 − k/g.  The untouched prefix and the renamed suffix are both perfect (`Perfect.rename`), so the totals are those of
`glued_totals`, and the boundary conflicts are the renamed results (`boundary_conflict`).  `g`, `k` and their equations have
the shape of the hypotheses of `C05.new_id_costs_one` / `swap_costs_two`; `hk0` serves only to give `g ≠ 0` (through `k ≤ g`). -/
theorem relabel_scores (cfg : Cfg) (pre : List (List Res)) (prev cur : List Res) (rest : List (List Res))
    (ρ : Nat → Nat) (hρ : Injective ρ)
    (hP : Perfect cfg (pre ++ prev :: cur :: rest))
    (hcont : ∀ c ∈ cur, ρ c.est ≠ c.est → ∃ p ∈ prev, sameGt c p = true)
    {g k : Nat} (hg : g = resultCount (pre ++ prev :: cur :: rest))
    (hk : cur.countP (fun c => decide (ρ c.est ≠ c.est)) = k) (hk0 : k ≠ 0) :
    (clear cfg (pre ++ prev :: renameHist ρ id (cur :: rest))).sw = k ∧
    (clear cfg (pre ++ prev :: renameHist ρ id (cur :: rest))).fp = 0 ∧
    (clear cfg (pre ++ prev :: renameHist ρ id (cur :: rest))).tp = (g : Rat) ∧
    (evalClear cfg g (pre ++ prev :: renameHist ρ id (cur :: rest))).mota = some (1 - (k : Rat) / (g : Rat)) := by
  have h := glued_totals cfg pre prev (renameFrame ρ id cur) (renameHist ρ id rest) (hP.subset (by simp))
    ((hP.subset (by simp : cur :: rest ⊆ _)).rename hρ)
  have hB : (renameFrame ρ id cur).countP (fun c => prev.any (conflict c)) = k := by
    rw [renameFrame, List.countP_map, ← hk]
    exact List.countP_congr fun c hc => by
      rw [Function.comp, boundary_conflict ρ prev c
        (hP.consistent cur (by simp) c hc prev (by simp)) (hcont c hc)]
  have hgs : ∀ c r, resultCount (pre ++ prev :: c :: r) = resultCount (pre ++ [prev]) + (c.length + resultCount (c :: r)) :=
    fun c r => by rw [resultCount_append_cons]; simp [resultCount]
  have hg' : resultCount (pre ++ prev :: renameFrame ρ id cur :: renameHist ρ id rest) = g := by
    rw [hg, hgs, hgs, renameFrame, List.length_map]
    exact congrArg _ (congrArg _ (resultCount_rename (cur :: rest)))
  have hkg : k ≤ g := by
    rw [hg, hgs, ← hk]
    exact List.countP_le_length.trans ((Nat.le_add_right _ _).trans (Nat.le_add_left _ _))
  rw [hB, hg'] at h
  exact ⟨h.2.2, h.2.1, h.1, mota_of_counts g k _ h.1 h.2.1 h.2.2 hkg fun h0 => hk0 (Nat.le_zero.1 (h0 ▸ hkg))⟩

/-- replacing `a` by an id `b` nobody carries is exchanging `a` and `b` -/
theorem renameHist_replaceId (a b : Nat) (g : Nat → Nat) (hist : List (List Res))
    (h : ∀ f ∈ hist, ∀ r ∈ f, r.est ≠ b) : renameHist (replaceId a b) g hist = renameHist (swapId a b) g hist :=
  List.map_congr_left fun f hf => List.map_congr_left fun r hr => by
    rw [Res.rename, Res.rename, replaceId, swapId, if_neg (h f hf r hr)]

end PEval.Clear
