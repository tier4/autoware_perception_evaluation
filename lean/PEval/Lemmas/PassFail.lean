import PEval.Model.PassFail
import PEval.Lemmas.ListBasics
/-!
Helper lemmas for C03 (no Mathlib).

* Closed forms of the four loops of `get_positive_objects` / `get_negative_objects` as filters of their
  input.  A result is of one of five kinds — no ground truth, or a ground truth with status TP, FN, TN or
  FP (`getStatus_cases`); each loop is split into these kinds once, in its step equation
  (`getPositive_cons`, `negFromResults_cons`), and the closed forms are inductions over those.
* `is_result_correct` on an ordinary ground truth (`isResultCorrect_ordinary`), the content of TP soundness.
* Counting: under the well-formedness hypothesis the ground truths referenced by the object results
  are, up to order, exactly the ground truths the second loop of `get_negative_objects` skips; every
  result with a ground truth has exactly one ground-truth status.
-/
namespace PEval.PassFail

theorem isBetterThan_iff (s : Option Rat) (t : Rat) : isBetterThan s t = true ↔ ∃ v, s = some v ∧ v < t := by
  cases s <;> simp [isBetterThan]

theorem isResultCorrect_ordinary {r : Res} {g : GT} (hg : r.gt = some g) (hf : g.isFP = false) :
    isResultCorrect r = true ↔
      r.labelOk = true ∧ (r.thr = none ∨ ∃ t v, r.thr = some t ∧ r.score = some v ∧ v < t) := by
  unfold isResultCorrect
  rw [hg]
  cases r.thr with
  | none => simp
  | some t => simp [hf, isBetterThan_iff, and_comm]

theorem getStatus_some (r : Res) (g : GT) (h : r.gt = some g) :
    getStatus r =
      (if isResultCorrect r then (if g.isFP then (.FP, some .TN) else (.TP, some .TP))
       else (if g.isFP then (.FP, some .FP) else (.FP, some .FN))) := by
  simp only [getStatus, h]

theorem getStatus_none (r : Res) (h : r.gt = none) : getStatus r = (.FP, none) := by
  simp only [getStatus, h]

theorem getStatus_cases (r : Res) :
    (r.gt = none ∧ getStatus r = (.FP, none)) ∨ ∃ g, r.gt = some g ∧
      ((g.isFP = false ∧ isResultCorrect r = true ∧ getStatus r = (.TP, some .TP)) ∨
       (g.isFP = false ∧ isResultCorrect r = false ∧ getStatus r = (.FP, some .FN)) ∨
       (g.isFP = true ∧ isResultCorrect r = true ∧ getStatus r = (.FP, some .TN)) ∨
       (g.isFP = true ∧ isResultCorrect r = false ∧ getStatus r = (.FP, some .FP))) := by
  cases hg : r.gt with
  | none => exact .inl ⟨rfl, getStatus_none r hg⟩
  | some g =>
    refine .inr ⟨g, rfl, ?_⟩
    rw [getStatus_some r g hg]
    cases isResultCorrect r <;> cases g.isFP
    · exact .inr (.inl ⟨rfl, rfl, rfl⟩)
    · exact .inr (.inr (.inr ⟨rfl, rfl, rfl⟩))
    · exact .inl ⟨rfl, rfl, rfl⟩
    · exact .inr (.inr (.inl ⟨rfl, rfl, rfl⟩))

theorem getStatus_fst_TP_iff (r : Res) : (getStatus r).1 = .TP ↔ (getStatus r).2 = some .TP := by
  rcases getStatus_cases r with ⟨_, hs⟩ | ⟨g, _, ⟨_, _, hs⟩ | ⟨_, _, hs⟩ | ⟨_, _, hs⟩ | ⟨_, _, hs⟩⟩ <;>
    simp [hs]

theorem isTP_iff (r : Res) :
    isTP r = true ↔ ∃ g, r.gt = some g ∧ g.isFP = false ∧ isResultCorrect r = true := by
  unfold isTP
  rcases getStatus_cases r with ⟨hg, hs⟩ | ⟨g, hg, h⟩
  · simp [hs, hg]
  · rcases h with ⟨hf, hc, hs⟩ | ⟨hf, hc, hs⟩ | ⟨hf, hc, hs⟩ | ⟨hf, hc, hs⟩ <;> simp [hs, hg, hf, hc]

def gtStatusIs (s : Status) (r : Res) : Bool := (getStatus r).2 == some s

theorem isTP_eq_gtStatusIs : isTP = gtStatusIs .TP := by
  funext r
  unfold isTP gtStatusIs
  rcases getStatus_cases r with ⟨_, hs⟩ | ⟨g, _, ⟨_, _, hs⟩ | ⟨_, _, hs⟩ | ⟨_, _, hs⟩ | ⟨_, _, hs⟩⟩ <;>
    rw [hs] <;> rfl

theorem isFP_of_gtStatusIs {s : Status} {r : Res} {g : GT} (h : gtStatusIs s r = true) (hg : r.gt = some g) :
    g.isFP = (s == .TN || s == .FP) := by
  unfold gtStatusIs at h
  rcases getStatus_cases r with ⟨hn, _⟩ | ⟨g', hg', hk⟩
  · rw [hn] at hg; cases hg
  · cases hg.symm.trans hg'
    rcases hk with ⟨hf, _, hs⟩ | ⟨hf, _, hs⟩ | ⟨hf, _, hs⟩ | ⟨hf, _, hs⟩ <;> rw [hs] at h <;>
      cases Option.some.inj (eq_of_beq h) <;> exact hf

theorem fpEntry_cases (r : Res) : fpEntry r = r ∨ fpEntry r = r.unmatched := by
  unfold fpEntry; split
  · exact .inr rfl
  · exact .inl rfl

theorem fpEntry_est (r : Res) : (fpEntry r).est = r.est := by
  rcases fpEntry_cases r with e | e <;> rw [e] <;> rfl

theorem getPositive_cons (r : Res) (rs : List Res) :
    getPositive (r :: rs) =
      if isTP r then (r :: (getPositive rs).1, (getPositive rs).2)
      else ((getPositive rs).1, fpEntry r :: (getPositive rs).2) := by
  rcases getStatus_cases r with ⟨hg, hs⟩ | ⟨g, hg, ⟨_, _, hs⟩ | ⟨_, _, hs⟩ | ⟨_, _, hs⟩ | ⟨_, _, hs⟩⟩ <;>
    simp [getPositive, isTP, fpEntry, hg, hs]

theorem getPositive_eq (rs : List Res) :
    getPositive rs = (rs.filter isTP, (rs.filter (fun r => !isTP r)).map fpEntry) := by
  induction rs with
  | nil => rfl
  | cons r rs ih => rw [getPositive_cons, ih]; cases h : isTP r <;> simp [h]

theorem getPositive_fst (rs : List Res) : (getPositive rs).1 = rs.filter isTP := by
  rw [getPositive_eq]

theorem getPositive_length (rs : List Res) : (getPositive rs).1.length + (getPositive rs).2.length = rs.length := by
  rw [getPositive_eq, List.length_map, ← List.length_append]
  exact (List.filter_append_perm isTP rs).length_eq

theorem getPositive_est_perm (rs : List Res) :
    ((getPositive rs).1.map (·.est) ++ (getPositive rs).2.map (·.est)).Perm (rs.map (·.est)) := by
  rw [getPositive_eq, List.map_map, show (fun x : Res => x.est) ∘ fpEntry = (·.est) from funext fpEntry_est,
    ← List.map_append]
  exact (List.filter_append_perm isTP rs).map _

theorem matchedFP_getPositive (rs : List Res) :
    matchedFP (getPositive rs).2 = rs.filter (gtStatusIs .FP) := by
  induction rs with
  | nil => rfl
  | cons r rs ih =>
    rw [getPositive_cons]
    rcases getStatus_cases r with ⟨hg, hs⟩ | ⟨g, hg, h⟩
    · simpa [matchedFP, isTP, fpEntry, Res.hasFPGt, gtStatusIs, hg, hs] using ih
    · rcases h with ⟨hf, _, hs⟩ | ⟨hf, _, hs⟩ | ⟨hf, _, hs⟩ | ⟨hf, _, hs⟩ <;>
        simpa [matchedFP, isTP, fpEntry, Res.hasFPGt, Res.unmatched, gtStatusIs, hg, hs, hf] using ih

theorem resSurvives_iff (r : Res) :
    resSurvives r = true ↔ r.estCrit = true ∧ ∀ g, r.gt = some g → g.crit = true := by
  unfold resSurvives
  cases r.gt <;> simp

theorem mem_gtsOf {rs : List Res} {g : GT} : g ∈ gtsOf rs ↔ ∃ r ∈ rs, r.gt = some g := by
  simp [gtsOf, List.mem_filterMap]

theorem mem_gtsOf_filter {rs : List Res} {p : Res → Bool} {g : GT} :
    g ∈ gtsOf (rs.filter p) ↔ ∃ r ∈ rs, p r = true ∧ r.gt = some g := by
  simp [gtsOf, List.mem_filterMap, List.mem_filter, and_assoc]

theorem gtsOf_filter_sublist (rs : List Res) (p : Res → Bool) :
    (gtsOf (rs.filter p)).Sublist (gtsOf rs) :=
  List.Sublist.filterMap _ List.filter_sublist

theorem gtsOf_filter_cons_none {r : Res} (p : Res → Bool) (rs : List Res) (h : r.gt = none) :
    gtsOf ((r :: rs).filter p) = gtsOf (rs.filter p) := by
  cases hp : p r <;> simp [gtsOf, hp, h]

theorem gtsOf_filter_cons_some {r : Res} {g : GT} (p : Res → Bool) (rs : List Res) (h : r.gt = some g) :
    gtsOf ((r :: rs).filter p) = if p r then g :: gtsOf (rs.filter p) else gtsOf (rs.filter p) := by
  cases hp : p r <;> simp [gtsOf, hp, h]

theorem negFromResults_cons (r : Res) (rs : List Res) :
    negFromResults (r :: rs) =
      match r.gt with
      | none => negFromResults rs
      | some g =>
        ⟨if gtStatusIs .TN r then g :: (negFromResults rs).tn else (negFromResults rs).tn,
         if gtStatusIs .FN r then g :: (negFromResults rs).fn else (negFromResults rs).fn,
         g :: (negFromResults rs).nonCand⟩ := by
  rcases getStatus_cases r with ⟨hg, hs⟩ | ⟨g, hg, ⟨_, _, hs⟩ | ⟨_, _, hs⟩ | ⟨_, _, hs⟩ | ⟨_, _, hs⟩⟩ <;>
    simp [negFromResults, gtStatusIs, hg, hs]

theorem negFromResults_eq (rs : List Res) :
    negFromResults rs =
      ⟨gtsOf (rs.filter (gtStatusIs .TN)), gtsOf (rs.filter (gtStatusIs .FN)), gtsOf rs⟩ := by
  induction rs with
  | nil => rfl
  | cons r rs ih =>
    rw [negFromResults_cons, ih]
    cases hg : r.gt with
    | none => simp only [gtsOf_filter_cons_none _ _ hg]; simp [gtsOf, hg]
    | some g => simp only [gtsOf_filter_cons_some _ _ hg]; simp [gtsOf, hg]

theorem scanGts_eq (nc gts : List GT) :
    scanGts nc gts =
      (gts.filter (fun g => !inNonCand g nc && g.isFP),
       gts.filter (fun g => !inNonCand g nc && !g.isFP)) := by
  induction gts with
  | nil => rfl
  | cons g gs ih =>
    cases hn : inNonCand g nc <;> cases hf : g.isFP <;> simp [scanGts, hn, hf, ih]

theorem getNegative_eq (gts : List GT) (rs : List Res) :
    getNegative gts rs =
      (gtsOf (rs.filter (gtStatusIs .TN)) ++ gts.filter (fun g => !inNonCand g (gtsOf rs) && g.isFP),
       gtsOf (rs.filter (gtStatusIs .FN)) ++ gts.filter (fun g => !inNonCand g (gtsOf rs) && !g.isFP)) := by
  simp only [getNegative, scanGts_eq, negFromResults_eq]

theorem same_iff (a b : GT) : a.same b = true ↔ a.id = b.id ∨ a.eqKey = b.eqKey := by
  simp [GT.same]

theorem eq_of_same {gts : List GT} (hd : GtsDistinct gts) :
    ∀ a ∈ gts, ∀ b ∈ gts, a.same b = true → a = b :=
  inj_on_of_pairwise (E := fun a b => a.same b = true)
    (fun a b h => (same_iff b a).2 (((same_iff a b).1 h).imp Eq.symm Eq.symm))
    (hd.imp fun h e => ((same_iff _ _).1 e).elim h.1 h.2)

theorem GtsDistinct.nodup {gts : List GT} (hd : GtsDistinct gts) : gts.Nodup :=
  List.Pairwise.imp (fun h hab => h.1 (by rw [hab])) hd

theorem inNonCand_iff_mem {rs : List Res} {gts : List GT} (h : WF rs gts) {g : GT} (hg : g ∈ gts) :
    inNonCand g (gtsOf rs) = true ↔ g ∈ gtsOf rs := by
  simp only [inNonCand, List.any_eq_true]
  constructor
  · rintro ⟨n, hn, hs⟩
    exact eq_of_same h.1 g hg n (h.2.2 n hn) hs ▸ hn
  · exact fun hm => ⟨g, hm, (same_iff g g).2 (.inl rfl)⟩

theorem filter_inNonCand_perm {rs : List Res} {gts : List GT} (h : WF rs gts) :
    (gts.filter (fun g => inNonCand g (gtsOf rs))).Perm (gtsOf rs) := by
  refine (List.perm_ext_iff_of_nodup (h.1.nodup.sublist List.filter_sublist) h.2.1).mpr fun g => ?_
  rw [List.mem_filter]
  exact ⟨fun hg => (inNonCand_iff_mem h hg.1).mp hg.2,
    fun hg => ⟨h.2.2 g hg, (inNonCand_iff_mem h (h.2.2 g hg)).mpr hg⟩⟩

theorem gtsOf_status_perm (rs : List Res) :
    (gtsOf rs).Perm
      (gtsOf (rs.filter (gtStatusIs .TP)) ++ (gtsOf (rs.filter (gtStatusIs .FN)) ++
        (gtsOf (rs.filter (gtStatusIs .TN)) ++ gtsOf (rs.filter (gtStatusIs .FP))))) := by
  induction rs with
  | nil => exact .refl _
  | cons r rs ih =>
    rcases getStatus_cases r with ⟨hg, _⟩ | ⟨g, hg, h⟩
    · simp only [gtsOf_filter_cons_none _ _ hg]
      simpa [gtsOf, hg] using ih
    · simp only [gtsOf_filter_cons_some _ _ hg]
      have hc : gtsOf (r :: rs) = g :: gtsOf rs := by simp [gtsOf, hg]
      rw [hc]
      -- `g` goes to the front of exactly one of the four lists
      rcases h with ⟨_, _, hs⟩ | ⟨_, _, hs⟩ | ⟨_, _, hs⟩ | ⟨_, _, hs⟩ <;> simp only [gtStatusIs, hs] <;>
        refine (ih.cons g).trans ?_
      · exact .refl _
      · exact List.perm_middle.symm
      · exact List.perm_middle.symm.trans (.append_left _ List.perm_middle.symm)
      · exact List.perm_middle.symm.trans
          (.append_left _ (List.perm_middle.symm.trans (.append_left _ List.perm_middle.symm)))

/-- how the two conservation counts are read off the exactly-once accounting (`C03.gt_accounting_perm`) -/
theorem length_filter_of_perm {α : Type} {p : α → Bool} {A B C D l : List α}
    (h : (A ++ (B ++ (C ++ D))).Perm l) (hA : ∀ a ∈ A, p a = false) (hB : ∀ a ∈ B, p a = false)
    (hC : ∀ a ∈ C, p a = true) (hD : ∀ a ∈ D, p a = true) :
    (l.filter (fun a => !p a)).length = A.length + B.length ∧ (l.filter p).length = C.length + D.length := by
  have no : ∀ {X : List α}, (∀ a ∈ X, p a = false) → X.countP p = 0 ∧ X.countP (fun a => !p a) = X.length :=
    fun hX => ⟨List.countP_eq_zero.mpr fun a ha => by simp [hX a ha],
      List.countP_eq_length.mpr fun a ha => by simp [hX a ha]⟩
  have yes : ∀ {X : List α}, (∀ a ∈ X, p a = true) → X.countP p = X.length ∧ X.countP (fun a => !p a) = 0 :=
    fun hX => ⟨List.countP_eq_length.mpr hX, List.countP_eq_zero.mpr fun a ha => by simp [hX a ha]⟩
  rw [← List.countP_eq_length_filter, ← List.countP_eq_length_filter, ← h.countP_eq, ← h.countP_eq]
  simp only [List.countP_append, no hA, no hB, yes hC, yes hD]
  omega

/-- whatever holds of every result handed in and still holds once its ground truth is dropped (`P`) holds of every
TP / FP; whatever holds of every ground truth handed in and of every result's ground truth (`Q`) holds of every TN / FN -/
theorem evaluate_forall {rs : List Res} {gts : List GT} {P : Res → Prop} {Q : GT → Prop}
    (hP : ∀ r ∈ rs, P r ∧ ∀ g, r.gt = some g → Q g) (hu : ∀ r, P r → P r.unmatched) (hQ : ∀ g ∈ gts, Q g) :
    (∀ r ∈ (evaluate rs gts).tp ++ (evaluate rs gts).fp, P r) ∧
    (∀ g ∈ (evaluate rs gts).tn ++ (evaluate rs gts).fn, Q g) := by
  simp only [evaluate, getPositive_eq, getNegative_eq]
  have key : ∀ (p : Res → Bool) (q : GT → Bool), ∀ g ∈ gtsOf (rs.filter p) ++ gts.filter q, Q g := fun p q =>
    List.forall_mem_append.2 ⟨fun g h => let ⟨r, hr, _, hrg⟩ := mem_gtsOf_filter.1 h; (hP r hr).2 g hrg,
      fun g h => hQ g (List.mem_filter.1 h).1⟩
  refine ⟨List.forall_mem_append.2 ⟨fun r hr => (hP r (List.mem_filter.1 hr).1).1, List.forall_mem_map.2 fun r0 hr0 => ?_⟩,
    List.forall_mem_append.2 ⟨key _ _, key _ _⟩⟩
  have h0 := (hP r0 (List.mem_filter.1 hr0).1).1
  rcases fpEntry_cases r0 with e | e <;> rw [e]
  · exact h0
  · exact hu r0 h0

end PEval.PassFail
