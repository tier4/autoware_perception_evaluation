import PEval.Lemmas.ManagerTrackingScene
import PEval.Lemmas.ClearSum
/-!
The scene MOTA against the per-frame MOTAs: where no per-frame MOTA is clamped, `mota * num_ground_truth` is the numerator
`TP − FP − IDsw`, so the weighted sum of `_sum_clear` is the numerator of the scene (rational arithmetic: single Mathlib
modules through `ClearSum`).
-/

namespace PEval.ManagerTracking
open PEval.Manager PEval PEval.Clear

/-- `_sum_clear`'s weighting of one MOTA: `mota * num_ground_truth`, nothing when it is `inf` -/
def motaWeighted (o : Clear.Out) : Rat :=
  match o.mota with
  | some m => m * (o.g : Rat)
  | none => 0

theorem num_accSum (outs : List Clear.Out) :
    (accSum (outs.map (·.acc))).tp - ((accSum (outs.map (·.acc))).fp : Rat) - ((accSum (outs.map (·.acc))).sw : Rat)
      = ratSum (outs.map Out.num) := by
  induction outs with
  | nil => simp [ratSum]
  | cons o os ih =>
    simp only [List.map_cons, accSum_cons, Acc.add_tp, Acc.add_fp, Acc.add_sw, ratSum, Out.num]
    rw [← ih]
    push_cast
    ring

theorem motaWeighted_eq_num (o : Clear.Out) (hm : o.mota = mota o.g o.acc) (hg : o.g ≠ 0) (hn : 0 ≤ o.num) :
    motaWeighted o = o.num := by
  obtain ⟨m, h, hmg⟩ := mota_mul_g hm hg hn
  rw [motaWeighted, h]
  exact hmg

theorem mota_weighted_mean (frames : List Clear.Out) (hne : frames ≠ [])
    (hm : ∀ o ∈ frames, o.mota = mota o.g o.acc) (hg : ∀ o ∈ frames, o.g ≠ 0) (hn : ∀ o ∈ frames, 0 ≤ o.num) :
    mota (frames.map (·.g)).sum (accSum (frames.map (·.acc)))
      = some (ratSum (frames.map motaWeighted) / (((frames.map (·.g)).sum : Nat) : Rat)) := by
  have hw : frames.map motaWeighted = frames.map Out.num :=
    List.map_congr_left fun o ho => motaWeighted_eq_num o (hm o ho) (hg o ho) (hn o ho)
  have hnum := ratSum_map_nonneg frames Out.num hn
  rw [mota_of_nonneg (natSum_pos frames hne hg) (by rw [num_accSum]; exact hnum), num_accSum, hw]

end PEval.ManagerTracking
