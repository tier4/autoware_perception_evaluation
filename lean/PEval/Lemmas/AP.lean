import PEval.Model.AP
import PEval.Model.APVariants
import PEval.Lemmas.ListBasics
import Mathlib.Tactic.Linarith
import Mathlib.Tactic.Ring
import Mathlib.Algebra.Order.Field.Basic
import Mathlib.Data.Rat.Defs
import Mathlib.Algebra.Order.Ring.Rat
/-!
The interpolated area of the AP model: the code-shaped interpolation (`scan` + `partialArea`) equals the
all-point interpolated sum `apSpec`, and the same value written directly over the TP weights (`apW`),
on which bounds and monotonicity are proved by induction over the ranking. At the end: the index-based sum against the
recall-based one of the property text (`apSpecFrom_eq_apRecallFrom`: equal for non-decreasing recalls).
-/

namespace PEval.AP

/-- one step of the backward scan: record the point if its precision exceeds the last recorded maximum -/
def push : Pt → List Pt → List Pt
  | (p, r), [] => [(p, r)]
  | (p, r), (m, rm) :: st => if p > m then (p, r) :: (m, rm) :: st else (m, rm) :: st

theorem scan_eq_foldl (l st : List Pt) : scan l st = l.foldl (fun st a => push a st) st := by
  fun_induction scan l st with
  | case1 => rfl
  | case2 p r rest ih => exact ih
  | case3 p r rest m rm st h ih => rw [List.foldl_cons, push, if_pos h]; exact ih
  | case4 p r rest m rm st h ih => rw [List.foldl_cons, push, if_neg h]; exact ih

theorem maxWith_swap (a b : Rat) (l : List Rat) : max a (maxWith b l) = max b (maxWith a l) := by
  induction l with
  | nil => exact max_comm a b
  | cons x t ih =>
    show max a (max x (maxWith b t)) = max b (max x (maxWith a t))
    rw [max_left_comm, ih, max_left_comm]

/-- the stack after scanning `t` from its last point down, and the area it stands for: the recorded maxima are the
suffix maxima of the precisions, so closing the top entry at recall `prev` gives the interpolated sum over `t` -/
theorem stack_inv (a : Pt) (t : List Pt) :
    ∃ m rm st, (a :: t).foldr push [] = (m, rm) :: st ∧ m = maxWith a.1 (t.map Prod.fst) ∧
      ∀ prev, apSpecFrom prev (a :: t) = partialArea ((m, rm) :: st) + m * (rm - prev) := by
  induction t generalizing a with
  | nil => exact ⟨a.1, a.2, [], rfl, rfl, fun prev => by simp [apSpecFrom, partialArea, maxWith]; ring⟩
  | cons b t ih =>
    obtain ⟨m, rm, st, hst, hm, hinv⟩ := ih b
    obtain ⟨p, r⟩ := a
    have hmax : maxWith p ((b :: t).map Prod.fst) = max p m := by
      rw [hm]; exact maxWith_swap b.1 p _
    rw [List.foldr_cons, hst, push]
    by_cases h : p > m
    · rw [if_pos h]
      refine ⟨p, r, (m, rm) :: st, rfl, by rw [hmax, max_eq_left h.le], fun prev => ?_⟩
      rw [apSpecFrom, hmax, max_eq_left h.le, hinv r, partialArea]
      ring
    · rw [if_neg h]
      refine ⟨m, rm, st, rfl, by rw [hmax, max_eq_right (not_lt.1 h)], fun prev => ?_⟩
      rw [apSpecFrom, hmax, max_eq_right (not_lt.1 h), hinv r]
      ring

/-- the value `_calculate_ap` computes is the all-point interpolated area -/
theorem calculateAp_eq_apSpec (ps rs : List Rat) : calculateAp ps rs = apSpec ps rs := by
  unfold calculateAp apSpec
  generalize ps.zip rs = pts
  have key : stackArea (pts.reverse.foldl (fun st a => push a st) []) = apSpecFrom 0 pts := by
    rw [List.foldl_reverse]
    cases pts with
    | nil => rfl
    | cons a t =>
      obtain ⟨m, rm, st, hst, _, hinv⟩ := stack_inv a t
      exact (congrArg stackArea hst).trans (hinv 0).symm
  rw [← key]
  cases pts.reverse with
  | nil => rfl
  | cons pt rest =>
    obtain ⟨p, r⟩ := pt
    show stackArea (scan rest [(p, r)]) = _
    rw [scan_eq_foldl]
    rfl

/-- AP of the ranking whose remaining TP weights are `ws`, the next index being `i` and the TP weight
accumulated so far `c`: `Σ_j w_j/G · max_{k ≥ j} cum_k/(k+1)` -/
def apW (G : Nat) : Nat → Rat → List Rat → Rat
  | _, _, [] => 0
  | i, c, w :: ws =>
    recallOf G w * maxWith ((c + w) / ((i : Rat) + 1)) (precFrom (i + 1) (cumsumFrom (c + w) ws))
      + apW G (i + 1) (c + w) ws

theorem length_cumsumFrom (c : Rat) (ws : List Rat) : (cumsumFrom c ws).length = ws.length := by
  induction ws generalizing c with
  | nil => rfl
  | cons w t ih => simp [cumsumFrom, ih]

theorem length_precFrom (i : Nat) (ts : List Rat) : (precFrom i ts).length = ts.length := by
  induction ts generalizing i with
  | nil => rfl
  | cons w t ih => simp [precFrom, ih]

theorem recallOf_add (G : Nat) (a b : Rat) : recallOf G (a + b) = recallOf G a + recallOf G b := by
  unfold recallOf
  split
  · ring
  · simp

theorem recallOf_zero (G : Nat) : recallOf G 0 = 0 := by
  unfold recallOf; split <;> simp

theorem recallOf_nonneg (G : Nat) {a : Rat} (h : 0 ≤ a) : 0 ≤ recallOf G a := by
  unfold recallOf
  split
  · exact div_nonneg h (Nat.cast_nonneg G)
  · exact le_refl 0

theorem recallOf_mono (G : Nat) {a b : Rat} (h : a ≤ b) : recallOf G a ≤ recallOf G b := by
  unfold recallOf
  split
  · exact div_le_div_of_nonneg_right h (Nat.cast_nonneg G)
  · exact le_refl 0

theorem recallOf_le_one (G : Nat) {a : Rat} (h : a ≤ (G : Rat)) : recallOf G a ≤ 1 := by
  unfold recallOf
  split
  · exact div_le_one_of_le₀ h (Nat.cast_nonneg G)
  · exact zero_le_one

theorem apSpec_eq_apW (G i : Nat) (c : Rat) (ws : List Rat) :
    apSpecFrom (recallOf G c) ((precFrom i (cumsumFrom c ws)).zip (recalls G (cumsumFrom c ws)))
      = apW G i c ws := by
  induction ws generalizing i c with
  | nil => rfl
  | cons w t ih =>
    have hlen : (precFrom (i + 1) (cumsumFrom (c + w) t)).length
        ≤ (recalls G (cumsumFrom (c + w) t)).length := by
      simp [recalls, length_precFrom, length_cumsumFrom]
    simp only [cumsumFrom, precFrom, recalls, List.map_cons, List.zip_cons_cons, apSpecFrom, apW]
    have := ih (i + 1) (c + w)
    simp only [recalls] at this hlen
    rw [this, List.map_fst_zip hlen, recallOf_add]
    ring

theorem le_maxWith (m : Rat) (ps : List Rat) : m ≤ maxWith m ps := by
  induction ps with
  | nil => exact le_refl m
  | cons p t ih => exact le_trans ih (le_max_right p _)

theorem maxWith_le {m b : Rat} {ps : List Rat} (hm : m ≤ b) (hp : ∀ p ∈ ps, p ≤ b) :
    maxWith m ps ≤ b := by
  induction ps with
  | nil => exact hm
  | cons p t ih =>
    rw [List.forall_mem_cons] at hp
    exact max_le hp.1 (ih hp.2)

theorem maxWith_mono {m m' : Rat} {ps ps' : List Rat} (hm : m ≤ m')
    (hp : List.Forall₂ (· ≤ ·) ps ps') : maxWith m ps ≤ maxWith m' ps' := by
  induction hp with
  | nil => exact hm
  | cons hab _ ih =>
    simp only [maxWith, List.foldr_cons]
    exact max_le_max hab ih

theorem cumsumFrom_mono {c c' : Rat} {ws ws' : List Rat} (hc : c ≤ c')
    (h : List.Forall₂ (· ≤ ·) ws ws') :
    List.Forall₂ (· ≤ ·) (cumsumFrom c ws) (cumsumFrom c' ws') := by
  induction h generalizing c c' with
  | nil => exact .nil
  | cons hab _ ih => exact .cons (add_le_add hc hab) (ih (add_le_add hc hab))

theorem precFrom_mono (i : Nat) {ts ts' : List Rat} (h : List.Forall₂ (· ≤ ·) ts ts') :
    List.Forall₂ (· ≤ ·) (precFrom i ts) (precFrom i ts') := by
  induction h generalizing i with
  | nil => exact .nil
  | cons hab _ ih =>
    exact .cons (div_le_div_of_nonneg_right hab (Nat.cast_add_one_pos i).le) (ih (i + 1))

theorem prec_le_one {i : Nat} {c : Rat} {ws : List Rat} (hc : c ≤ (i : Rat))
    (hw : ∀ w ∈ ws, w ≤ 1) : ∀ x ∈ precFrom i (cumsumFrom c ws), x ≤ 1 := by
  induction ws generalizing i c with
  | nil => exact fun _ h => nomatch h
  | cons w t ih =>
    rw [List.forall_mem_cons] at hw
    have hc' : c + w ≤ (i : Rat) + 1 := add_le_add hc hw.1
    rw [cumsumFrom, precFrom, List.forall_mem_cons]
    exact ⟨div_le_one_of_le₀ hc' (Nat.cast_add_one_pos i).le, ih (hc'.trans_eq (Nat.cast_succ i).symm) hw.2⟩

theorem apW_nonneg (G : Nat) {i : Nat} {c : Rat} {ws : List Rat} (hc : 0 ≤ c)
    (hw : ∀ w ∈ ws, 0 ≤ w) : 0 ≤ apW G i c ws := by
  induction ws generalizing i c with
  | nil => exact le_rfl
  | cons w t ih =>
    rw [List.forall_mem_cons] at hw
    have hcw : 0 ≤ c + w := add_nonneg hc hw.1
    exact add_nonneg
      (mul_nonneg (recallOf_nonneg G hw.1)
        (le_trans (div_nonneg hcw (Nat.cast_add_one_pos i).le) (le_maxWith _ _)))
      (ih hcw hw.2)

/-- every interpolated precision is at most 1 (`c ≤ i`: no more TP weight than ranks so far), so the area
is at most the final recall -/
theorem apW_le_recall_total (G : Nat) {i : Nat} {c : Rat} {ws : List Rat} (hc0 : 0 ≤ c)
    (hc : c ≤ (i : Rat)) (hw : ∀ w ∈ ws, 0 ≤ w ∧ w ≤ 1) : apW G i c ws ≤ recallOf G ws.sum := by
  induction ws generalizing i c with
  | nil => exact (recallOf_zero G).ge
  | cons w t ih =>
    rw [List.forall_mem_cons] at hw
    obtain ⟨⟨hw0, hw1⟩, ht⟩ := hw
    have hc1 : c + w ≤ (i : Rat) + 1 := add_le_add hc hw1
    have hc' : c + w ≤ ((i + 1 : Nat) : Rat) := hc1.trans_eq (Nat.cast_succ i).symm
    have hM : maxWith ((c + w) / ((i : Rat) + 1)) (precFrom (i + 1) (cumsumFrom (c + w) t)) ≤ 1 :=
      maxWith_le (div_le_one_of_le₀ hc1 (Nat.cast_add_one_pos i).le) (prec_le_one hc' fun v hv => (ht v hv).2)
    rw [apW, List.sum_cons, recallOf_add]
    exact add_le_add (mul_le_of_le_one_right (recallOf_nonneg G hw0) hM)
      (ih (add_nonneg hc0 hw0) hc' ht)

/-- every factor of every term grows: the recall step, and each precision under the running maximum -/
theorem apW_mono (G : Nat) {i : Nat} {c c' : Rat} {ws ws' : List Rat} (hc0 : 0 ≤ c) (hc : c ≤ c')
    (h : List.Forall₂ (fun w w' => 0 ≤ w ∧ w ≤ w') ws ws') : apW G i c ws ≤ apW G i c' ws' := by
  induction h generalizing i c c' with
  | nil => exact le_rfl
  | @cons w w' t t' hab htl ih =>
    have hcw : c + w ≤ c' + w' := add_le_add hc hab.2
    have hcw0 : 0 ≤ c + w := add_nonneg hc0 hab.1
    have hi : (0 : Rat) ≤ (i : Rat) + 1 := (Nat.cast_add_one_pos i).le
    have hle : List.Forall₂ (· ≤ ·) t t' := forall₂_imp htl fun _ _ _ h => h.2
    rw [apW, apW]
    exact add_le_add
      (mul_le_mul (recallOf_mono G hab.2)
        (maxWith_mono (div_le_div_of_nonneg_right hcw hi)
          (precFrom_mono (i + 1) (cumsumFrom_mono hcw hle)))
        (le_trans (div_nonneg hcw0 hi) (le_maxWith _ _))
        (le_trans (recallOf_nonneg G hab.1) (recallOf_mono G hab.2)))
      (ih hcw0 hcw)

theorem apW_zero (G : Nat) {i : Nat} {c : Rat} {ws : List Rat} (hw : ∀ w ∈ ws, w = 0) :
    apW G i c ws = 0 := by
  induction ws generalizing i c with
  | nil => rfl
  | cons w t ih =>
    rw [List.forall_mem_cons] at hw
    rw [apW, hw.1, recallOf_zero, zero_mul, zero_add, ih hw.2]

/-- `k` weight-1 TPs ranked first on top of `i` earlier weight-1 TPs contribute at least `k/G`: each
has precision `(i+1)/(i+1) = 1` under its maximum -/
theorem apW_perfect_ge (G : Nat) (hG : 0 < G) (k : Nat) {i : Nat} {zs : List Rat}
    (hz : ∀ z ∈ zs, 0 ≤ z) :
    (k : Rat) / (G : Rat) ≤ apW G i (i : Rat) (List.replicate k 1 ++ zs) := by
  induction k generalizing i with
  | zero =>
    rw [Nat.cast_zero, zero_div]
    exact apW_nonneg G (Nat.cast_nonneg i) hz
  | succ k ih =>
    have h3 := ih (i := i + 1)
    have hr : recallOf G 1 = 1 / (G : Rat) := if_pos hG
    rw [Nat.cast_succ] at h3
    rw [List.replicate_succ, List.cons_append, apW, div_self (Nat.cast_add_one_pos i).ne', Nat.cast_succ,
      add_div, add_comm, ← hr]
    exact add_le_add (le_mul_of_one_le_right (recallOf_nonneg G zero_le_one) (le_maxWith 1 _)) h3

theorem sum_zero {l : List Rat} (h : ∀ z ∈ l, z = 0) : l.sum = 0 := by
  induction l with
  | nil => rfl
  | cons a t ih =>
    rw [List.forall_mem_cons] at h
    rw [List.sum_cons, h.1, ih h.2, add_zero]

theorem sum_le_mul_length {v : List Rat} {hi : Rat} (h : ∀ x ∈ v, x ≤ hi) : v.sum ≤ hi * (v.length : Rat) := by
  induction v with
  | nil => simp
  | cons a t ih =>
    rw [List.forall_mem_cons] at h
    rw [List.sum_cons, List.length_cons, Nat.cast_succ, mul_add, mul_one, add_comm a]
    exact add_le_add (ih h.2) h.1

theorem mul_length_le_sum {v : List Rat} {lo : Rat} (h : ∀ x ∈ v, lo ≤ x) : lo * (v.length : Rat) ≤ v.sum := by
  induction v with
  | nil => simp
  | cons a t ih =>
    rw [List.forall_mem_cons] at h
    rw [List.sum_cons, List.length_cons, Nat.cast_succ, mul_add, mul_one, add_comm a]
    exact add_le_add (ih h.2) h.1

/-- `G ≥ 1` weight-1 entries followed by zero weights: area 1 (at most the final recall `G/G`, at least
`G/G` by the leading entries) -/
theorem apW_perfect_of_zero (G : Nat) (hG : 0 < G) {zs : List Rat} (hz : ∀ z ∈ zs, z = 0) :
    apW G 0 0 (List.replicate G 1 ++ zs) = 1 := by
  have hGq : ((G : Rat)) ≠ 0 := Nat.cast_ne_zero.2 hG.ne'
  apply le_antisymm
  · refine (apW_le_recall_total G (i := 0) le_rfl le_rfl ?_).trans (recallOf_le_one G ?_)
    · exact List.forall_mem_append.2 ⟨fun w h => by rw [(List.mem_replicate.1 h).2]; exact ⟨zero_le_one, le_rfl⟩,
        fun w h => by rw [hz w h]; exact ⟨le_rfl, zero_le_one⟩⟩
    · rw [List.sum_append, sum_zero hz, add_zero]
      exact (sum_le_mul_length fun x hx => (List.mem_replicate.1 hx).2.le).trans_eq (by rw [List.length_replicate, one_mul])
  · have h2 := apW_perfect_ge G hG G (i := 0) (zs := zs) fun z hz' => (hz z hz').ge
    rwa [div_self hGq] at h2

/-! ### index-based and recall-based interpolated area (`apSpecFrom`, `apRecallFrom` of `Model/APVariants.lean`) -/

theorem foldr_max_base {p : Rat} (hp : 0 ≤ p) (l : List Rat) : l.foldr max p = max p (l.foldr max 0) := by
  induction l with
  | nil => simp [max_eq_left hp]
  | cons x t ih => simp only [List.foldr_cons, ih]; exact max_left_comm x p _

theorem apSpecFrom_eq_apRecallFrom (pre cur : List Pt) (prev : Rat) (hpre : ∀ pt ∈ pre, pt.2 ≤ prev)
    (hr : (prev :: cur.map Prod.snd).Pairwise (· ≤ ·)) (hp : ∀ pt ∈ cur, 0 ≤ pt.1) :
    apSpecFrom prev cur = apRecallFrom (pre ++ cur) prev cur := by
  induction cur generalizing pre prev with
  | nil => rfl
  | cons a rest ih =>
    obtain ⟨p, r⟩ := a
    simp only [List.map_cons, List.pairwise_cons] at hr
    obtain ⟨hprev, hrest, hpw⟩ := hr
    have hle : prev ≤ r := hprev r List.mem_cons_self
    have ih' := ih (pre ++ [(p, r)]) r
      (List.forall_mem_append.2 ⟨fun pt h => (hpre pt h).trans hle, fun pt h => by rw [List.mem_singleton.1 h]⟩)
      (List.pairwise_cons.2 ⟨hrest, hpw⟩) (fun pt hpt => hp pt (List.mem_cons_of_mem _ hpt))
    rw [List.append_assoc, List.singleton_append] at ih'
    rw [apSpecFrom, apRecallFrom, ih']
    congr 1
    -- a tie with the previous recall contributes nothing; past it, the points with recall `≥ r` are exactly `(p, r) :: rest`
    rcases eq_or_lt_of_le hle with heq | hlt
    · rw [heq, sub_self, zero_mul, zero_mul]
    · have h1 : pre.filter (fun pt => decide (r ≤ pt.2)) = [] :=
        List.filter_eq_nil_iff.2 fun pt hpt => by simpa using (hpre pt hpt).trans_lt hlt
      have h2 : ((p, r) :: rest).filter (fun pt => decide (r ≤ pt.2)) = (p, r) :: rest :=
        List.filter_eq_self.2 fun pt hpt => by
          rcases List.mem_cons.1 hpt with rfl | h
          · simp
          · simpa using hrest pt.2 (List.mem_map_of_mem h)
      rw [maxPrecAtRecall, List.filter_append, h1, h2, List.nil_append, List.map_cons, List.foldr_cons]
      exact congrArg _ (foldr_max_base (hp (p, r) List.mem_cons_self) _)

theorem map_snd_zip_sublist (ps rs : List Rat) : ((ps.zip rs).map Prod.snd).Sublist rs := by
  induction ps generalizing rs with
  | nil => simp
  | cons p t ih =>
    cases rs with
    | nil => simp
    | cons r rt =>
      simp only [List.zip_cons_cons, List.map_cons]
      exact List.Sublist.cons_cons r (ih rt)

theorem cumsumFrom_mono_chain (c : Rat) (ws : List Rat) (hw : ∀ w ∈ ws, 0 ≤ w) :
    (c :: cumsumFrom c ws).Pairwise (· ≤ ·) := by
  induction ws generalizing c with
  | nil => simp [cumsumFrom]
  | cons w t ih =>
    rw [List.forall_mem_cons] at hw
    have h := ih (c + w) hw.2
    have hc : c ≤ c + w := le_add_of_nonneg_right hw.1
    rw [cumsumFrom]
    exact List.pairwise_cons.2 ⟨List.forall_mem_cons.2 ⟨hc, fun x hx => hc.trans ((List.pairwise_cons.1 h).1 x hx)⟩, h⟩

theorem precFrom_nonneg (i : Nat) (ts : List Rat) (h : ∀ t ∈ ts, 0 ≤ t) : ∀ p ∈ precFrom i ts, 0 ≤ p := by
  induction ts generalizing i with
  | nil => exact fun _ h => nomatch h
  | cons t rest ih =>
    rw [List.forall_mem_cons] at h
    rw [precFrom, List.forall_mem_cons]
    exact ⟨div_nonneg h.1 (Nat.cast_add_one_pos i).le, ih (i + 1) h.2⟩

end PEval.AP
