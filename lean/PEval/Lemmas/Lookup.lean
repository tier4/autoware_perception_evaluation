import PEval.Model.Lookup
/-!
What the functions of the lookup model do, as far as no arithmetic library is needed: the arg-min loop
of `get_now_frame` returns the first frame at minimal distance; the scan of
`get_interpolated_now_frame` splits the list at the query; `interpolate_ground_truth_frames` succeeds
exactly on bracketing, distinct stamps, registered ego poses and objects in `base_link` / `map`
(`Frame.WellFormed` is what the loader guarantees of the last two).  In between: what the two loops of
`interpolate_object_list` keep (`stepFirst_*`, `secondPass_*`), what the conversion to the map frame leaves
untouched (`globalOf_*`, `toGlobalList_eq`), and the tolerance gate on the scan's two neighbours (`gate_*`),
ending in the inversion of the interpolating branch (`getInterpolated_both`).
-/
namespace PEval.Lookup

/-- the loop returns the FIRST frame of `best :: fs` at minimal distance: nothing is closer, and
everything before it is strictly farther -/
theorem argminLoop_spec (t : Int) (fs : List Frame) (best : Frame) :
    ∃ pre post, best :: fs = pre ++ argminLoop t best fs :: post ∧
      (∀ g ∈ pre, absDt t (argminLoop t best fs) < absDt t g) ∧
      ∀ g ∈ best :: fs, absDt t (argminLoop t best fs) ≤ absDt t g := by
  fun_induction argminLoop t best fs with
  | case1 best => exact ⟨[], [], rfl, fun _ h => (List.not_mem_nil h).elim, by simp⟩
  | case2 best f fs hlt ih =>
    obtain ⟨pre, post, hsp, hpre, hmin⟩ := ih
    have := hmin f List.mem_cons_self
    exact ⟨best :: pre, post, by rw [List.cons_append, ← hsp], List.forall_mem_cons.2 ⟨by omega, hpre⟩,
      List.forall_mem_cons.2 ⟨by omega, hmin⟩⟩
  | case3 best f fs hlt ih =>
    obtain ⟨pre, post, hsp, hpre, hmin⟩ := ih
    obtain ⟨hb, hfs⟩ := List.forall_mem_cons.1 hmin
    have hmin' : ∀ g ∈ best :: f :: fs, absDt t (argminLoop t best fs) ≤ absDt t g :=
      List.forall_mem_cons.2 ⟨hb, List.forall_mem_cons.2 ⟨by omega, hfs⟩⟩
    cases pre with
    | nil =>
      obtain ⟨h1, h2⟩ := List.cons.inj hsp
      exact ⟨[], f :: post, by rw [List.nil_append, ← h1, h2], fun _ h => (List.not_mem_nil h).elim, hmin'⟩
    | cons p pre =>
      obtain ⟨rfl, h2⟩ := List.cons.inj hsp
      obtain ⟨hp, hpre'⟩ := List.forall_mem_cons.1 hpre
      exact ⟨best :: f :: pre, post, congrArg (best :: f :: ·) h2,
        List.forall_mem_cons.2 ⟨hp, List.forall_mem_cons.2 ⟨by omega, hpre'⟩⟩, hmin'⟩

theorem getNowFrame_cons {t : Int} (ht : t ≤ maxTime) (f0 : Frame) (rest : List Frame) (thr : Int) :
    getNowFrame (f0 :: rest) t thr =
      if (absDt t (argminLoop t f0 rest) : Int) > thr then .ok none else .ok (some (argminLoop t f0 rest)) := by
  rw [getNowFrame, if_neg (by omega), argminLoop, if_neg (Nat.lt_irrefl _)]

/-- what the property says of an answer `x` of `get_now_frame`: a frame of the list at minimal distance that lies within
the tolerance, or nothing when every frame is farther than the tolerance -/
def NowFrameSpec (fs : List Frame) (t thr : Int) (x : Except Err (Option Frame)) : Prop :=
  (∃ f, x = .ok (some f) ∧ f ∈ fs ∧ (∀ g ∈ fs, absDt t f ≤ absDt t g) ∧ (absDt t f : Int) ≤ thr) ∨
  (x = .ok none ∧ ∀ g ∈ fs, thr < (absDt t g : Int))

theorem getNowFrame_spec {fs : List Frame} {t : Int} (thr : Int) (ht : t ≤ maxTime) (hne : fs ≠ []) :
    NowFrameSpec fs t thr (getNowFrame fs t thr) := by
  cases fs with
  | nil => exact absurd rfl hne
  | cons f0 rest =>
    obtain ⟨pre, post, hsp, _, hmin⟩ := argminLoop_spec t rest f0
    rw [getNowFrame_cons ht]
    split
    · exact .inr ⟨rfl, fun g hg => by have := hmin g hg; omega⟩
    · exact .inl ⟨_, rfl, hsp ▸ List.mem_append_right _ List.mem_cons_self, hmin, by omega⟩

/-- the scan cuts the list into the frames it has passed (`pre`, none later than the query) and the rest (`post`, whose
head is later); `before` / `after` and the recorded gaps are read off the cut, the accumulator `b`, `db` standing in when
`pre` is empty -/
theorem scan_split (t : Int) (fs : List Frame) (b : Option Frame) (db : Int) :
    ∃ pre post, fs = pre ++ post ∧ (∀ g ∈ pre, g.time ≤ t) ∧
      (∀ a, post.head? = some a → t < a.time) ∧
      (scan t fs b db).before = (pre.getLast?).or b ∧
      (scan t fs b db).dtBefore = ((pre.getLast?).map (fun f => t - f.time)).getD db ∧
      (scan t fs b db).after = post.head? ∧
      (scan t fs b db).dtAfter = ((post.head?).map (fun a => a.time - t)).getD 0 := by
  fun_induction scan t fs b db with
  | case1 b db => exact ⟨[], [], rfl, by simp, by simp, rfl, rfl, rfl, rfl⟩
  | case2 f fs b db hle ih =>
    obtain ⟨pre, post, hfs, hpre, hpost, hb, hdb, ha, hda⟩ := ih
    refine ⟨f :: pre, post, by rw [hfs]; rfl, List.forall_mem_cons.2 ⟨by omega, hpre⟩, hpost, ?_, ?_, ha, hda⟩
    · rw [hb, List.getLast?_cons]; cases pre.getLast? <;> rfl
    · rw [hdb, List.getLast?_cons]; cases pre.getLast? <;> rfl
  | case3 f fs b db hlt =>
    exact ⟨[], f :: fs, rfl, by simp, fun a ha => by cases ha; omega, rfl, rfl, rfl, by simp; omega⟩

theorem neighbours_bounds (fs : List Frame) (t : Int) :
    (∀ b, (neighbours fs t).before = some b → b ∈ fs ∧ b.time ≤ t ∧ (neighbours fs t).dtBefore = t - b.time) ∧
    (∀ a, (neighbours fs t).after = some a → a ∈ fs ∧ t < a.time ∧ (neighbours fs t).dtAfter = a.time - t) := by
  obtain ⟨pre, post, h1, h2, h3, h4, h5, h6, h7⟩ := scan_split t fs none 0
  rw [Option.or_none] at h4
  refine ⟨fun b hb => ?_, fun a ha => ?_⟩
  · have hb' := h4.symm.trans hb
    have hm := List.mem_of_getLast? hb'
    exact ⟨h1 ▸ List.mem_append_left _ hm, h2 b hm, by rw [neighbours, h5, hb']; rfl⟩
  · have ha' := h6.symm.trans ha
    have hm := List.mem_of_head? ha'
    exact ⟨h1 ▸ List.mem_append_right _ hm, h3 a ha', by rw [neighbours, h7, ha']; rfl⟩

theorem stepFirst_uuid (l2 : List Obj) (t1 t2 t : Int) (o1 : Obj) :
    (stepFirst l2 t1 t2 t o1).uuid = o1.uuid := by
  unfold stepFirst
  split <;> rfl

theorem stepFirst_found {l2 : List Obj} {t1 t2 t : Int} {o1 o2 : Obj}
    (h : l2.find? (fun o => o1.uuid == o.uuid) = some o2) :
    stepFirst l2 t1 t2 t o1 = interpObj o1 o2 t1 t2 t := by
  unfold stepFirst; rw [h]

theorem stepFirst_not_found {l2 : List Obj} {t1 t2 t : Int} {o1 : Obj}
    (h : ∀ o ∈ l2, o.uuid ≠ o1.uuid) : stepFirst l2 t1 t2 t o1 = o1 := by
  rw [stepFirst, List.find?_eq_none.2 fun o ho hb => h o ho (beq_iff_eq.1 hb).symm]

/-- the second loop keeps, in the order of `l`, the first object of every uuid that is not in `ids` -/
theorem secondPass_spec (l : List Obj) (ids : List Nat) :
    (secondPass ids l).Sublist l ∧ ((secondPass ids l).map (·.uuid)).Nodup ∧
      ∀ u, u ∈ (secondPass ids l).map (·.uuid) ↔ u ∈ l.map (·.uuid) ∧ u ∉ ids := by
  fun_induction secondPass ids l with
  | case1 ids => simp
  | case2 ids o rest hin ih =>
    obtain ⟨h1, h2, h3⟩ := ih
    refine ⟨h1.cons o, h2, fun u => ?_⟩
    rw [h3, List.map_cons, List.mem_cons]
    exact ⟨fun h => ⟨.inr h.1, h.2⟩, fun h => ⟨h.1.resolve_left fun hu => h.2 (hu ▸ hin), h.2⟩⟩
  | case3 ids o rest hnot ih =>
    obtain ⟨h1, h2, h3⟩ := ih
    refine ⟨h1.cons_cons o, List.nodup_cons.2 ⟨fun h => ((h3 _).1 h).2 (by simp), h2⟩, fun u => ?_⟩
    rw [List.map_cons, List.mem_cons, h3, List.map_cons, List.mem_cons, List.mem_append, List.mem_singleton]
    by_cases hu : u = o.uuid
    · simp [hu, hnot]
    · simp [hu]

theorem secondPass_eq_filter (l : List Obj) (ids : List Nat) (hnd : (l.map (·.uuid)).Nodup) :
    secondPass ids l = l.filter (fun o => decide (o.uuid ∉ ids)) := by
  fun_induction secondPass ids l with
  | case1 ids => rfl
  | case2 ids o2 rest hin ih =>
    rw [List.filter_cons_of_neg (by simpa using hin)]
    exact ih (List.nodup_cons.1 hnd).2
  | case3 ids o2 rest hnot ih =>
    rw [List.map_cons, List.nodup_cons] at hnd
    rw [List.filter_cons_of_pos (by simpa using hnot), ih hnd.2]
    -- no later object carries the uuid just recorded
    refine congrArg _ (List.filter_congr fun o ho => ?_)
    have hne : o.uuid ≠ o2.uuid := fun he => hnd.1 (he ▸ List.mem_map.2 ⟨o, ho, rfl⟩)
    simp [hne]

theorem globalOf_map_frame {e : Pose} {o : Obj} (h : o.frame = .map) : globalOf e o = o := by
  unfold globalOf; rw [h]

theorem globalOf_baseLink {e : Pose} {o : Obj} (h : o.frame = .baseLink) :
    globalOf e o = { o with frame := .map, pos := e.apply o.pos, tau := e.tau + o.tau } := by
  unfold globalOf; rw [h]

theorem globalOf_uuid (e : Pose) (o : Obj) : (globalOf e o).uuid = o.uuid := by
  unfold globalOf; cases o.frame <;> rfl

theorem map_uuid_globalOf (e : Pose) (l : List Obj) : (l.map (globalOf e)).map (·.uuid) = l.map (·.uuid) := by
  rw [List.map_map]
  exact List.map_congr_left fun o _ => globalOf_uuid e o

theorem globalOf_id (e : Pose) (o : Obj) : (globalOf e o).id = o.id := by
  unfold globalOf; cases o.frame <;> rfl

theorem globalOf_size (e : Pose) (o : Obj) : (globalOf e o).size = o.size := by
  unfold globalOf; cases o.frame <;> rfl

theorem globalOf_vel (e : Pose) (o : Obj) : (globalOf e o).vel = o.vel := by
  unfold globalOf; cases o.frame <;> rfl

theorem globalOf_frame_map {e : Pose} {o : Obj} (h : o.frame ≠ .other) : (globalOf e o).frame = .map := by
  unfold globalOf
  cases hf : o.frame with
  | baseLink => rfl
  | map => simp [hf]
  | other => exact absurd hf h

theorem toGlobal_eq (e : Pose) (o : Obj) :
    toGlobal e o = if o.frame ≠ .other then .ok (globalOf e o) else .error "NotImplementedError" := by
  unfold toGlobal; cases o.frame <;> rfl

theorem toGlobalList_eq (e : Pose) (l : List Obj) :
    toGlobalList e l =
      if ∀ o ∈ l, o.frame ≠ .other then .ok (l.map (globalOf e)) else .error "NotImplementedError" := by
  induction l with
  | nil => rfl
  | cons o os ih =>
    rw [toGlobalList, toGlobal_eq, ih]
    by_cases h : ∀ x ∈ o :: os, x.frame ≠ .other
    · rw [if_pos h, if_pos (h o List.mem_cons_self), if_pos fun x hx => h x (List.mem_cons_of_mem _ hx)]; rfl
    · rw [if_neg h]
      by_cases ho : o.frame ≠ .other
      · rw [if_pos ho, if_neg fun hos => h (List.forall_mem_cons.2 ⟨ho, hos⟩)]
      · rw [if_neg ho]

theorem toGlobalList_error {e : Pose} {l : List Obj} {k : Err} (h : toGlobalList e l = .error k) :
    (∃ o ∈ l, o.frame = .other) ∧ k = "NotImplementedError" := by
  rw [toGlobalList_eq] at h
  split at h
  · cases h
  · next hn => exact ⟨Classical.byContradiction fun hne => hn fun o ho hf => hne ⟨o, ho, hf⟩, (Except.error.inj h).symm⟩

theorem toGlobalList_ok {e : Pose} {l gs : List Obj} (h : toGlobalList e l = .ok gs) :
    (∀ o ∈ l, o.frame ≠ .other) ∧ gs = l.map (globalOf e) := by
  rw [toGlobalList_eq] at h
  split at h
  · exact ⟨‹_›, (Except.ok.inj h).symm⟩
  · cases h

/-- what the loader guarantees of a frame: the ego→map transform is registered and every object is in
`base_link` or in `map` (a hypothesis of the C17 theorems about the loader's output: it is not derived from the C16 model,
whose frames are another type) -/
def Frame.WellFormed (f : Frame) : Prop := f.ego.isSome = true ∧ ∀ o ∈ f.objs, o.frame ≠ .other

/-- the stronger guarantee of the loader: all objects of the frame carry ONE frame id (`base_link` for a
LiDAR/ego dataset, `map` for a map dataset) -/
def Frame.Loaded (f : Frame) : Prop :=
  f.ego.isSome = true ∧ ∃ fid : FrameId, fid ≠ .other ∧ ∀ o ∈ f.objs, o.frame = fid

/-- the frame `interpolate_ground_truth_frames` builds when nothing raises -/
def interpResult (b a : Frame) (eb ea : Pose) (t : Int) : InterpFrame :=
  { baseId := b.id, time := t,
    egoTrans := Vec3.lerp eb.trans ea.trans (alpha b.time a.time t),
    egoTau := eb.tau + alpha b.time a.time t * arc eb.tau ea.tau,
    objs := interpolateObjectList (b.objs.map (globalOf eb)) (a.objs.map (globalOf ea)) b.time a.time t }

theorem interpResult_getElem? (b a : Frame) (eb ea : Pose) (t : Int) {i : Nat} (hi : i < b.objs.length) :
    (interpResult b a eb ea t).objs[i]? =
      some (stepFirst (a.objs.map (globalOf ea)) b.time a.time t (globalOf eb b.objs[i])) := by
  show (List.map _ (b.objs.map (globalOf eb)) ++ _)[i]? = _
  rw [List.getElem?_append_left (by simpa using hi), List.getElem?_map, List.getElem?_map,
    List.getElem?_eq_getElem hi]
  rfl

theorem interpolateFrames_total' {b a : Frame} {eb ea : Pose} {t : Int} (hb : b.ego = some eb) (ha : a.ego = some ea)
    (h1 : b.time ≤ t) (h2 : t ≤ a.time) (h3 : a.time ≠ b.time) (hbo : ∀ o ∈ b.objs, o.frame ≠ .other)
    (hao : ∀ o ∈ a.objs, o.frame ≠ .other) :
    interpolateFrames b a t = .ok (interpResult b a eb ea t) := by
  unfold interpolateFrames
  rw [hb, ha]
  dsimp only
  rw [if_neg (by omega), if_neg h3, toGlobalList_eq, if_pos hbo, toGlobalList_eq, if_pos hao]
  rfl

/-- as the lookup calls it: the scan's neighbours have `b.time ≤ t < a.time` -/
theorem interpolateFrames_total {b a : Frame} {eb ea : Pose} {t : Int} (hb : b.ego = some eb) (ha : a.ego = some ea)
    (h1 : b.time ≤ t) (h2 : t < a.time) (hbo : ∀ o ∈ b.objs, o.frame ≠ .other)
    (hao : ∀ o ∈ a.objs, o.frame ≠ .other) :
    interpolateFrames b a t = .ok (interpResult b a eb ea t) :=
  interpolateFrames_total' hb ha h1 (by omega) (by omega) hbo hao

theorem interpolateFrames_ok {b a : Frame} {t : Int} {f : InterpFrame}
    (h : interpolateFrames b a t = .ok f) :
    ∃ eb ea, b.ego = some eb ∧ a.ego = some ea ∧ b.time ≤ t ∧ t ≤ a.time ∧ a.time ≠ b.time ∧
      (∀ o ∈ b.objs, o.frame ≠ .other) ∧ (∀ o ∈ a.objs, o.frame ≠ .other) ∧ f = interpResult b a eb ea t := by
  revert h
  fun_cases interpolateFrames b a t with
  | case7 eb ea ha hb hr he gb hgb ga hga =>
    rintro ⟨⟩
    obtain ⟨hbo, rfl⟩ := toGlobalList_ok hgb
    obtain ⟨hao, rfl⟩ := toGlobalList_ok hga
    exact ⟨eb, ea, hb, ha, (Decidable.not_not.1 hr).1, (Decidable.not_not.1 hr).2, he, hbo, hao, rfl⟩
  | _ => nofun

/-- the error exits of `interpolate_ground_truth_frames`, in the code's order, each with its exception -/
theorem interpolateFrames_error {b a : Frame} {t : Int} {k : Err} (h : interpolateFrames b a t = .error k) :
    (b.ego = none ∨ a.ego = none) ∧ k = "KeyError" ∨
    b.ego ≠ none ∧ a.ego ≠ none ∧
      (¬ (b.time ≤ t ∧ t ≤ a.time) ∧ k = "AssertionError" ∨ a.time = b.time ∧ k = "ZeroDivisionError" ∨
        (∃ o ∈ b.objs ++ a.objs, o.frame = .other) ∧ k = "NotImplementedError") := by
  revert h
  fun_cases interpolateFrames b a t with
  | case1 hb => rintro ⟨⟩; exact .inl ⟨.inl hb, rfl⟩
  | case2 _ ha => rintro ⟨⟩; exact .inl ⟨.inr ha, rfl⟩
  | case3 eb ea ha hb hr => rintro ⟨⟩; exact .inr ⟨by simp [hb], by simp [ha], .inl ⟨hr, rfl⟩⟩
  | case4 eb ea ha hb _ he => rintro ⟨⟩; exact .inr ⟨by simp [hb], by simp [ha], .inr (.inl ⟨he, rfl⟩)⟩
  | case5 eb ea ha hb _ _ k' hg =>
    rintro ⟨⟩
    obtain ⟨⟨o, ho, hf⟩, hk⟩ := toGlobalList_error hg
    exact .inr ⟨by simp [hb], by simp [ha], .inr (.inr ⟨⟨o, List.mem_append_left _ ho, hf⟩, hk⟩)⟩
  | case6 eb ea ha hb _ _ _ _ k' hg =>
    rintro ⟨⟩
    obtain ⟨⟨o, ho, hf⟩, hk⟩ := toGlobalList_error hg
    exact .inr ⟨by simp [hb], by simp [ha], .inr (.inr ⟨⟨o, List.mem_append_right _ ho, hf⟩, hk⟩)⟩
  | case7 => nofun

theorem gate_pos {thr dt : Int} (h : dt ≤ thr) (f : Option Frame) : gate thr dt f = f := if_neg (by omega)

theorem gate_neg {thr dt : Int} (h : thr < dt) (f : Option Frame) : gate thr dt f = none := if_pos h

theorem gate_none_right (thr dt : Int) : gate thr dt none = none := by
  unfold gate; split <;> rfl

theorem gate_some {thr dt : Int} {f : Option Frame} {g : Frame} (h : gate thr dt f = some g) :
    f = some g ∧ dt ≤ thr := by
  unfold gate at h
  split at h
  · cases h
  · exact ⟨h, by omega⟩

theorem gate_none {thr dt : Int} {f : Option Frame} (h : gate thr dt f = none) :
    f = none ∨ thr < dt := by
  unfold gate at h
  split at h
  · right; omega
  · left; exact h

theorem gate_before {fs : List Frame} {t : Int} {b : Frame} (thr : Int) (hb : (neighbours fs t).before = some b) :
    gate thr (neighbours fs t).dtBefore (neighbours fs t).before = gate thr (t - b.time) (some b) := by
  rw [((neighbours_bounds fs t).1 b hb).2.2, hb]

theorem gate_after {fs : List Frame} {t : Int} {a : Frame} (thr : Int) (ha : (neighbours fs t).after = some a) :
    gate thr (neighbours fs t).dtAfter (neighbours fs t).after = gate thr (a.time - t) (some a) := by
  rw [((neighbours_bounds fs t).2 a ha).2.2, ha]

/-- a neighbour that is missing, or farther from the query than the tolerance, is dropped -/
theorem gate_before_none {fs : List Frame} {t thr : Int}
    (h : (neighbours fs t).before = none ∨ ∃ b, (neighbours fs t).before = some b ∧ thr < t - b.time) :
    gate thr (neighbours fs t).dtBefore (neighbours fs t).before = none := by
  rcases h with h | ⟨b, hb, hlt⟩
  · rw [h, gate_none_right]
  · rw [gate_before thr hb, gate_neg hlt]

theorem gate_after_none {fs : List Frame} {t thr : Int}
    (h : (neighbours fs t).after = none ∨ ∃ a, (neighbours fs t).after = some a ∧ thr < a.time - t) :
    gate thr (neighbours fs t).dtAfter (neighbours fs t).after = none := by
  rcases h with h | ⟨a, ha, hlt⟩
  · rw [h, gate_none_right]
  · rw [gate_after thr ha, gate_neg hlt]

/-- the interpolating branch, inverted: an answer that is an error or an interpolated frame comes from both neighbours
of the scan, which bracket the query within the tolerance, and is what `interpolate_ground_truth_frames` answers on them
(`r`); read at `r := .ok f` (the answer is `.ok (.interp f)`) and at `r := .error k` -/
theorem getInterpolated_both {fs : List Frame} {t thr : Int} {r : Except Err InterpFrame}
    (h : getInterpolated fs t thr = match r with
      | .error k => .error k
      | .ok f => .ok (.interp f)) :
    ∃ b a, (neighbours fs t).before = some b ∧ (neighbours fs t).after = some a ∧
      b.time ≤ t ∧ t < a.time ∧ t - b.time ≤ thr ∧ a.time - t ≤ thr ∧ interpolateFrames b a t = r := by
  unfold getInterpolated at h
  dsimp only at h
  split at h
  · cases r <;> cases h
  · cases r <;> cases h
  · cases r <;> cases h
  · next b a hgb hga =>
    obtain ⟨hb, hdb⟩ := gate_some hgb
    obtain ⟨ha, hda⟩ := gate_some hga
    obtain ⟨_, h1, e1⟩ := (neighbours_bounds fs t).1 b hb
    obtain ⟨_, h2, e2⟩ := (neighbours_bounds fs t).2 a ha
    refine ⟨b, a, hb, ha, h1, h2, by omega, by omega, ?_⟩
    -- the two sides of `h` are the same constructor-wise image, of `interpolateFrames b a t` and of `r`
    generalize interpolateFrames b a t = x at h ⊢
    cases x <;> cases r <;> cases h <;> rfl

end PEval.Lookup
