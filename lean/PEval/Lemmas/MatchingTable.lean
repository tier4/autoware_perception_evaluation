import PEval.Lemmas.Matching
/-!
Facts about the score-table construction (`cell`, `cellAt`, `mkTbl`): an entry carries a
score exactly when the two objects are in the same frame and the pair is better than the threshold
looked up by the ground truth's label (or there is no such threshold).
-/
namespace PEval.Matching

/-- the pair passes the matchable-threshold gate of `_get_score_table` -/
def withinThreshold (c : Cfg) (g : Obj) (v : Rat) : Prop :=
  ∃ thr, labelThreshold c.targets c.thresholds g.label = .ok thr ∧
    ∀ r, thr = some r → isBetterThan c.mode v r = .ok true

theorem isBetterThan_ok_true {m : Mode} {v r : Rat} (h : isBetterThan m v r = .ok true) :
    better m.maximize v r = true := by
  revert h
  fun_cases isBetterThan m v r with
  | case1 hm _ => rw [hm]; exact Except.ok.inj
  | case2 => nofun
  | case3 hm => rw [Bool.eq_false_iff.2 hm]; exact Except.ok.inj

/-! ## `cell`, branch by branch -/

theorem cell_of_frame_ne {c : Cfg} {e g : Obj} {v : Rat} (hf : (e.frame == g.frame) = false) :
    cell c e g v = .ok Cell.nan := by
  rw [cell, hf]; rfl

theorem cell_of_lookup_error {c : Cfg} {e g : Obj} {v : Rat} {err : Err} (hf : (e.frame == g.frame) = true)
    (hr : labelThreshold c.targets c.thresholds g.label = .error err) : cell c e g v = .error err := by
  rw [cell, hf, hr]; rfl

theorem cell_of_no_threshold {c : Cfg} {e g : Obj} {v : Rat} (hf : (e.frame == g.frame) = true)
    (hr : labelThreshold c.targets c.thresholds g.label = .ok none) :
    cell c e g v = .ok ⟨some v, isMatchable c.policy e g⟩ := by
  rw [cell, hf, hr]; rfl

theorem cell_of_threshold {c : Cfg} {e g : Obj} {v t : Rat} (hf : (e.frame == g.frame) = true)
    (hr : labelThreshold c.targets c.thresholds g.label = .ok (some t)) :
    cell c e g v =
      (isBetterThan c.mode v t).map fun ok => if ok then ⟨some v, isMatchable c.policy e g⟩ else Cell.nan := by
  rw [cell, hf, hr]
  dsimp only [bind, Except.bind]
  cases isBetterThan c.mode v t with
  | error _ => rfl
  | ok b => cases b <;> rfl

theorem cell_score_some {c : Cfg} {e g : Obj} {v : Rat} {x : Cell} {s : Rat}
    (h : cell c e g v = .ok x) (hs : x.score = some s) :
    s = v ∧ e.frame = g.frame ∧ withinThreshold c g v ∧ x.valid = isMatchable c.policy e g := by
  cases hf : e.frame == g.frame with
  | false => rw [cell_of_frame_ne hf] at h; cases h; cases hs
  | true =>
    cases hthr : labelThreshold c.targets c.thresholds g.label with
    | error err => rw [cell_of_lookup_error hf hthr] at h; cases h
    | ok thr =>
      cases thr with
      | none =>
        rw [cell_of_no_threshold hf hthr] at h; cases h; cases hs
        exact ⟨rfl, eq_of_beq hf, ⟨none, hthr, nofun⟩, rfl⟩
      | some r =>
        rw [cell_of_threshold hf hthr] at h
        cases hbt : isBetterThan c.mode v r with
        | error err => rw [hbt] at h; cases h
        | ok b =>
          rw [hbt] at h
          cases b <;> cases h <;> cases hs
          exact ⟨rfl, eq_of_beq hf, ⟨some r, hthr, fun r' hr' => by cases hr'; exact hbt⟩, rfl⟩

theorem cell_of_within {c : Cfg} {e g : Obj} {v : Rat} (hf : e.frame = g.frame) (hw : withinThreshold c g v) :
    cell c e g v = .ok ⟨some v, isMatchable c.policy e g⟩ := by
  obtain ⟨thr, hthr, hr⟩ := hw
  have hf' : (e.frame == g.frame) = true := beq_iff_eq.2 hf
  cases thr with
  | none => exact cell_of_no_threshold hf' hthr
  | some r => rw [cell_of_threshold hf' hthr, hr r rfl]; rfl

/-! ## the table -/

theorem cellAt_eq_cell {c : Cfg} {sc : Scene} {i j : Nat} {e g : Obj} (he : sc.ests[i]? = some e)
    (hg : sc.gts[j]? = some g) : cellAt c sc i j = cell c e g (sc.val i j) := by
  rw [cellAt, he, hg]

theorem cellAt_of_none {c : Cfg} {sc : Scene} {i j : Nat} (h : sc.ests[i]? = none ∨ sc.gts[j]? = none) :
    cellAt c sc i j = .ok Cell.nan := by
  rw [cellAt]
  rcases h with h | h <;> rw [h]
  cases sc.ests[i]? <;> rfl

theorem mkTbl_of_cellAt {c : Cfg} {sc : Scene} {i j : Nat} {x : Cell} (h : cellAt c sc i j = .ok x) :
    (mkTbl c sc).score i j = x.score ∧ (mkTbl c sc).valid i j = x.valid := by
  simp only [mkTbl, h, and_self]

theorem mkTbl_score_some {c : Cfg} {sc : Scene} {i j : Nat} {s : Rat}
    (h : (mkTbl c sc).score i j = some s) :
    ∃ e g, sc.ests[i]? = some e ∧ sc.gts[j]? = some g ∧ s = sc.val i j ∧ e.frame = g.frame ∧
      withinThreshold c g (sc.val i j) ∧ (mkTbl c sc).valid i j = isMatchable c.policy e g := by
  cases hc : cellAt c sc i j with
  | error err => simp only [mkTbl, hc] at h; cases h
  | ok x =>
    obtain ⟨hs, hv⟩ := mkTbl_of_cellAt hc
    rw [hs] at h
    rw [hv]
    unfold cellAt at hc
    split at hc
    · exact ⟨_, _, ‹_›, ‹_›, cell_score_some hc h⟩
    · cases hc
      cases h

/-- a scored cell lies in the index lists a call is run on -/
theorem mkTbl_score_some_mem_range {c : Cfg} {sc : Scene} {i j : Nat} {s : Rat}
    (h : (mkTbl c sc).score i j = some s) : i ∈ List.range sc.ests.length ∧ j ∈ List.range sc.gts.length := by
  obtain ⟨e, g, he, hg, _⟩ := mkTbl_score_some h
  exact ⟨List.mem_range.2 (List.getElem?_eq_some_iff.1 he).1, List.mem_range.2 (List.getElem?_eq_some_iff.1 hg).1⟩

theorem mkTbl_score_of_within {c : Cfg} {sc : Scene} {i j : Nat} {e g : Obj}
    (he : sc.ests[i]? = some e) (hg : sc.gts[j]? = some g) (hf : e.frame = g.frame)
    (hw : withinThreshold c g (sc.val i j)) :
    (mkTbl c sc).score i j = some (sc.val i j) ∧ (mkTbl c sc).valid i j = isMatchable c.policy e g :=
  mkTbl_of_cellAt ((cellAt_eq_cell he hg).trans (cell_of_within hf hw))

theorem mkTbl_score_diff_frame {c : Cfg} {sc : Scene} {i j : Nat} {e g : Obj}
    (he : sc.ests[i]? = some e) (hg : sc.gts[j]? = some g) (hf : e.frame ≠ g.frame) :
    (mkTbl c sc).score i j = none :=
  (mkTbl_of_cellAt ((cellAt_eq_cell he hg).trans (cell_of_frame_ne (beq_false_of_ne hf)))).1

end PEval.Matching
