/-!
Tables keyed by strings (core Lean only): the letter case of a key; the first row, and all rows, with a given key when
keys are pairwise distinct; and three facts about `filterMap` that core does not state (Mathlib has two of them as
`List.filterMap_eq_flatMap_toList` and `List.Nodup.filterMap`).

The kernel runs `String.toLower` / `toUpper` on a literal very slowly (a well-founded loop over byte positions), while
comparing literals only needs their UTF-8 encoding.  So facts about the case of table entries are reduced here to
general statements plus, for "this entry is already lower case", a test on the encoded bytes.
-/

namespace Char

theorem toNat_toLower (c : Char) :
    c.toLower.toNat = if 65 ≤ c.toNat ∧ c.toNat ≤ 90 then c.toNat + 32 else c.toNat := by
  unfold Char.toLower Char.toNat
  -- the guard compares `UInt32`s, which by definition compares their `toNat`
  change (if _ : 65 ≤ c.val.toNat ∧ c.val.toNat ≤ 90 then _ else c).val.toNat = _
  split
  · rw [UInt32.toNat_add, show ('a'.val - 'A'.val).toNat = 32 from rfl]
    omega
  · rfl

theorem toNat_toUpper (c : Char) :
    c.toUpper.toNat = if 97 ≤ c.toNat ∧ c.toNat ≤ 122 then c.toNat - 32 else c.toNat := by
  unfold Char.toUpper Char.toNat
  change (if _ : 97 ≤ c.val.toNat ∧ c.val.toNat ≤ 122 then _ else c).val.toNat = _
  split
  · rw [UInt32.toNat_add, show ('A'.val - 'a'.val).toNat = 4294967264 from rfl]
    omega
  · rfl

theorem toLower_toUpper (c : Char) : c.toUpper.toLower = c.toLower := by
  rw [← Char.toNat_inj, toNat_toLower, toNat_toLower, toNat_toUpper]
  by_cases h : 97 ≤ c.toNat ∧ c.toNat ≤ 122
  · rw [if_pos h, if_pos (by omega), if_neg (by omega)]; omega
  · rw [if_neg h]

theorem toUpper_toLower (c : Char) : c.toLower.toUpper = c.toUpper := by
  rw [← Char.toNat_inj, toNat_toUpper, toNat_toUpper, toNat_toLower]
  by_cases h : 65 ≤ c.toNat ∧ c.toNat ≤ 90
  · rw [if_pos h, if_pos (by omega), if_neg (by omega)]; omega
  · rw [if_neg h]

end Char

namespace String

theorem toLower_toUpper (s : String) : s.toUpper.toLower = s.toLower := by
  simp [← String.toList_inj, toLower, toUpper, toList_map, Char.toLower_toUpper]

theorem toUpper_toLower (s : String) : s.toLower.toUpper = s.toUpper := by
  simp [← String.toList_inj, toLower, toUpper, toList_map, Char.toUpper_toLower]

def noCapitalByte (s : String) : Bool :=
  s.toByteArray.data.toList.all fun b => b.toNat < 65 || 90 < b.toNat

theorem toLower_eq_self {s : String} (h : s.noCapitalByte = true) : s.toLower = s := by
  rw [← String.toList_inj, toLower, toList_map]
  refine (List.map_congr_left fun c hc => ?_).trans (List.map_id _)
  rw [id, ← Char.toNat_inj, Char.toNat_toLower]
  refine if_neg fun hu => ?_
  -- a capital letter is encoded as the single byte `c.toNat`
  have hb : UInt8.ofNat c.toNat ∈ s.toByteArray.data.toList := by
    rw [← utf8Encode_toList, List.utf8Encode, List.data_toByteArray]
    refine List.mem_flatMap.2 ⟨c, hc, ?_⟩
    have : c.toNat ≤ 127 := by omega
    simp [utf8EncodeChar, this]
  have := List.all_eq_true.1 h _ hb
  simp [UInt8.toNat_ofNat'] at this
  omega

end String

namespace List
variable {α β : Type} [BEq β] [LawfulBEq β] (key : α → β)

theorem find?_key_eq_none {t : List α} {k : β} (h : k ∉ t.map key) : t.find? (fun p => key p == k) = none :=
  List.find?_eq_none.2 fun p hp hpk => h (List.mem_map.2 ⟨p, hp, eq_of_beq hpk⟩)

/-- with pairwise distinct keys at most one row has a given key: the rows with it are the first row with it -/
theorem filter_key_eq_toList {t : List α} (hnd : (t.map key).Nodup) (k : β) :
    t.filter (fun p => key p == k) = (t.find? (fun p => key p == k)).toList := by
  induction t with
  | nil => rfl
  | cons a t ih =>
    rw [List.map_cons, List.nodup_cons] at hnd
    rw [List.filter_cons, List.find?_cons]
    by_cases h : key a = k
    · rw [h, beq_self_eq_true, if_pos rfl,
        List.filter_eq_nil_iff.2 fun p hp hpk => hnd.1 (h ▸ List.mem_map.2 ⟨p, hp, eq_of_beq hpk⟩)]
      rfl
    · rw [beq_false_of_ne h]; exact ih hnd.2

theorem find?_key_of_mem {t : List α} (hnd : (t.map key).Nodup) {p : α} (hp : p ∈ t) :
    t.find? (fun q => key q == key p) = some p := by
  have : p ∈ t.filter (fun q => key q == key p) := List.mem_filter.2 ⟨hp, beq_self_eq_true _⟩
  rwa [filter_key_eq_toList key hnd, Option.mem_toList] at this

theorem flatMap_toList {α β : Type} (f : α → Option β) (l : List α) :
    l.flatMap (fun a => (f a).toList) = l.filterMap f := by
  induction l with
  | nil => rfl
  | cons a l ih => rw [List.flatMap_cons, List.filterMap_cons, ih]; cases f a <;> rfl

theorem filterMap_eq_map_of_forall {α β : Type} {f : α → Option β} {g : α → β} {l : List α}
    (h : ∀ a ∈ l, f a = some (g a)) : l.filterMap f = l.map g := by
  induction l with
  | nil => rfl
  | cons a l ih =>
    rw [List.filterMap_cons, h a List.mem_cons_self, List.map_cons, ih fun b hb => h b (List.mem_cons_of_mem _ hb)]

theorem nodup_filterMap_of_inj {α β : Type} {f : α → Option β}
    (H : ∀ a a' b, f a = some b → f a' = some b → a = a') {l : List α} (h : l.Nodup) : (l.filterMap f).Nodup :=
  List.pairwise_filterMap.2 (h.imp fun hne b hb b' hb' (e : b = b') => hne (H _ _ b hb (e ▸ hb')))

end List
