import PEval.Model.HeadingQuat
import Mathlib.Analysis.SpecialFunctions.Complex.Arg
/-!
The real-number facts that the fields of `PEval.Heading.YawBridge` stand for, over `ℝ`, where the angle function exists on the
whole circle.  They are not packaged as an instance: `YawBridge` is typed over `ℚ`.

`at2R y x = Complex.arg (x + y i) / π` is `np.arctan2(y, x) / π` (the mathematical function; numpy's floats are trusted).
For the pure-yaw quaternion `±(cos(τπ/2), 0, 0, sin(τπ/2))` built from a yaw of `τ` half-turns, `τ ∈ (−1, 1]`:
* the two arguments of `arctan2` in `yaw_pitch_roll[0]` are `(cos τπ, sin τπ)` for BOTH signs (`yawDirR_of_yaw`);
* `arctan2` of them is `τπ` (`yaw_recovered`): the input `τ` of the τ-model IS the yaw the code computes from either
  representative — field `dom` of the bridge and the identification "τ ↔ quaternion";
* the dot product of two such directions is `cos((α − β)π)` and the cross product `sin((β − α)π)` (`Real.cos_sub`, `Real.sin_sub`):
  with `arccos ∘ cos = id` on `[0, π]` and `sin > 0` exactly on `(0, π)` (mod 2π) these give what the fields `dist` and `sin_sign`
  stand for (`dist_real`, `sin_sign_real`); `ac_anti` is Mathlib's `Real.strictAntiOn_arccos`.
-/
namespace PEval.HeadingReal
open Real

/-- `np.arctan2(y, x) / π` -/
noncomputable def at2R (y x : ℝ) : ℝ := Complex.arg ⟨x, y⟩ / π

/-- the two arguments of `arctan2` in `yaw_pitch_roll[0]` for the quaternion `(w, 0, 0, z)`: `PEval.Heading.yawDir` over `ℝ` -/
def yawDirR (w z : ℝ) : ℝ × ℝ := (1 - 2 * (0 * 0 + z * z), 2 * (w * z - 0 * 0))

theorem yawDirR_neg (w z : ℝ) : yawDirR (-w) (-z) = yawDirR w z := by
  simp [yawDirR]

/-- double-angle formulas: the heading direction of the quaternion of yaw `τπ` is `(cos τπ, sin τπ)` -/
theorem yawDirR_of_yaw (τ : ℝ) : yawDirR (cos (τ * π / 2)) (sin (τ * π / 2)) = (cos (τ * π), sin (τ * π)) := by
  have h2 : τ * π = 2 * (τ * π / 2) := by ring
  simp only [yawDirR, Prod.mk.injEq]
  constructor
  · rw [h2, cos_two_mul, cos_sq']; ring_nf
  · rw [h2, sin_two_mul]; ring_nf

theorem at2R_cos_sin {θ : ℝ} (h1 : -π < θ) (h2 : θ ≤ π) : at2R (sin θ) (cos θ) = θ / π := by
  unfold at2R
  have : (⟨cos θ, sin θ⟩ : ℂ) = Complex.cos θ + Complex.sin θ * Complex.I := by
    apply Complex.ext <;> simp [← Complex.ofReal_cos, ← Complex.ofReal_sin]
  rw [this, Complex.arg_cos_add_sin_mul_I ⟨h1, h2⟩]

/-- the yaw the code computes from `q` and from `−q` is the yaw the quaternion was built from -/
theorem yaw_recovered (τ : ℝ) (h1 : -1 < τ) (h2 : τ ≤ 1) (neg : Bool) :
    let w := (if neg then -1 else 1) * cos (τ * π / 2)
    let z := (if neg then -1 else 1) * sin (τ * π / 2)
    at2R (yawDirR w z).2 (yawDirR w z).1 = τ := by
  intro w z
  have hd : yawDirR w z = (cos (τ * π), sin (τ * π)) := by
    cases neg
    · simp only [w, z, Bool.false_eq_true, if_false, one_mul]; exact yawDirR_of_yaw τ
    · simp only [w, z, if_true, neg_one_mul]; rw [yawDirR_neg]; exact yawDirR_of_yaw τ
  rw [hd]
  simp only
  rw [at2R_cos_sin (neg_one_mul π ▸ mul_lt_mul_of_pos_right h1 pi_pos) (mul_le_of_le_one_left pi_pos.le h2)]
  field_simp

/-- `k` whole turns, from half-turns to radians -/
theorem turns_mul_pi (x : ℝ) (k : ℤ) : (x + 2 * k) * π = x * π + k * (2 * π) := by ring

/-- field `dist` over `ℝ`: a minimal difference `d ∈ [0, 1]` congruent to `±(α − β)` mod 2 is `arccos` of the dot product
(divided by π) -/
theorem dist_real {α β d : ℝ} (h0 : 0 ≤ d) (h1 : d ≤ 1) (hd : ∃ k : ℤ, d = α - β + 2 * k ∨ d = -(α - β) + 2 * k) :
    d = arccos (cos ((α - β) * π)) / π := by
  have : cos (d * π) = cos ((α - β) * π) := by
    obtain ⟨k, hk | hk⟩ := hd
    · rw [hk, turns_mul_pi, cos_add_int_mul_two_pi]
    · rw [hk, turns_mul_pi, cos_add_int_mul_two_pi, neg_mul, cos_neg]
  rw [← this, arccos_cos (by positivity) (mul_le_of_le_one_left pi_pos.le h1)]
  field_simp

/-- field `sin_sign` over `ℝ`: for a wrapped difference `e ∈ [−1, 1]` congruent to `β − α` mod 2, `0 < e < 1` exactly when the cross
product is positive -/
theorem sin_sign_real {α β e : ℝ} (h0 : -1 ≤ e) (h1 : e ≤ 1) (he : ∃ k : ℤ, e = β - α + 2 * k) :
    (0 < e ∧ e < 1) ↔ 0 < sin ((β - α) * π) := by
  obtain ⟨k, hk⟩ := he
  have hs : sin ((β - α) * π) = sin (e * π) := by
    rw [hk, turns_mul_pi, sin_add_int_mul_two_pi]
  rw [hs]
  constructor
  · rintro ⟨a, b⟩
    exact sin_pos_of_pos_of_lt_pi (by positivity) (mul_lt_of_lt_one_left pi_pos b)
  · intro h
    refine ⟨lt_of_not_ge fun hc => ?_, lt_of_le_of_ne h1 fun hc => ?_⟩
    · exact absurd h (not_lt.2 (sin_nonpos_of_nonpos_of_neg_pi_le (mul_nonpos_of_nonpos_of_nonneg hc pi_pos.le)
        (neg_one_mul π ▸ mul_le_mul_of_nonneg_right h0 pi_pos.le)))
    · rw [hc, one_mul, sin_pi] at h
      exact lt_irrefl _ h

end PEval.HeadingReal
