import PEval.Lemmas.DatasetTotal
/-!
# Velocities with Python's outcome for a zero time difference

`velocityPy` (Model/Dataset.lean) refines `velocityOf`: the two differ only in how the outcome of a division by a zero
time difference is REPRESENTED (`Vel.div0 d` vs Lean's `d / 0 = 0`).  Under `TimeOrdered` (the schema's meaning of
`prev` / `next`) the `div0` outcome cannot occur (`C16.velocity_no_div0`, from `neighbour_time`).

After that: the normalising variants `rotateN` / `moveInvN` / `applyPoseN` (what pyquaternion computes on a non-unit
quaternion) coincide with the plain ones on unit quaternions and round-trip for every non-zero quaternion.
-/
namespace PEval.Dataset
open PEval

theorem velocityOf_eq_leanView (T : Tables) (fr : Bool) (a : Annotation) :
    velocityOf T fr a =
      (match velocityPy T fr a with
       | .ok v => .ok v.leanView
       | .error e => .error e) := by
  -- `velocityPy` makes the same reads in the same order: along each arm of `velocityOf` it takes the same exit
  fun_cases velocityOf T fr a with
  | case6 h first h1 last h2 tl h3 tf h4 =>
    simp only [velocityPy, h, h1, h2, h3, h4, Bool.false_eq_true, if_false]
    by_cases hb : tl - tf ≤ maxTimeDiff a
    · simp only [hb, if_true]
      by_cases hz : tl - tf = 0 <;> simp only [hz, if_true, if_false, Vel.leanView] <;> rfl
    · simp only [hb, if_false, Vel.leanView]
  | _ => simp only [velocityPy, *, Bool.false_eq_true, if_true, if_false, Vel.leanView]

theorem maxTimeDiff_eq (a : Annotation) :
    maxTimeDiff a = if a.prev ≠ "" ∧ a.next ≠ "" then 3 else 3 / 2 := by
  unfold maxTimeDiff
  by_cases hp : a.prev = "" <;> by_cases hn : a.next = "" <;> simp [hp, hn]

theorem leanView_of_not_div0 {v : Vel} (h : v.isDiv0 = false) : v.leanView = v.toOption ∧ v = Vel.ofOption v.toOption := by
  cases v with
  | none => exact ⟨rfl, rfl⟩
  | finite w => exact ⟨rfl, rfl⟩
  | div0 d => cases h

theorem timeOrderedB_sound {T : Tables} (h : timeOrderedB T = true) : TimeOrdered T := by
  simp only [timeOrderedB, List.all_eq_true, Bool.and_eq_true, Bool.or_eq_true, beq_iff_eq] at h
  constructor
  · intro a ha hp b hb ta tb hta htb
    simpa only [hb, hta, htb, decide_eq_true_eq] using (h a ha).1.resolve_left hp
  · intro a ha hn b hb ta tb hta htb
    simpa only [hb, hta, htb, decide_eq_true_eq] using (h a ha).2.resolve_left hn

theorem rotateN_of_unit (q : Quat) (hq : q.normSq = 1) (v : Vec3) : rotateN q v = rotate q v := by
  simp [rotateN, hq, Vec3.divBy]

theorem moveInvN_of_unit (t : Vec3) (q : Quat) (hq : q.normSq = 1) (p : Pose) : moveInvN t q p = moveInv t q p := by
  simp [moveInvN, moveInv, rotateN, normSq_conj, hq, Vec3.divBy]

theorem applyPoseN_of_unit (t p : Pose) (hq : t.rot.normSq = 1) : applyPoseN t p = applyPose t p := by
  simp [applyPoseN, applyPose, rotateN, hq, Vec3.divBy]

theorem rotate_divBy (q : Quat) (v : Vec3) (k : Rat) : rotate q (v.divBy k) = (rotate q v).divBy k := by
  simp only [rotate, Vec3.divBy, Vec3.mk.injEq]
  refine ⟨?_, ?_, ?_⟩ <;> ring

theorem applyPoseN_moveInvN (t : Vec3) (q : Quat) (hq : q.normSq ≠ 0) (p : Pose) :
    (applyPoseN ⟨t, q⟩ (moveInvN t q p)).pos = p.pos ∧
    (applyPoseN ⟨t, q⟩ (moveInvN t q p)).rot =
      ⟨q.normSq * p.rot.w, q.normSq * p.rot.x, q.normSq * p.rot.y, q.normSq * p.rot.z⟩ := by
  have key : ∀ x : Rat, q.normSq * q.normSq * x / q.normSq / q.normSq = x := fun x => by
    rw [mul_assoc, mul_div_cancel_left₀ _ hq, mul_div_cancel_left₀ _ hq]
  refine ⟨?_, mul_conj_mul q p.rot⟩
  simp only [applyPoseN, moveInvN, rotateN]
  rw [rotate_divBy, rotate_conj_rotate, normSq_conj]
  simp only [Vec3.add, Vec3.sub, Vec3.divBy, key, sub_add_cancel]

end PEval.Dataset
