import PEval.Lemmas.APMono
import PEval.Model.APExt
/-!
The extended AP model (`PEval/Model/APExt.lean`): `float("inf")` as a threshold.

`EThr.real B` reads `inf` as the number `B`. If `1 < B` and every matching score of the results at hand
is below `B`, each `…E` function on a threshold list `th` IS the function of `PEval/Model/AP.lean` on
`th.map (EThr.real B)` (`…_real`). Consequences: on finite thresholds the extended model is the model
(`map_real_fin`; `C08.ext_agrees_on_numbers`), and every statement about rational thresholds carries over to `EThr`.
-/

namespace PEval.AP

variable {tm : TpMetric} {m : Mode} {T : List Label} {B : Rat} {r : Res} {rs : List Res}

/-- every matching score the result carries is below `B` -/
def ScoreLt (B : Rat) (r : Res) : Prop := ∀ x, r.score = .val (some x) → x < B

theorem isBetterThanE_real {v : Option Rat} (e : EThr) (hB : 1 < B) (hv : ∀ x, v = some x → x < B) :
    isBetterThanE m v e = isBetterThan m v (e.real B) := by
  cases e with
  | fin t => rfl
  | posInf =>
    unfold isBetterThanE isBetterThan thrValidE thrValid isBetterE isBetter EThr.real
    cases hm : m.isDistance
    · have : ¬ B ≤ 1 := not_le.mpr hB
      simp [this]
    · cases v with
      | none => simp
      | some x => simp [hv x rfl]

theorem isResultCorrectE_real (o : Option EThr) (hB : 1 < B) (hr : ScoreLt B r) :
    isResultCorrectE m o r = isResultCorrect m (o.map (EThr.real B)) r := by
  unfold isResultCorrectE isResultCorrect
  cases hg : r.gt with
  | none => rfl
  | some g =>
    cases o with
    | none => rfl
    | some t =>
      cases hs : r.score with
      | noMethod => rfl
      | val v =>
        simp only [Option.map_some]
        rw [isBetterThanE_real t hB (fun x hx => hr x (by rw [hs, hx]))]
        cases isBetterThan m v (EThr.real B t) <;> rfl

theorem getLabelThresholdE_real (l : Label) (T : List Label) (B : Rat) (o : Option (List EThr)) :
    getLabelThreshold l T (o.map (List.map (EThr.real B)))
      = (getLabelThresholdE l T o).map (Option.map (EThr.real B)) := by
  unfold getLabelThreshold getLabelThresholdE
  cases o with
  | none => rfl
  | some ts =>
    simp only [Option.map_some]
    cases T.findIdx? (· == l) with
    | none => rfl
    | some i =>
      simp only [List.getElem?_map]
      cases ts[i]? <;> rfl

theorem classifyE_real (th : List EThr) (hB : 1 < B) (hr : ScoreLt B r) :
    classifyE tm m T th r = classify tm m T (th.map (EThr.real B)) r := by
  unfold classifyE classify
  have h := getLabelThresholdE_real (keyLabel r) T B (some th)
  simp only [Option.map_some] at h
  rw [h]
  cases getLabelThresholdE (keyLabel r) T (some th) with
  | error e => rfl
  | ok o =>
    cases o with
    | none => rfl
    | some t =>
      simp only [Except.map, Option.map_some]
      rw [isResultCorrectE_real (some t) hB hr]
      rfl

theorem classifyAllE_eq_mapM (tm : TpMetric) (m : Mode) (T : List Label) (th : List EThr) :
    ∀ rs, classifyAllE tm m T th rs = rs.mapM (classifyE tm m T th)
  | [] => rfl
  | r :: rs => by
    rw [classifyAllE, mapM_cons_eq, classifyAllE_eq_mapM tm m T th rs]
    cases classifyE tm m T th r with
    | error e => rfl
    | ok k => cases List.mapM (classifyE tm m T th) rs <;> rfl

theorem classifyAllE_real (th : List EThr) (hB : 1 < B) (h : ∀ r ∈ rs, ScoreLt B r) :
    classifyAllE tm m T th rs = classifyAll tm m T (th.map (EThr.real B)) rs := by
  rw [classifyAllE_eq_mapM, classifyAll_eq_mapM]
  exact mapM_congr fun r hr => classifyE_real th hB (h r hr)

theorem apOfE_real (th : List EThr) (G : Nat) (hB : 1 < B) (h : ∀ r ∈ rs, ScoreLt B r) :
    apOfE tm m T th G rs = apOf tm m T (th.map (EThr.real B)) G rs := by
  unfold apOfE apOf
  rw [classifyAllE_real th hB (fun r hr => h r (mem_sortDesc.1 hr))]
  cases classifyAll tm m T (th.map (EThr.real B)) (sortDesc Res.conf rs) <;> rfl

theorem apOfNestedE_real (th : List EThr) (G : Nat) {rss : List (List Res)} (hB : 1 < B)
    (h : ∀ r ∈ rss.flatten, ScoreLt B r) :
    apOfNestedE tm m T th G rss = apOfNested tm m T (th.map (EThr.real B)) G rss :=
  apOfE_real th G hB h

/-- every result of every bucket has its scores below `B` -/
def BucketsLt (B : Rat) (buckets : List (Label × List (List Res))) : Prop :=
  ∀ l rss, lookupKey l buckets = .ok rss → ∀ r ∈ rss.flatten, ScoreLt B r

theorem mapLoopE_real {is2d : Bool} {buckets : List (Label × List (List Res))} {nums : List (Label × Nat)}
    (hB : 1 < B) (hb : BucketsLt B buckets) :
    ∀ (tz : List (Label × EThr)),
      mapLoopE m is2d buckets nums tz
        = mapLoop m is2d buckets nums (tz.map (fun p => (p.1, p.2.real B)))
  | [] => rfl
  | (l, t) :: rest => by
    unfold mapLoopE mapLoop
    simp only [List.map_cons]
    cases hl : lookupKey l buckets with
    | error e => rfl
    | ok rss =>
      cases lookupKey l nums with
      | error e => rfl
      | ok G =>
        have h1 := apOfNestedE_real (tm := .ap) (m := m) (T := [l]) [t] G hB (hb l rss hl)
        have h2 := apOfNestedE_real (tm := .aph) (m := m) (T := [l]) [t] G hB (hb l rss hl)
        simp only [List.map_cons, List.map_nil] at h1 h2
        simp only [h1, h2, mapLoopE_real hB hb rest]
        rfl

theorem mapOfE_real {is2d : Bool} {buckets : List (Label × List (List Res))} {nums : List (Label × Nat)}
    (th : List EThr) (hB : 1 < B) (hb : BucketsLt B buckets) :
    mapOfE m is2d T th buckets nums = mapOf m is2d T (th.map (EThr.real B)) buckets nums := by
  unfold mapOfE mapOf
  rw [mapLoopE_real hB hb, List.zip_map_right]
  rfl

theorem getStatusE_real (o : Option EThr) (hB : 1 < B) (hr : ScoreLt B r) :
    getStatusE m o r = getStatus m (o.map (EThr.real B)) r := by
  unfold getStatusE getStatus
  rw [isResultCorrectE_real o hB hr]
  rfl

theorem isPositiveE_real (o : Option (List EThr)) (hB : 1 < B) (hr : ScoreLt B r) :
    isPositiveE m T o r = isPositive m T (o.map (List.map (EThr.real B))) r := by
  unfold isPositiveE isPositive
  cases hg : r.gt with
  | none => rfl
  | some g =>
    simp only
    rw [getLabelThresholdE_real g.label T B o]
    cases getLabelThresholdE g.label T o with
    | error e => rfl
    | ok thr =>
      simp only [Except.map]
      rw [getStatusE_real thr hB hr]
      rfl

theorem getPositiveE_eq_mapM (thrs : Option (List EThr)) :
    ∀ rs, getPositiveE m T thrs rs = (rs.mapM (isPositiveE m T thrs)).map (splitIds rs)
  | [] => rfl
  | r :: rs => by
    rw [getPositiveE, mapM_cons_eq, getPositiveE_eq_mapM thrs rs]
    cases isPositiveE m T thrs r with
    | error e => rfl
    | ok b => cases List.mapM (isPositiveE m T thrs) rs <;> rfl

theorem getPositiveE_real (o : Option (List EThr)) (hB : 1 < B) (h : ∀ r ∈ rs, ScoreLt B r) :
    getPositiveE m T o rs = getPositive m T (o.map (List.map (EThr.real B))) rs := by
  rw [getPositiveE_eq_mapM, getPositive_eq_mapM]
  exact congrArg _ (mapM_congr fun r hr => isPositiveE_real o hB (h r hr))

theorem gtStatusesE_real (o : Option (List EThr)) (hB : 1 < B) :
    ∀ {rs : List Res}, (∀ r ∈ rs, ScoreLt B r) →
    gtStatusesE m T o rs = gtStatuses m T (o.map (List.map (EThr.real B))) rs
  | [], _ => rfl
  | r :: rs, h => by
    unfold gtStatusesE gtStatuses
    rw [getLabelThresholdE_real (keyLabel r) T B o]
    cases getLabelThresholdE (keyLabel r) T o with
    | error e => rfl
    | ok thr =>
      simp only [Except.map]
      rw [getStatusE_real thr hB (h r (List.mem_cons_self ..)),
        gtStatusesE_real o hB (fun x hx => h x (List.mem_cons_of_mem _ hx))]
      rfl

theorem getNegativeE_real (o : Option (List EThr)) (gts : List Gt) (hB : 1 < B) (h : ∀ r ∈ rs, ScoreLt B r) :
    getNegativeE m T o gts rs = getNegative m T (o.map (List.map (EThr.real B))) gts rs := by
  unfold getNegativeE getNegative
  rw [gtStatusesE_real o hB h]
  rfl

theorem le_foldr_max (m : Rat) (xs : List Rat) : ∀ x ∈ xs, x ≤ xs.foldr max m := by
  induction xs with
  | nil => exact fun _ h => nomatch h
  | cons a t ih => exact List.forall_mem_cons.2 ⟨le_max_left _ _, fun x hx => le_trans (ih x hx) (le_max_right _ _)⟩

theorem map_real_fin (B : Rat) (th : List Rat) : (th.map EThr.fin).map (EThr.real B) = th := by
  induction th with
  | nil => rfl
  | cons a t ih => simp only [List.map_cons, ih]; rfl

/-- reading `inf` as a number at least as large as the numbers below it keeps the order -/
theorem EThr.le_real {a b : EThr} (h : EThr.le a b) (ha : ∀ t, a = .fin t → t ≤ B) :
    a.real B ≤ b.real B := by
  cases a with
  | fin t =>
    cases b with
    | fin t' => exact h
    | posInf => exact ha t rfl
  | posInf =>
    cases b with
    | fin t' => exact h.elim
    | posInf => exact le_rfl

theorem looserE_real {e e' : EThr} (h : looserE m e e') (h1 : ∀ t, e = .fin t → t ≤ B)
    (h2 : ∀ t, e' = .fin t → t ≤ B) :
    looser m (e.real B) (e'.real B) := by
  unfold looserE at h
  unfold looser
  cases hm : m.isDistance <;> simp only [hm, if_true, if_false, Bool.false_eq_true] at h ⊢
  · exact EThr.le_real h h2
  · exact EThr.le_real h h1

theorem forall₂_looserE_real {th th' : List EThr} (h : List.Forall₂ (looserE m) th th')
    (h1 : ∀ e ∈ th, ∀ t, e = .fin t → t ≤ B) (h2 : ∀ e ∈ th', ∀ t, e = .fin t → t ≤ B) :
    List.Forall₂ (looser m) (th.map (EThr.real B)) (th'.map (EThr.real B)) := by
  induction h with
  | nil => exact .nil
  | cons hab _ ih =>
    rw [List.forall_mem_cons] at h1 h2
    exact .cons (looserE_real hab h1.1 h2.1) (ih h1.2 h2.2)

/-- a number to read `inf` as, for a pair of threshold lists on a result list: above 1, above every score, at least
every number among the thresholds (one more than the largest of them) -/
theorem exists_bound (rs : List Res) (th th' : List EThr) :
    ∃ B : Rat, 1 < B ∧ (∀ r ∈ rs, ScoreLt B r) ∧ (∀ e ∈ th, ∀ t, e = .fin t → t ≤ B)
      ∧ (∀ e ∈ th', ∀ t, e = .fin t → t ≤ B) := by
  let xs : List Rat :=
    rs.filterMap (fun r => match r.score with
      | .val (some x) => some x
      | _ => none)
    ++ (th ++ th').filterMap (fun e => match e with
      | .fin t => some t
      | .posInf => none)
  have hlt : ∀ x ∈ xs, x < xs.foldr max 1 + 1 := fun x h => lt_of_le_of_lt (le_foldr_max 1 xs x h) (lt_add_one _)
  refine ⟨xs.foldr max 1 + 1, lt_of_le_of_lt (le_maxWith 1 xs) (lt_add_one _), fun r hr x hs => hlt x ?_,
    fun e he t ht => (hlt t ?_).le, fun e he t ht => (hlt t ?_).le⟩
  · exact List.mem_append_left _ (List.mem_filterMap.2 ⟨r, hr, by rw [hs]⟩)
  · exact List.mem_append_right _ (List.mem_filterMap.2 ⟨e, List.mem_append_left _ he, by rw [ht]⟩)
  · exact List.mem_append_right _ (List.mem_filterMap.2 ⟨e, List.mem_append_right _ he, by rw [ht]⟩)

/-- all results of all buckets of a per-label dict -/
def allRes (buckets : List (Label × List (List Res))) : List Res :=
  buckets.flatMap (fun kv => kv.2.flatten)

theorem bucketsLt_of_all {buckets : List (Label × List (List Res))} (h : ∀ r ∈ allRes buckets, ScoreLt B r) :
    BucketsLt B buckets := by
  intro l rss hl r hr
  exact h r (List.mem_flatMap.2 ⟨(l, rss), lookupKey_mem hl, hr⟩)

/-- on numbers the extended `Ap` / `Map` are the model's: whatever number `inf` is read as, there is no `inf` to read -/
theorem apOfE_fin (th : List Rat) (G : Nat) : apOfE tm m T (th.map .fin) G rs = apOf tm m T th G rs := by
  obtain ⟨B, hB, hs, _, _⟩ := exists_bound rs [] []
  rw [apOfE_real _ G hB hs, map_real_fin]

theorem mapOfE_fin (is2d : Bool) (th : List Rat) (buckets : List (Label × List (List Res))) (nums : List (Label × Nat)) :
    mapOfE m is2d T (th.map .fin) buckets nums = mapOf m is2d T th buckets nums := by
  obtain ⟨B, hB, hs, _, _⟩ := exists_bound (allRes buckets) [] []
  rw [mapOfE_real _ hB (bucketsLt_of_all hs), map_real_fin]

end PEval.AP
