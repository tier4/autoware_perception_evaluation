import PEval.Lemmas.ManagerTracking
import PEval.Lemmas.ClearRename
/-!
The scene tracking score of the manager (core Lean only): it is CLEAR over the pooled history, and each of its increments
scans the same previous bucket as the stored per-frame evaluation did, so its counts are the sums of the per-frame counts
(`scene_vs_frames`); renaming of track ids commutes with every step (`tstep_rename`).
-/

namespace PEval.ManagerTracking
open PEval.Manager PEval PEval.Clear

variable {E C : Type}

theorem sceneTrack_eq (labels : List Nat) (cfgs : List TCfg) (s : TState) :
    sceneTrack labels cfgs (tsceneAcc labels.length s)
      = evaluateTracking labels cfgs (fun l => (s.frameResults.map (·.det.gt l)).sum)
          (fun l => [] :: s.frameResults.map (·.bucket l)) := by
  unfold sceneTrack
  apply evaluateTracking_congr
  intro l hl
  exact ⟨tscene_gt _ s l hl, fun _ _ => by rw [tscene_hist _ s l hl]⟩

theorem clearAt_frameTrack (labels : List Nat) (cfgs : List TCfg) (prev : Option (List (List TRes)))
    (cur : List (List TRes)) (d : Det) (k l : Nat) (cfg : TCfg) (lab : Nat) (t : Rat)
    (hk : cfgs[k]? = some cfg) (hl : (labels.zip cfg.thr)[l]? = some (lab, t)) :
    clearAt (frameTrack labels cfgs prev cur d) k l
      = some (evalClear ⟨cfg.maximize, [(lab, t)]⟩ (d.gt l)
          [viewBucket cfg.mode (prevBucket prev l), viewBucket cfg.mode (cur.getD l [])]) := by
  unfold frameTrack
  rw [clearAt_evaluateTracking labels cfgs _ _ k l cfg lab t hk hl]
  rfl

/-- the per-frame `CLEAR` of configuration `cc` and mode `m`, label `l`, for every stored frame with its predecessor -/
def frameOuts (cc : Cfg) (m l : Nat) (p : Option (List (List TRes))) (rs : List TFrameResult) : List Clear.Out :=
  (framePairs p rs).map (fun qr =>
    evalClear cc (qr.2.det.gt l) [viewBucket m (prevBucket qr.1 l), viewBucket m (qr.2.bucket l)])

theorem stored_clearAt (labels : List Nat) (cfgs : List TCfg) (rs : List TFrameResult)
    (hc : Consistent labels cfgs none rs) (k l : Nat) (cfg : TCfg) (lab : Nat) (t : Rat)
    (hk : cfgs[k]? = some cfg) (hl : (labels.zip cfg.thr)[l]? = some (lab, t)) :
    rs.map (fun r => clearAt r.track k l)
      = (frameOuts ⟨cfg.maximize, [(lab, t)]⟩ cfg.mode l none rs).map some := by
  unfold frameOuts
  rw [List.map_map, ← framePairs_map_snd (fun r => clearAt r.track k l) none rs]
  apply List.map_congr_left
  intro qr hm
  simp only [Function.comp]
  rw [hc qr hm, clearAt_frameTrack labels cfgs _ _ _ k l cfg lab t hk hl]
  rfl

/-- the counts of a sum of accumulators, read off the outputs that carry them -/
theorem accSum_outs (outs : List Clear.Out) :
    (accSum (outs.map (·.acc))).tp = (outs.map (·.acc.tp)).sum ∧
    (accSum (outs.map (·.acc))).fp = (outs.map (·.acc.fp)).sum ∧
    (accSum (outs.map (·.acc))).sw = (outs.map (·.acc.sw)).sum ∧
    (accSum (outs.map (·.acc))).score = (outs.map (·.acc.score)).sum := by
  rw [accSum_tp, accSum_fp, accSum_sw, accSum_score]
  simp only [List.map_map]
  exact ⟨rfl, rfl, rfl, rfl⟩

/-- CLEAR over `[[]] ++ buckets` against the per-frame evaluations: accumulators, ground-truth number, `predict_num` -/
theorem scene_vs_frames (cc : Cfg) (m l : Nat) (rs : List TFrameResult) :
    (evalClear cc (rs.map (·.det.gt l)).sum (([] :: rs.map (·.bucket l)).map (viewBucket m))).acc
      = accSum ((frameOuts cc m l none rs).map (·.acc)) ∧
    (evalClear cc (rs.map (·.det.gt l)).sum (([] :: rs.map (·.bucket l)).map (viewBucket m))).g
      = ((frameOuts cc m l none rs).map (·.g)).sum ∧
    (evalClear cc (rs.map (·.det.gt l)).sum (([] :: rs.map (·.bucket l)).map (viewBucket m))).predictNum
      = ((frameOuts cc m l none rs).map (·.predictNum)).sum := by
  unfold frameOuts
  simp only [evalClear, List.map_map]
  refine ⟨?_, ?_, ?_⟩
  · -- each increment of the scene scans the same previous list as the stored per-frame evaluation did
    rw [List.map_cons, clear_cons, List.map_map]
    show accSum (steps cc (viewBucket m (prevBucket none l)) (rs.map fun r => viewBucket m (r.bucket l))) = _
    rw [steps_framePairs]
    exact congrArg accSum (List.map_congr_left fun qr _ => (clear_pair cc _ _).symm)
  · exact congrArg List.sum (framePairs_map_snd (·.det.gt l) none rs).symm
  · rw [List.map_cons, predictNum_cons, List.map_map, List.map_map, ← framePairs_map_snd _ none rs]
    exact congrArg List.sum (List.map_congr_left fun qr _ => by simp [predictNum_cons])

section rename
variable {f g : Nat → Nat}

/-- rename the estimate's uuid with `f` and the ground truth's uuid with `g` -/
def TRes.rename (f g : Nat → Nat) (r : TRes) : TRes :=
  { r with est := f r.est, gt := r.gt.map (Gt.rename g) }

def renameTB (f g : Nat → Nat) (tb : List (List TRes)) : List (List TRes) :=
  tb.map (fun b => b.map (TRes.rename f g))

def TFrameResult.rename (f g : Nat → Nat) (r : TFrameResult) : TFrameResult :=
  { r with tb := renameTB f g r.tb }

def TState.rename (f g : Nat → Nat) (s : TState) : TState :=
  { s with frameResults := s.frameResults.map (TFrameResult.rename f g) }

/-- the same manager fed with renamed track ids: the tracking view of every frame evaluation is renamed -/
def TSem.rename (f g : Nat → Nat) (sem : TSem E C) : TSem E C :=
  { sem with evalTB := fun gf e c => renameTB f g (sem.evalTB gf e c) }

theorem view_rename (m : Nat) (r : TRes) : (r.rename f g).view m = (r.view m).rename f g := rfl

theorem viewBucket_rename (m : Nat) (b : List TRes) :
    viewBucket m (b.map (TRes.rename f g)) = renameFrame f g (viewBucket m b) := by
  simp [viewBucket, renameFrame, List.map_map, Function.comp_def, view_rename]

theorem getD_renameTB (tb : List (List TRes)) (l : Nat) :
    (renameTB f g tb).getD l [] = (tb.getD l []).map (TRes.rename f g) := by
  unfold renameTB
  rw [List.getD_eq_getElem?_getD, List.getD_eq_getElem?_getD, List.getElem?_map]
  cases tb[l]? <;> simp

theorem bucket_rename (r : TFrameResult) (l : Nat) :
    (r.rename f g).bucket l = (r.bucket l).map (TRes.rename f g) :=
  getD_renameTB r.tb l

theorem prevBucket_rename (prev : Option (List (List TRes))) (l : Nat) :
    prevBucket (prev.map (renameTB f g)) l = (prevBucket prev l).map (TRes.rename f g) := by
  cases prev with
  | none => rfl
  | some tb => exact getD_renameTB tb l

theorem evaluateTracking_rename (hf : Function.Injective f) (hg : Function.Injective g)
    (labels : List Nat) (cfgs : List TCfg) (gt gt' : Nat → Nat) (hist hist' : Nat → List (List TRes))
    (hgt : ∀ l, gt' l = gt l) (hh : ∀ l, hist' l = (hist l).map (fun b => b.map (TRes.rename f g))) :
    evaluateTracking labels cfgs gt' hist' = evaluateTracking labels cfgs gt hist := by
  apply evaluateTracking_congr
  intro l _
  refine ⟨hgt l, fun cc m => ?_⟩
  have : (hist' l).map (viewBucket m) = renameHist f g ((hist l).map (viewBucket m)) := by
    simp [hh, renameHist, List.map_map, Function.comp_def, viewBucket_rename]
  rw [this, evalClear_rename hf hg]

theorem frameTrack_rename (hf : Function.Injective f) (hg : Function.Injective g)
    (labels : List Nat) (cfgs : List TCfg) (prev : Option (List (List TRes))) (cur : List (List TRes)) (d : Det) :
    frameTrack labels cfgs (prev.map (renameTB f g)) (renameTB f g cur) d = frameTrack labels cfgs prev cur d :=
  evaluateTracking_rename hf hg _ _ _ _ _ _ (fun _ => rfl)
    (fun l => by simp only [List.map_cons, List.map_nil, prevBucket_rename, getD_renameTB])

theorem tstep_rename (hf : Function.Injective f) (hg : Function.Injective g) (sem : TSem E C) (s : TState) (op : Op E C) :
    (tstep (sem.rename f g) (s.rename f g) op).1 = (tstep sem s op).1.rename f g ∧
    (tstep (sem.rename f g) (s.rename f g) op).2.track = (tstep sem s op).2.track := by
  cases op with
  | add gf e c =>
    have hlast : ((s.rename f g).frameResults.getLast?.map (·.tb))
        = (s.frameResults.getLast?.map (·.tb)).map (renameTB f g) := by
      simp [TState.rename, List.getLast?_map, TFrameResult.rename, Option.map_map, Function.comp_def]
    have hr : tevalFrame (sem.rename f g) gf e c (s.rename f g).frameResults.getLast?
        = (tevalFrame sem gf e c s.frameResults.getLast?).rename f g := by
      simp only [tevalFrame, TFrameResult.rename, TSem.rename]
      rw [hlast, frameTrack_rename hf hg]
    constructor
    · simp only [tstep, taddFrameResult, hr]
      simp [TState.rename]
    · simp only [tstep, taddFrameResult, hr, TOut.track]
      rfl
  | scene =>
    refine ⟨rfl, ?_⟩
    show sceneTrack sem.labels sem.cfgs (tsceneAcc sem.labels.length (s.rename f g))
      = sceneTrack sem.labels sem.cfgs (tsceneAcc sem.labels.length s)
    rw [sceneTrack_eq, sceneTrack_eq]
    exact evaluateTracking_rename hf hg _ _ _ _ _ _
      (fun l => by simp [TState.rename, List.map_map, Function.comp_def, TFrameResult.rename])
      (fun l => by simp [TState.rename, List.map_map, Function.comp_def, bucket_rename])
  | lookup t thr => exact ⟨rfl, rfl⟩

theorem trun_rename (hf : Function.Injective f) (hg : Function.Injective g) (sem : TSem E C) (s : TState)
    (ops : List (Op E C)) :
    (trun (sem.rename f g) (s.rename f g) ops).1 = (trun sem s ops).1.rename f g ∧
    (trun (sem.rename f g) (s.rename f g) ops).2.map TOut.track = (trun sem s ops).2.map TOut.track := by
  have := runWith_sim (step := tstep (sem.rename f g)) (step' := tstep sem) (fun s' s => s' = s.rename f g) id
    TOut.track TOut.track (ops := ops) (fun _ s op _ h => by subst h; exact tstep_rename hf hg sem s op)
    (rfl : s.rename f g = _)
  simpa only [List.map_id, ← trun_eq] using this

end rename

end PEval.ManagerTracking
