import PEval.Model.AnalyzerDT
import Mathlib.Algebra.Order.Ring.Rat
import Mathlib.Tactic.Linarith
/-!
# C19 decision skeletons = the model (bridges; independent of the generated tables, so checked once and cached)

(1) `areaAtoms_valuation`: for 1, 3, 9 divisions and ALL rational bounds and positions, the area skeleton read at the order
atoms of a concrete input is the MODEL's `getAreaIdx` on the grid of the MODEL's `generateAreaPoints`.

(2) `rows_skel_eq_model`: for every tabulated frame shape and every assignment of its atoms, the row skeleton is the number
computed from the MODEL's `Analyzer.add` run on index objects (exhaustive kernel evaluation).  `rows_noF11`: where no FP result
carries a ground truth the skeleton's number has no cell of F11's signature, so the per-run relation `rowsRel` is equality there.

(3) `model_on_x_line` / `model_on_y_line`: a position exactly on a grid line lies in no area (read off the skeleton through (1)).
-/
namespace PEval.AnalyzerDT
open PEval PEval.DT PEval.Analyzer

theorem cmpR_lt (a b : Rat) : isLt (cmpR a b) = decide (a < b) := by
  unfold cmpR isLt
  by_cases h : a < b
  · simp [h]
  · by_cases h2 : a = b <;> simp [h, h2]

theorem cmpR_gt (a b : Rat) : isGt (cmpR a b) = decide (a > b) := by
  unfold cmpR isGt
  rcases lt_trichotomy a b with h | rfl | h
  · simp [h, h.not_gt]
  · simp
  · simp [h, h.not_gt, h.ne']

theorem pick_line (m x : Rat) (i : Nat) :
    pick (cmpR x (lineVal m 0)) (cmpR x (lineVal m 1)) (cmpR x (lineVal m 2)) (cmpR x (lineVal m 3)) i = cmpR x (lineVal m i) := by
  match i with
  | 0 => rfl
  | 1 => rfl
  | 2 => rfl
  | _ + 3 => rfl

def conc (mX mY : Rat) (p : Nat × Nat) : Rat × Rat := (lineVal mX p.1, lineVal mY p.2)

theorem generate_eq (n : Nat) (hn : n = 1 ∨ n = 3 ∨ n = 9) (mX mY : Rat) :
    generateAreaPoints n mX mY = .ok ⟨(symUR n).map (conc mX mY), (symBL n).map (conc mX mY)⟩ := by
  rcases hn with rfl | rfl | rfl <;> simp [generateAreaPoints, symUR, symBL, conc, lineVal]

theorem hits_eq (n : Nat) (mX mY x y : Rat) :
    hitsSym n (fun i => cmpR x (lineVal mX i)) (fun i => cmpR y (lineVal mY i)) =
      areaHits ⟨(symUR n).map (conc mX mY), (symBL n).map (conc mX mY)⟩ x y := by
  unfold hitsSym areaHits hitsOf
  congr 3
  simp only [List.zip_map, List.map_map]
  apply List.map_congr_left
  intro p _
  simp only [insideSym, insideArea, cmpR_lt, cmpR_gt]
  congr

/-- THE BRIDGE of kernel (1): the skeleton at the atoms of an input = the model's answer -/
theorem areaAtoms_valuation (n : Nat) (hn : n = 1 ∨ n = 3 ∨ n = 9) (mX mY x y : Rat) :
    areaAtoms n (areaValuation mX mY x y) = areaResOfModel n mX mY x y := by
  have hv : areaAtoms n (areaValuation mX mY x y) =
      areaRes n (fun i => cmpR x (lineVal mX i)) (fun i => cmpR y (lineVal mY i)) := by
    unfold areaAtoms
    rw [areaFast_eq n hn]
    congr 1 <;> funext i
    · exact pick_line mX x i
    · exact pick_line mY y i
  rw [hv]
  unfold areaRes areaResOfModel getAreaIdx resOfHits
  rw [generate_eq n hn, hits_eq]
  dsimp only
  split <;> rename_i h <;> simp [h]

/-! ### positions on a grid line

`areaFast` is the product of a column mask and a row mask, one flag per strip between consecutive lines.  A grid line lies
strictly inside no strip, so for a position on a line of the x-grid (y-grid) the column (row) mask is empty. -/

theorem strip_flag {x lo hi : Rat} (h : ¬ (lo < x ∧ x < hi)) : (isLt (cmpR x hi) && isGt (cmpR x lo)) = false := by
  rw [cmpR_lt, cmpR_gt]
  exact Bool.eq_false_iff.mpr fun hb => h (by simpa [and_comm] using hb)

theorem strip_flag' {x lo hi : Rat} (h : ¬ (lo < x ∧ x < hi)) : (isGt (cmpR x lo) && isLt (cmpR x hi)) = false := by
  rw [Bool.and_comm]; exact strip_flag h

theorem lineVal_mono {m : Rat} (hm : 0 < m) : Monotone (lineVal m) :=
  monotone_nat_of_le_succ fun i => by rcases i with _ | _ | _ | i <;> simp only [lineVal] <;> linarith

theorem lineVal_not_between {m : Rat} (hm : 0 < m) (k j : Nat) :
    ¬ (lineVal m j < lineVal m k ∧ lineVal m k < lineVal m (j + 1)) := by
  rintro ⟨a, b⟩
  rcases Nat.lt_or_ge j k with h | h
  · exact absurd b (not_lt.mpr (lineVal_mono hm h))
  · exact absurd a (not_lt.mpr (lineVal_mono hm h))

theorem lineVal_not_inside (m : Rat) {k : Nat} (hk : k = 0 ∨ 3 ≤ k) :
    ¬ (lineVal m 0 < lineVal m k ∧ lineVal m k < lineVal m 3) := by
  rintro ⟨a, b⟩
  rcases hk with rfl | hk
  · exact lt_irrefl _ a
  · obtain ⟨k, rfl⟩ := Nat.exists_eq_add_of_le' hk
    exact lt_irrefl _ b

theorem combine_rows_none (cols : Option (Option Nat)) : combine cols (some none) = .other 0 := by
  rcases cols with _ | _ | _ <;> rfl

/-- a position exactly ON a grid line of the x-axis lies in no area (the model's answer is `None`), for positive bounds -/
theorem model_on_x_line (n : Nat) (hn : n = 1 ∨ n = 3 ∨ n = 9) (mX mY y : Rat) (hX : 0 < mX) (k : Nat)
    (hg : n ≠ 1 ∨ k = 0 ∨ 3 ≤ k) :
    areaResOfModel n mX mY (lineVal mX k) y = .other 0 := by
  rw [← areaAtoms_valuation n hn]
  have inner := fun j => strip_flag (lineVal_not_between hX k j)
  rcases hn with rfl | rfl | rfl
  · have outer := strip_flag (lineVal_not_inside mX (hg.resolve_left (by decide)))
    simp only [areaAtoms, areaFast, areaValuation, if_true, Nat.reduceLT, outer]
    rfl
  all_goals
    simp only [areaAtoms, areaFast, areaValuation, if_true, Nat.reduceLT, Nat.reduceEqDiff, if_false,
      inner 0, inner 1, inner 2]
    rfl

theorem model_on_y_line (n : Nat) (hn : n = 1 ∨ n = 3 ∨ n = 9) (mX mY x : Rat) (hY : 0 < mY) (k : Nat)
    (hg : n = 9 ∨ k = 0 ∨ 3 ≤ k) :
    areaResOfModel n mX mY x (lineVal mY k) = .other 0 := by
  rw [← areaAtoms_valuation n hn]
  have inner := fun j => strip_flag' (lineVal_not_between hY k j)
  rcases hn with rfl | rfl | rfl
  case inr.inr =>
    simp only [areaAtoms, areaFast, areaValuation, if_true, Nat.reduceLT, Nat.reduceEqDiff, if_false, Nat.reduceSub,
      inner 0, inner 1, inner 2]
    exact combine_rows_none _
  all_goals
    have outer := strip_flag' (lineVal_not_inside mY (hg.resolve_left (by decide)))
    simp only [areaAtoms, areaFast, areaValuation, if_true, Nat.reduceLT, Nat.reduceEqDiff, if_false, Nat.reduceSub, outer]
    exact combine_rows_none _

theorem rowsRel_other {c : Res} {m : Nat} (h : rowsRel c (.other m) = true) : ∃ k, c = .other k ∧ relCode 4 k m = true := by
  cases c <;> simp_all [rowsRel]

theorem mem_allBits : ∀ b : Bool × Bool × Bool × Bool, b ∈ allBits := by
  rintro ⟨a, b, c, d⟩
  cases a <;> cases b <;> cases c <;> cases d <;> decide

theorem rows_skel_eq_model {key : Nat} (hk : key ∈ rowKeys) (b : Bool × Bool × Bool × Bool) :
    rowsAtoms key (valOfBits b) = rowsModel key (valOfBits b) := by
  have h : ∀ key ∈ rowKeys, rowsSkelOk key = true := by decide +kernel
  exact beq_iff_eq.mp (List.all_eq_true.mp (h key hk) b (mem_allBits b))

/-- for a shape: on every assignment of the four atoms under which no FP result carries a ground truth, the skeleton's number shows no
FP pair holding a ground truth (so `relCode` against it is equality, `relCode_eq_of_noF11`) -/
def rowsNoF11Ok (key : Nat) : Bool :=
  allBits.all fun b => !(noFPwithGT key (valOfBits b)) ||
    (match rowsAtoms key (valOfBits b) with | .other m => noF11Code 4 m | _ => false)

theorem rows_noF11 {key : Nat} (hk : key ∈ rowKeys) {b : Bool × Bool × Bool × Bool}
    (hno : noFPwithGT key (valOfBits b) = true) :
    (match rowsAtoms key (valOfBits b) with | .other m => noF11Code 4 m | _ => false) = true := by
  have h : ∀ key ∈ rowKeys, rowsNoF11Ok key = true := by decide +kernel
  simpa [hno] using List.all_eq_true.mp (h key hk) b (mem_allBits b)

/-- the restriction is not vacuous, and it is a restriction: a TP and a GT-less FP satisfy it, a TP and an FP carrying a ground truth
do not; the relation accepts exactly the two layouts there (FP pair with / without its ground truth) and not, e.g., a TN row written
as FN or a dropped pair -/
example : noFPwithGT 4 (valOfBits (false, false, true, false)) = true ∧ noFPwithGT 4 (valOfBits (false, false, false, false)) = false ∧
    noFPwithGT 9 (valOfBits (false, false, false, false)) = true := by decide
example : relCode 4 (7 + 38 * 64) (7 + 38 * 64) = true ∧ relCode 4 (7 + 36 * 64) (7 + 38 * 64) = true ∧
    relCode 4 (7 + 37 * 64) (7 + 38 * 64) = false ∧ relCode 4 (5 + 38 * 64) (7 + 38 * 64) = false ∧
    relCode 4 7 (7 + 38 * 64) = false ∧ relCode 4 (rowDigit 4 0 0 + 1) (rowDigit 3 0 0 + 1) = false ∧
    relCode 4 (7 + 38 * 64) (7 + 36 * 64) = false := by decide

end PEval.AnalyzerDT
