import PEval.Model.Matching
/-!
Helper lemmas about the greedy matcher model (core Lean only): the strict order `better`, first
arg-best (`IsFirstBest`), the candidate list, one loop as a sequence of picks (`Picks`) and the bookkeeping invariant of
the loops (`MInv`).
-/
namespace PEval.Matching

/-! ## the strict order -/

theorem better_irrefl (mx : Bool) (a : Rat) : better mx a a = false := by
  cases mx <;> exact decide_eq_false Rat.lt_irrefl

theorem better_asymm (mx : Bool) (a b : Rat) (h : better mx a b = true) : better mx b a = false := by
  cases mx <;> exact decide_eq_false (Rat.not_lt.2 (Rat.le_of_lt (of_decide_eq_true h)))

/-- `x` strictly better than `c`, and `c` at least as good as `d` (`d` not better than `c`): `x` is strictly
better than `d` -/
theorem better_of_better_of_not_better (mx : Bool) (x c d : Rat) (h1 : better mx x c = true)
    (h2 : better mx d c = false) : better mx x d = true := by
  cases mx
  · exact decide_eq_true (Rat.not_le.1 fun h =>
      Rat.not_le.2 (of_decide_eq_true h1) (Rat.le_trans (Rat.not_lt.1 (of_decide_eq_false h2)) h))
  · exact decide_eq_true (Rat.not_le.1 fun h =>
      Rat.not_le.2 (of_decide_eq_true h1) (Rat.le_trans h (Rat.not_lt.1 (of_decide_eq_false h2))))

theorem better_trans (mx : Bool) (a b c : Rat) (h1 : better mx a b = true) (h2 : better mx b c = true) :
    better mx a c = true :=
  better_of_better_of_not_better mx a b c h1 (better_asymm mx b c h2)

theorem eq_of_not_better (mx : Bool) (a b : Rat) (h1 : better mx a b = false) (h2 : better mx b a = false) :
    a = b := by
  cases mx
  · exact Rat.le_antisymm (Rat.not_lt.1 (of_decide_eq_false h2)) (Rat.not_lt.1 (of_decide_eq_false h1))
  · exact Rat.le_antisymm (Rat.not_lt.1 (of_decide_eq_false h1)) (Rat.not_lt.1 (of_decide_eq_false h2))

/-! ## first arg-best -/

theorem argBest_cons_none {mx : Bool} {c} {cs : List (Nat × Nat × Rat)} (h : argBest mx cs = none) :
    argBest mx (c :: cs) = some c := by
  rw [argBest, h]

theorem argBest_cons_some {mx : Bool} {c d} {cs : List (Nat × Nat × Rat)} (h : argBest mx cs = some d) :
    argBest mx (c :: cs) = if better mx d.2.2 c.2.2 then some d else some c := by
  rw [argBest, h]

theorem argBest_none (mx : Bool) (l) (h : argBest mx l = none) : l = [] := by
  revert h
  fun_cases argBest mx l with
  | case1 => exact fun _ => rfl
  | _ => nofun

/-- `c` is the FIRST best element of `l`: it occurs in `l`, everything listed before it is strictly worse than it,
nothing listed after it is strictly better -/
def IsFirstBest (mx : Bool) (l : List (Nat × Nat × Rat)) (c : Nat × Nat × Rat) : Prop :=
  ∃ l1 l2, l = l1 ++ c :: l2 ∧ (∀ x ∈ l1, better mx c.2.2 x.2.2 = true) ∧
    (∀ x ∈ l2, better mx x.2.2 c.2.2 = false)

theorem IsFirstBest.mem {mx l c} (h : IsFirstBest mx l c) : c ∈ l := by
  obtain ⟨l1, l2, rfl, _⟩ := h
  exact List.mem_append_right _ List.mem_cons_self

theorem IsFirstBest.opt {mx l c} (h : IsFirstBest mx l c) : ∀ x ∈ l, better mx x.2.2 c.2.2 = false := by
  obtain ⟨l1, l2, rfl, h1, h2⟩ := h
  exact List.forall_mem_append.2
    ⟨fun x hx => better_asymm _ _ _ (h1 x hx), List.forall_mem_cons.2 ⟨better_irrefl _ _, h2⟩⟩

theorem argBest_isFirstBest (mx : Bool) (l : List (Nat × Nat × Rat)) (c) (h : argBest mx l = some c) :
    IsFirstBest mx l c := by
  fun_induction argBest mx l generalizing c with
  | case1 => cases h
  | case2 a as hd ih =>
    cases h
    cases argBest_none mx as hd
    exact ⟨[], [], rfl, nofun, nofun⟩
  | case3 a as d hd hb ih =>
    cases h
    obtain ⟨l1, l2, hl, h1, h2⟩ := ih d hd
    exact ⟨a :: l1, l2, by rw [hl]; rfl, List.forall_mem_cons.2 ⟨hb, h1⟩, h2⟩
  | case4 a as d hd hb ih =>
    cases h
    -- the head stays: whatever beat it would beat the best of the tail
    exact ⟨[], as, rfl, nofun, fun x hx => Bool.eq_false_iff.2 fun hxa => Bool.false_ne_true
      (((ih d hd).opt x hx).symm.trans (better_of_better_of_not_better mx _ _ _ hxa (Bool.eq_false_iff.2 hb)))⟩

theorem argBest_of_isFirstBest (mx : Bool) (l : List (Nat × Nat × Rat)) (c) (h : IsFirstBest mx l c) :
    argBest mx l = some c := by
  obtain ⟨l1, l2, rfl, h1, h2⟩ := h
  induction l1 with
  | nil =>
    cases hd : argBest mx l2 with
    | none => exact argBest_cons_none hd
    | some d => rw [List.nil_append, argBest_cons_some hd, h2 d (argBest_isFirstBest mx l2 d hd).mem]; rfl
  | cons a l1 ih =>
    rw [List.cons_append, argBest_cons_some (ih fun x hx => h1 x (List.mem_cons_of_mem _ hx)),
      h1 a List.mem_cons_self]
    rfl

/-- the first arg-best is characterised by its position: the pick of `np.nanargmin / nanargmax` -/
theorem argBest_eq_some_iff (mx : Bool) (l : List (Nat × Nat × Rat)) (c) :
    argBest mx l = some c ↔ IsFirstBest mx l c :=
  ⟨argBest_isFirstBest mx l c, argBest_of_isFirstBest mx l c⟩

theorem isFirstBest_unique {mx : Bool} {l : List (Nat × Nat × Rat)} {c c'} (h : IsFirstBest mx l c)
    (h' : IsFirstBest mx l c') : c = c' :=
  Option.some.inj ((argBest_of_isFirstBest mx l c h).symm.trans (argBest_of_isFirstBest mx l c' h'))

theorem argBest_mem (mx : Bool) (l : List (Nat × Nat × Rat)) (c) (h : argBest mx l = some c) : c ∈ l :=
  (argBest_isFirstBest mx l c h).mem

theorem argBest_opt (mx : Bool) (l : List (Nat × Nat × Rat)) (c) (h : argBest mx l = some c) :
    ∀ x ∈ l, better mx x.2.2 c.2.2 = false :=
  (argBest_isFirstBest mx l c h).opt

/-! ## candidates -/

/-- the entry of the candidate list for the cell `(i, j)`, if it has one -/
def candAt (t : Tbl) (s1 : Bool) (i j : Nat) : Option (Nat × Nat × Rat) :=
  match t.score i j with
  | none => none
  | some s => if s1 && !(t.valid i j) then none else some (i, j, s)

theorem cands_eq (t : Tbl) (s1 : Bool) (es gs : List Nat) :
    cands t s1 es gs = es.flatMap fun i => gs.filterMap (candAt t s1 i) := rfl

theorem candAt_eq_some_iff {t : Tbl} {s1 : Bool} {i j : Nat} {x : Nat × Nat × Rat} :
    candAt t s1 i j = some x ↔
      x = (i, j, x.2.2) ∧ t.score i j = some x.2.2 ∧ (s1 = true → t.valid i j = true) := by
  unfold candAt
  cases t.score i j with
  | none => exact ⟨nofun, fun h => nomatch h.2.1⟩
  | some s =>
    have key : some (i, j, s) = some x ↔ x = (i, j, x.2.2) ∧ some s = some x.2.2 :=
      ⟨fun h => by cases h; exact ⟨rfl, rfl⟩, fun ⟨h1, h2⟩ => by cases h2; exact congrArg some h1.symm⟩
    cases s1 with
    | false => exact key.trans (and_congr_right fun _ => (and_iff_left nofun).symm)
    | true =>
      cases t.valid i j with
      | false => exact ⟨nofun, fun h => nomatch h.2.2 rfl⟩
      | true => exact key.trans (and_congr_right fun _ => (and_iff_left fun _ => rfl).symm)

/-- the cell `(i, j)` with score `s` is available: both objects remain, the cell carries a score (same frame, within the
threshold), and in stage 1 the pair is label-compatible -/
def Avail (t : Tbl) (s1 : Bool) (es gs : List Nat) (i j : Nat) (s : Rat) : Prop :=
  i ∈ es ∧ j ∈ gs ∧ t.score i j = some s ∧ (s1 = true → t.valid i j = true)

theorem mem_cands_iff_avail {t : Tbl} {s1 : Bool} {es gs : List Nat} {i j : Nat} {s : Rat} :
    (i, j, s) ∈ cands t s1 es gs ↔ Avail t s1 es gs i j s := by
  rw [cands_eq, List.mem_flatMap]
  constructor
  · rintro ⟨i', hi, hx⟩
    obtain ⟨j', hj, hx⟩ := List.mem_filterMap.1 hx
    obtain ⟨he, h⟩ := candAt_eq_some_iff.1 hx
    cases he
    exact ⟨hi, hj, h⟩
  · rintro ⟨hi, hj, h⟩
    exact ⟨i, hi, List.mem_filterMap.2 ⟨j, hj, candAt_eq_some_iff.2 ⟨rfl, h⟩⟩⟩

theorem cands_eq_nil_iff {t : Tbl} {s1 : Bool} {es gs : List Nat} :
    cands t s1 es gs = [] ↔ ∀ i j s, ¬ Avail t s1 es gs i j s := by
  rw [List.eq_nil_iff_forall_not_mem]
  exact ⟨fun h i j s ha => h _ (mem_cands_iff_avail.2 ha), fun h ⟨i, j, s⟩ hx => h i j s (mem_cands_iff_avail.1 hx)⟩

theorem cands_nil_es (t : Tbl) (s1 : Bool) (gs : List Nat) : cands t s1 [] gs = [] := rfl

theorem cands_nil_gs (t : Tbl) (s1 : Bool) (es : List Nat) : cands t s1 es [] = [] := by
  simp [cands]

/-- the pick of a step is an available cell that no available cell beats -/
theorem pick_spec {t : Tbl} {s1 : Bool} {es gs : List Nat} {i j : Nat} {s : Rat}
    (h : argBest t.maximize (cands t s1 es gs) = some (i, j, s)) :
    Avail t s1 es gs i j s ∧ ∀ i' j' s', Avail t s1 es gs i' j' s' → better t.maximize s' s = false :=
  ⟨mem_cands_iff_avail.1 (argBest_mem _ _ _ h),
    fun i' j' s' ha => argBest_opt _ _ (i, j, s) h (i', j', s') (mem_cands_iff_avail.2 ha)⟩

/-! ## one loop as a sequence of picks -/

/-- the state after the pair `(i, j)` has been made (the relational specifications `GreedyRun`, `RowMajorRun` and the
checkers spell this record out) -/
abbrev St.pick (st : St) (i j : Nat) : St :=
  { es := st.es.erase i, gs := st.gs.erase j, pairs := st.pairs ++ [(i, j)] }

theorem stage_zero (t : Tbl) (s1 : Bool) (st : St) : stage t s1 0 st = st := rfl

theorem stage_succ_none {t : Tbl} {s1 : Bool} {n : Nat} {st : St}
    (h : argBest t.maximize (cands t s1 st.es st.gs) = none) : stage t s1 (n + 1) st = st := by
  simp only [stage, h]

theorem stage_succ_some {t : Tbl} {s1 : Bool} {n : Nat} {st : St} {i j : Nat} {s : Rat}
    (h : argBest t.maximize (cands t s1 st.es st.gs) = some (i, j, s)) :
    stage t s1 (n + 1) st = stage t s1 n (st.pick i j) := by
  simp only [stage, h]

/-- `st'` is reached from `st` by picks of the loop (`stage_picks`: the loop's result is).  What the picks do to the state
(`Picks.inv`, `Picks.sublist`, `Picks.pairs` and the run specifications) is proved by induction on this relation, without the
fuel. -/
inductive Picks (t : Tbl) (s1 : Bool) : St → St → Prop where
  | refl (st : St) : Picks t s1 st st
  | step {st st' : St} {i j : Nat} {s : Rat} :
      argBest t.maximize (cands t s1 st.es st.gs) = some (i, j, s) → Picks t s1 (st.pick i j) st' →
      Picks t s1 st st'

theorem stage_picks (t : Tbl) (s1 : Bool) (fuel : Nat) (st : St) : Picks t s1 st (stage t s1 fuel st) := by
  fun_induction stage t s1 fuel st with
  | case1 st => exact .refl st
  | case2 n st hb => exact .refl st
  | case3 n st i j s hb ih => exact .step hb ih

theorem stage_done (t : Tbl) (s1 : Bool) (fuel : Nat) (st : St) (hf : st.es.length ≤ fuel) :
    cands t s1 (stage t s1 fuel st).es (stage t s1 fuel st).gs = [] := by
  fun_induction stage t s1 fuel st with
  | case1 st => rw [List.eq_nil_of_length_eq_zero (Nat.le_zero.1 hf)]; rfl
  | case2 n st hb => exact argBest_none _ _ hb
  | case3 n st i j s hb ih =>
    have hi := (pick_spec hb).1.1
    refine ih ?_
    have := List.length_pos_of_mem hi
    rw [List.length_erase_of_mem hi]
    omega

theorem Picks.inv {t : Tbl} {s1 : Bool} (P : St → Prop)
    (step : ∀ st i j s, P st → argBest t.maximize (cands t s1 st.es st.gs) = some (i, j, s) → P (st.pick i j))
    {st st' : St} (h : Picks t s1 st st') (h0 : P st) : P st' := by
  induction h with
  | refl => exact h0
  | step hb _ ih => exact ih (step _ _ _ _ h0 hb)

theorem Picks.sublist {t : Tbl} {s1 : Bool} {st st' : St} (h : Picks t s1 st st') :
    st'.es.Sublist st.es ∧ st'.gs.Sublist st.gs := by
  induction h with
  | refl => exact ⟨.refl _, .refl _⟩
  | step _ _ ih => exact ⟨ih.1.trans List.erase_sublist, ih.2.trans List.erase_sublist⟩

theorem Picks.pairs {t : Tbl} {s1 : Bool} {st st' : St} (h : Picks t s1 st st') :
    ∃ new, st'.pairs = st.pairs ++ new ∧ ∀ p ∈ new, ∃ s, Avail t s1 st.es st.gs p.1 p.2 s := by
  induction h with
  | refl => exact ⟨[], (List.append_nil _).symm, nofun⟩
  | @step st _ i j s hb _ ih =>
    obtain ⟨new, hnew, hall⟩ := ih
    refine ⟨(i, j) :: new, by rw [hnew, List.append_assoc]; rfl,
      List.forall_mem_cons.2 ⟨⟨s, (pick_spec hb).1⟩, fun p hp => ?_⟩⟩
    obtain ⟨s', h1, h2, h3⟩ := hall p hp
    exact ⟨s', List.mem_of_mem_erase h1, List.mem_of_mem_erase h2, h3⟩

def stage1State (t : Tbl) (es gs : List Nat) : St :=
  stage t true es.length { es := es, gs := gs, pairs := [] }

theorem matchFrom_eq (t : Tbl) (es gs : List Nat) :
    matchFrom t es gs = stage t false (stage1State t es gs).es.length (stage1State t es gs) := rfl

/-! ## bookkeeping invariant -/

/-- invariant of the matching loops relative to the initial index lists `es0`, `gs0` -/
structure MInv (t : Tbl) (es0 gs0 : List Nat) (st : St) : Prop where
  esEq : st.es = es0.filter (fun i => !(st.pairs.map (·.1)).contains i)
  gsEq : st.gs = gs0.filter (fun j => !(st.pairs.map (·.2)).contains j)
  pE : (st.pairs.map (·.1)).Nodup
  pG : (st.pairs.map (·.2)).Nodup
  subE : ∀ p ∈ st.pairs, p.1 ∈ es0
  subG : ∀ p ∈ st.pairs, p.2 ∈ gs0
  sc : ∀ p ∈ st.pairs, ∃ s, t.score p.1 p.2 = some s

theorem MInv.init (t : Tbl) (es0 gs0 : List Nat) : MInv t es0 gs0 { es := es0, gs := gs0, pairs := [] } where
  esEq := (List.filter_eq_self.2 fun _ _ => rfl).symm
  gsEq := (List.filter_eq_self.2 fun _ _ => rfl).symm
  pE := .nil
  pG := .nil
  subE := nofun
  subG := nofun
  sc := nofun

theorem mem_filter_not_contains {l0 seen : List Nat} {a : Nat} :
    a ∈ l0.filter (fun x => !seen.contains x) ↔ a ∈ l0 ∧ a ∉ seen := by
  rw [List.mem_filter]; simp

/-! The two sides of the bookkeeping are the same list fact: `l0` is duplicate-free, `seen` lists the members already
used, the remaining list is `l0` without them. -/

theorem erase_filter_step {l0 : List Nat} (hnd : l0.Nodup) (seen : List Nat) (i : Nat) :
    (l0.filter (fun a => !seen.contains a)).erase i = l0.filter (fun a => !(seen ++ [i]).contains a) := by
  rw [List.Nodup.erase_eq_filter (hnd.filter _), List.filter_filter]
  apply List.filter_congr
  intro a _
  by_cases h1 : a = i <;> by_cases h2 : a ∈ seen <;> simp [h1, h2]

theorem nodup_append_singleton {seen : List Nat} {a : Nat} (hs : seen.Nodup) (ha : a ∉ seen) :
    (seen ++ [a]).Nodup :=
  (List.perm_append_singleton a seen).nodup_iff.2 (List.nodup_cons.2 ⟨ha, hs⟩)

theorem seen_append_filter_perm {l0 seen : List Nat} (hnd : l0.Nodup) (hs : seen.Nodup) (hsub : ∀ x ∈ seen, x ∈ l0) :
    (seen ++ l0.filter (fun x => !seen.contains x)).Perm l0 := by
  rw [List.perm_ext_iff_of_nodup _ hnd]
  · intro a
    rw [List.mem_append, mem_filter_not_contains]
    exact ⟨fun h => h.elim (hsub a) And.left, fun h => (Classical.em (a ∈ seen)).imp id fun hn => ⟨h, hn⟩⟩
  · exact List.nodup_append.2 ⟨hs, hnd.filter _, fun a ha b hb e =>
      (mem_filter_not_contains.1 hb).2 (e ▸ ha)⟩

theorem MInv.step {t : Tbl} {s1 : Bool} {es0 gs0 : List Nat} (hE : es0.Nodup) (hG : gs0.Nodup)
    {st : St} {i j : Nat} {s : Rat} (h : MInv t es0 gs0 st)
    (hb : argBest t.maximize (cands t s1 st.es st.gs) = some (i, j, s)) :
    MInv t es0 gs0 (st.pick i j) := by
  obtain ⟨⟨hi, hj, hs, _⟩, _⟩ := pick_spec hb
  rw [h.esEq, mem_filter_not_contains] at hi
  rw [h.gsEq, mem_filter_not_contains] at hj
  have hmem {α} {P : α → Prop} {ps : List α} {q : α} (hps : ∀ p ∈ ps, P p) (hq : P q) : ∀ p ∈ ps ++ [q], P p :=
    fun p hp => (List.mem_append.1 hp).elim (hps p) fun hp => List.mem_singleton.1 hp ▸ hq
  exact {
    esEq := by
      show st.es.erase i = _
      rw [h.esEq, erase_filter_step hE, List.map_append]; rfl
    gsEq := by
      show st.gs.erase j = _
      rw [h.gsEq, erase_filter_step hG, List.map_append]; rfl
    pE := by rw [List.map_append]; exact nodup_append_singleton h.pE hi.2
    pG := by rw [List.map_append]; exact nodup_append_singleton h.pG hj.2
    subE := hmem h.subE hi.1
    subG := hmem h.subG hj.1
    sc := hmem h.sc ⟨s, hs⟩ }

theorem stage_inv {t : Tbl} {s1 : Bool} {es0 gs0 : List Nat} (hE : es0.Nodup) (hG : gs0.Nodup)
    (fuel : Nat) (st : St) (h : MInv t es0 gs0 st) : MInv t es0 gs0 (stage t s1 fuel st) :=
  (stage_picks t s1 fuel st).inv (MInv t es0 gs0) (fun _ _ _ _ hst hb => MInv.step hE hG hst hb) h

theorem matchFrom_inv (t : Tbl) {es0 gs0 : List Nat} (hE : es0.Nodup) (hG : gs0.Nodup) :
    MInv t es0 gs0 (matchFrom t es0 gs0) :=
  stage_inv hE hG _ _ (stage_inv hE hG _ _ (MInv.init t es0 gs0))

theorem MInv.permE {t es0 gs0 st} (h : MInv t es0 gs0 st) (hE : es0.Nodup) :
    (st.pairs.map (·.1) ++ st.es).Perm es0 := by
  rw [h.esEq]; exact seen_append_filter_perm hE h.pE (List.forall_mem_map.2 h.subE)

theorem MInv.permG {t es0 gs0 st} (h : MInv t es0 gs0 st) (hG : gs0.Nodup) :
    (st.pairs.map (·.2) ++ st.gs).Perm gs0 := by
  rw [h.gsEq]; exact seen_append_filter_perm hG h.pG (List.forall_mem_map.2 h.subG)

end PEval.Matching
