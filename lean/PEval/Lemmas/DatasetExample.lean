import PEval.Lemmas.DatasetHistory
import PEval.Lemmas.Dataset2D
/-!
A concrete, non-trivial table set used by the non-vacuity `example`s of `PEval.Properties.C16`:
two samples 0.5 s apart, LIDAR_TOP calibrated at the ego origin plus a camera elsewhere, ego poses
rotated by the unit quaternions (3,0,0,4)/5 and (1,2,2,4)/5, a bus present in both samples (so the
second annotation has a history) and a pedestrian of an unregistered category in the first only.
`exTables2D` adds a second camera, traffic-light categories, four instances sharing two regulatory
element ids and five 2-D annotations (one on a sweep image that no sample exposes). `exTablesN1` calibrates
two traffic-light cameras `q` and `-q` (the input of finding C16-N1).
-/
namespace PEval.Dataset
open PEval

def exTables : Tables where
  samples := [⟨"s0", 1600000000000000, 1600000000⟩, ⟨"s1", 1600000000500000, 3200000001 / 2⟩]
  sensors := [⟨"senT", "LIDAR_TOP"⟩, ⟨"senF", "CAM_FRONT"⟩]
  calibratedSensors := [⟨"csT", "senT", Vec3.zero, Quat.one⟩, ⟨"csF", "senF", ⟨3/2, 0, 3/2⟩, ⟨1/2, -1/2, 1/2, -1/2⟩⟩]
  egoPoses := [⟨"e0", ⟨100, -50, 1/2⟩, ⟨3/5, 0, 0, 4/5⟩⟩, ⟨"e1", ⟨105, -49, 1/2⟩, ⟨1/5, 2/5, 2/5, 4/5⟩⟩,
               ⟨"e2", ⟨0, 0, 0⟩, Quat.one⟩]
  sampleData := [⟨"sd0", "s0", "e0", "csT", true⟩, ⟨"sd1", "s1", "e1", "csT", true⟩,
                 ⟨"sd2", "s1", "e2", "csT", false⟩, ⟨"sd3", "s0", "e2", "csF", true⟩]
  categories := [⟨"c0", "Vehicle.Bus"⟩, ⟨"c1", "human.pedestrian.adult"⟩]
  attributes := [⟨"at0", "vehicle.moving"⟩]
  visibility := [⟨"none", "v80-100"⟩, ⟨"3", "most"⟩]
  instances := [⟨"i0", "c0", ""⟩, ⟨"i1", "c1", ""⟩]
  annotations := [
    ⟨"a0", "s1", "i0", "none", ["at0"], ⟨120, -40, 1⟩, ⟨5/2, 10, 3⟩, ⟨4/5, 0, 0, 3/5⟩, "a2", "", 0⟩,
    ⟨"a1", "s0", "i1", "3", [], ⟨90, -60, 3/4⟩, ⟨1/2, 3/4, 7/4⟩, ⟨0, 0, 0, -1⟩, "", "", 12⟩,
    ⟨"a2", "s0", "i0", "3", [], ⟨118, -41, 1⟩, ⟨5/2, 10, 3⟩, ⟨4/5, 0, 0, 3/5⟩, "", "a0", 300⟩]

def exTables2D : Tables :=
  { exTables with
    sensors := [⟨"senT", "LIDAR_TOP"⟩, ⟨"senF", "CAM_FRONT"⟩, ⟨"senN", "CAM_TRAFFIC_LIGHT_NEAR"⟩],
    calibratedSensors := exTables.calibratedSensors ++ [⟨"csN", "senN", ⟨1, 0, 2⟩, Quat.one⟩],
    sampleData := exTables.sampleData ++ [⟨"sd4", "s0", "e1", "csN", true⟩, ⟨"sd5", "s0", "e0", "csN", false⟩],
    categories := exTables.categories ++ [⟨"c2", "green"⟩, ⟨"c3", "UNKNOWN"⟩, ⟨"c4", "red_left"⟩],
    instances := exTables.instances ++ [⟨"j0", "c2", "scene::traffic_light:123"⟩, ⟨"j1", "c3", "x::traffic_light:123"⟩,
      ⟨"j2", "c4", "77"⟩, ⟨"j3", "c4", "a:77"⟩],
    objectAnns := [
      ⟨"o0", "sd3", "j0", "c2", ["at0"], 21 / 2, 20, 1109 / 10, -7 / 2⟩,
      ⟨"o1", "sd4", "j1", "c3", [], 0, 0, 5, 5⟩,
      ⟨"o2", "sd5", "j2", "c4", [], 0, 0, 9, 9⟩,
      ⟨"o3", "sd4", "j2", "c4", [], 1, 2, 3, 4⟩,
      ⟨"o4", "sd3", "j3", "c4", [], 1, 1, 2, 2⟩] }

/-- the input of finding C16-N1: `exTables2D` with its traffic-light camera calibrated
`q = (4,0,0,3)/5` and a second traffic-light camera calibrated `-q` (one and the same rotation) -/
def exTablesN1 : Tables :=
  { exTables2D with
    sensors := exTables2D.sensors ++ [⟨"senX", "CAM_TRAFFIC_LIGHT_FAR"⟩],
    calibratedSensors := exTables.calibratedSensors ++
      [⟨"csN", "senN", ⟨1, 0, 2⟩, ⟨4/5, 0, 0, 3/5⟩⟩, ⟨"csX", "senX", ⟨1, 0, 3⟩, ⟨-4/5, 0, 0, -3/5⟩⟩] }

def exS0 : Sample := ⟨"s0", 1600000000000000, 1600000000⟩
def exS1 : Sample := ⟨"s1", 1600000000500000, 3200000001 / 2⟩
def exSd1 : SampleData := ⟨"sd1", "s1", "e1", "csT", true⟩
def exEgo1 : EgoPose := ⟨"e1", ⟨105, -49, 1/2⟩, ⟨1/5, 2/5, 2/5, 4/5⟩⟩
def exCsT : CalibratedSensor := ⟨"csT", "senT", Vec3.zero, Quat.one⟩
def exA0 : Annotation :=
  ⟨"a0", "s1", "i0", "none", ["at0"], ⟨120, -40, 1⟩, ⟨5/2, 10, 3⟩, ⟨4/5, 0, 0, 3/5⟩, "a2", "", 0⟩
def exA2 : Annotation :=
  ⟨"a2", "s0", "i0", "3", [], ⟨118, -41, 1⟩, ⟨5/2, 10, 3⟩, ⟨4/5, 0, 0, 3/5⟩, "", "a0", 300⟩

/-! ## referential integrity of concrete tables, by evaluation

Every clause of `WellFormed` / `WellFormed2D` is decidable once "this lookup answers" is (`decOk`), and is evaluated as
it stands; only the clause `sensors` is read off the value of `sensorFrames` (`ex*_sensorFrames`, computed once per
table: the kernel is slow on the long channel names). -/

instance decOk {α} (x : Except Err α) : Decidable (∃ a, x = .ok a) :=
  match x with
  | .ok a => .isTrue ⟨a, rfl⟩
  | .error _ => .isFalse nofun

/-! No calibrated rotation of the example tables is zero, so `sensorFrames` is its channel loop
(`sensorFrames_eq_frameIdsOf`) and the traffic-light average need not be evaluated. -/

theorem exTables_sensorFrames : sensorFrames exTables = .ok ["LIDAR_TOP", "CAM_FRONT"] := by
  rw [sensorFrames_eq_frameIdsOf (by decide +kernel)]; decide +kernel

theorem exTables2D_sensorFrames :
    sensorFrames exTables2D = .ok ["LIDAR_TOP", "CAM_FRONT", "CAM_TRAFFIC_LIGHT_NEAR"] := by
  rw [sensorFrames_eq_frameIdsOf (by decide +kernel)]; decide +kernel

theorem exTablesN1_sensorFrames :
    sensorFrames exTablesN1 = .ok ["LIDAR_TOP", "CAM_FRONT", "CAM_TRAFFIC_LIGHT_NEAR", "CAM_TRAFFIC_LIGHT_FAR"] := by
  rw [sensorFrames_eq_frameIdsOf (by decide +kernel)]; decide +kernel

theorem exTablesN1_tlrRawRotations :
    tlrRawRotations exTablesN1 ["LIDAR_TOP", "CAM_FRONT", "CAM_TRAFFIC_LIGHT_NEAR", "CAM_TRAFFIC_LIGHT_FAR"] =
      [⟨4/5, 0, 0, 3/5⟩, ⟨-4/5, 0, 0, -3/5⟩] := by decide +kernel

theorem exTables_wellFormed : WellFormed exTables := by
  refine ⟨?_, ?_, ?_, ?_, ?_, ?_, ?_, ?_, ?_, ?_, ?_, sensorFrames_sensors exTables_sensorFrames, ?_⟩ <;> decide +kernel

theorem exTables2D_wellFormed : WellFormed2D exTables2D := by
  refine ⟨?_, ?_, sensorFrames_sensors exTables2D_sensorFrames, ?_, ?_, ?_, ?_⟩ <;> decide +kernel

theorem exTablesN1_wellFormed : WellFormed exTablesN1 := by
  refine ⟨?_, ?_, ?_, ?_, ?_, ?_, ?_, ?_, ?_, ?_, ?_, sensorFrames_sensors exTablesN1_sensorFrames, ?_⟩ <;>
    decide +kernel

theorem exTablesN1_wellFormed2D : WellFormed2D exTablesN1 := by
  refine ⟨?_, ?_, sensorFrames_sensors exTablesN1_sensorFrames, ?_, ?_, ?_, ?_⟩ <;> decide +kernel

end PEval.Dataset
