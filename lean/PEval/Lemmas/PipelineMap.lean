import PEval.Lemmas.Pipeline
import PEval.Lemmas.APDict
/-!
The pipeline's AP result list: what a per-label call of the frame-level `Map` read and answered (`frame_apCall`),
the ground truths attached to the surviving results (`apResults_gts`), their heading weights (`apResults_hw`), and
the hypothesis "harness ids of the ground truths are pairwise different" (`GtIdsDistinct`).
-/
namespace PEval.Pipeline
open PEval

/-- a per-label call of the frame-level `Map` (every label's bucket a single list, the dicts keyed by `divT`)
answers only for a label of `divT`, and then with `Ap` of the results `divide_objects` files under the label, in
input order, on the number of ground truths carrying the label -/
theorem frame_apCall {tm : AP.TpMetric} {m : AP.Mode} {divT : List AP.Label} {rs : List AP.Res}
    {gtLabels : List AP.Label} {l : AP.Label} {t : Rat} {a : AP.ApOut}
    (h : AP.apCall tm m ((AP.divideObjects (some divT) rs).map (fun kv => (kv.1, [kv.2])))
      (AP.divideObjectsToNum (some divT) gtLabels) l t = .ok a) :
    divT.contains l = true ∧
      AP.apOf tm m [l] [t] (gtLabels.filter (fun k => k == l)).length
        (rs.filter (fun r => AP.bucketLabel (some divT) r == some l)) = .ok a := by
  obtain ⟨rss, G, hb, hn, ha⟩ := AP.apCall_ok_iff.1 h
  rw [AP.lookupKey_divideObjectsToNum] at hn
  split at hn
  · next hl =>
    rw [AP.lookupKey_map (fun v => [v]), AP.lookup_divideObjects_target rs hl] at hb
    cases hn
    cases hb
    exact ⟨hl, by simpa [AP.apOfNested] using ha⟩
  · cases hn

theorem filter_label_length (gts : List AP.Gt) (l : AP.Label) :
    ((gts.map (·.label)).filter (fun k => k == l)).length
      = (gts.filter (fun g => g.label == l)).length := by
  rw [List.filter_map, List.length_map]
  rfl

/-- harness ids of the ground truths handed to the matcher are pairwise different -/
def GtIdsDistinct (f : Frame) : Prop :=
  ((List.range f.scene.gts.length).map (fun j => (f.gt j).id)).Nodup

instance (f : Frame) : Decidable (GtIdsDistinct f) := by unfold GtIdsDistinct; infer_instance

theorem toAPRes_gt (f : Frame) (m : AP.Mode) (r : Matching.Res) :
    (toAPRes f m r).gt = r.2.map (toAPGt f) := rfl

theorem apResults_gts (f : Frame) (m : AP.Mode) (rs : List Matching.Res) :
    (apResults f m rs).filterMap (·.gt) = (Matching.usedGts (critResults f rs)).map (toAPGt f) := by
  unfold apResults Matching.usedGts
  rw [List.filterMap_map, List.map_filterMap]
  rfl

theorem apResults_hw {f : Frame} (hw : ∀ i j, 0 ≤ f.hw i j ∧ f.hw i j ≤ 1) (m : AP.Mode)
    (rs : List Matching.Res) : ∀ r ∈ apResults f m rs, 0 ≤ r.hw ∧ r.hw ≤ 1 :=
  List.forall_mem_map.2 fun ⟨i, o⟩ _ => by
    cases o with
    | none => exact ⟨le_refl 0, zero_le_one⟩
    | some j => exact hw i j

end PEval.Pipeline
