import PEval.Lemmas.FilterList
import PEval.Lemmas.ListBasics
/-!
# C10 — widening a bound never removes a kept object (on the declarative criteria)

A widened list is related to the old one entry by entry (`Pointwise R`, `R` one of `≤`, `≥`). The bound an object is
judged by (its label's entry, or the mean) moves along `R` (`judged_wider`), and every range test is monotone along it.
-/
namespace PEval.Filter

theorem pointwise_iff {α} {R : α → α → Prop} : ∀ {l l' : List α}, Pointwise R l l' ↔ List.Forall₂ R l l'
  | [], [] => by simp [Pointwise]
  | _ :: _, _ :: _ => by simp [Pointwise, pointwise_iff]
  | [], _ :: _ => by simp [Pointwise]
  | _ :: _, [] => by simp [Pointwise]

theorem pointwise_get {α} {R : α → α → Prop} {l l' : List α} (h : Pointwise R l l') {i : Nat} {t : α} :
    l[i]? = some t → ∃ t', l'[i]? = some t' ∧ R t t' := forall₂_getElem?_some (pointwise_iff.1 h)

theorem pointwise_sum_le {l l' : List Rat} (h : Pointwise (· ≤ ·) l l') : l.sum ≤ l'.sum := by
  induction pointwise_iff.1 h with
  | nil => exact le_rfl
  | cons hab h' ih => rw [List.sum_cons, List.sum_cons]; exact add_le_add hab (ih (pointwise_iff.2 h'))

theorem optRel_some {α} {R : α → α → Prop} {a b : Option (List α)} {l' : List α} (h : OptRel R a b)
    (hb : b = some l') : ∃ l, a = some l ∧ Pointwise R l l' := by
  subst hb
  cases a with
  | none => exact absurd h (by simp [OptRel])
  | some l => exact ⟨l, rfl, h⟩

theorem isMean_div {l : List Rat} (hne : l ≠ []) : IsMean l (l.sum / (l.length : Rat)) := by
  have : (l.length : Rat) ≠ 0 := by exact_mod_cast (List.length_pos_iff.2 hne).ne'
  exact ⟨hne, by field_simp⟩

theorem isMean_mono {l l' : List Rat} {t t' : Rat} (hl : Pointwise (· ≤ ·) l l') (h : IsMean l t)
    (h' : IsMean l' t') : t ≤ t' := by
  have hpos : (0 : Rat) < (l.length : Rat) := by exact_mod_cast List.length_pos_iff.2 h.1
  have hs := pointwise_sum_le hl
  rw [← h.2, ← h'.2, ← (pointwise_iff.1 hl).length_eq] at hs
  exact le_of_mul_le_mul_right hs hpos

theorem absBound_mono {c t t' : Rat} (hle : t ≤ t') (h : -t < c ∧ c < t) : -t' < c ∧ c < t' :=
  ⟨by linarith [h.1], h.2.trans_le hle⟩

theorem distLt_mono {d t t' : Rat} (hle : t ≤ t') (h : 0 < t ∧ d < t * t) : 0 < t' ∧ d < t' * t' :=
  ⟨h.1.trans_le hle, h.2.trans_le (mul_self_le_mul_self h.1.le hle)⟩

theorem distGt_anti {d t t' : Rat} (hle : t ≥ t') (h : t < 0 ∨ t * t < d) : t' < 0 ∨ t' * t' < d := by
  by_cases hneg : t' < 0
  · exact Or.inl hneg
  · rcases h with h | h
    · exact absurd (hle.trans_lt h) hneg
    · exact Or.inr ((mul_self_le_mul_self (not_lt.1 hneg) hle).trans_lt h)

variable {P P' : Params} {o : Obj}

theorem relaxed_wider (w : Wider P P') : Relaxed P' o ↔ Relaxed P o := by
  unfold Relaxed; rw [w.isGt, w.targets]

theorem labelBound_wider {α} {R : α → α → Prop} (w : Wider P P') {l l' : List α} (hl : Pointwise R l l') {t : α}
    (h : LabelBound P o l t) : ∃ t', LabelBound P' o l' t' ∧ R t t' := by
  obtain ⟨ts, i, hT, hi, hmin, hli⟩ := h
  obtain ⟨t', ht', hR⟩ := pointwise_get hl hli
  exact ⟨t', ⟨ts, i, by rw [w.targets, hT], hi, hmin, ht'⟩, hR⟩

theorem judged_wider (w : Wider P P') {R : Rat → Rat → Prop} {l l' : List Rat} (hl : Pointwise R l l')
    (hmean : ∀ {t t'}, IsMean l t → IsMean l' t' → R t t') {t : Rat} (h : JudgedBy P o l t) :
    ∃ t', JudgedBy P' o l' t' ∧ R t t' := by
  rcases h with ⟨hR, hm⟩ | ⟨hR, hb⟩
  · have hm' : IsMean l' _ := isMean_div fun e => hm.1 (List.eq_nil_of_length_eq_zero (by simp [(pointwise_iff.1 hl).length_eq, e]))
    exact ⟨_, Or.inl ⟨(relaxed_wider w).2 hR, hm'⟩, hmean hm hm'⟩
  · obtain ⟨t', hb', hle⟩ := labelBound_wider w hl hb
    exact ⟨t', Or.inr ⟨fun c => hR ((relaxed_wider w).1 c), hb'⟩, hle⟩

theorem judgedCriterion_wider (w : Wider P P') {R : Rat → Rat → Prop} {a a' : Option (List Rat)} (hrel : OptRel R a a')
    (hmean : ∀ {l l' t t'}, Pointwise R l l' → IsMean l t → IsMean l' t' → R t t') {φ : Rat → Prop}
    (hφ : ∀ {t t'}, R t t' → φ t → φ t') (h : ∀ l, a = some l → ∃ t, JudgedBy P o l t ∧ φ t) :
    ∀ l', a' = some l' → ∃ t', JudgedBy P' o l' t' ∧ φ t' := by
  intro l' hl'
  obtain ⟨l, hl, hpw⟩ := optRel_some hrel hl'
  obtain ⟨t, hj, ht⟩ := h l hl
  obtain ⟨t', hj', hle⟩ := judged_wider w hpw (hmean hpw) hj
  exact ⟨t', hj', hφ hle ht⟩

theorem confOK_wider (w : Wider P P') (h : ConfOK P o) : ConfOK P' o := by
  intro l' hl'
  obtain ⟨l, hl, hpw⟩ := optRel_some w.conf hl'
  rcases h l hl with ⟨hR, hs⟩ | ⟨hR, t, hb, hs⟩
  · exact Or.inl ⟨(relaxed_wider w).2 hR, hs⟩
  · obtain ⟨t', hb', hle⟩ := labelBound_wider w hpw hb
    exact Or.inr ⟨fun c => hR ((relaxed_wider w).1 c), t', hb', lt_of_le_of_lt hle hs⟩

theorem rangeOK_wider (w : Wider P P') {p : Pos} (h : RangeOK P o p) : RangeOK P' o p := by
  obtain ⟨hx, hy, hD, hd, hpts⟩ := h
  have hge : ∀ {l l' : List Rat} {t t' : Rat}, Pointwise (· ≥ ·) l l' → IsMean l t → IsMean l' t' → t ≥ t' :=
    fun hpw hm hm' => isMean_mono (pointwise_iff.2 (pointwise_iff.1 hpw).flip) hm' hm
  refine ⟨judgedCriterion_wider w w.maxX isMean_mono absBound_mono hx,
    judgedCriterion_wider w w.maxY isMean_mono absBound_mono hy,
    judgedCriterion_wider w w.maxDist isMean_mono distLt_mono hD,
    judgedCriterion_wider w w.minDist hge distGt_anti hd, ?_⟩
  intro hG l' hl'
  rw [w.isGt] at hG
  obtain ⟨l, hl, hpw⟩ := optRel_some w.minPts hl'
  obtain ⟨n, c, hb, hc, hle⟩ := hpts hG l hl
  obtain ⟨n', hb', hge⟩ := labelBound_wider w hpw hb
  exact ⟨n', c, hb', hc, le_trans hge hle⟩

/-- widening any bound keeps every object that satisfied the criteria -/
theorem criteria_wider (w : Wider P P') (h : Criteria P o) : Criteria P' o := by
  -- label, attributes, uuid and the choice of position read only what `Wider` keeps equal
  unfold Criteria LabelOK AttrOK UuidOK EgoPos at *
  rw [relaxed_wider w, w.targets, w.ignoreAttrs, w.isGt, w.uuids, w.hasTransforms]
  exact h.imp_right fun ⟨h1, h2, h3, h4, h5⟩ => ⟨h1, h2, confOK_wider w h3, fun p hp => rangeOK_wider w (h4 p hp), h5⟩

end PEval.Filter
