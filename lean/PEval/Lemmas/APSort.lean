import PEval.Model.AP
import Mathlib.Tactic.Linarith
import Mathlib.Algebra.Order.Ring.Rat
/-!
The ranking of the AP model: `sortDesc` (the model of `list.sort(key=…, reverse=True)`) returns a
permutation, sorted by descending key, in which elements of equal key keep their input order; it depends on the keys
only through their order (`sortDesc_congr`), commutes with maps (`sortDesc_map`) and, without ties, depends only
on the multiset of the input (`sortDesc_perm_eq`).
-/

namespace PEval.AP

variable {α : Type} (key : α → Rat)

theorem insertDesc_perm (x : α) (l : List α) : (insertDesc key x l).Perm (x :: l) := by
  fun_induction insertDesc key x l with
  | case2 y ys _ ih => exact (ih.cons y).trans (.swap x y ys)
  | case1 | case3 => exact .refl _

theorem sortDesc_perm (l : List α) : (sortDesc key l).Perm l := by
  induction l with
  | nil => exact List.Perm.refl _
  | cons x xs ih => exact (insertDesc_perm key x _).trans (List.Perm.cons x ih)

/-- inserting into a ranking keeps a pairwise relation `R` that holds from every element the new one passes (strictly larger
key) to it, and from it to every element it stays in front of -/
theorem insertDesc_pairwise {R : α → α → Prop} (x : α) {l : List α} (hs : l.Pairwise (fun a b => key b ≤ key a))
    (h : l.Pairwise R) (h1 : ∀ y ∈ l, key x < key y → R y x) (h2 : ∀ y ∈ l, key y ≤ key x → R x y) :
    (insertDesc key x l).Pairwise R := by
  induction l with
  | nil => exact List.pairwise_singleton R x
  | cons y ys ih =>
    rw [List.pairwise_cons] at hs h
    rw [List.forall_mem_cons] at h1 h2
    unfold insertDesc
    split
    · next hlt =>
      refine List.pairwise_cons.2 ⟨fun z hz => ?_, ih hs.2 h.2 h1.2 h2.2⟩
      rcases List.mem_cons.1 ((insertDesc_perm key x ys).mem_iff.1 hz) with rfl | hz'
      · exact h1.1 hlt
      · exact h.1 z hz'
    · next hge =>
      refine List.pairwise_cons.2 ⟨List.forall_mem_cons.2 ⟨h2.1 (not_lt.1 hge), fun z hz => ?_⟩, List.pairwise_cons.2 h⟩
      exact h2.2 z hz ((hs.1 z hz).trans (not_lt.1 hge))

theorem sortDesc_sorted (l : List α) : (sortDesc key l).Pairwise (fun a b => key b ≤ key a) := by
  induction l with
  | nil => exact List.Pairwise.nil
  | cons x xs ih => exact insertDesc_pairwise key x ih ih (fun _ _ => le_of_lt) fun _ _ => id

/-- an inserted element passes only elements of strictly larger key: the sub-list of any fixed key
value is unchanged -/
theorem insertDesc_filter (x : α) (l : List α) (k : Rat) :
    (insertDesc key x l).filter (fun a => decide (key a = k))
      = (x :: l).filter (fun a => decide (key a = k)) := by
  fun_induction insertDesc key x l with
  | case2 y ys hlt ih =>
    rw [List.filter_cons, ih]
    by_cases hy : key y = k
    · have hx : key x ≠ k := fun hx => by rw [hx, hy] at hlt; exact lt_irrefl _ hlt
      simp [hy, hx]
    · simp [List.filter_cons, hy]
  | case1 | case3 => rfl

theorem sortDesc_filter (l : List α) (k : Rat) :
    (sortDesc key l).filter (fun a => decide (key a = k)) = l.filter (fun a => decide (key a = k)) := by
  induction l with
  | nil => rfl
  | cons x xs ih =>
    show (insertDesc key x (sortDesc key xs)).filter _ = _
    rw [insertDesc_filter, List.filter_cons, List.filter_cons, ih]

theorem sortDesc_of_sorted {l : List α} (h : l.Pairwise (fun a b => key b ≤ key a)) :
    sortDesc key l = l := by
  induction l with
  | nil => rfl
  | cons x xs ih =>
    rw [List.pairwise_cons] at h
    rw [sortDesc, ih h.2]
    fun_cases insertDesc key x xs with
    | case2 y ys hlt => exact absurd (h.1 y List.mem_cons_self) (not_le.2 hlt)
    | case1 | case3 => rfl

theorem sortDesc_idem (l : List α) : sortDesc key (sortDesc key l) = sortDesc key l :=
  sortDesc_of_sorted key (sortDesc_sorted key l)

theorem sortDesc_perm_eq {l₁ l₂ : List α} (p : l₁.Perm l₂)
    (hd : l₁.Pairwise (fun a b => key a ≠ key b)) : sortDesc key l₁ = sortDesc key l₂ := by
  have p' : (sortDesc key l₁).Perm (sortDesc key l₂) := (sortDesc_perm key l₁).trans (p.trans (sortDesc_perm key l₂).symm)
  -- sorted and without ties is strictly descending, and a strict order lists a multiset in one way only
  have strict : ∀ l, l.Perm l₁ → (sortDesc key l).Pairwise (fun a b => key b < key a) := fun l pl =>
    ((sortDesc_sorted key l).and (((sortDesc_perm key l).trans pl).symm.pairwise_iff (fun {_ _} h => Ne.symm h) |>.mp hd)).imp
      fun h => lt_of_le_of_ne h.1 (Ne.symm h.2)
  exact p'.eq_of_pairwise (fun _ _ _ _ hab hba => absurd hab (lt_asymm hba)) (strict l₁ (.refl _)) (strict l₂ p.symm)

theorem insertDesc_congr {α : Type} (key key' : α → Rat) (x : α) (ys : List α)
    (h : ∀ y ∈ ys, (key x < key y ↔ key' x < key' y)) : insertDesc key x ys = insertDesc key' x ys := by
  fun_induction insertDesc key x ys with
  | case1 => rfl
  | case2 y ys hk ih =>
    rw [List.forall_mem_cons] at h
    rw [insertDesc, if_pos (h.1.1 hk), ih h.2]
  | case3 y ys hk => rw [insertDesc, if_neg fun hk' => hk ((h y List.mem_cons_self).2 hk')]

/-- two key functions that order the elements of `l` alike rank `l` alike (so `sortIdx pat`, the model's sort run on a rank
pattern, is the ranking of every confidence list ordered like the pattern) -/
theorem sortDesc_congr {α : Type} (key key' : α → Rat) (l : List α)
    (h : ∀ a ∈ l, ∀ b ∈ l, (key a < key b ↔ key' a < key' b)) : sortDesc key l = sortDesc key' l := by
  induction l with
  | nil => rfl
  | cons x xs ih =>
    rw [sortDesc, sortDesc, ih fun a ha b hb => h a (List.mem_cons_of_mem _ ha) b (List.mem_cons_of_mem _ hb)]
    exact insertDesc_congr key key' x _ fun y hy =>
      h x List.mem_cons_self y (List.mem_cons_of_mem _ ((sortDesc_perm key' xs).mem_iff.1 hy))

theorem insertDesc_map {α β : Type} (key : β → Rat) (f : α → β) (x : α) :
    ∀ ys : List α, insertDesc key (f x) (ys.map f) = (insertDesc (fun a => key (f a)) x ys).map f := by
  intro ys
  induction ys with
  | nil => rfl
  | cons y ys ih =>
    simp only [List.map_cons, insertDesc]
    split
    · simp [ih]
    · simp

theorem sortDesc_map {α β : Type} (key : β → Rat) (f : α → β) :
    ∀ l : List α, sortDesc key (l.map f) = (sortDesc (fun a => key (f a)) l).map f := by
  intro l
  induction l with
  | nil => rfl
  | cons x xs ih => simp only [List.map_cons, sortDesc, ih, insertDesc_map]

end PEval.AP
