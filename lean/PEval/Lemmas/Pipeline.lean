import PEval.Model.Pipeline
import PEval.Lemmas.MatchingResults
import PEval.Lemmas.PassFail
import PEval.Lemmas.ExceptLoop
/-!
The matcher's results as the pass/fail stage reads them (`toPFRes`: ground truths, estimates and the critical
filter commute with the translation), the agreement of the two label encodings (`labelsCoherent_sound`,
`labelOk_eq_isMatchable`), and what a returning `detectFrame` did (`detectFrameWith_ok`, `tp_is_matched_pair`, `mapsFor_mem`).
-/
namespace PEval.Pipeline
open PEval

theorem frameMap2_same (m : AP.Mode) (is2d : Bool) (T : List AP.Label) (thrs : List Rat)
    (rs : List AP.Res) (gtLabels : List AP.Label) :
    frameMap2 m is2d T T thrs rs gtLabels = AP.frameMap m is2d T thrs rs gtLabels := rfl

theorem toPFRes_gt (f : Frame) (r : Matching.Res) : (toPFRes f r).gt = r.2.map (toGT f) := by
  obtain ⟨i, o⟩ := r
  cases o <;> rfl

theorem toPFRes_est (f : Frame) (r : Matching.Res) : (toPFRes f r).est = (f.est r.1).id := by
  obtain ⟨i, o⟩ := r
  cases o <;> rfl

theorem toPFRes_estCrit (f : Frame) (r : Matching.Res) : (toPFRes f r).estCrit = (f.est r.1).crit := by
  obtain ⟨i, o⟩ := r
  cases o <;> rfl

theorem gtsOf_map_toPFRes (f : Frame) (rs : List Matching.Res) :
    PassFail.gtsOf (rs.map (toPFRes f)) = (Matching.usedGts rs).map (toGT f) := by
  unfold PassFail.gtsOf Matching.usedGts
  rw [List.filterMap_map, List.map_filterMap]
  exact congrArg (List.filterMap · rs) (funext (toPFRes_gt f))

theorem survives_iff (f : Frame) (r : Matching.Res) :
    survives f r = true ↔ (f.est r.1).crit = true ∧ ∀ j, r.2 = some j → (f.gt j).crit = true := by
  obtain ⟨i, o⟩ := r
  unfold survives
  cases o <;> simp

/-- the critical filter of the pass/fail model on translated results = translation of the critical
filter on matcher results: the AP stage and the pass/fail stage see the same result list -/
theorem resSurvives_toPFRes (f : Frame) (r : Matching.Res) :
    PassFail.resSurvives (toPFRes f r) = survives f r := by
  obtain ⟨i, o⟩ := r
  cases o <;> rfl

theorem criticalResults_map (f : Frame) (rs : List Matching.Res) :
    PassFail.criticalResults (rs.map (toPFRes f)) = (critResults f rs).map (toPFRes f) := by
  unfold PassFail.criticalResults critResults
  rw [List.filter_map]
  exact congrArg _ (List.filter_congr fun r _ => resSurvives_toPFRes f r)

theorem mem_criticalResults_map {k : ThrKey} {f : Frame} {rs : List Matching.Res} {r0 : PassFail.Res}
    (h : r0 ∈ PassFail.criticalResults (rs.map (toPFResWith k f))) :
    ∃ i oj, (i, oj) ∈ rs ∧ survives f (i, oj) = true ∧ r0 = toPFResWith k f (i, oj) := by
  obtain ⟨hmem, hs⟩ := List.mem_filter.1 h
  obtain ⟨⟨i, oj⟩, hm, rfl⟩ := List.mem_map.1 hmem
  exact ⟨i, oj, hm, by cases oj <;> exact hs, rfl⟩

theorem criticalGts_pfGts (f : Frame) :
    PassFail.criticalGts (pfGts f) = (critGtIdx f).map (toGT f) := by
  unfold PassFail.criticalGts pfGts critGtIdx
  rw [List.filter_map]
  rfl

theorem labelsCoherent_sound {f : Frame} (h : labelsCoherent f = true) {i j : Nat}
    {e g : Matching.Obj} (he : f.scene.ests[i]? = some e) (hg : f.scene.gts[j]? = some g) :
    Matching.isUnknown e.label = ((f.est i).label == AP.unknownLabel) ∧
    Matching.isFp g.label = ((f.gt j).label == AP.fpLabel) ∧
    (e.label == g.label) = ((f.est i).label == (f.gt j).label) := by
  unfold labelsCoherent at h
  have h1 := List.all_eq_true.1 h i (List.mem_range.2 (List.getElem?_eq_some_iff.1 he).1)
  simp only [he, Bool.and_eq_true, List.all_eq_true, beq_iff_eq] at h1
  have h2 := h1.2 j (List.mem_range.2 (List.getElem?_eq_some_iff.1 hg).1)
  simp only [hg, Bool.and_eq_true, beq_iff_eq] at h2
  exact ⟨h1.1, h2⟩

/-- with coherent encodings the label compatibility read by the pass/fail stage (computed on the
matcher's objects) is the one the metrics stage computes from its label numbers -/
theorem labelOk_eq_isMatchable {f : Frame} (h : labelsCoherent f = true) {i j : Nat}
    (hi : i < f.scene.ests.length) (hj : j < f.scene.gts.length) :
    labelOk f i j = AP.isMatchable (apPolicy f.cfg.policy) (f.est i).label (f.gt j).label := by
  obtain ⟨e, he⟩ : ∃ e, f.scene.ests[i]? = some e := ⟨_, List.getElem?_eq_getElem hi⟩
  obtain ⟨g, hg⟩ : ∃ g, f.scene.gts[j]? = some g := ⟨_, List.getElem?_eq_getElem hj⟩
  obtain ⟨hu, hf, hl⟩ := labelsCoherent_sound h he hg
  unfold labelOk
  simp only [he, hg]
  unfold Matching.isMatchable AP.isMatchable
  rw [hf, hl, hu]
  cases f.cfg.policy <;> rfl

theorem detectFrameWith_ok {k : ThrKey} {f : Frame} {o : Out} (h : detectFrameWith k f = .ok o) :
    ∃ rs, Matching.getObjectResults f.cfg f.scene = .ok rs ∧ o.matched = rs ∧
      o.pf = PassFail.evaluateFrame (pfFrameWith k f rs) ∧ mapsFor f rs f.maps = .ok o.maps ∧
      pfThrErrorWith k f (critResults f rs) = none := by
  revert h
  fun_cases detectFrameWith k f
  case case4 rs hr maps hm ht => rintro ⟨⟩; exact ⟨rs, hr, rfl, rfl, hm, ht⟩
  all_goals nofun

/-- `detectFrame`, `pfFrame`, `toPFRes`, `pfThr`, `pfThrError` unfold to their `…With .gtLabel` versions
(`PipelineProps.detectFrameWith_gtLabel` states it for `detectFrame`), so `h` is accepted as a hypothesis about
`detectFrameWith .gtLabel` -/
theorem detectFrame_ok {f : Frame} {o : Out} (h : detectFrame f = .ok o) :
    ∃ rs, Matching.getObjectResults f.cfg f.scene = .ok rs ∧ o.matched = rs ∧
      o.pf = PassFail.evaluateFrame (pfFrame f rs) ∧ mapsFor f rs f.maps = .ok o.maps :=
  let ⟨rs, h1, h2, h3, h4, _⟩ := detectFrameWith_ok (k := .gtLabel) h
  ⟨rs, h1, h2, h3, h4⟩

/-- every TP of the pipeline (any keying) is a surviving pair of the matcher, judged TP on its translated
record, and its threshold lookup returned -/
theorem tp_is_matched_pair {k : ThrKey} {f : Frame} {o : Out} (h : detectFrameWith k f = .ok o)
    (r : PassFail.Res) (hr : r ∈ o.pf.tp) :
    ∃ i j, (i, some j) ∈ o.matched ∧ survives f (i, some j) = true ∧ r = toPFResWith k f (i, some j) ∧
      r ∈ (PassFail.getPositive (PassFail.criticalResults (o.matched.map (toPFResWith k f)))).1 ∧
      ∃ t, pfThrOfWith k f i j = .ok t := by
  obtain ⟨rs, _, rfl, hpf, _, herr⟩ := detectFrameWith_ok h
  rw [hpf] at hr
  have hr' : r ∈ (PassFail.getPositive (PassFail.criticalResults (o.matched.map (toPFResWith k f)))).1 := hr
  obtain ⟨hmem, htp⟩ := List.mem_filter.1 (PassFail.getPositive_fst _ ▸ hr')
  obtain ⟨i, o2, hmm, hs, rfl⟩ := mem_criticalResults_map hmem
  cases o2 with
  | none =>
    obtain ⟨g, hg, _⟩ := (PassFail.isTP_iff _).1 htp
    cases hg
  | some j =>
    refine ⟨i, j, hmm, hs, rfl, hr', ?_⟩
    -- no lookup of a critical pair raised
    have := List.findSome?_eq_none_iff.1 herr (i, some j) (List.mem_filter.2 ⟨hmm, hs⟩)
    cases hx : pfThrOfWith k f i j with
    | ok t => exact ⟨t, rfl⟩
    | error e => simp only [hx] at this; cases this

/-- the loop over the `Map` configurations is core's `List.mapM` in `Except` (`Lemmas/ExceptLoop`) -/
theorem mapsFor_eq_mapM (f : Frame) (rs : List Matching.Res) : ∀ cfgs, mapsFor f rs cfgs = cfgs.mapM (mapFor f rs)
  | [] => rfl
  | mc :: rest => by
    rw [mapsFor, mapM_cons_eq, mapsFor_eq_mapM f rs rest]
    cases mapFor f rs mc with
    | error e => rfl
    | ok o => cases rest.mapM (mapFor f rs) <;> rfl

theorem mapsFor_mem {f : Frame} {rs : List Matching.Res} {cfgs : List MapCfg} {os : List AP.MapOut}
    (h : mapsFor f rs cfgs = .ok os) : ∀ o ∈ os, ∃ mc ∈ cfgs, mapFor f rs mc = .ok o :=
  fun _ ho => forall₂_mem_right (mapM_ok_iff.1 (mapsFor_eq_mapM f rs cfgs ▸ h)) ho

end PEval.Pipeline
