import PEval.Lemmas.MatchingResults
/-!
The "no blocking pair" invariant of the greedy loops: every candidate of a loop is either still
available (both members remaining) or *blocked* by an already made pair that shares a member with it
and satisfies a relation `R` (stage 1: compatible and not worse; stage 2: compatible or not worse).
-/
namespace PEval.Matching

/-- some pair of `ps` shares a member with `(i, j)` and is related to the score `s` by `R` -/
def Blocked (R : Nat × Nat → Rat → Prop) (ps : List (Nat × Nat)) (i j : Nat) (s : Rat) : Prop :=
  ∃ p ∈ ps, (p.1 = i ∨ p.2 = j) ∧ R p s

theorem Blocked.mono {R ps ps' i j s} (h : Blocked R ps i j s) (hsub : ∀ p ∈ ps, p ∈ ps') :
    Blocked R ps' i j s := by
  obtain ⟨p, hp, rest⟩ := h; exact ⟨p, hsub p hp, rest⟩

/-- the pair's own score is not worse than `s` ("scores at least as well") -/
def NotWorse (t : Tbl) (p : Nat × Nat) (s : Rat) : Prop :=
  ∃ s', t.score p.1 p.2 = some s' ∧ better t.maximize s s' = false

/-- stage-1 relation: the blocking pair is label-compatible and scores at least as well -/
def R1 (t : Tbl) (p : Nat × Nat) (s : Rat) : Prop := t.valid p.1 p.2 = true ∧ NotWorse t p s
/-- stage-2 relation: the blocking pair is label-compatible, or scores at least as well -/
def R2 (t : Tbl) (p : Nat × Nat) (s : Rat) : Prop := t.valid p.1 p.2 = true ∨ NotWorse t p s

/-- invariant of one loop over the index sets `es0 × gs0`: every candidate (w.r.t. the loop's filter)
is available or blocked -/
def StageInv (t : Tbl) (s1 : Bool) (R : Nat × Nat → Rat → Prop) (es0 gs0 : List Nat) (st : St) : Prop :=
  ∀ i j s, i ∈ es0 → j ∈ gs0 → t.score i j = some s → (s1 = true → t.valid i j = true) →
    (i ∈ st.es ∧ j ∈ st.gs) ∨ Blocked R st.pairs i j s

/-- a loop preserves `StageInv`, provided `R` holds between a pair the loop may pick (scored, passing the loop's filter)
and every score that is not better than the pair's (`hR`): the pick then blocks whatever it displaces -/
theorem stage_preserves (t : Tbl) (s1 : Bool) (R : Nat × Nat → Rat → Prop) (es0 gs0 : List Nat)
    (hR : ∀ i0 j0 s0 s, t.score i0 j0 = some s0 → (s1 = true → t.valid i0 j0 = true) →
      better t.maximize s s0 = false → R (i0, j0) s)
    (fuel : Nat) (st : St) (h : StageInv t s1 R es0 gs0 st) :
    StageInv t s1 R es0 gs0 (stage t s1 fuel st) := by
  refine (stage_picks t s1 fuel st).inv (StageInv t s1 R es0 gs0) ?_ h
  intro st i0 j0 s0 hst hb
  obtain ⟨⟨_, _, hs0, hv0⟩, hopt⟩ := pick_spec hb
  intro i j s hie hjg hs hv
  rcases hst i j s hie hjg hs hv with ⟨hi, hj⟩ | hbl
  · by_cases hm : i0 = i ∨ j0 = j
    · exact .inr ⟨(i0, j0), by simp, hm, hR i0 j0 s0 s hs0 hv0 (hopt i j s ⟨hi, hj, hs, hv⟩)⟩
    · have ⟨hii, hjj⟩ := not_or.1 hm
      exact .inl ⟨(List.mem_erase_of_ne (Ne.symm hii)).2 hi, (List.mem_erase_of_ne (Ne.symm hjj)).2 hj⟩
  · exact .inr (hbl.mono fun p hp => by simp [hp])

theorem StageInv.blocked_of_done {t : Tbl} {s1 : Bool} {R : Nat × Nat → Rat → Prop} {es0 gs0 : List Nat} {st : St}
    (h : StageInv t s1 R es0 gs0 st) (hd : cands t s1 st.es st.gs = []) {i j : Nat} {s : Rat} (hi : i ∈ es0)
    (hj : j ∈ gs0) (hs : t.score i j = some s) (hv : s1 = true → t.valid i j = true) : Blocked R st.pairs i j s :=
  (h i j s hi hj hs hv).resolve_left fun ha => cands_eq_nil_iff.1 hd i j s ⟨ha.1, ha.2, hs, hv⟩

theorem stage1_pairs_valid (t : Tbl) (es gs : List Nat) :
    ∀ p ∈ (stage1State t es gs).pairs, t.valid p.1 p.2 = true ∧ ∃ s, t.score p.1 p.2 = some s := by
  obtain ⟨new, hnew, hall⟩ := (stage_picks t true es.length { es := es, gs := gs, pairs := [] }).pairs
  intro p hp
  obtain ⟨s, _, _, h3, h4⟩ := hall p (by rwa [stage1State, hnew] at hp)
  exact ⟨h4 rfl, s, h3⟩

theorem stage1_done (t : Tbl) (es gs : List Nat) :
    cands t true (stage1State t es gs).es (stage1State t es gs).gs = [] :=
  stage_done t true es.length _ (Nat.le_refl _)

theorem stage1_blocked (t : Tbl) (es gs : List Nat) {i j : Nat} {s : Rat}
    (hi : i ∈ es) (hj : j ∈ gs) (hs : t.score i j = some s) (hv : t.valid i j = true) :
    Blocked (R1 t) (stage1State t es gs).pairs i j s :=
  (stage_preserves t true (R1 t) es gs (fun _ _ s0 _ hs0 hv0 hnw => ⟨hv0 rfl, s0, hs0, hnw⟩) es.length
    { es := es, gs := gs, pairs := [] } fun _ _ _ hi hj _ _ => Or.inl ⟨hi, hj⟩).blocked_of_done
    (stage1_done t es gs) hi hj hs fun _ => hv

theorem matchFrom_pairs_split (t : Tbl) (es gs : List Nat) :
    ∃ B, (matchFrom t es gs).pairs = (stage1State t es gs).pairs ++ B ∧
      ∀ p ∈ B, (∃ s, Avail t false (stage1State t es gs).es (stage1State t es gs).gs p.1 p.2 s) ∧
        t.valid p.1 p.2 = false := by
  obtain ⟨new, hnew, hall⟩ :=
    (stage_picks t false (stage1State t es gs).es.length (stage1State t es gs)).pairs
  refine ⟨new, by rw [matchFrom_eq]; exact hnew, fun p hp => ⟨hall p hp, ?_⟩⟩
  obtain ⟨s, h1, h2, h3, _⟩ := hall p hp
  -- a compatible cell still available after stage 1 would have been picked there
  cases hv : t.valid p.1 p.2 with
  | false => rfl
  | true => exact absurd ⟨h1, h2, h3, fun _ => hv⟩ (cands_eq_nil_iff.1 (stage1_done t es gs) p.1 p.2 s)

theorem matchFrom_blocked (t : Tbl) {es gs : List Nat} (hE : es.Nodup) (hG : gs.Nodup) {i j : Nat} {s : Rat}
    (hi : i ∈ es) (hj : j ∈ gs) (hs : t.score i j = some s) :
    Blocked (R2 t) (matchFrom t es gs).pairs i j s := by
  have hinv1 : MInv t es gs (stage1State t es gs) := stage_inv hE hG _ _ (MInv.init t es gs)
  -- after stage 1 every index is free or belongs to a (compatible) stage-1 pair
  have hinv : StageInv t false (R2 t) es gs (stage1State t es gs) := by
    intro i j s hi hj _ _
    rcases List.mem_append.1 ((hinv1.permE hE).mem_iff.2 hi) with hm | hie
    · obtain ⟨p, hp, hpi⟩ := List.mem_map.1 hm
      exact .inr ⟨p, hp, .inl hpi, .inl (stage1_pairs_valid t es gs p hp).1⟩
    rcases List.mem_append.1 ((hinv1.permG hG).mem_iff.2 hj) with hm | hjg
    · obtain ⟨p, hp, hpj⟩ := List.mem_map.1 hm
      exact .inr ⟨p, hp, .inr hpj, .inl (stage1_pairs_valid t es gs p hp).1⟩
    exact .inl ⟨hie, hjg⟩
  rw [matchFrom_eq]
  exact (stage_preserves t false (R2 t) es gs (fun i0 j0 s0 s hs0 _ hnw => Or.inr ⟨s0, hs0, hnw⟩) _ _
    hinv).blocked_of_done (stage_done t false _ _ (Nat.le_refl _)) hi hj hs nofun

end PEval.Matching
