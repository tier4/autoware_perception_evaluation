import PEval.Lemmas.ManagerHeap
import PEval.Lemmas.ManagerTracking
/-!
The heap model of the manager with its TRACKING scores made concrete: when the pure tracking part of an
`HSem` is `ManagerTracking.frameTrack` on the tracking view (`tbOf`) of the previous and the current
object results, every step of the heap machine is a step of the extended state machine
`PEval.ManagerTracking.trun` (`hstep_tsim`); `C13.heap_refines_tracking_machine` lifts this to runs.
-/
namespace PEval.ManagerHeap
open PEval.Manager PEval.ManagerTracking PEval

variable {Est OR C : Type}

/-- the manager's target labels and tracking configurations, and the tracking view of a list of object
results (`divide_objects(object_results, target_labels)` in the vocabulary of `Model/Clear.lean`) -/
structure TrackParams (OR : Type) where
  labels : List Nat
  cfgs : List TCfg
  tbOf : List OR → List (List TRes)

/-- the tracking part of `sem` is `evaluate_tracking` on `[previous bucket, current bucket]` per label with
the current frame's ground-truth counts.

The buckets on the right are divided by `p.labels`, the MANAGER's target labels; `evaluate_frame` divides the current
and the previous object results by `critical_object_filter_config.target_labels` (`perception_frame_result.py`:
`divide_objects(previous_result.object_results, critical…target_labels)`, `tracking_results.get(label, [])`).  NOT
guaranteed by the code; when the critical labels differ from the manager's (run against /repo, tracking task):
* permutation: the tracking scores are unchanged (`TrackingMetricsScore.__init__` reads
  `object_results_dict[target_label]` by key; a label of the previous frame's dict missing in the current one is filled
  with `[]` by `.get`); superset: unchanged unless an estimate carrying an extra label is paired with a ground truth of a
  manager label — `divide_objects` then files the result under the extra label (see `LabelsAgree`);
* a manager label not covered: `KeyError` in `TrackingMetricsScore.__init__` inside `evaluate_frame`, before the result is
  appended — `add_frame_result` raises and stores nothing (same mechanism as for `LabelsAgree`, see its doc comment and
  `Properties/C13Labels.lean`).
So `heap_refines_tracking_machine` is about calls whose critical filter is over the manager's labels. -/
def TracksBy (sem : HSem Est OR C (List TScore)) (p : TrackParams OR) : Prop :=
  ∀ c ors gts prev,
    sem.trackOf c ors gts prev = frameTrack p.labels p.cfgs (prev.map p.tbOf) (p.tbOf ors) (sem.detOf c ors gts)

def toTSem (sem : HSem Est OR C (List TScore)) (p : TrackParams OR) : TSem (List Est) C :=
  { labels := p.labels, cfgs := p.cfgs
    evalDet := fun f es c => pureDet sem c f es
    evalTB := fun f es c => p.tbOf (pureORs sem c f es) }

def absTRes (p : TrackParams OR) (r : HResult OR (List TScore)) : TFrameResult :=
  ⟨r.frameName, r.det, p.tbOf r.objectResults, r.track⟩

def absTState (p : TrackParams OR) (s : HState Est OR (List TScore)) : TState :=
  { dataset := s.dataset.map s.heap.frame, frameResults := s.frameResults.map (absTRes p) }

def absTOutAdded (p : TrackParams OR) : HOut OR (List TScore) → Option TFrameResult
  | .added r => some (absTRes p r)
  | _ => none

theorem hstep_tsim (sem : HSem Est OR C (List TScore)) (p : TrackParams OR) (ht : TracksBy sem p) (h0 : Heap Est)
    (s : HState Est OR (List TScore)) (op : HOp C) (hx : Ext h0 s.heap) (hv : DatasetValid h0 s.dataset)
    (hop : op.validIn h0) :
    absTState p (hstep sem s op).1 = (tstep (toTSem sem p) (absTState p s) (absOp h0 op)).1 ∧
    absTOutAdded p (hstep sem s op).2 = (tstep (toTSem sem p) (absTState p s) (absOp h0 op)).2.added? := by
  cases op with
  | add fr er c =>
    rw [hstep_add sem s fr er c (hx.valid hop)]
    simp only [absOp, tstep, ← hx.frame hop.1, ← hx.est er, absTOutAdded, TOut.added?]
    -- the stored result is `tevalFrame` of the values, against the tracking view of the predecessor
    have hr : absTRes p (addResult sem c (s.heap.frame fr) (s.heap.est er) s.heap.frames.length
          (s.frameResults.getLast?.map (·.objectResults)))
        = tevalFrame (toTSem sem p) (s.heap.frame fr) (s.heap.est er) c (s.frameResults.map (absTRes p)).getLast? := by
      simp only [absTRes, addResult, tevalFrame, toTSem, ht _ _ _ _, pureDet, List.getLast?_map, Option.map_map]
      rfl
    refine ⟨?_, congrArg some hr⟩
    simp only [absTState, taddFrameResult]
    congr 1
    · exact List.map_congr_left fun r hr' => (addState_ext sem s fr er c).frame (hx.lt (hv r hr'))
    · simp only [addState, List.map_append, List.map_cons, List.map_nil, hr]
  | scene => exact ⟨rfl, rfl⟩
  | lookup t thr => exact ⟨rfl, rfl⟩

end PEval.ManagerHeap
