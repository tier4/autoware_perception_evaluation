import PEval.Model.Analyzer
/-!
# C19 lemmas: the table is the concatenation of one row pair per item

`addAll` (one `add` per scene, `add_frame` per frame, four `format2df` blocks per frame) is shown equal
to a flat specification `allItemsFrom`, with running indices `0, 1, 2, …`; counts over the table are therefore sums over
the scenes and frames (`countP_table`) and lists read off its items concatenations (`filterMap_allItems`), every row comes
from an item of some frame (`mem_table`), and the paired rows (`get_pair_results`) are those of TP / FP results.  Core Lean only.
-/


namespace PEval.Analyzer

abbrev Item := Option Cell × Option Cell

/-- the two cells of a row pair (index forgotten) -/
def RowPair.strip (r : RowPair) : Item := (r.gt, r.est)

/-- the row pairs one frame contributes: TP results, FP results, TN objects, FN objects -/
def frameItems (area : Rat → Rat → Option Nat) (scene : Nat) (f : Frame) : List Item :=
  f.tp.map (resultCells area scene f.frameNum .TP) ++ f.fp.map (resultCells area scene f.frameNum .FP) ++
  f.tn.map (objectCells area scene f.frameNum .TN) ++ f.fn.map (objectCells area scene f.frameNum .FN)

def sceneItems (area : Rat → Rat → Option Nat) (scene : Nat) (frames : List Frame) : List Item :=
  frames.flatMap (frameItems area scene)

/-- all row pairs of the scenes numbered `k, k+1, …` -/
def allItemsFrom (area : Rat → Rat → Option Nat) : Nat → List (List Frame) → List Item
  | _, [] => []
  | k, fs :: rest => sceneItems area k fs ++ allItemsFrom area (k + 1) rest

theorem format2df_length {α : Type} (mk : α → Item) (l : List α) (i : Nat) :
    (format2df mk l i).length = l.length := by
  induction l generalizing i with
  | nil => rfl
  | cons a l ih => simp [format2df, ih]

theorem format2df_strip {α : Type} (mk : α → Item) (l : List α) (i : Nat) :
    (format2df mk l i).map RowPair.strip = l.map mk := by
  induction l generalizing i with
  | nil => rfl
  | cons a l ih => simp [format2df, ih, RowPair.strip]

theorem format2df_index {α : Type} (mk : α → Item) (l : List α) (i : Nat) :
    (format2df mk l i).map (·.index) = List.range' i l.length := by
  induction l generalizing i with
  | nil => rfl
  | cons a l ih => simp [format2df, ih, List.range'_succ]

theorem format2df_map {α β : Type} (mk : β → Item) (g : α → β) (l : List α) (i : Nat) :
    format2df mk (l.map g) i = format2df (fun a => mk (g a)) l i := by
  induction l generalizing i with
  | nil => rfl
  | cons a l ih => simp [format2df, ih]

theorem format2df_append {α : Type} (mk : α → Item) (l₁ l₂ : List α) (i : Nat) :
    format2df mk (l₁ ++ l₂) i = format2df mk l₁ i ++ format2df mk l₂ (i + l₁.length) := by
  induction l₁ generalizing i with
  | nil => rfl
  | cons a l ih => simp [format2df, ih, Nat.add_assoc, Nat.add_comm 1]

theorem addFrame_eq (area : Rat → Rat → Option Nat) (scene : Nat) (t : Table) (f : Frame) :
    addFrame area scene t f = t ++ format2df id (frameItems area scene f) t.length := by
  simp only [addFrame, frameItems, format2df_append, format2df_map, format2df_length, List.length_map,
    List.append_assoc, Nat.add_assoc, id]

theorem foldl_addFrame_eq (area : Rat → Rat → Option Nat) (scene : Nat) (frames : List Frame) (t : Table) :
    frames.foldl (addFrame area scene) t = t ++ format2df id (sceneItems area scene frames) t.length := by
  induction frames generalizing t with
  | nil => simp [sceneItems, format2df]
  | cons f fs ih =>
    have hs : sceneItems area scene (f :: fs) = frameItems area scene f ++ sceneItems area scene fs := by simp [sceneItems]
    rw [List.foldl_cons, ih, addFrame_eq, hs, format2df_append, List.append_assoc, List.length_append, format2df_length]

theorem foldl_add_eq (area : Rat → Rat → Option Nat) (scenes : List (List Frame)) (a : Analyzer) :
    (scenes.foldl (Analyzer.add area) a).table =
      a.table ++ format2df id (allItemsFrom area a.numScene scenes) a.table.length := by
  induction scenes generalizing a with
  | nil => simp [allItemsFrom, format2df]
  | cons fs rest ih =>
    rw [List.foldl_cons, ih]
    simp only [Analyzer.add, foldl_addFrame_eq, allItemsFrom, format2df_append, List.append_assoc, List.length_append,
      format2df_length]

theorem addAll_table (area : Rat → Rat → Option Nat) (scenes : List (List Frame)) :
    (addAll area scenes).table = format2df id (allItemsFrom area 0 scenes) 0 := by
  simpa [addAll] using foldl_add_eq area scenes {}

theorem addAll_strip (area : Rat → Rat → Option Nat) (scenes : List (List Frame)) :
    (addAll area scenes).table.map RowPair.strip = allItemsFrom area 0 scenes := by
  rw [addAll_table, format2df_strip, List.map_id]

theorem addAll_numScene (area : Rat → Rat → Option Nat) (scenes : List (List Frame)) :
    (addAll area scenes).numScene = scenes.length := by
  have h : ∀ (a : Analyzer), (scenes.foldl (Analyzer.add area) a).numScene = a.numScene + scenes.length := by
    induction scenes with
    | nil => intro a; simp
    | cons fs rest ih => intro a; rw [List.foldl_cons, ih]; simp [Analyzer.add]; omega
  simpa [addAll] using h {}

def Frame.items (f : Frame) : Nat := f.tp.length + f.fp.length + f.tn.length + f.fn.length

def sumN (l : List Nat) : Nat := l.foldr (· + ·) 0

@[simp] theorem sumN_nil : sumN [] = 0 := rfl
@[simp] theorem sumN_cons (a : Nat) (l : List Nat) : sumN (a :: l) = a + sumN l := rfl
/-- `sumN` is `List.sum` on `Nat` (by `rfl`), so core's lemmas about sums apply -/
theorem sumN_append (a b : List Nat) : sumN (a ++ b) = sumN a + sumN b := List.sum_append_nat

/-- sums over the frames of the scenes numbered `k, k+1, …` of a count that may look at the scene number -/
def sumScenesFrom (c : Nat → Frame → Nat) : Nat → List (List Frame) → Nat
  | _, [] => 0
  | k, fs :: rest => sumN (fs.map (c k)) + sumScenesFrom c (k + 1) rest

theorem sumScenesFrom_const (c : Frame → Nat) (k : Nat) (scenes : List (List Frame)) :
    sumScenesFrom (fun _ => c) k scenes = sumN (scenes.flatten.map c) := by
  induction scenes generalizing k with
  | nil => rfl
  | cons fs rest ih => simp [sumScenesFrom, ih, sumN_append]

variable (area : Rat → Rat → Option Nat)

theorem countP_allItems (q : Item → Bool) : ∀ (k : Nat) (scenes : List (List Frame)),
    (allItemsFrom area k scenes).countP q = sumScenesFrom (fun k f => (frameItems area k f).countP q) k scenes
  | _, [] => rfl
  | k, fs :: rest => by
    rw [allItemsFrom, sumScenesFrom, List.countP_append, countP_allItems q (k + 1) rest, sceneItems, List.countP_flatMap]
    rfl

theorem countP_frameItems (q : Item → Bool) (k : Nat) (f : Frame) :
    (frameItems area k f).countP q =
      f.tp.countP (fun p => q (resultCells area k f.frameNum .TP p)) +
      f.fp.countP (fun p => q (resultCells area k f.frameNum .FP p)) +
      f.tn.countP (fun o => q (objectCells area k f.frameNum .TN o)) +
      f.fn.countP (fun o => q (objectCells area k f.frameNum .FN o)) := by
  simp only [frameItems, List.countP_append, List.countP_map, Function.comp_def]

/-- every count over a selected part of the table is a sum over the frames: the row pairs kept by `p` that satisfy `q` -/
theorem countP_table (scenes : List (List Frame)) (p q : Item → Bool) :
    ((addAll area scenes).table.filter fun r => p r.strip).countP (fun r => q r.strip) =
      sumScenesFrom (fun k f => (frameItems area k f).countP fun it => q it && p it) 0 scenes := by
  rw [← countP_allItems, ← addAll_strip, List.countP_map, List.countP_filter]
  rfl

/-- a list read off the items that does not depend on the scene number is the concatenation of the frames' lists -/
theorem filterMap_allItems {β : Type} (g : Item → Option β) (c : Frame → List β)
    (hc : ∀ k f, (frameItems area k f).filterMap g = c f) :
    ∀ (k : Nat) (scenes : List (List Frame)), (allItemsFrom area k scenes).filterMap g = scenes.flatten.flatMap c
  | _, [] => rfl
  | k, fs :: rest => by
    simp only [allItemsFrom, sceneItems, List.filterMap_append, List.filterMap_flatMap, hc, filterMap_allItems g c hc (k + 1) rest,
      List.flatten_cons, List.flatMap_append]

theorem table_length (scenes : List (List Frame)) :
    (addAll area scenes).table.length = sumN (scenes.flatten.map Frame.items) := by
  rw [← List.length_map (f := RowPair.strip), addAll_strip, ← List.countP_true, countP_allItems,
    ← sumScenesFrom_const Frame.items 0]
  simp only [countP_frameItems, List.countP_true]
  rfl

/-- the two rows of a pair when both carry a status -/
def bothSides (it : Item) : Option (Cell × Cell) :=
  match it.1, it.2 with
  | some g, some e => some (g, e)
  | _, _ => none

theorem getPairResults_eq (t : Table) : getPairResults t = t.filterMap fun r => bothSides r.strip := rfl

theorem getPairResults_strip (t : Table) : getPairResults t = (t.map RowPair.strip).filterMap bothSides := by
  rw [List.filterMap_map]; rfl

theorem bothSides_eq_some {it : Item} {p : Cell × Cell} : bothSides it = some p ↔ it.1 = some p.1 ∧ it.2 = some p.2 := by
  obtain ⟨g, e⟩ := it
  cases g <;> cases e <;> simp [bothSides, Prod.ext_iff]

theorem bothSides_isSome (it : Item) : (bothSides it).isSome = (it.1.isSome && it.2.isSome) := by
  rcases it with ⟨_ | g, _ | e⟩ <;> rfl

theorem mem_getPairResults {t : Table} {p : Cell × Cell} :
    p ∈ getPairResults t ↔ ∃ r ∈ t, r.gt = some p.1 ∧ r.est = some p.2 := by
  simp only [getPairResults_eq, List.mem_filterMap, bothSides_eq_some, RowPair.strip]

theorem getPairResults_subset {t t' : Table} (h : ∀ r ∈ t', r ∈ t) {p : Cell × Cell} (hp : p ∈ getPairResults t') :
    p ∈ getPairResults t := by
  obtain ⟨r, hr, hrp⟩ := mem_getPairResults.mp hp
  exact mem_getPairResults.mpr ⟨r, h r hr, hrp⟩

theorem getPairResults_filter (t : Table) (q : RowPair → Bool) (q' : Cell × Cell → Bool)
    (h : ∀ r ∈ t, ∀ p, bothSides r.strip = some p → q r = q' p) :
    getPairResults (t.filter q) = (getPairResults t).filter q' := by
  induction t with
  | nil => rfl
  | cons r t ih =>
    have ih := ih fun r' hr' => h r' (List.mem_cons_of_mem _ hr')
    simp only [getPairResults_eq, List.filter_cons, List.filterMap_cons] at ih ⊢
    cases hb : bothSides r.strip with
    | none => cases q r <;> simp [hb, ih]
    | some p =>
      have hq := h r List.mem_cons_self p hb
      cases hqr : q r <;> simp [hb, ih, ← hq, hqr]

theorem mem_allItemsFrom (it : Item) (k : Nat) (scenes : List (List Frame)) (h : it ∈ allItemsFrom area k scenes) :
    ∃ k' f, f ∈ scenes.flatten ∧ it ∈ frameItems area k' f := by
  fun_induction allItemsFrom area k scenes with
  | case1 => nomatch h
  | case2 k fs rest ih =>
    simp only [List.mem_append, sceneItems, List.mem_flatMap] at h
    rcases h with ⟨f, hf, hit⟩ | h
    · exact ⟨k, f, by simp [hf], hit⟩
    · obtain ⟨k', f, hf, hit⟩ := ih h
      exact ⟨k', f, by simp [hf], hit⟩

theorem mem_table (scenes : List (List Frame)) (r : RowPair)
    (h : r ∈ (addAll area scenes).table) : ∃ k f, f ∈ scenes.flatten ∧ r.strip ∈ frameItems area k f := by
  have : r.strip ∈ (addAll area scenes).table.map RowPair.strip := List.mem_map_of_mem h
  rw [addAll_strip] at this
  exact mem_allItemsFrom area _ 0 scenes this

theorem table_pair_status (scenes : List (List Frame)) {p : Cell × Cell}
    (hp : p ∈ getPairResults (addAll area scenes).table) :
    (p.1.status = .TP ∧ p.2.status = .TP) ∨ (p.1.status = .FP ∧ p.2.status = .FP) := by
  obtain ⟨r, hr, hg, he⟩ := mem_getPairResults.mp hp
  obtain ⟨k, f, _, hit⟩ := mem_table area scenes r hr
  simp only [frameItems, List.mem_append, List.mem_map, RowPair.strip, resultCells, objectCells, Prod.mk.injEq, hg, he]
    at hit
  rcases hit with ((⟨q, _, h1, h2⟩ | ⟨q, _, h1, h2⟩) | ⟨o, _, _, h2⟩) | ⟨o, _, _, h2⟩
  · obtain ⟨g, _, h1⟩ := Option.map_eq_some_iff.mp h1
    exact Or.inl ⟨h1 ▸ rfl, Option.some.inj h2 ▸ rfl⟩
  · obtain ⟨g, _, h1⟩ := Option.map_eq_some_iff.mp h1
    exact Or.inr ⟨h1 ▸ rfl, Option.some.inj h2 ▸ rfl⟩
  · cases h2
  · cases h2

end PEval.Analyzer
