import PEval.Lemmas.AnalyzerStatus
import Mathlib.Tactic.ByContra
import Batteries.Data.Nat.Lemmas
/-!
# C19 lemmas: `get_confusion_matrix` — the repaired function and the PRE-FIX one (finding C19-N3, DESIGN §7)

`labelIndices` and `confusionWith` are given in closed form (`labelIndices_eq`, `confusionWith_eq`): over an index `tl` no
matrix is returned when no row is paired, `ValueError` is raised when some PAIRED row (both sides present) carries a label
— on its ground-truth row or on its estimate row — outside `tl`, and otherwise the matrix is the bincount of
`|tl| · index(gt label) + index(estimate label)` over the paired rows.  Everything else is read off that equation: the
pre-fix `getConfusionMatrixOld` (index `target_labels + ["unknown"]`) failed exactly for a paired row with an outside label;
the repaired `getConfusionMatrix` indexes the matrix by `confusionIndex` (`target_labels`, `"unknown"`, then the other labels
met, in order of first occurrence), never fails, and returns what the old function returned whenever that was defined.
-/

namespace PEval.Analyzer

theorem idxOf?_of_mem {tl : List String} {l : String} (h : l ∈ tl) : tl.idxOf? l = some (tl.idxOf l) := by
  cases hi : tl.idxOf? l with
  | none => exact absurd h (by simpa using hi)
  | some i => exact congrArg some (List.findIdx?_eq_some_iff_findIdx_eq.mp hi).2.symm

theorem labelIndices_eq (tl ls : List String) :
    labelIndices tl ls = if ∀ l ∈ ls, l ∈ tl then .ok (ls.map tl.idxOf) else .error "ValueError" := by
  induction ls with
  | nil => simp [labelIndices]
  | cons l ls ih =>
    rw [labelIndices, ih]
    by_cases hl : l ∈ tl
    · rw [idxOf?_of_mem hl]
      by_cases hls : ∀ l ∈ ls, l ∈ tl
      · rw [if_pos hls, if_pos (List.forall_mem_cons.mpr ⟨hl, hls⟩)]; rfl
      · rw [if_neg hls, if_neg fun h => hls (List.forall_mem_cons.mp h).2]
    · rw [List.idxOf?_eq_none_iff.mpr hl, if_neg fun h => hl (List.forall_mem_cons.mp h).1]

theorem sumN_range_mul (f : Nat → Nat) (n a : Nat) :
    sumN ((List.range a).map fun i => sumN ((List.range n).map fun j => f (n * i + j))) =
      sumN ((List.range (n * a)).map f) := by
  induction a with
  | zero => rfl
  | succ a ih =>
    rw [List.range_succ, List.map_append, sumN_append, ih, Nat.mul_succ, List.range_add, List.map_append, sumN_append,
      List.map_map]
    simp [Function.comp_def]

theorem bincount_sum (n : Nat) (indices : List Nat) (h : ∀ k ∈ indices, k < n * n) :
    sumN ((bincountMatrix n indices).map sumN) = indices.length := by
  rw [bincountMatrix, List.map_map]
  exact (sumN_range_mul (fun m => indices.count m) n n).trans (by
    simpa [List.count_eq_countP] using
      sumN_countP_keys (List.range (n * n)) List.nodup_range id (fun _ => true) indices
        fun k hk => List.mem_range.mpr (h k hk))

/-- entry `(i, j)` of a matrix (0 outside) -/
def entry (m : List (List Nat)) (i j : Nat) : Nat := (m.getD i []).getD j 0

theorem entry_bincount (n : Nat) (indices : List Nat) (i j : Nat) (hi : i < n) (hj : j < n) :
    entry (bincountMatrix n indices) i j = indices.count (n * i + j) := by
  simp [entry, bincountMatrix, List.getD, hi, hj]

theorem index_eq_iff (n g e i j : Nat) (he : e < n) (hj : j < n) : n * g + e = n * i + j ↔ g = i ∧ e = j := by
  refine ⟨fun h => ?_, fun ⟨h1, h2⟩ => h1 ▸ h2 ▸ rfl⟩
  have hn : 0 < n := by omega
  have hd := congrArg (· / n) h
  have hm := congrArg (· % n) h
  simp only [Nat.mul_add_div hn, Nat.div_eq_of_lt he, Nat.div_eq_of_lt hj, Nat.mul_add_mod, Nat.mod_eq_of_lt he,
    Nat.mod_eq_of_lt hj, Nat.add_zero] at hd hm
  exact ⟨hd, hm⟩
theorem confusionWith_eq (tl : List String) (t : Table) :
    confusionWith tl t =
      if getPairResults t = [] then .ok none
      else if ∀ p ∈ getPairResults t, p.1.obj.label ∈ tl ∧ p.2.obj.label ∈ tl then
        .ok (some (bincountMatrix tl.length
          ((getPairResults t).map fun p => tl.length * tl.idxOf p.1.obj.label + tl.idxOf p.2.obj.label)))
      else .error "ValueError" := by
  unfold confusionWith
  split
  · next he => rw [if_pos (by rw [List.isEmpty_iff.mp he]; rfl)]
  · -- both label columns are indexed iff every pair has both labels in `tl`
    simp only [labelIndices_eq, List.forall_mem_map, forall₂_and, ite_and]
    by_cases hp : getPairResults t = []
    · simp [hp]
    · rw [if_neg hp]
      by_cases hg : ∀ p ∈ getPairResults t, p.1.obj.label ∈ tl
      · by_cases he : ∀ p ∈ getPairResults t, p.2.obj.label ∈ tl
        · rw [if_pos hg, if_pos he, if_pos hg, if_pos he]
          simp [List.zip_map', hp]
          rfl
        · rw [if_pos hg, if_neg he, if_pos hg, if_neg he]
      · rw [if_neg hg, if_neg hg]

theorem confusionWith_ok {tl : List String} {t : Table} {m : List (List Nat)} (h : confusionWith tl t = .ok (some m)) :
    getPairResults t ≠ [] ∧ (∀ p ∈ getPairResults t, p.1.obj.label ∈ tl ∧ p.2.obj.label ∈ tl) ∧
    m = bincountMatrix tl.length
      ((getPairResults t).map fun p => tl.length * tl.idxOf p.1.obj.label + tl.idxOf p.2.obj.label) := by
  rw [confusionWith_eq] at h
  split at h
  · cases h
  · next hp =>
    split at h
    · next hall => exact ⟨hp, hall, (Option.some.inj (Except.ok.inj h)).symm⟩
    · cases h

theorem confusionWith_none_iff (tl : List String) (t : Table) :
    confusionWith tl t = .ok none ↔ getPairResults t = [] := by
  rw [confusionWith_eq]
  refine ⟨fun h => ?_, fun hp => if_pos hp⟩
  by_contra hp
  rw [if_neg hp] at h
  split at h <;> cases h

theorem confusionWith_ok_none_iff {tl : List String} {t : Table} {m : Option (List (List Nat))}
    (h : confusionWith tl t = .ok m) : m = none ↔ getPairResults t = [] := by
  rw [← confusionWith_none_iff tl t, h]
  exact ⟨fun e => e ▸ rfl, fun e => Except.ok.inj e⟩

theorem confusionWith_error_iff (tl : List String) (t : Table) :
    (∃ e, confusionWith tl t = .error e) ↔
      ∃ p ∈ getPairResults t, p.1.obj.label ∉ tl ∨ p.2.obj.label ∉ tl := by
  rw [confusionWith_eq]
  by_cases hp : getPairResults t = []
  · simp [hp]
  · rw [if_neg hp]
    by_cases hall : ∀ p ∈ getPairResults t, p.1.obj.label ∈ tl ∧ p.2.obj.label ∈ tl
    · rw [if_pos hall]
      exact ⟨fun ⟨e, h⟩ => (by cases h), fun ⟨p, hp, ho⟩ => absurd (hall p hp) (not_and_or.mpr ho)⟩
    · rw [if_neg hall]
      refine ⟨fun _ => ?_, fun _ => ⟨_, rfl⟩⟩
      simpa only [not_forall, not_and_or, exists_prop] using hall

theorem confusionWith_error_kind (tl : List String) (t : Table) (e : Err)
    (h : confusionWith tl t = .error e) : e = "ValueError" := by
  rw [confusionWith_eq] at h
  split at h
  · cases h
  · split at h
    · cases h
    · exact (Except.error.inj h).symm

theorem confusionWith_some (tl : List String) (t : Table) (m : List (List Nat))
    (h : confusionWith tl t = .ok (some m)) :
    sumN (m.map sumN) = (getPairResults t).length ∧ 0 < (getPairResults t).length := by
  obtain ⟨hp, hall, rfl⟩ := confusionWith_ok h
  refine ⟨?_, List.length_pos_iff.mpr hp⟩
  rw [bincount_sum, List.length_map]
  intro k hk
  obtain ⟨p, hpm, rfl⟩ := List.mem_map.mp hk
  exact Nat.mul_add_lt_mul_of_lt_of_lt (List.idxOf_lt_length_iff.mpr (hall p hpm).1) (List.idxOf_lt_length_iff.mpr (hall p hpm).2)

theorem confusionWith_shape (tl : List String) (t : Table) (m : List (List Nat))
    (h : confusionWith tl t = .ok (some m)) : m.length = tl.length ∧ ∀ row ∈ m, row.length = tl.length := by
  obtain ⟨_, _, rfl⟩ := confusionWith_ok h
  simp [bincountMatrix]

theorem confusionWith_entry (tl : List String) (t : Table) (m : List (List Nat))
    (h : confusionWith tl t = .ok (some m)) (i j : Nat) (hi : i < tl.length) (hj : j < tl.length) :
    entry m i j = (getPairResults t).countP
      (fun p => decide (tl.idxOf p.1.obj.label = i) && decide (tl.idxOf p.2.obj.label = j)) := by
  obtain ⟨_, hall, rfl⟩ := confusionWith_ok h
  rw [entry_bincount _ _ i j hi hj, List.count_eq_countP, List.countP_map]
  apply List.countP_congr
  intro p hp
  simp only [Function.comp_apply, beq_iff_eq, Bool.and_eq_true, decide_eq_true_eq]
  exact index_eq_iff _ _ _ i j (List.idxOf_lt_length_iff.mpr (hall p hp).2) hj

/-- a paired row with a label outside `target_labels + ["unknown"]` -/
def OutsideLabel (labels : List String) (p : Cell × Cell) : Prop :=
  p.1.obj.label ∉ confusionLabels labels ∨ p.2.obj.label ∉ confusionLabels labels

instance (labels : List String) (p : Cell × Cell) : Decidable (OutsideLabel labels p) := by
  unfold OutsideLabel; infer_instance

theorem extendLabels_eq_self (ls : List String) : ∀ tl : List String, (∀ l ∈ ls, l ∈ tl) → extendLabels tl ls = tl := by
  induction ls with
  | nil => intro tl _; rfl
  | cons l ls ih =>
    intro tl h
    have hl : tl.contains l = true := by simpa using h l (by simp)
    simp only [extendLabels, List.foldl_cons, hl, if_true]
    exact ih tl (fun x hx => h x (by simp [hx]))

theorem unknown_mem_confusionLabels (labels : List String) : "unknown" ∈ confusionLabels labels := by
  unfold confusionLabels
  split
  · rename_i h; simpa using h
  · simp

theorem confusionLabels_of_mem (l : List String) (h : "unknown" ∈ l) : confusionLabels l = l := by
  unfold confusionLabels
  have : l.contains "unknown" = true := by simpa using h
  rw [if_pos this]

theorem confusionIndex_spec (labels : List String) (t : Table) :
    confusionLabels labels <+: confusionIndex labels t ∧
    ∀ x, x ∈ confusionIndex labels t ↔
      x ∈ confusionLabels labels ∨ ∃ p ∈ getPairResults t, x = p.1.obj.label ∨ x = p.2.obj.label := by
  refine ⟨extendLabels_prefix _ _, fun x => ?_⟩
  unfold confusionIndex
  dsimp only
  rw [mem_extendLabels]
  simp only [List.mem_append, List.mem_map, ← exists_or, ← and_or_left, eq_comm (a := x)]

theorem confusion_ok (labels : List String) (t : Table) : ∃ m, getConfusionMatrix labels t = .ok m := by
  rw [getConfusionMatrix, confusionWith_eq]
  split
  · exact ⟨_, rfl⟩
  · rw [if_pos fun p hp => ⟨((confusionIndex_spec labels t).2 _).mpr (Or.inr ⟨p, hp, Or.inl rfl⟩),
      ((confusionIndex_spec labels t).2 _).mpr (Or.inr ⟨p, hp, Or.inr rfl⟩)⟩]
    exact ⟨_, rfl⟩

theorem confusion_old_ok_eq (labels : List String) (t : Table) (r : Option (List (List Nat)))
    (h : getConfusionMatrixOld labels t = .ok r) :
    confusionIndex labels t = confusionLabels labels ∧ getConfusionMatrix labels t = .ok r := by
  have hidx : confusionIndex labels t = confusionLabels labels := by
    apply extendLabels_eq_self
    intro l hl
    by_contra hn
    obtain ⟨e, he⟩ := (confusionWith_error_iff (confusionLabels labels) t).mpr (by
      simp only [List.mem_append, List.mem_map] at hl
      rcases hl with ⟨p, hp, rfl⟩ | ⟨p, hp, rfl⟩
      · exact ⟨p, hp, Or.inl hn⟩
      · exact ⟨p, hp, Or.inr hn⟩)
    exact absurd (h.symm.trans he) (by simp)
  exact ⟨hidx, by rw [getConfusionMatrix, hidx]; exact h⟩

theorem getConfusionMatrixExt_eq (labels : List String) (t : Table) :
    getConfusionMatrixExt labels t = getConfusionMatrix labels t := by
  unfold getConfusionMatrixExt getConfusionMatrixOld getConfusionMatrix
  rw [confusionLabels_of_mem]
  exact ((confusionIndex_spec labels t).2 _).mpr (Or.inl (unknown_mem_confusionLabels labels))

end PEval.Analyzer
