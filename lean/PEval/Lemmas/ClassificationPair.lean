import PEval.Lemmas.ClassificationLoop
import Mathlib.Data.List.Nodup
/-!
Facts about the id-based matchers: the two tests spelt out (`sameKey_def`, `cond1_iff`), when a pair has a null uuid
(`nulls`), the double loops taken apart (`outer_stepG`, `outer_ok`), totality of the unguarded loop under unique keys, and
what `WF` gives for duplicate-free inputs; under unique keys a same-key stage is the key join of what is available
(`Stage.mem_sameKey`).
-/
namespace PEval.Classification

/-- label class within a camera -/
def cls (o : Obj) : String × Label := (o.frame, o.label)

theorem sameKey_def {e g : Obj} : sameKey e g = true ↔ e.uuid = g.uuid ∧ e.frame = g.frame := by
  simp [sameKey]

theorem sameKey_iff {e g : Obj} : sameKey e g = true ↔ key e = key g :=
  sameKey_def.trans (Prod.ext_iff (x := key e) (y := key g)).symm

theorem cond1_iff {uf : Bool} {e g : Obj} :
    cond1 uf e g = true ↔ e.label = g.label ∧ (uf = true → e.uuid = g.uuid) ∧ e.frame = g.frame := by
  cases uf <;> simp [cond1, and_assoc]

theorem cond1_true_iff {e g : Obj} : cond1 true e g = true ↔ e.label = g.label ∧ sameKey e g = true := by
  rw [cond1_iff, sameKey_def]
  exact ⟨fun h => ⟨h.1, h.2.1 rfl, h.2.2⟩, fun h => ⟨h.1, fun _ => h.2.1, h.2.2⟩⟩

theorem cond1_true_sameKey {e g : Obj} (h : cond1 true e g = true) : sameKey e g = true := (cond1_true_iff.1 h).2

theorem cond1_false_iff {e g : Obj} : cond1 false e g = true ↔ cls e = cls g := by
  rw [cond1_iff]
  simp [cls, Prod.ext_iff, and_comm]

variable {step : Obj → Obj → St → Except Err St} {c : Obj → Obj → Bool}

/-- some pair the double loop visits has a null uuid -/
def nulls (es gs : List Obj) : Bool := (pairs es gs).any fun p => nullUuid p.1 p.2

theorem nulls_eq_true {es gs : List Obj} :
    nulls es gs = true ↔ ∃ e ∈ es, ∃ g ∈ gs, e.uuid = none ∨ g.uuid = none := by
  simp only [nulls, List.any_eq_true, mem_pairs, nullUuid, Bool.or_eq_true, Option.isNone_iff_eq_none]
  exact ⟨fun ⟨p, hp, h⟩ => ⟨p.1, hp.1, p.2, hp.2, h⟩, fun ⟨e, he, g, hg, h⟩ => ⟨(e, g), ⟨he, hg⟩, h⟩⟩

theorem nulls_mono {es es' gs gs' : List Obj} (he : es' ⊆ es) (hg : gs' ⊆ gs) (h : nulls es' gs' = true) :
    nulls es gs = true :=
  let ⟨e, hE, g, hG, hn⟩ := nulls_eq_true.1 h
  nulls_eq_true.2 ⟨e, he hE, g, hg hG, hn⟩

theorem nulls_iff {es gs : List Obj} (he : es ≠ []) (hg : gs ≠ []) :
    nulls es gs = true ↔ ∃ o ∈ es ++ gs, o.uuid = none := by
  obtain ⟨e0, he0⟩ := List.exists_mem_of_ne_nil es he
  obtain ⟨g0, hg0⟩ := List.exists_mem_of_ne_nil gs hg
  simp only [nulls_eq_true, List.mem_append]
  exact ⟨fun ⟨e, hE, g, hG, h⟩ => h.elim (fun h => ⟨e, Or.inl hE, h⟩) fun h => ⟨g, Or.inr hG, h⟩,
    fun ⟨o, ho, h⟩ => ho.elim (fun ho => ⟨o, ho, g0, hg0, Or.inl h⟩) fun ho => ⟨e0, he0, o, ho, Or.inr h⟩⟩

theorem nulls_false {es gs : List Obj} (hn : ∀ o ∈ es ++ gs, o.uuid ≠ none) : nulls es gs = false :=
  Bool.eq_false_iff.2 fun h =>
    let ⟨e, he, g, hg, h⟩ := nulls_eq_true.1 h
    h.elim (hn e (List.mem_append_left _ he)) (hn g (List.mem_append_right _ hg))

/-- one stage of a guarded matcher from the state `s` when no uuid is null -/
def stage (c : Obj → Obj → Bool) (s : St) : St := (pairs s.es s.gs).foldl (pick c) s

theorem outer_stepG (c : Obj → Obj → Bool) (s : St) :
    outer (stepG c) s.gs s.es s = if nulls s.es s.gs then .error "RuntimeError" else .ok (stage c s) := by
  rw [outer_eq_loop, loop_stepG]
  rfl

/-- a double loop that answers, taken apart; `hstep`: its body, when it does not raise, does what the guarded body does -/
theorem outer_ok (hstep : ∀ e g s s', step e g s = .ok s' → stepG c e g s = .ok s') {gs es : List Obj} {s s' : St}
    (h : outer step gs es s = .ok s') : nulls es gs = false ∧ ∃ t, Stage c (pairs es gs) s s' t :=
  loop_stepG_ok (loop_ok hstep _ _ _ (outer_eq_loop step gs es s ▸ h))

/-- the same from the initial state, where the appended pairs are all the pairs -/
theorem outer_ok_init (hstep : ∀ e g s s', step e g s = .ok s' → stepG c e g s = .ok s') {E G : List Obj} {s' : St}
    (h : outer step G E (initSt E G) = .ok s') : Stage c (pairs E G) (initSt E G) s' s'.res := by
  obtain ⟨_, t, S⟩ := outer_ok hstep h
  have : s'.res = t := S.res
  exact this ▸ S

theorem outer_ok_uuid_ne_none (hstep : ∀ e g s s', step e g s = .ok s' → stepG c e g s = .ok s') {gs es : List Obj}
    (he : es ≠ []) (hg : gs ≠ []) {s s' : St} (h : outer step gs es s = .ok s') : ∀ o ∈ es ++ gs, o.uuid ≠ none :=
  fun o ho hnone => Bool.false_ne_true ((outer_ok hstep h).1.symm.trans ((nulls_iff he hg).2 ⟨o, ho, hnone⟩))

/-- the unguarded loop succeeds if a pair satisfying the condition shares no member with another such pair (so both its
members are still available when it is visited) -/
theorem loop_stepU_total :
    ∀ (ps : List (Obj × Obj)) (s : St), ps.Nodup → (∀ p ∈ ps, nullUuid p.1 p.2 = false) →
      (∀ p ∈ ps, ∀ q ∈ ps, c p.1 p.2 = true → c q.1 q.2 = true → p.1 = q.1 ∨ p.2 = q.2 → p = q) →
      (∀ p ∈ ps, c p.1 p.2 = true → p.1 ∈ s.es ∧ p.2 ∈ s.gs) → ∃ s', loop (stepU c) ps s = .ok s'
  | [], s, _, _, _, _ => ⟨s, rfl⟩
  | p :: ps, s, hnd, hn, hu, hav => by
    have hnd' := List.nodup_cons.1 hnd
    have tl {P : Obj × Obj → Prop} (h : ∀ x ∈ p :: ps, P x) : ∀ x ∈ ps, P x := fun x hx => h x (List.mem_cons_of_mem _ hx)
    have hu' := fun q hq r hr => hu q (List.mem_cons_of_mem _ hq) r (List.mem_cons_of_mem _ hr)
    by_cases hc : c p.1 p.2 = true
    · have ha := hav p List.mem_cons_self hc
      simp only [loop, stepU, hn p List.mem_cons_self, hc, ha.1, ha.2, if_true, Bool.false_eq_true, if_false]
      refine loop_stepU_total ps _ hnd'.2 (tl hn) hu' fun q hq hcq => ?_
      have hne : ∀ h : p.1 = q.1 ∨ p.2 = q.2, False := fun h =>
        hnd'.1 (hu p List.mem_cons_self q (List.mem_cons_of_mem _ hq) hc hcq h ▸ hq)
      have hq' := hav q (List.mem_cons_of_mem _ hq) hcq
      exact ⟨(List.mem_erase_of_ne fun h => hne (Or.inl h.symm)).2 hq'.1,
        (List.mem_erase_of_ne fun h => hne (Or.inr h.symm)).2 hq'.2⟩
    · simp only [loop, stepU, hn p List.mem_cons_self, hc, Bool.false_eq_true, if_false]
      exact loop_stepU_total ps s hnd'.2 (tl hn) hu' fun q hq => hav q (List.mem_cons_of_mem _ hq)

theorem mem_left_iff_of_perm_append {l a b : List Obj} (h : l.Perm (a ++ b)) (hnd : l.Nodup) (x : Obj) :
    x ∈ a ↔ x ∈ l ∧ x ∉ b := by
  have hn := List.nodup_append.1 (h.nodup_iff.1 hnd)
  rw [h.mem_iff, List.mem_append]
  exact ⟨fun hx => ⟨Or.inl hx, fun hr => hn.2.2 x hx x hr rfl⟩, fun ⟨hx, hr⟩ => hx.resolve_right hr⟩

theorem WF.es_iff {ests gts : List Obj} {s : St} (w : WF ests gts s) (hnd : ests.Nodup) (x : Obj) :
    x ∈ s.es ↔ x ∈ ests ∧ x ∉ s.res.map Prod.fst := mem_left_iff_of_perm_append w.es hnd x

theorem WF.gs_iff {ests gts : List Obj} {s : St} (w : WF ests gts s) (hnd : gts.Nodup) (x : Obj) :
    x ∈ s.gs ↔ x ∈ gts ∧ x ∉ s.res.map Prod.snd := mem_left_iff_of_perm_append w.gs hnd x

theorem WF.res_fst_nodup {ests gts : List Obj} {s : St} (w : WF ests gts s) (hnd : ests.Nodup) :
    (s.res.map Prod.fst).Nodup := (List.nodup_append.1 (w.es.nodup_iff.1 hnd)).2.1

theorem WF.res_snd_nodup {ests gts : List Obj} {s : St} (w : WF ests gts s) (hnd : gts.Nodup) :
    (s.res.map Prod.snd).Nodup := (List.nodup_append.1 (w.gs.nodup_iff.1 hnd)).2.1

/-- under unique keys a member of a same-key pair that is not available any more was consumed by its partner (`hres`:
the pairs that consumed `e` or `g` agree in key) -/
theorem WF.mem_res_of_key {ests gts : List Obj} {s : St} (w : WF ests gts s) (hke : (ests.map key).Nodup)
    (hkg : (gts.map key).Nodup) {e g : Obj} (he : e ∈ ests) (hg : g ∈ gts) (hk : key e = key g)
    (hres : ∀ p ∈ s.res, p.1 = e ∨ p.2 = g → key p.1 = key p.2) (h : ¬(e ∈ s.es ∧ g ∈ s.gs)) : (e, g) ∈ s.res := by
  by_cases hes : e ∈ s.es
  · obtain ⟨⟨e', _⟩, hp, rfl⟩ := List.mem_map.1 (((w.mem_gs g).1 hg).resolve_left fun hgs => h ⟨hes, hgs⟩)
    have : e' = e := List.inj_on_of_nodup_map hke (w.mem_of_res hp).1 he
      ((hres _ hp (Or.inr rfl)).trans hk.symm)
    exact this ▸ hp
  · obtain ⟨⟨_, g'⟩, hp, rfl⟩ := List.mem_map.1 (((w.mem_es e).1 he).resolve_left hes)
    have : g' = g := List.inj_on_of_nodup_map hkg (w.mem_of_res hp).2 hg
      ((hres _ hp (Or.inl rfl)).symm.trans hk)
    exact this ▸ hp

/-- under unique keys a same-key stage over the working copies pairs exactly the available same-key pairs -/
theorem Stage.mem_sameKey {ests gts : List Obj} {s s' : St} {t : List (Obj × Obj)}
    (S : Stage sameKey (pairs s.es s.gs) s s' t) (w : WF ests gts s) (hke : (ests.map key).Nodup)
    (hkg : (gts.map key).Nodup) {e g : Obj} : (e, g) ∈ t ↔ e ∈ s.es ∧ g ∈ s.gs ∧ sameKey e g = true := by
  refine ⟨fun hp => let ⟨_, hk, he, hg⟩ := S.new _ hp; ⟨he, hg, hk⟩, fun ⟨he, hg, hk⟩ => ?_⟩
  have hnde : ests.Nodup := List.Nodup.of_map _ hke
  have he1 := (w.es_iff hnde e).1 he
  have hg1 := (w.gs_iff (List.Nodup.of_map _ hkg) g).1 hg
  -- the stage is maximal: `e` and `g` are not both still available
  have hmax : ¬(e ∈ s'.es ∧ g ∈ s'.gs) := fun hh =>
    S.max (List.nodup_append.1 (w.es.nodup_iff.1 hnde)).1 (e, g) (mem_pairs.2 ⟨he, hg⟩) ⟨hk, hh⟩
  have hp := (S.wf w).mem_res_of_key hke hkg he1.1 hg1.1 (sameKey_iff.1 hk) ?_ hmax
  · rw [S.res] at hp
    exact (List.mem_append.1 hp).resolve_left fun hp => he1.2 (List.mem_map_of_mem hp)
  · -- an earlier pair cannot contain `e` or `g`: both were available when the stage began
    intro p hp hpe
    rw [S.res] at hp
    rcases List.mem_append.1 hp with hp | hp
    · rcases hpe with rfl | rfl
      · exact absurd (List.mem_map_of_mem hp) he1.2
      · exact absurd (List.mem_map_of_mem hp) hg1.2
    · exact sameKey_iff.1 (S.new p hp).2.1

end PEval.Classification
