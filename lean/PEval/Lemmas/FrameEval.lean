import PEval.Model.FrameEval
import PEval.Lemmas.ExceptLoop
import PEval.Lemmas.FrameChange
import PEval.Lemmas.FilterList
import PEval.Lemmas.Pipeline
/-!
# C07, joining layer: the whole-frame evaluation depends on a rendering only through its readings

`evalWith_congr`: two readers (`R` on objects `o`, `R'` on their images `r o`) that agree on
* every filter verdict (`_is_target_object`) of every object of the frame, for every parameter set,
* every (unsigned) score row of every estimate × ground-truth pair,
* every `__eq__` answer among the ground truths,
and whose images keep the frame-free attributes, give the same `FrameOut`: kept sets of both filters, score
table, matcher result, pass/fail lists, `Map`s and CLEAR inputs (`evalWith` composes the stage models
`Filter.filterE`, `Matching.getObjectResults`, `Pipeline.detectFrame`, …).
The frame-id string the matcher compares (`"map"` vs `"base_link"`) differs between the renderings:
`finish_frame` shows that it is immaterial as long as both lists carry the same one.
`evalWith_trace` is the one unfolding of `evalWith`: the stages a returning evaluation went through (both manager
filters, the critical verdicts, the two tables, `Pipeline.detectFrame` and in it the matcher).
-/
namespace PEval.FrameChange
open PEval.Geometry PEval

/-! ## loops that may raise -/

/-- the two raising loops of the model are core's `List.mapM` in `Except` (`Lemmas/ExceptLoop`) -/
theorem mapE_eq_mapM {α β} (g : α → Except Err β) : ∀ l, mapE g l = l.mapM g
  | [] => rfl
  | a :: as => by
    rw [mapE, mapM_cons_eq, mapE_eq_mapM g as]
    cases g a with
    | error e => rfl
    | ok b => cases as.mapM g <;> rfl

/-- `flagsE` is `mapE` at `β := Bool` -/
theorem flagsE_eq_mapE {α} (f : α → Except Err Bool) : ∀ l, flagsE f l = mapE f l
  | [] => rfl
  | a :: as => by
    rw [flagsE, mapE, flagsE_eq_mapE f as]
    cases f a with
    | error e => rfl
    | ok b => cases mapE f as <;> rfl

theorem flagsE_eq_mapM {α} (f : α → Except Err Bool) (l : List α) : flagsE f l = l.mapM f :=
  (flagsE_eq_mapE f l).trans (mapE_eq_mapM f l)

theorem mapE_map {α β γ} {f : α → Except Err γ} {g : β → Except Err γ} {r : α → β} {l : List α}
    (h : ∀ a ∈ l, g (r a) = f a) : mapE g (l.map r) = mapE f l := by
  rw [mapE_eq_mapM, mapE_eq_mapM]
  exact mapM_map_congr h

theorem mapE_congr {α β} {f g : α → Except Err β} {l : List α} (h : ∀ a ∈ l, g a = f a) :
    mapE g l = mapE f l := by
  rw [mapE_eq_mapM, mapE_eq_mapM]
  exact mapM_congr h

theorem flagsE_map {α β} {f : α → Except Err Bool} {g : β → Except Err Bool} {r : α → β} {l : List α}
    (h : ∀ a ∈ l, g (r a) = f a) : flagsE g (l.map r) = flagsE f l := by
  rw [flagsE_eq_mapE, flagsE_eq_mapE]
  exact mapE_map h

theorem table_congr {α β γ} (r : α → β) (F : α → α → γ) (G : β → β → γ) (l₁ l₂ : List α)
    (h : ∀ a ∈ l₁, ∀ b ∈ l₂, G (r a) (r b) = F a b) :
    (l₁.map r).map (fun a => (l₂.map r).map (G a)) = l₁.map (fun a => l₂.map (F a)) := by
  rw [List.map_map]
  refine List.map_congr_left fun a ha => ?_
  rw [Function.comp, List.map_map]
  exact List.map_congr_left fun b hb => h a ha b hb

/-! ## what a returning evaluation did -/

theorem evalWith_trace {R : Reader} {C : EvalCfg} {ests gts : List SObj} {o : FrameOut}
    (h : evalWith R C ests gts = .ok o) :
    ∃ kE kG : List SObj,
      Filter.filterE (fun x => R.verdict { C.mgr with isGt := false } x.tagged) ests = .ok kE ∧
      Filter.filterE (fun x => R.verdict { C.mgr with isGt := true } x.tagged) gts = .ok kG ∧
      flagsE (fun x => R.verdict (Filter.estParams C.crit) x.tagged) kE = .ok o.critEst ∧
      flagsE (fun x => R.verdict (Filter.gtParams C.crit) x.tagged) kG = .ok o.critGt ∧
      o.keptEst = (kE.map (·.attr)).map (·.tag.id) ∧ o.keptGt = (kG.map (·.attr)).map (·.tag.id) ∧
      o.table = tableOf R kE kG ∧ o.same = eqTable R.same kG ∧
      Pipeline.detectFrame (mkFrame C R.frame (kE.map (·.attr)) (kG.map (·.attr)) o.critEst o.critGt o.table
        (eqKeys o.same)) = .ok o.out ∧
      Matching.getObjectResults C.matcher (mkFrame C R.frame (kE.map (·.attr)) (kG.map (·.attr)) o.critEst o.critGt
        o.table (eqKeys o.same)).scene = .ok o.out.matched := by
  revert h
  fun_cases evalWith R C ests gts
  case case3 kE hE kG hG =>
    fun_cases evalKept R C kE kG
    case case3 cE hcE cG hcG =>
      fun_cases finish _ _ _ _ _ _ _ _
      case case2 pf out hd =>
        rintro ⟨⟩
        obtain ⟨rs, hr, hm, _⟩ := Pipeline.detectFrame_ok hd
        exact ⟨kE, kG, hE, hG, hcE, hcG, rfl, rfl, rfl, rfl, hd, hm ▸ hr⟩
      nofun
    all_goals nofun
  all_goals nofun

/-! ## the frame-id string is immaterial when both lists carry the same one -/

section frame
variable {α : Type} (lab : α → String) (aE aG : List α) (val : Nat → Nat → Rat)

def sceneFr (fr : String) : Matching.Scene :=
  { ests := aE.map (fun a => ⟨lab a, fr⟩), gts := aG.map (fun a => ⟨lab a, fr⟩), val := val }

theorem cellAt_frame (c : Matching.Cfg) (fr fr' : String) (i j : Nat) :
    Matching.cellAt c (sceneFr lab aE aG val fr) i j = Matching.cellAt c (sceneFr lab aE aG val fr') i j := by
  unfold Matching.cellAt sceneFr
  simp only [List.getElem?_map]
  cases aE[i]? with
  | none => rfl
  | some a =>
    cases aG[j]? with
    | none => rfl
    -- the frame test compares the string with itself; the label policy reads labels only
    | some g => simp only [Option.map_some, Matching.cell, beq_self_eq_true, if_true]; rfl

theorem getObjectResults_frame (c : Matching.Cfg) (fr fr' : String) :
    Matching.getObjectResults c (sceneFr lab aE aG val fr) =
      Matching.getObjectResults c (sceneFr lab aE aG val fr') := by
  have hc : Matching.cellAt c (sceneFr lab aE aG val fr) = Matching.cellAt c (sceneFr lab aE aG val fr') :=
    funext fun i => funext fun j => cellAt_frame lab aE aG val c fr fr' i j
  -- besides the cells only the two lengths are read
  simp only [Matching.getObjectResults, Matching.tableError, Matching.mkTbl, hc]
  simp only [sceneFr, List.isEmpty_map, List.length_map]

end frame

/-- replacing the scene of a `Pipeline.Frame` by one the matcher, the label test and the ground-truth count
cannot tell apart changes nothing downstream -/
theorem pipeline_scene (f : Pipeline.Frame) (s : Matching.Scene)
    (hres : Matching.getObjectResults f.cfg s = Matching.getObjectResults f.cfg f.scene)
    (hlen : s.gts.length = f.scene.gts.length)
    (hlab : ∀ i j, Pipeline.labelOk { f with scene := s } i j = Pipeline.labelOk f i j) :
    Pipeline.detectFrame { f with scene := s } = Pipeline.detectFrame f ∧
    Pipeline.apGts { f with scene := s } = Pipeline.apGts f := by
  have hgts : Pipeline.apGts { f with scene := s } = Pipeline.apGts f := by
    simp only [Pipeline.apGts, Pipeline.critGtIdx, hlen]; rfl
  have hmaps : ∀ rs ms, Pipeline.mapsFor { f with scene := s } rs ms = Pipeline.mapsFor f rs ms := fun rs ms => by
    rw [Pipeline.mapsFor_eq_mapM, Pipeline.mapsFor_eq_mapM]
    exact mapM_congr fun mc _ => by simp only [Pipeline.mapFor, hgts]; rfl
  have hr : Pipeline.toPFRes { f with scene := s } = Pipeline.toPFRes f :=
    funext fun r => by simp only [Pipeline.toPFRes, hlab]; rfl
  refine ⟨?_, hgts⟩
  simp only [Pipeline.detectFrame, Pipeline.pfFrame, Pipeline.pfGts, hres, hmaps, hr, hlen]; rfl

theorem labelOk_frame (C : EvalCfg) (fr fr' : String) (aE aG : List Attr) (cE cG : List Bool)
    (T : List (List ScoreRow)) (keys : List Nat) (i j : Nat) :
    Pipeline.labelOk (mkFrame C fr aE aG cE cG T keys) i j = Pipeline.labelOk (mkFrame C fr' aE aG cE cG T keys) i j := by
  unfold Pipeline.labelOk mkFrame
  simp only [List.getElem?_map]
  cases aE[i]? with
  | none => rfl
  | some a => cases aG[j]? <;> rfl

theorem finish_frame (C : EvalCfg) (fr fr' : String) (aE aG : List Attr) (cE cG : List Bool)
    (T : List (List ScoreRow)) (tbl : List (List Bool)) :
    finish C fr aE aG cE cG T tbl = finish C fr' aE aG cE cG T tbl := by
  have hl := labelOk_frame C fr' fr aE aG cE cG T (eqKeys tbl)
  have hs := pipeline_scene (mkFrame C fr aE aG cE cG T (eqKeys tbl)) (mkFrame C fr' aE aG cE cG T (eqKeys tbl)).scene
    (getObjectResults_frame (fun a : Attr => a.mlabel) aE aG _ C.matcher fr' fr)
    ((List.length_map _).trans (List.length_map _).symm) hl
  have ht : trackRes C aE aG (mkFrame C fr' aE aG cE cG T (eqKeys tbl))
      = trackRes C aE aG (mkFrame C fr aE aG cE cG T (eqKeys tbl)) :=
    funext fun r => by simp only [trackRes, hl]; rfl
  simp only [finish, ht,
    show Pipeline.detectFrame (mkFrame C fr' aE aG cE cG T (eqKeys tbl))
      = Pipeline.detectFrame (mkFrame C fr aE aG cE cG T (eqKeys tbl)) from hs.1,
    show Pipeline.apGts (mkFrame C fr' aE aG cE cG T (eqKeys tbl))
      = Pipeline.apGts (mkFrame C fr aE aG cE cG T (eqKeys tbl)) from hs.2]
  rfl

/-! ## congruence of the whole-frame evaluation in the readings -/

/-- the two real readers agree on every filter verdict (any 3-D pose, any parameter set): what the map reader
shows of an object is the filter model's planar rendering (`Filter.renderMap`) of what the ego reader shows -/
theorem verdict_toMap (e : Pose) (h : e.rot.IsUnit) (P : Filter.Params) (o : SObj) :
    (readerMap e).verdict P (o.toMap e).tagged = readerEgo.verdict P o.tagged := by
  show Filter.isTarget { P with hasTransforms := true } (filterViewMap e (o.tagged.toMap e)) = _
  rw [filterView_toMap]
  exact Filter.isTarget_renderMap { P with hasTransforms := true } _ e.planar h rfl (by simp [filterViewEgo])

theorem tableOf_congr (R R' : Reader) (r : SObj → SObj) (kE kG : List SObj)
    (hrow : ∀ a ∈ kE, ∀ g ∈ kG, (R'.row (r a).obj (r g).obj).unsigned = (R.row a.obj g.obj).unsigned) :
    tableOf R' (kE.map r) (kG.map r) = tableOf R kE kG :=
  table_congr r _ _ kE kG hrow

theorem eqTable_congr (same same' : Obj → Obj → Bool) (r : SObj → SObj) (kG : List SObj)
    (hattr : ∀ o, (r o).attr = o.attr)
    (hsame : ∀ a ∈ kG, ∀ b ∈ kG, same' (r a).obj (r b).obj = same a.obj b.obj) :
    eqTable same' (kG.map r) = eqTable same kG :=
  table_congr r _ _ kG kG fun a ha b hb => by simp only [SObj.sameAs, hattr, hsame a ha b hb]

theorem evalKept_congr (R R' : Reader) (C : EvalCfg) (r : SObj → SObj) (kE kG : List SObj)
    (hattr : ∀ o, (r o).attr = o.attr)
    (hv : ∀ P, ∀ o ∈ kE ++ kG, R'.verdict P (r o).tagged = R.verdict P o.tagged)
    (hrow : ∀ a ∈ kE, ∀ g ∈ kG, (R'.row (r a).obj (r g).obj).unsigned = (R.row a.obj g.obj).unsigned)
    (hsame : ∀ a ∈ kG, ∀ b ∈ kG, R'.same (r a).obj (r b).obj = R.same a.obj b.obj) :
    evalKept R' C (kE.map r) (kG.map r) = evalKept R C kE kG := by
  unfold evalKept
  rw [flagsE_map (f := fun o => R.verdict (Filter.estParams C.crit) o.tagged)
        (g := fun o => R'.verdict (Filter.estParams C.crit) o.tagged) (r := r)
        (fun o ho => hv _ o (List.mem_append_left _ ho)),
      flagsE_map (f := fun o => R.verdict (Filter.gtParams C.crit) o.tagged)
        (g := fun o => R'.verdict (Filter.gtParams C.crit) o.tagged) (r := r)
        (fun o ho => hv _ o (List.mem_append_right _ ho)),
      tableOf_congr R R' r kE kG hrow, eqTable_congr R.same R'.same r kG hattr hsame]
  have ha : ∀ l : List SObj, (l.map r).map (·.attr) = l.map (·.attr) := fun l => by
    rw [List.map_map]; exact List.map_congr_left fun o _ => hattr o
  rw [ha kE, ha kG]
  simp only [finish_frame C R'.frame R.frame]

theorem evalWith_congr (R R' : Reader) (C : EvalCfg) (r : SObj → SObj) (ests gts : List SObj)
    (hattr : ∀ o, (r o).attr = o.attr)
    (hv : ∀ P, ∀ o ∈ ests ++ gts, R'.verdict P (r o).tagged = R.verdict P o.tagged)
    (hrow : ∀ a ∈ ests, ∀ g ∈ gts, (R'.row (r a).obj (r g).obj).unsigned = (R.row a.obj g.obj).unsigned)
    (hsame : ∀ a ∈ gts, ∀ b ∈ gts, R'.same (r a).obj (r b).obj = R.same a.obj b.obj) :
    evalWith R' C (ests.map r) (gts.map r) = evalWith R C ests gts := by
  unfold evalWith
  rw [Filter.filterE_map (f := fun o => R.verdict { C.mgr with isGt := false } o.tagged)
        (g := fun o => R'.verdict { C.mgr with isGt := false } o.tagged) (r := r)
        (fun o ho => hv _ o (List.mem_append_left _ ho)),
      Filter.filterE_map (f := fun o => R.verdict { C.mgr with isGt := true } o.tagged)
        (g := fun o => R'.verdict { C.mgr with isGt := true } o.tagged) (r := r)
        (fun o ho => hv _ o (List.mem_append_right _ ho))]
  cases hE : Filter.filterE (fun o => R.verdict { C.mgr with isGt := false } o.tagged) ests with
  | error e => rfl
  | ok kE =>
    cases hG : Filter.filterE (fun o => R.verdict { C.mgr with isGt := true } o.tagged) gts with
    | error e => rfl
    | ok kG =>
      have sE := Filter.filterE_sublist hE
      have sG := Filter.filterE_sublist hG
      exact evalKept_congr R R' C r kE kG hattr (fun P o ho => hv P o ((sE.append sG).subset ho))
        (fun a ha g hg => hrow a (sE.subset ha) g (sG.subset hg))
        fun a ha b hb => hsame a (sG.subset ha) b (sG.subset hb)

end PEval.FrameChange
