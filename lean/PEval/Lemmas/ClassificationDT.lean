import PEval.Model.ClassificationDT
import PEval.Lemmas.ClassificationLoop
/-!
# C11 decision skeletons = the model's algorithm on index objects

`skel_eq_model`: for every function (0 generic, otherwise traffic lights, 2 = `uuid_matching_first`), ANY numbers of
estimates and ground truths and every valuation, the hand-written skeleton `ClassificationDT.skel` evaluates to what the
MODEL's own loops (`outer`, `stepU`, `stepG`, `take`; `pairById` / `pairTlr` in their parametrised forms `pairByIdG` /
`pairTlrG`, see `pairById_eq` / `pairTlr_eq`) return on index objects whose equality tests are read from the valuation.

The skeleton is written in continuation-passing style over index lists, the model as `Except`-valued loops over objects.
Both states are images of one index state (pairs, remaining estimates, remaining ground truths): `skS` and `mdS`. A
skeleton continuation `k` and a model continuation `K` `Agree` when they give the same result on corresponding states;
each loop body and each loop maps agreeing continuations to agreeing continuations, and the final continuations agree.
-/
namespace PEval.ClassificationDT
open PEval PEval.DT PEval.Classification

theorem eval_conj (v : Val) (yes no : DTree) :
    ∀ as : List Nat, eval (conj as yes no) v = if as.all v.b then eval yes v else eval no v
  | [] => rfl
  | a :: as => by
    rw [conj, eval_askB, List.all_cons]
    cases v.b a
    · rfl
    · exact eval_conj v yes no as

theorem eval_anyTl (v : Val) (k : Bool → DTree) :
    ∀ (is : List Nat) (acc : Bool), eval (anyTl is acc k) v = eval (k (acc || is.any fun i => v.b (aTl i))) v
  | [], acc => by rw [anyTl, List.any_nil, Bool.or_false]
  | i :: is, acc => by rw [anyTl, eval_askB, eval_anyTl v k is, List.any_cons, Bool.or_assoc]

def skS (ps : List (Nat × Nat)) (es gs : List Nat) : S := ⟨ps.map fun p => digitOf p.1 (some p.2), es, gs⟩

def mdS (ps : List (Nat × Nat)) (es gs : List Nat) : St :=
  ⟨ps.map fun p => (idxE p.1, idxG p.2), es.map idxE, gs.map idxG⟩

theorem erase_map_of_sep {α β : Type} [DecidableEq α] [DecidableEq β] {f : α → β} {a : α} :
    ∀ {l : List α}, (∀ x ∈ l, f x = f a → x = a) → (l.map f).erase (f a) = (l.erase a).map f
  | [], _ => rfl
  | x :: l, h => by
    have ih := erase_map_of_sep fun y hy => h y (List.mem_cons_of_mem x hy)
    rw [List.map_cons, List.erase_cons, List.erase_cons]
    by_cases hx : x = a
    · rw [if_pos (beq_iff_eq.2 hx), if_pos (beq_iff_eq.2 (congrArg f hx))]
    · rw [if_neg (mt beq_iff_eq.1 hx), if_neg (mt (fun e => h x List.mem_cons_self (beq_iff_eq.1 e)) hx),
        List.map_cons, ih]

theorem mem_map_of_sep {α β : Type} {f : α → β} {a : α} {l : List α} (h : ∀ x ∈ l, f x = f a → x = a) :
    f a ∈ l.map f ↔ a ∈ l :=
  ⟨fun hm => by obtain ⟨b, hb, e⟩ := List.mem_map.1 hm; exact h b hb e ▸ hb, List.mem_map_of_mem⟩

theorem idxE_inj : Function.Injective idxE := fun _ _ h => congrArg Obj.id h

theorem idxG_inj : Function.Injective idxG := fun _ _ h => Nat.add_left_cancel (congrArg Obj.id h)

section
variable (ps : List (Nat × Nat)) (es gs : List Nat) {v : Val} {k : S → DTree} {K : St → DT.Res}

theorem mem_mdS_es (i : Nat) :
    idxE i ∈ (mdS ps es gs).es ↔ es.contains i = true :=
  (mem_map_of_sep fun _ _ h => idxE_inj h).trans List.contains_iff_mem.symm

theorem mem_mdS_gs (j : Nat) :
    idxG j ∈ (mdS ps es gs).gs ↔ gs.contains j = true :=
  (mem_map_of_sep fun _ _ h => idxG_inj h).trans List.contains_iff_mem.symm

/-- what the tables write for a run of the model's loops that continues with `K` -/
def bindRes (K : St → DT.Res) : Except Err St → DT.Res
  | .ok st => K st
  | .error e => encodeR (.error e)

theorem bindRes_loop (K : St → DT.Res) (step : Obj → Obj → St → Except Err St) (p : Obj × Obj) (ps : List (Obj × Obj))
    (st : St) :
    bindRes K (loop step (p :: ps) st) = bindRes (fun st' => bindRes K (loop step ps st')) (step p.1 p.2 st) := by
  rw [loop]
  cases step p.1 p.2 st <;> rfl

theorem bindRes_loop_append (K : St → DT.Res) (step : Obj → Obj → St → Except Err St) (ps qs : List (Obj × Obj))
    (st : St) :
    bindRes K (loop step (ps ++ qs) st) = bindRes (fun st' => bindRes K (loop step qs st')) (loop step ps st) := by
  rw [loop_append]
  cases loop step ps st <;> rfl

def Agree (v : Val) (k : S → DTree) (K : St → DT.Res) : Prop :=
  ∀ ps es gs, eval (k (skS ps es gs)) v = K (mdS ps es gs)

theorem Agree.take (h : Agree v k K) (i j : Nat) :
    eval (k ((skS ps es gs).take i j)) v = K (take (idxE i) (idxG j) (mdS ps es gs)) := by
  have h1 : (skS ps es gs).take i j = skS (ps ++ [(i, j)]) (es.erase i) (gs.erase j) := by
    simp only [S.take, skS, List.map_append, List.map_cons, List.map_nil]
  have h2 : Classification.take (idxE i) (idxG j) (mdS ps es gs) = mdS (ps ++ [(i, j)]) (es.erase i) (gs.erase j) := by
    simp only [Classification.take, mdS, List.map_append, List.map_cons, List.map_nil,
      erase_map_of_sep fun _ _ h => idxE_inj h, erase_map_of_sep fun _ _ h => idxG_inj h]
  rw [h1, h2]
  exact h _ _ _

theorem nullUuid_idx (i j : Nat) : ¬ nullUuid (idxE i) (idxG j) = true := Bool.false_ne_true

theorem stepU_agree (h : Agree v k K) (i j : Nat) :
    Agree v
      (fun s => conj [aUuid i j, aFrame i j]
        (if s.es.contains i && s.gs.contains j then k (s.take i j) else .leaf (.raise 6)) (k s))
      (fun st => bindRes K (stepU (sameKeyV v) (idxE i) (idxG j) st)) := by
  intro ps es gs
  have hc : [aUuid i j, aFrame i j].all v.b = sameKeyV v (idxE i) (idxG j) := by
    simp [sameKeyV, idxE, idxG]
  show eval (conj _ (if es.contains i && gs.contains j then _ else _) _) v = bindRes K (stepU _ _ _ _)
  rw [eval_conj, hc, apply_ite (eval · v), h.take, h ps es gs, stepU, if_neg (nullUuid_idx i j)]
  simp only [mem_mdS_es, mem_mdS_gs]
  cases sameKeyV v (idxE i) (idxG j) <;> cases es.contains i <;> cases gs.contains j <;> rfl

theorem gInner_agree (h : Agree v k K) (i : Nat) :
    ∀ js : List Nat, Agree v (fun s => gInner i js s k)
      (fun st => bindRes K (loop (stepU (sameKeyV v)) (js.map fun j => (idxE i, idxG j)) st))
  | [] => h
  | j :: js => fun ps es gs => by
    show _ = bindRes K (loop _ ((idxE i, idxG j) :: js.map _) _)
    rw [bindRes_loop]
    exact stepU_agree (gInner_agree h i js) i j ps es gs

theorem gOuter_agree (h : Agree v k K) (gs0 : List Nat) :
    ∀ is : List Nat, Agree v (fun s => gOuter gs0 is s k)
      (fun st => bindRes K (loop (stepU (sameKeyV v)) (pairs (is.map idxE) (gs0.map idxG)) st))
  | [] => h
  | i :: is => fun ps es gs => by
    show _ = bindRes K (loop _ (((gs0.map idxG).map fun g => (idxE i, g)) ++ pairs (is.map idxE) (gs0.map idxG)) _)
    rw [bindRes_loop_append, List.map_map]
    exact gInner_agree (gOuter_agree h gs0 is) i gs0 ps es gs

theorem encodeR_match (F : St → Except Err (List Classification.Res)) (r : Except Err St) :
    encodeR (match r with | .error x => .error x | .ok s => F s) = bindRes (fun s => encodeR (F s)) r := by
  cases r <;> rfl

theorem digits_paired :
    (paired (mdS ps es gs).res).map (fun r => digitOf r.est.id (r.gt.map (·.id - 10))) = (skS ps es gs).res := by
  simp [paired, mdS, skS, idxE, idxG, Function.comp_def]

theorem digits_fpResults (es : List Nat) :
    (fpResults (es.map idxE)).map (fun r => digitOf r.est.id (r.gt.map (·.id - 10))) = es.map (digitOf · none) := by
  simp [fpResults, idxE, Function.comp_def]

theorem gTail_agree (v : Val) :
    Agree v gTail fun st =>
      encodeR (.ok (paired st.res ++ fpResults (if !st.es.isEmpty && !(st.es.any (tlV v)) then st.es else []))) := by
  intro ps es gs
  have hany : (es.map idxE).any (tlV v) = es.any fun i => v.b (aTl i) := by rw [List.any_map]; rfl
  show eval (if es.isEmpty then _ else anyTl es false _) v =
    .other (codeOf ((_ ++ fpResults (if !(es.map idxE).isEmpty && !(es.map idxE).any (tlV v) then es.map idxE else [])).map _))
  rw [List.isEmpty_map, hany, List.map_append, digits_paired, apply_ite (eval · v), eval_anyTl, Bool.false_or]
  cases es.isEmpty <;> cases es.any fun i => v.b (aTl i) <;>
    simp [eval, digits_fpResults, skS, show fpResults [] = [] from rfl]

theorem withIdSkel_eq (n m : Nat) (v : Val) :
    eval (withIdSkel n m) v =
      encodeR (pairByIdG (sameKeyV v) (tlV v) ((List.range n).map idxE) ((List.range m).map idxG)) := by
  refine (gOuter_agree (gTail_agree v) _ _ [] _ _).trans ((encodeR_match _ _).symm.trans ?_)
  rw [← outer_eq_loop]
  rfl

/-- the condition of a stage of the traffic-light matcher, tests read from the valuation -/
def tCond (stage1 uf : Bool) (v : Val) : Obj → Obj → Bool := if stage1 then cond1V uf v else sameKeyV v

theorem stepG_agree (h : Agree v k K) (stage1 uf : Bool) (i j : Nat) :
    Agree v
      (fun s => conj (tAtoms stage1 uf i j) (if s.es.contains i && s.gs.contains j then k (s.take i j) else k s) (k s))
      (fun st => bindRes K (stepG (tCond stage1 uf v) (idxE i) (idxG j) st)) := by
  intro ps es gs
  have hc : (tAtoms stage1 uf i j).all v.b = tCond stage1 uf v (idxE i) (idxG j) := by
    cases stage1 <;> cases uf <;> simp [tAtoms, tCond, cond1V, sameKeyV, idxE, idxG, Bool.and_assoc]
  show eval (conj _ (if es.contains i && gs.contains j then _ else _) _) v = bindRes K (stepG _ _ _ _)
  rw [eval_conj, hc, apply_ite (eval · v), h.take, h ps es gs, stepG, if_neg (nullUuid_idx i j)]
  simp only [mem_mdS_es, mem_mdS_gs, Bool.decide_eq_true]
  cases tCond stage1 uf v (idxE i) (idxG j) <;> cases es.contains i <;> cases gs.contains j <;> rfl

theorem tLoop_agree (h : Agree v k K) (stage1 uf : Bool) :
    ∀ ps : List (Nat × Nat), Agree v (fun s => tLoop stage1 uf ps s k)
      (fun st => bindRes K (loop (stepG (tCond stage1 uf v)) (ps.map (Prod.map idxE idxG)) st))
  | [] => h
  | (i, j) :: ps => fun qs es gs => by
    show _ = bindRes K (loop _ ((idxE i, idxG j) :: ps.map _) _)
    rw [bindRes_loop]
    exact stepG_agree (tLoop_agree h stage1 uf ps) stage1 uf i j qs es gs

theorem tStage_agree (h : Agree v k K) (stage1 uf : Bool) :
    eval (tLoop stage1 uf (pairsOf es gs) (skS ps es gs) k) v =
      bindRes K (outer (stepG (tCond stage1 uf v)) (gs.map idxG) (es.map idxE) (mdS ps es gs)) := by
  rw [outer_eq_loop, pairs_map]
  exact tLoop_agree h stage1 uf _ ps es gs

end

theorem tlrSkel_eq (uf : Bool) (n m : Nat) (v : Val) :
    eval (tlrSkel uf n m) v =
      encodeR (pairTlrG (cond1V uf v) (sameKeyV v) ((List.range n).map idxE) ((List.range m).map idxG)) := by
  have h2 : Agree v (fun s2 => .leaf (.other (codeOf s2.res))) fun st => encodeR (.ok (paired st.res)) :=
    fun ps es gs => congrArg (fun ds => DT.Res.other (codeOf ds)) (digits_paired ps es gs).symm
  exact (tStage_agree [] _ _ (fun ps es gs => tStage_agree ps es gs h2 false uf) true uf).trans
    ((congrArg (bindRes · _) (funext fun _ => (encodeR_match _ _).symm)).trans (encodeR_match _ _).symm)

theorem skel_eq_model (f n m : Nat) (v : Val) : eval (skel f n m) v = modelOnIndex f n m v := by
  unfold modelOnIndex skel
  cases n with
  | zero => rfl
  | succ n =>
    rw [if_neg (Nat.succ_ne_zero n)]
    rcases hE : (List.range (n + 1)).map idxE with _ | ⟨e0, es⟩
    · simp [List.range_succ_eq_map] at hE
    cases m with
    | zero =>
      show _ = DT.Res.other (codeOf ((fpResults (e0 :: es)).map _))
      rw [← hE, digits_fpResults]
      rfl
    | succ m =>
      rcases hG : (List.range (m + 1)).map idxG with _ | ⟨g0, gs⟩
      · simp [List.range_succ_eq_map] at hG
      rw [if_neg (Nat.succ_ne_zero m), apply_ite (eval · v), withIdSkel_eq, tlrSkel_eq, hE, hG]
      exact (apply_ite encodeR _ _ _).symm

theorem skel_eq_model_on_index : ∀ f ∈ [0, 1, 2], ∀ nm ∈ shapes, skelOk f nm.1 nm.2 = true :=
  fun f _ nm _ => List.all_eq_true.2 fun _ _ => beq_iff_eq.2 (skel_eq_model f nm.1 nm.2 _)

end PEval.ClassificationDT
