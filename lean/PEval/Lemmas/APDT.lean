import PEval.Lemmas.ClearDT
import PEval.Model.APDT
/-!
Lemmas about the decision tables / normal forms of the AP kernels (core Lean only): reading the continuation-passing
skeletons of `PEval/Model/APDT.lean` over a valuation.
-/
namespace PEval.APDT
open PEval.AP PEval.ClearDT

theorem eval_kindSk {α : Type} (j : Nat) (k : K → DTree α) (v : Val) :
    (kindSk j k).eval v = (k (kindAtoms v j)).eval v := by
  unfold kindSk kindAtoms
  simp only [eval_askB]
  cases h1 : v.b (.inTargets j (v.b (.hasGt (.cur j))))
  · simp
  · cases h2 : v.b (.isTp (.cur j) j (v.b (.hasGt (.cur j)))) <;> simp [eval_askB, h2]

theorem eval_kindsSk {α : Type} (v : Val) :
    ∀ (js : List Nat) (k : List K → DTree α), (kindsSk js k).eval v = (k (js.map (kindAtoms v))).eval v := by
  intro js
  induction js with
  | nil => intro k; rfl
  | cons j js ih =>
    intro k
    simp only [kindsSk, eval_kindSk, ih, List.map_cons]

theorem eval_tpfpSk (pat : List Nat) (G : Nat) (v : Val) : (tpfpSk pat G).eval v = .ok (tpfpAtoms pat G v) := by
  unfold tpfpSk tpfpAtoms
  rw [eval_kindsSk]
  rfl

theorem eval_emptiesSk {α : Type} (v : Val) :
    ∀ (is : List Nat) (k : List Bool → DTree α),
      (emptiesSk is k).eval v = (k (is.map fun i => v.b (.empty i))).eval v := by
  intro is
  induction is with
  | nil => intro k; rfl
  | cons i is ih =>
    intro k
    simp only [emptiesSk, eval_askB, ih, List.map_cons]

theorem eval_mapSk (s : MapShape) (v : Val) : (mapSk s).eval v = mapAtoms s v := by
  unfold mapSk mapAtoms
  split
  · rw [eval_emptiesSk]; rfl
  · rfl

theorem eval_mapTree {β γ : Type} (f : β → γ) (v : Val) : ∀ t : DTree β, (mapTree f t).eval v = f (t.eval v) := by
  intro t
  induction t with
  | leaf r => rfl
  | ite | cmp =>
    simp only [mapTree, DTree.eval]
    split <;> assumption

theorem eval_relTree {α β : Type} (rel : α → β → Bool) (v : Val) (m : DTree β) :
    ∀ c : DTree α, (relTree rel c m).eval v = rel (c.eval v) (m.eval v) := by
  intro c
  induction c with
  | leaf r => exact eval_mapTree (rel r) v m
  | ite | cmp =>
    simp only [relTree, DTree.eval]
    split <;> assumption

theorem eval_kindsTree (pat : List Nat) (v : Val) : (kindsTree pat).eval v = (sortIdx pat).map (kindAtoms v) := by
  unfold kindsTree
  rw [eval_kindsSk]
  rfl

/-- a relational table check is sound: if `relTree rel code model` agrees with `.leaf true`, then on every consistent
valuation the code's leaf is related to the model's -/
theorem relTree_sound {α β : Type} (rel : α → β → Bool) (code : DTree α) (m : DTree β)
    (h : agree PVal.empty (relTree rel code m) (.leaf true) = true) (v : Val) (hc : v.consistent) :
    rel (code.eval v) (m.eval v) = true := by
  have := agree_sound v hc (.leaf true) (relTree rel code m) PVal.empty h (sat_empty v)
  rwa [eval_relTree] at this

theorem tpfpAdmits_ok {pat : List Nat} {G : Nat} {c : Except String TpFp} {ks : List K}
    (h : tpfpAdmits pat G c ks = true) :
    ∃ leaf, c = .ok leaf ∧ (pat = [] ∨ ∃ ks' ∈ tpfpVariants pat ks, leaf = leafOfKinds G ks') := by
  unfold tpfpAdmits at h
  cases c with
  | error e => cases h
  | ok leaf =>
    refine ⟨leaf, rfl, (Bool.or_eq_true_iff.1 h).imp List.isEmpty_iff.1 fun hv => ?_⟩
    obtain ⟨ks', hm, he⟩ := List.any_eq_true.1 hv
    exact ⟨ks', hm, of_decide_eq_true he⟩

theorem ignFlex_of_no_ign (ks : List K) (h : ∀ k ∈ ks, k ≠ .ign) : ignFlex ks = [ks] := by
  fun_induction ignFlex ks with
  | case1 => rfl
  | case2 ks ih => exact absurd rfl (h .ign List.mem_cons_self)
  | case3 k ks hk ih => rw [ih fun x hx => h x (List.mem_cons_of_mem _ hx)]; rfl

/-- a pattern without ties admits no rearrangement of the ranking (all tabulated shapes; kernel evaluation) -/
theorem tiePerms_of_strict : ∀ s ∈ tpfpShapes, strictPat s.1 = true → tiePerms s.1 = [List.range s.1.length] := by
  decide +kernel

/-- WHERE THE TEXT LEAVES NO CHOICE (no tie among the confidences, no ignored result) an admitted leaf IS the model's leaf -/
theorem tpfpAdmits_pinned (pat : List Nat) (G : Nat) (hs : (pat, G) ∈ tpfpShapes) (hne : pat ≠ []) (hst : strictPat pat = true)
    (c : Except String TpFp) (ks : List K) (hlen : ks.length = pat.length) (hno : ∀ k ∈ ks, k ≠ .ign)
    (h : tpfpAdmits pat G c ks = true) : c = .ok (leafOfKinds G ks) := by
  obtain ⟨leaf, rfl, hp | ⟨ks', hm, rfl⟩⟩ := tpfpAdmits_ok h
  · exact absurd hp hne
  · have hv : tpfpVariants pat ks = [ks] := by
      unfold tpfpVariants
      rw [tiePerms_of_strict (pat, G) hs hst]
      simp only [List.flatMap_cons, List.flatMap_nil, List.append_nil]
      rw [← hlen, map_getD_range, ignFlex_of_no_ign ks hno]
    rw [hv, List.mem_singleton] at hm
    rw [hm]

end PEval.APDT
