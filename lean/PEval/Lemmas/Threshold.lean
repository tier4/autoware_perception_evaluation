import PEval.Model.Threshold
/-!
# Lemmas about the threshold model (C15)

`set_thresholds` is a broadcast (`__get_thresholds` / `__get_nested_thresholds`) followed by a validation
(`check_thresholds` / `check_nested_thresholds`).  Every specification stands for rows: ONE row in flat mode (`rowIn`: a
number is the singleton list of itself), a LIST of rows in nested mode (`rowsIn`).  A row is well-formed when it is a list
of numbers of length 1 or `n` (`rowOK`); the broadcast of a well-formed row (`normRow`) is a flat normal form, and the
validation lets exactly the normal forms pass, unchanged.  Hence one equation per mode, for every value
(`setThresholds_flat`, `setThresholds_nested`): accepted exactly when every row is well-formed, the result is the rows
broadcast, the error otherwise is `errOf`.  The property theorems in `PEval/Properties/C15.lean` (shape, idempotence,
rejections, the characterisations by `FlatOK` / `NestedOK`) are read off these two.  Core Lean only.
-/
namespace PEval.Threshold

/-- flat normal form for `n` labels: a list of exactly `n` numbers -/
def IsFlatNorm (n : Nat) (r : PyVal) : Prop :=
  ∃ xs, r = .list xs ∧ xs.length = n ∧ ∀ x ∈ xs, isReal x = true

/-- nested normal form for `n` labels: a non-empty list of flat normal forms -/
def IsNestedNorm (n : Nat) (r : PyVal) : Prop :=
  ∃ rows, r = .list rows ∧ rows ≠ [] ∧ ∀ row ∈ rows, IsFlatNorm n row

/-- `row` is the input row `t` unchanged, or the broadcast of the singleton `t = [x]` -/
def RowOf (n : Nat) (t row : PyVal) : Prop :=
  row = t ∨ ∃ x, t = .list [x] ∧ row = .list (List.replicate n x)

/-- well-formed flat specification: a number, or a non-empty list of numbers of length 1 or `n` -/
def FlatOK (v : PyVal) (n : Nat) : Prop :=
  isReal v = true ∨
    ∃ xs, v = .list xs ∧ xs ≠ [] ∧ (∀ x ∈ xs, isReal x = true) ∧ (xs.length = 1 ∨ xs.length = n)

/-- well-formed nested specification (for `n ≥ 1` labels): a number, a non-empty list of numbers, or a
non-empty list of rows, each a list of numbers of length 1 or `n` -/
def NestedOK (v : PyVal) (n : Nat) : Prop :=
  1 ≤ n ∧ (isReal v = true ∨
    ∃ xs, v = .list xs ∧ xs ≠ [] ∧
      ((∀ x ∈ xs, isReal x = true) ∨
       (∀ x ∈ xs, ∃ ys, x = .list ys ∧ (ys.length = 1 ∨ ys.length = n) ∧ ∀ y ∈ ys, isReal y = true)))

/-- output rows correspond one to one, in order, to the input rows (`RowOf` position by position):
nothing is dropped, added, padded or truncated -/
inductive RowsOf (n : Nat) : List PyVal → List PyVal → Prop
  | nil : RowsOf n [] []
  | cons {t row : PyVal} {ts rows : List PyVal} :
      RowOf n t row → RowsOf n ts rows → RowsOf n (t :: ts) (row :: rows)

/-- consecutive guards that raise the same error are one guard -/
theorem ite_or_same {α : Type} (p q : Prop) [Decidable p] [Decidable q] (e x : α) :
    (if p then e else if q then e else x) = if p ∨ q then e else x := by
  by_cases p <;> by_cases q <;> simp [*]

theorem ite_cases {α : Type} {c : Prop} [Decidable c] {x y r : α} (h : (if c then x else y) = r) :
    (c ∧ x = r) ∨ (¬c ∧ y = r) := by
  by_cases hc : c
  · exact Or.inl ⟨hc, by rwa [if_pos hc] at h⟩
  · exact Or.inr ⟨hc, by rwa [if_neg hc] at h⟩

theorem ok_ite_iff {α : Type} {c : Prop} [Decidable c] {a r : α} {e : Err} :
    (if c then (.ok a : Except Err α) else .error e) = .ok r ↔ c ∧ r = a := by
  by_cases c <;> simp [*, eq_comm]

theorem forall_mem_and_left {α : Type} {L : List α} (h : L ≠ []) (c : Prop) (p : α → Prop) :
    (∀ y ∈ L, c ∧ p y) ↔ c ∧ ∀ y ∈ L, p y := by
  obtain ⟨y, hy⟩ := List.exists_mem_of_ne_nil _ h
  exact ⟨fun H => ⟨(H y hy).1, fun z hz => (H z hz).2⟩, fun H z hz => ⟨H.1, H.2 z hz⟩⟩

theorem any_not_isReal (xs : List PyVal) : xs.any (fun t => !isReal t) = !xs.all isReal :=
  (List.not_all_eq_any_not ..).symm

@[simp] theorem pyMul_singleton (x : PyVal) (n : Nat) : pyMul [x] n = List.replicate n x := by
  induction n with
  | zero => rfl
  | succ k ih => simp [pyMul, List.replicate_succ] at ih ⊢

@[simp] theorem pyMul_one (xs : List PyVal) : pyMul xs 1 = xs := by simp [pyMul]

/-- a list of numbers of length 1 or `n`: a well-formed row of a nested specification, and (when not empty) a
well-formed flat specification -/
def rowOK (n : Nat) (t : PyVal) : Bool :=
  isList t && (itemsOf t).all isReal && (lenOf t == 1 || lenOf t == n)

/-- the broadcast of a singleton list: the row transformation of `__get_nested_thresholds`, and what
`__get_thresholds` does to a list -/
def normRow (n : Nat) (t : PyVal) : PyVal := if lenOf t == 1 then mulVal t n else t

/-- a row that `check_nested_thresholds` lets pass -/
def normedRow (n : Nat) (t : PyVal) : Bool :=
  isList t && (lenOf t != 0 && lenOf t == n) && (itemsOf t).all isReal

theorem rowOK_list {n : Nat} {ys : List PyVal} :
    rowOK n (.list ys) = true ↔ (∀ y ∈ ys, isReal y = true) ∧ (ys.length = 1 ∨ ys.length = n) := by
  simp only [rowOK, isList, lenOf, itemsOf, Bool.true_and, Bool.and_eq_true, Bool.or_eq_true, List.all_eq_true,
    beq_iff_eq]

theorem rowOK_iff (n : Nat) (t : PyVal) :
    rowOK n t = true ↔
      ∃ ys, t = .list ys ∧ (ys.length = 1 ∨ ys.length = n) ∧ ∀ y ∈ ys, isReal y = true := by
  cases t with
  | list ys => simp only [rowOK_list, PyVal.list.injEq, exists_eq_left', and_comm]
  | _ => exact ⟨nofun, nofun⟩

@[simp] theorem isFlatNorm_list {n : Nat} {xs : List PyVal} :
    IsFlatNorm n (.list xs) ↔ xs.length = n ∧ ∀ x ∈ xs, isReal x = true := by
  simp [IsFlatNorm]

theorem normedRow_iff (n : Nat) (t : PyVal) : normedRow n t = true ↔ n ≠ 0 ∧ IsFlatNorm n t := by
  cases t with
  | list ys =>
    simp only [normedRow, isList, lenOf, itemsOf, isFlatNorm_list, Bool.true_and, Bool.and_eq_true, bne_iff_ne,
      beq_iff_eq, List.all_eq_true]
    exact ⟨fun ⟨⟨h0, hl⟩, hr⟩ => ⟨hl ▸ h0, hl, hr⟩, fun ⟨h0, hl, hr⟩ => ⟨⟨hl ▸ h0, hl⟩, hr⟩⟩
  | _ => exact ⟨nofun, nofun⟩

theorem normRow_list (n : Nat) (ys : List PyVal) :
    normRow n (.list ys) = .list (if ys.length = 1 then pyMul ys n else ys) := by
  by_cases h : ys.length = 1 <;> simp [normRow, lenOf, mulVal, itemsOf, h]

theorem isFlatNorm_replicate {v : PyVal} (h : isReal v = true) (n : Nat) :
    IsFlatNorm n (.list (List.replicate n v)) :=
  ⟨_, rfl, List.length_replicate, fun _ hx => (List.mem_replicate.mp hx).2 ▸ h⟩

theorem normRow_flatNorm {n : Nat} {t : PyVal} (h : rowOK n t = true) : IsFlatNorm n (normRow n t) := by
  obtain ⟨ys, rfl, hl, hr⟩ := (rowOK_iff n t).mp h
  rw [normRow_list]
  by_cases h1 : ys.length = 1
  · obtain ⟨y, rfl⟩ := List.length_eq_one_iff.mp h1
    rw [if_pos h1, pyMul_singleton]
    exact isFlatNorm_replicate (hr y (List.mem_singleton_self y)) n
  · rw [if_neg h1]
    exact ⟨ys, rfl, hl.resolve_left h1, hr⟩

theorem normRow_full {n : Nat} {xs : List PyVal} (h : xs.length = n) : normRow n (.list xs) = .list xs := by
  rw [normRow_list]
  split
  · rename_i h1; rw [← h, h1, pyMul_one]
  · rfl

theorem isFlatNorm_normRow {n : Nat} {t : PyVal} (h : IsFlatNorm n t) : normRow n t = t := by
  obtain ⟨ys, rfl, hl, -⟩ := h
  exact normRow_full hl

theorem normedRow_normRow (n : Nat) (t : PyVal) :
    normedRow n (normRow n t) = true ↔ n ≠ 0 ∧ rowOK n t = true := by
  cases t with
  | list ys =>
    rw [normRow_list, normedRow_iff, rowOK_iff]
    by_cases h1 : ys.length = 1
    · obtain ⟨y, rfl⟩ := List.length_eq_one_iff.mp h1
      simp +contextual
    · simp [h1]
  | _ => exact ⟨nofun, nofun⟩

theorem not_rowOK_of_not_list {n : Nat} {t : PyVal} (h : isList t = false) : rowOK n t = false := by
  simp [rowOK, h]

theorem not_rowOK_of_mem {n : Nat} {ys : List PyVal} {y : PyVal} (hy : y ∈ ys) (hyr : isReal y = false) :
    rowOK n (.list ys) = false :=
  Bool.eq_false_iff.mpr fun h => by rw [(rowOK_list.mp h).1 y hy] at hyr; cases hyr

theorem not_rowOK_of_length {n : Nat} {ys : List PyVal} (h1 : ys.length ≠ 1) (hn : ys.length ≠ n) :
    rowOK n (.list ys) = false :=
  Bool.eq_false_iff.mpr fun h => (rowOK_list.mp h).2.elim h1 hn

theorem not_real_of_isList {t : PyVal} (h : isList t = true) : isReal t = false := by
  cases t with
  | list ys => rfl
  | _ => cases h

theorem isFlatNorm_rowOK {n : Nat} {t : PyVal} (h : IsFlatNorm n t) : rowOK n t = true := by
  obtain ⟨ys, rfl, hl, hr⟩ := h
  exact (rowOK_iff n _).mpr ⟨ys, rfl, Or.inr hl, hr⟩

theorem normRow_rowOf (n : Nat) (t : PyVal) : RowOf n t (normRow n t) := by
  cases t with
  | list ys =>
    rw [normRow_list]
    split
    · rename_i h1
      obtain ⟨y, rfl⟩ := List.length_eq_one_iff.mp h1
      exact Or.inr ⟨y, rfl, by rw [pyMul_singleton]⟩
    · exact Or.inl rfl
  | _ => exact Or.inl rfl

/-- The Python functions are chains `if g₁: raise E; elif g₂: raise E; …; return x`.  This and the other closed forms
below (`checkNested_eq`, `getThresholds_list`, `getNested_rows`) are all obtained the same way:
merge the guards that raise the same error into one disjunction (`ite_or_same`), swap the branches so that the condition
is the negated disjunction (`← ite_not`), and let `simp only` push the negation in and read the `Bool` tests as
propositions. -/
theorem checkThresholds_list (xs : List PyVal) (n : Nat) :
    checkThresholds (.list xs) n =
      if (∀ x ∈ xs, isReal x = true) ∧ xs.length = n then .ok (.list xs) else thresholdError := by
  simp only [checkThresholds, ite_or_same, any_not_isReal]
  rw [← ite_not]
  simp only [not_or, Bool.not_eq_true', Bool.not_eq_false, bne_iff_ne, ne_eq, Decidable.not_not, List.all_eq_true]

theorem checkThresholds_of_norm {n : Nat} {r : PyVal} (h : IsFlatNorm n r) : checkThresholds r n = .ok r := by
  obtain ⟨xs, rfl, hl, hr⟩ := h
  rw [checkThresholds_list, if_pos ⟨hr, hl⟩]

/-- `hn` is needed for the string branch only: for `n = 0` the empty string passes `check_thresholds` unchanged
(nothing to iterate over, `len("") == 0`), and it is not a list. -/
theorem checkThresholds_ok {v : PyVal} {n : Nat} {r : PyVal} (h : checkThresholds v n = .ok r) (hn : 1 ≤ n) :
    r = v ∧ IsFlatNorm n v := by
  cases v with
  | list xs =>
    rw [checkThresholds_list, thresholdError, ok_ite_iff] at h
    exact ⟨h.2, xs, rfl, h.1.2, h.1.1⟩
  | str s =>
    have : (n != 0) = true := by simp; omega
    simp [checkThresholds, this, thresholdError] at h
  | _ => cases h

theorem checkNested_eq (rows : List PyVal) (n : Nat) :
    checkNestedThresholds (.list rows) n =
      if ∀ row ∈ rows, normedRow n row = true then .ok (.list rows) else thresholdError := by
  simp only [checkNestedThresholds, ite_or_same, any_not_isReal]
  rw [← ite_not]
  simp only [not_or, Bool.not_eq_true, List.any_eq_false, List.all_eq_true, normedRow, Bool.and_eq_true,
    Bool.or_eq_false_iff, ← forall_and, Bool.not_eq_false', bne_iff_ne, beq_iff_eq, beq_eq_false_iff_ne, ne_eq,
    bne_eq_false_iff_eq, and_assoc]

theorem getThresholds_list (xs : List PyVal) (n : Nat) :
    getThresholds (.list xs) n =
      if xs ≠ [] ∧ rowOK n (.list xs) = true then .ok (normRow n (.list xs)) else thresholdError := by
  simp only [getThresholds, ite_or_same, any_not_isReal]
  rw [← ite_not]
  simp only [not_or, Bool.not_eq_true', Bool.not_eq_false, bne_iff_ne, ne_eq, Decidable.not_not, List.all_eq_true,
    beq_iff_eq, List.length_eq_zero_iff, Bool.and_eq_true, Decidable.not_and_iff_not_or_not, eq_comm (a := n),
    rowOK, normRow_list, isList, lenOf, itemsOf, Bool.true_and, Bool.or_eq_true]

/-- the exception `set_thresholds` raises for a specification it does not accept: `len(None)` and `len()` of an object
without a length are `TypeError`s; everything else is reported as a `ThresholdError` -/
def errOf : PyVal → Err
  | .none | .other _ => "TypeError"
  | _ => "ThresholdError"

/-- a flat specification as ONE row: a number stands for the singleton list of itself -/
def rowIn (v : PyVal) : PyVal := if isReal v then .list [v] else v

/-- a nested specification as a LIST of rows: a number is one singleton row; a list of numbers is one row when it has
`n` entries, else one singleton row per entry; any other list is the list of its rows.  (The code tells a list of
numbers by its FIRST entry and then rejects a later entry that is not a number; such a list has a row that is not
`rowOK` here as well: the number at its head.) -/
def rowsIn (n : Nat) : PyVal → List PyVal
  | .list xs => if xs.all isReal then (if xs.length = n then [.list xs] else xs.map fun t => .list [t]) else xs
  | v => if isReal v then [.list [v]] else []

@[simp] theorem rowOK_singleton (n : Nat) (t : PyVal) : rowOK n (.list [t]) = isReal t := by
  simp [rowOK, isList, itemsOf, lenOf]

@[simp] theorem normRow_singleton (n : Nat) (t : PyVal) : normRow n (.list [t]) = .list (List.replicate n t) := by
  simp [normRow_list]

theorem rowsIn_numbers {xs : List PyVal} (n : Nat) (h : ∀ x ∈ xs, isReal x = true) :
    rowsIn n (.list xs) = if xs.length = n then [.list xs] else xs.map fun t => .list [t] := by
  rw [rowsIn, if_pos (List.all_eq_true.mpr h)]

theorem rowsIn_rows {xs : List PyVal} (n : Nat) (h : ¬ ∀ x ∈ xs, isReal x = true) : rowsIn n (.list xs) = xs := by
  rw [rowsIn, if_neg (by rwa [List.all_eq_true])]

/-- for `n ≠ 0` the empty list stands for no row at all -/
theorem rowsIn_nil {n : Nat} (hn : n ≠ 0) : rowsIn n (.list []) = [] :=
  if_neg (Ne.symm hn)

theorem rowOK_rowsIn_numbers {xs : List PyVal} (n : Nat) (h0 : xs ≠ []) (h : ∀ x ∈ xs, isReal x = true) :
    rowsIn n (.list xs) ≠ [] ∧ ∀ t ∈ rowsIn n (.list xs), rowOK n t = true := by
  rw [rowsIn_numbers n h]
  split
  · rename_i hl
    exact ⟨List.cons_ne_nil _ _, fun t ht => List.mem_singleton.mp ht ▸ rowOK_list.mpr ⟨h, Or.inr hl⟩⟩
  · exact ⟨fun e => h0 (List.map_eq_nil_iff.mp e),
      List.forall_mem_map.2 fun x hx => (rowOK_singleton n x).trans (h x hx)⟩

theorem setThresholds_flat (v : PyVal) (n : Nat) :
    setThresholds v n false =
      if rowIn v ≠ .list [] ∧ rowOK n (rowIn v) = true then .ok (normRow n (rowIn v)) else .error (errOf v) := by
  cases v with
  | list xs =>
    simp only [setThresholds, Bool.false_eq_true, if_false, getThresholds_list, rowIn, isReal, ne_eq, PyVal.list.injEq]
    by_cases h : ¬xs = [] ∧ rowOK n (.list xs) = true
    · simp only [if_pos h]; exact checkThresholds_of_norm (normRow_flatNorm h.2)
    · simp only [if_neg h]; rfl
  | num q | bool b =>
    simp only [rowIn, isReal, if_true, rowOK_singleton, normRow_singleton]
    exact checkThresholds_of_norm (isFlatNorm_replicate rfl n)
  | _ => rfl

theorem getNested_numbers {x : PyVal} (t : List PyVal) (n : Nat) (hx : isReal x = true) :
    getNestedThresholds (.list (x :: t)) n =
      if ∀ y ∈ x :: t, isReal y = true then .ok (.list ((rowsIn n (.list (x :: t))).map (normRow n)))
      else thresholdError := by
  simp only [getNestedThresholds, hx, if_true, any_not_isReal, ← List.all_eq_true]
  cases hall : (x :: t).all isReal
  · rfl
  · rw [rowsIn_numbers n (List.all_eq_true.mp hall)]
    simp only [Bool.not_true, Bool.false_eq_true, if_false, if_true, bne_iff_ne, ne_eq, ite_not]
    split
    · rename_i hl; simp only [List.map, normRow_full hl]
    · simp only [List.map_map, Function.comp_def, normRow_singleton]

theorem getNested_rows {x : PyVal} (t : List PyVal) (n : Nat) (hx : isReal x = false) :
    getNestedThresholds (.list (x :: t)) n =
      if ∀ y ∈ x :: t, isList y = true ∧ (lenOf y = n ∨ lenOf y = 1) then .ok (.list ((x :: t).map (normRow n)))
      else thresholdError := by
  simp only [getNestedThresholds, hx, Bool.false_eq_true, if_false, ite_or_same]
  rw [← ite_not]
  simp only [not_or, Bool.not_eq_true, List.any_eq_false, Bool.not_eq_false', Bool.and_eq_false_iff,
    bne_eq_false_iff_eq, ← forall_and]
  rfl

theorem rowOK_not_real {n : Nat} {t : PyVal} (h : rowOK n t = true) : isReal t = false := by
  obtain ⟨ys, rfl, -⟩ := (rowOK_iff n t).mp h
  rfl

/-- `check_nested_thresholds` on broadcast rows: what is left to check is the entries and `n ≠ 0` -/
theorem check_rows {rows : List PyVal} (n : Nat) (h : rows ≠ []) :
    checkNestedThresholds (.list (rows.map (normRow n))) n =
      if n ≠ 0 ∧ rows ≠ [] ∧ ∀ t ∈ rows, rowOK n t = true then .ok (.list (rows.map (normRow n)))
      else thresholdError := by
  simp only [checkNested_eq, List.forall_mem_map, normedRow_normRow, forall_mem_and_left h, h, ne_eq,
    not_false_eq_true, true_and]

theorem setThresholds_nested (v : PyVal) (n : Nat) :
    setThresholds v n true =
      if n ≠ 0 ∧ rowsIn n v ≠ [] ∧ ∀ t ∈ rowsIn n v, rowOK n t = true then
        .ok (.list ((rowsIn n v).map (normRow n)))
      else .error (errOf v) := by
  cases v with
  | list xs =>
    cases xs with
    | nil =>
      rw [if_neg fun h => h.2.1 (rowsIn_nil h.1)]
      rfl
    | cons x t =>
      simp only [setThresholds, if_true]
      by_cases hx : isReal x = true
      · rw [getNested_numbers t n hx]
        by_cases hall : ∀ y ∈ x :: t, isReal y = true
        · rw [if_pos hall]
          exact check_rows n (rowOK_rowsIn_numbers n (List.cons_ne_nil x t) hall).1
        · rw [if_neg hall, rowsIn_rows n hall, if_neg]
          · rfl
          · -- the head is a number, not a row
            rintro ⟨-, -, h⟩
            cases (rowOK_not_real (h x List.mem_cons_self)).symm.trans hx
      · have hall : ¬ ∀ y ∈ x :: t, isReal y = true := fun h => hx (h x List.mem_cons_self)
        rw [getNested_rows t n (Bool.eq_false_iff.mpr hx), rowsIn_rows n hall]
        by_cases hs : ∀ y ∈ x :: t, isList y = true ∧ (lenOf y = n ∨ lenOf y = 1)
        · rw [if_pos hs]
          exact check_rows n (List.cons_ne_nil _ _)
        · rw [if_neg hs, if_neg]
          · rfl
          · refine fun h => hs fun y hy => ?_
            obtain ⟨ys, rfl, hl, -⟩ := (rowOK_iff n y).mp (h.2.2 y hy)
            exact ⟨rfl, hl.symm⟩
  | num q | bool b =>
    refine Eq.trans ?_ (check_rows (rows := [.list [_]]) n (List.cons_ne_nil _ _))
    simp only [List.map, normRow_singleton]
    rfl
  | _ => exact (if_neg fun h => h.2.1 rfl).symm

theorem setThresholds_cases (v : PyVal) (n : Nat) (nest : Bool) :
    (∃ r, setThresholds v n nest = .ok r) ∨ setThresholds v n nest = .error (errOf v) := by
  cases nest
  · rw [setThresholds_flat]; split
    · exact Or.inl ⟨_, rfl⟩
    · exact Or.inr rfl
  · rw [setThresholds_nested]; split
    · exact Or.inl ⟨_, rfl⟩
    · exact Or.inr rfl

theorem flat_list_rejected {xs : List PyVal} {n : Nat} (h : rowOK n (.list xs) = false) :
    setThresholds (.list xs) n false = thresholdError := by
  rw [setThresholds_flat, if_neg]
  · rfl
  · rintro ⟨-, h'⟩
    rw [show rowIn (.list xs) = .list xs from rfl, h] at h'
    cases h'

theorem nested_list_rejected {xs : List PyVal} {n : Nat} {x y : PyVal} (hx : x ∈ xs) (hxr : isReal x = false)
    (hy : y ∈ xs) (hyr : rowOK n y = false) : setThresholds (.list xs) n true = thresholdError := by
  rw [setThresholds_nested, rowsIn_rows n (fun h => by rw [h x hx] at hxr; cases hxr), if_neg]
  · rfl
  · rintro ⟨-, -, h⟩
    rw [h y hy] at hyr
    cases hyr

theorem flat_result_norm {v : PyVal} {n : Nat} {r : PyVal} (h : setThresholds v n false = .ok r) :
    IsFlatNorm n r := by
  rw [setThresholds_flat, ok_ite_iff] at h
  exact h.2 ▸ normRow_flatNorm h.1.2

theorem nested_result_norm {v : PyVal} {n : Nat} {r : PyVal} (h : setThresholds v n true = .ok r) :
    IsNestedNorm n r := by
  rw [setThresholds_nested, ok_ite_iff] at h
  obtain ⟨⟨-, h0, hr⟩, rfl⟩ := h
  exact ⟨_, rfl, fun e => h0 (List.map_eq_nil_iff.mp e), List.forall_mem_map.2 fun x hx => normRow_flatNorm (hr x hx)⟩

theorem flat_norm_fixed {n : Nat} {r : PyVal} (hr : IsFlatNorm n r) (hn : 1 ≤ n) :
    setThresholds r n false = .ok r := by
  obtain ⟨xs, rfl, rfl, -⟩ := id hr
  refine (setThresholds_flat _ _).trans (ok_ite_iff.mpr ⟨⟨?_, isFlatNorm_rowOK hr⟩, (isFlatNorm_normRow hr).symm⟩)
  rintro ⟨⟩
  cases hn

theorem nested_norm_fixed {n : Nat} {r : PyVal} (hr : IsNestedNorm n r) (hn : 1 ≤ n) :
    setThresholds r n true = .ok r := by
  obtain ⟨rows, rfl, hne, hrows⟩ := hr
  have hrr : ¬ ∀ t ∈ rows, isReal t = true := fun h => by
    obtain ⟨t, ht⟩ := List.exists_mem_of_ne_nil _ hne
    cases (rowOK_not_real (isFlatNorm_rowOK (hrows t ht))).symm.trans (h t ht)
  rw [setThresholds_nested, rowsIn_rows n hrr, if_pos ⟨Nat.ne_of_gt hn, hne, fun t ht => isFlatNorm_rowOK (hrows t ht)⟩,
    List.map_congr_left fun t ht => isFlatNorm_normRow (hrows t ht), List.map_id']

theorem normRows_rowsOf (n : Nat) (xs : List PyVal) : RowsOf n xs (xs.map (normRow n)) := by
  induction xs with
  | nil => exact RowsOf.nil
  | cons a t ih => exact RowsOf.cons (normRow_rowOf n a) ih

theorem RowsOf.length_eq {n : Nat} {xs rows : List PyVal} (h : RowsOf n xs rows) : rows.length = xs.length := by
  induction h with
  | nil => rfl
  | cons _ _ ih => simp [ih]

end PEval.Threshold
