import PEval.Model.TransformMatrix
import PEval.Lemmas.Transform
import Mathlib.Tactic.Ring
import Mathlib.Tactic.Linarith
import Mathlib.Tactic.LinearCombination
import Mathlib.Tactic.FieldSimp
import Mathlib.Data.Rat.Sqrt
/-!
Lemmas for `PEval.Model.TransformMatrix`: equality up to sign is an equivalence compatible with the quaternion operations;
pyquaternion's `trace_method` returns `±q` on the rotation matrix of a unit quaternion `q`, so equality up to sign is the SAME
thing as equality of rotation matrices (the double cover has kernel `±1`: `signEq_iff_contract`); the defective closed form of
seed C18_G; 4×4 block algebra (the product of two homogeneous matrices from the action of their 3×3 blocks, so from
`rotate_mul`); the extraction contract and the code paths that re-extract; the registry keyed independently of its matrices.
-/
namespace PEval.Transform

theorem Quat.neg_neg' (q : Quat) : -(-q) = q := by ext <;> simp

theorem Quat.SignEq.refl (q : Quat) : q.SignEq q := Or.inl rfl

theorem Quat.SignEq.symm {p q : Quat} (h : p.SignEq q) : q.SignEq p := by
  rcases h with rfl | rfl
  · exact Or.inl rfl
  · exact Or.inr (Quat.neg_neg' q).symm

theorem Quat.SignEq.trans {p q r : Quat} (h1 : p.SignEq q) (h2 : q.SignEq r) : p.SignEq r := by
  rcases h1 with rfl | rfl <;> rcases h2 with rfl | rfl
  · exact Or.inl rfl
  · exact Or.inr rfl
  · exact Or.inr rfl
  · exact Or.inl (Quat.neg_neg' r)

theorem Quat.SignEq.mul {p p' q q' : Quat} (hp : p.SignEq p') (hq : q.SignEq q') : (p * q).SignEq (p' * q') := by
  rcases hp with rfl | rfl <;> rcases hq with rfl | rfl
  · exact Or.inl rfl
  · exact Or.inr (Quat.neg_mul_right _ _)
  · exact Or.inr (Quat.neg_mul_left _ _)
  · left; rw [Quat.neg_mul_left, Quat.neg_mul_right, Quat.neg_neg']

theorem Quat.SignEq.conj {p q : Quat} (h : p.SignEq q) : p.conj.SignEq q.conj := by
  rcases h with rfl | rfl
  · exact Or.inl rfl
  · exact Or.inr (by ext <;> simp [Quat.conj])

theorem Quat.SignEq.normSq {p q : Quat} (h : p.SignEq q) : p.normSq = q.normSq := by
  rcases h with rfl | rfl
  · rfl
  · exact Quat.normSq_neg q

theorem Quat.SignEq.rotMat_eq {p q : Quat} (h : p.SignEq q) : rotMat p = rotMat q := by
  rcases h with rfl | rfl
  · rfl
  · exact rotMat_neg q

/-! ## pyquaternion's `trace_method` -/

theorem Quat.scale_scale (k c : Rat) (v : Quat) : Quat.scale k (Quat.scale c v) = Quat.scale (k * c) v := by
  ext <;> simp [Quat.scale] <;> ring

section sqrt

-- `sq` stands for `sqrt`: any function that is exact on squares
variable {sq : Rat → Rat} (hsq : ∀ a : Rat, 0 ≤ a → sq (a * a) = a)
include hsq

theorem sq_four_mul_self (c : Rat) : sq (4 * c * c) = 2 * c ∨ sq (4 * c * c) = -(2 * c) := by
  rw [show 4 * c * c = |2 * c| * |2 * c| by rw [abs_mul_abs_self]; ring, hsq _ (abs_nonneg _)]
  exact abs_choice _

/-- one branch of `trace_method`: pivot component `c`, `t = (2c)² > 0`, the vector is `4c · q`; the normalisation
`q *= 0.5 / sqrt(t)` leaves `sign(c) · q` -/
theorem trace_branch {q v : Quat} {c t : Rat} (ht : t = 4 * c * c) (hpos : 0 < t) (hv : v = Quat.scale (4 * c) q) :
    (Quat.scale ((1/2) / sq t) v).SignEq q := by
  have hc : c ≠ 0 := by
    rintro rfl; simp [ht] at hpos
  rw [hv, Quat.scale_scale, ht]
  rcases sq_four_mul_self hsq c with e | e <;> rw [e]
  · left
    rw [show (1/2 : Rat) / (2 * c) * (4 * c) = 1 by field_simp; ring]
    ext <;> simp [Quat.scale]
  · right
    rw [show (1/2 : Rat) / -(2 * c) * (4 * c) = -1 by field_simp; ring]
    ext <;> simp [Quat.scale]

theorem extractTrace_signEq {q : Quat} (hq : q.normSq = 1) : (extractTrace sq (rotMat q)).SignEq q := by
  simp only [Quat.normSq] at hq
  unfold extractTrace
  -- in each branch the pivot component is `t` itself; `t = 4c²` once its `1` is read as the norm
  split_ifs with c1 c2 c2
  · simp only [rotMat] at c1 c2 ⊢
    refine trace_branch hsq (c := q.x) (by linear_combination -hq) (by linarith) ?_
    rw [← hq]
    ext <;> simp only [Quat.scale] <;> ring
  · simp only [rotMat] at c1 c2 ⊢
    refine trace_branch hsq (c := q.y) (by linear_combination -hq) (by linarith) ?_
    rw [← hq]
    ext <;> simp only [Quat.scale] <;> ring
  · simp only [rotMat] at c1 c2 ⊢
    refine trace_branch hsq (c := q.z) (by linear_combination -hq) (by linarith) ?_
    rw [← hq]
    ext <;> simp only [Quat.scale] <;> ring
  · simp only [rotMat] at c1 c2 ⊢
    refine trace_branch hsq (c := q.w) (by linear_combination -hq) (by linarith) ?_
    rw [← hq]
    ext <;> simp only [Quat.scale] <;> ring

/-! ## the closed form of seed C18_G -/

/-- away from half turns the closed form is fine: it returns `sign(w) · q` -/
theorem extractG_signEq {q : Quat} (hq : q.normSq = 1) (hw : q.w ≠ 0) : (extractG sq (rotMat q)).SignEq q := by
  simp only [Quat.normSq] at hq
  have ht : 1 + ((rotMat q).r0.x + (rotMat q).r1.y + (rotMat q).r2.z) = 4 * q.w * q.w := by
    simp only [rotMat]; linear_combination -hq
  have hpos : 4 * q.w * q.w > 0 := by
    have := mul_self_pos.2 hw; linarith
  unfold extractG
  simp only [ht, if_pos hpos]
  simp only [rotMat]
  rcases sq_four_mul_self hsq q.w with e | e <;> rw [e]
  · left
    ext <;> field_simp <;> ring
  · right
    ext <;> simp only [Quat.neg_w, Quat.neg_x, Quat.neg_y, Quat.neg_z] <;> field_simp <;> ring

/-- on a half turn (`w = 0`) it returns the zero quaternion (the model's stand-in for NaN) -/
theorem extractG_half_turn {q : Quat} (hq : q.normSq = 1) (hw : q.w = 0) : extractG sq (rotMat q) = ⟨0, 0, 0, 0⟩ := by
  simp only [Quat.normSq] at hq
  have ht : 1 + ((rotMat q).r0.x + (rotMat q).r1.y + (rotMat q).r2.z) = 0 := by
    simp only [rotMat, hw]; rw [hw] at hq; linear_combination -hq
  have s0 : sq 0 = 0 := by simpa using hsq 0 (le_refl 0)
  unfold extractG
  simp only [ht, lt_irrefl, if_false, s0]
  ext <;> simp

end sqrt

/-! ## the rotation matrix determines a unit quaternion up to sign; 4×4 blocks -/

theorem ratSqrt_exact : ∀ a : Rat, 0 ≤ a → Rat.sqrt (a * a) = a :=
  fun a h => by rw [Rat.sqrt_eq, abs_of_nonneg h]

/-- for a unit quaternion `q`, `p` is `q` or `−q` exactly when `p` is a unit quaternion with the rotation matrix of `q`: the class
`{q, −q}` IS the rotation, and this is what the contract `ExtractOK` asks of `ex (rotMat q)`.  For `←`, `trace_method` recovers a
quaternion from its matrix up to sign, so both are `±` what it returns on the common matrix. -/
theorem signEq_iff_contract {p q : Quat} (hq : q.normSq = 1) : p.SignEq q ↔ p.normSq = 1 ∧ rotMat p = rotMat q := by
  refine ⟨fun h => ⟨h.normSq.trans hq, h.rotMat_eq⟩, fun ⟨hp, h⟩ => ?_⟩
  have e := extractTrace_signEq ratSqrt_exact hp
  rw [h] at e
  exact e.symm.trans (extractTrace_signEq ratSqrt_exact hq)

theorem ExtractOK.signEq {ex : Mat3 → Quat} (h : ExtractOK ex) {q : Quat} (hq : q.normSq = 1) :
    (ex (rotMat q)).SignEq q :=
  (signEq_iff_contract hq).2 (h q hq)

theorem extractTrace_ok {sq : Rat → Rat} (hsq : ∀ a : Rat, 0 ≤ a → sq (a * a) = a) : ExtractOK (extractTrace sq) :=
  fun _ hq => (signEq_iff_contract hq).1 (extractTrace_signEq hsq hq)

theorem rotBlock_matOf (p : V3) (r : Quat) : (matOf p r).rotBlock = rotMat r := rfl

theorem posCol_matOf (p : V3) (r : Quat) : (matOf p r).posCol = p := rfl

theorem matOfMat3_rotMat (p : V3) (r : Quat) : matOfMat3 p (rotMat r) = matOf p r := rfl

theorem extractPR_matOf (ex : Mat3 → Quat) (p : V3) (r : Quat) : extractPR ex (matOf p r) = (p, ex (rotMat r)) := rfl

theorem matOf_congr (p : V3) {r r' : Quat} (h : rotMat r = rotMat r') : matOf p r = matOf p r' := by
  unfold matOf; rw [h]

/-- the `.matrix` attribute does not see the sign of the quaternion -/
theorem toMat_congr {a b : HM} (hp : a.pos = b.pos) (hr : rotMat a.rot = rotMat b.rot) : toMat a = toMat b := by
  unfold toMat; rw [hp]; exact matOf_congr _ hr

theorem rowMul_rowMul (r : V4) (a b : Mat4) : rowMul (rowMul r a) b = rowMul r (matMul a b) := by
  ext <;> simp only [rowMul, matMul] <;> ring

theorem matMul_assoc (a b c : Mat4) : matMul (matMul a b) c = matMul a (matMul b c) := by
  simp only [matMul, rowMul_rowMul]

/-- block form of the product of two homogeneous matrices; the block `k` of the product is given by its action -/
theorem matMul_matOfMat3 (p q : V3) {m n k : Mat3} (h : ∀ v, k.mulVec v = m.mulVec (n.mulVec v)) :
    matMul (matOfMat3 p m) (matOfMat3 q n) = matOfMat3 (m.mulVec q + p) k := by
  have hx := h ⟨1, 0, 0⟩
  have hy := h ⟨0, 1, 0⟩
  have hz := h ⟨0, 0, 1⟩
  simp only [Mat3.mulVec, V3.dot, mul_one, mul_zero, add_zero, zero_add, V3.mk.injEq] at hx hy hz
  simp only [matMul, rowMul, matOfMat3, Mat3.mulVec, V3.dot, V3.add_x, V3.add_y, V3.add_z, mul_zero, mul_one, add_zero,
    zero_mul, zero_add, hx, hy, hz]

theorem matMul_matOf (p : V3) (r : Quat) (p' : V3) (r' : Quat) :
    matMul (matOf p r) (matOf p' r') = matOf (rotate r p' + p) (r * r') :=
  matMul_matOfMat3 p p' (rotate_mul r r')

theorem matOf_one : matOf V3.zero Quat.one = Mat4.one := by
  simp [matOf, rotMat, Quat.one, V3.zero, Mat4.one]

theorem HM.SignEq.refl (a : HM) : a.SignEq a := ⟨rfl, Quat.SignEq.refl _, rfl, rfl⟩

theorem HM.SignEq.symm {a b : HM} (h : a.SignEq b) : b.SignEq a := ⟨h.1.symm, h.2.1.symm, h.2.2.1.symm, h.2.2.2.symm⟩

theorem HM.SignEq.trans {a b c : HM} (h1 : a.SignEq b) (h2 : b.SignEq c) : a.SignEq c :=
  ⟨h1.1.trans h2.1, h1.2.1.trans h2.2.1, h1.2.2.1.trans h2.2.2.1, h1.2.2.2.trans h2.2.2.2⟩

theorem HM.SignEq.toMat_eq {a b : HM} (h : a.SignEq b) : toMat a = toMat b := toMat_congr h.1 h.2.1.rotMat_eq

theorem PoseEq.refl (a : V3 × Quat) : PoseEq a a := ⟨rfl, Quat.SignEq.refl _⟩

theorem PoseEq.symm {a b : V3 × Quat} (h : PoseEq a b) : PoseEq b a := ⟨h.1.symm, h.2.symm⟩

theorem PoseEq.trans {a b c : V3 × Quat} (h1 : PoseEq a b) (h2 : PoseEq b c) : PoseEq a c :=
  ⟨h1.1.trans h2.1, h1.2.trans h2.2⟩

/-! ## the code paths: the model's operation with the quaternion re-extracted

Each is a function of the 4×4 matrices and the labels of its arguments (`*_congr`); on rigid inputs it returns what the model
returns, up to the sign of the quaternion (`*_refines`: related inputs give related outputs, so the laws of the model carry
over to any composition of code paths). -/

theorem transformPoseX_eq (ex : Mat3 → Quat) (a : HM) (p : V3) (r : Quat) :
    transformPoseX ex a (p, r) = (transformPos a p, ex (rotMat (a.rot * r))) := by
  simp only [transformPoseX, toMat, matMul_matOf, extractPR_matOf]
  rfl

theorem dotX_of_eq (ex : Mat3 → Quat) {b a : HM} (h : b.src = a.dst) :
    dotX ex b a = .ok ⟨transformPos b a.pos, ex (rotMat (b.rot * a.rot)), a.src, b.dst⟩ := by
  simp only [dotX, toMat, matMul_matOf, extractPR_matOf, if_neg (not_not.2 h)]
  rfl

theorem transformPoseX_congr (ex : Mat3 → Quat) {a a' : HM} (ha : a.SignEq a') (p : V3) {r r' : Quat} (hr : r.SignEq r') :
    transformPoseX ex a (p, r) = transformPoseX ex a' (p, r') := by
  simp only [transformPoseX, ha.toMat_eq, matOf_congr p hr.rotMat_eq]

theorem dotX_congr (ex : Mat3 → Quat) {b b' a a' : HM} (hb : b.SignEq b') (ha : a.SignEq a') :
    dotX ex b a = dotX ex b' a' := by
  simp only [dotX, ha.toMat_eq, hb.toMat_eq, ha.2.2.1, ha.2.2.2, hb.2.2.1, hb.2.2.2]

theorem invX_congr (ex : Mat3 → Quat) {a a' : HM} (h : a.SignEq a') : invX ex a = invX ex a' := by
  have hi : (inv a).SignEq (inv a') :=
    ⟨by simp only [inv, rotate, h.2.1.conj.rotMat_eq, h.1], h.2.1.conj, h.2.2.2, h.2.2.1⟩
  simp only [invX, hi.toMat_eq, h.2.2.1, h.2.2.2]

theorem transformPoseX_refines {ex : Mat3 → Quat} (hex : ExtractOK ex) {a a' : HM} (ha : a.SignEq a') (hu : a'.rot.normSq = 1)
    {pr pr' : V3 × Quat} (h : PoseEq pr pr') (hr : pr'.2.normSq = 1) :
    PoseEq (transformPoseX ex a pr) (transformPose a' pr') := by
  obtain ⟨p, r⟩ := pr
  obtain ⟨p', r'⟩ := pr'
  cases (h.1 : p = p')
  rw [transformPoseX_congr ex ha p h.2, transformPoseX_eq]
  exact ⟨rfl, hex.signEq (Quat.normSq_mul_unit hu hr)⟩

theorem invX_refines {ex : Mat3 → Quat} (hex : ExtractOK ex) {a a' : HM} (ha : a.SignEq a') (hu : a'.rot.normSq = 1) :
    (invX ex a).SignEq (inv a') := by
  rw [invX_congr ex ha]
  exact ⟨rfl, hex.signEq ((Quat.normSq_conj _).trans hu), rfl, rfl⟩

theorem ResSignEq.ok_right {a : Except String TArg} {y : TArg} (h : ResSignEq a (.ok y)) : ∃ z, a = .ok z ∧ z.SignEq y := by
  cases a with
  | error e => exact h.elim
  | ok z => exact ⟨z, rfl, h⟩

theorem lookupK_ofList (d : List HM) (k : String × String) : lookupK (KReg.ofList d) k = lookup d k := by
  induction d with
  | nil => rfl
  | cons a ds ih =>
    simp only [KReg.ofList, List.map_cons] at ih ⊢
    unfold lookupK lookup
    rw [ih]
    rfl

theorem lookupK_set (d : KReg) (k' : String × String) (m : HM) (k : String × String) :
    lookupK (kSet d k' m) k = if k' = k then some m else lookupK d k := by
  induction d with
  | nil => simp [kSet, lookupK]
  | cons a ds ih =>
    simp only [kSet, List.cons_append] at ih ⊢
    unfold lookupK
    rw [ih]
    by_cases h : k' = k
    · simp [h]
    · simp only [if_neg h]

end PEval.Transform
