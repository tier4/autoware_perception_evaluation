import PEval.Model.Geometry
import Mathlib.Tactic.Linarith
import Mathlib.Tactic.Ring
import Mathlib.Tactic.LinearCombination
import Mathlib.Tactic.Positivity
import Mathlib.Tactic.FieldSimp
import Mathlib.Algebra.Order.Field.Basic
import Mathlib.Algebra.Order.Ring.Rat
import Mathlib.Data.Rat.Defs
/-!
Geometry, scalar part (C06; C07 builds on it).  The model's `if`-based `rmax` / `rmin` / `rabs` are the lattice
operations `max` / `min` / `|·|` of `ℚ`; everything about interval overlap is read off from that.
Then the area contract `InterOK`, IoU as the code composes it, height intersection, ROIs as rectangles, and
what each clause of the contract gives for the two box IoUs.
-/
namespace PEval.Geometry

/-! ## `rmax`, `rmin`, `rabs` -/

theorem rmax_eq_max (a b : Rat) : rmax a b = max a b := rfl
theorem rmin_eq_min (a b : Rat) : rmin a b = min a b := rfl

theorem rabs_eq_abs (a : Rat) : rabs a = |a| := by
  unfold rabs
  split
  · exact (abs_of_nonneg ‹_›).symm
  · exact (abs_of_neg (not_le.1 ‹_›)).symm

theorem rmax_comm (a b : Rat) : rmax a b = rmax b a := by rw [rmax_eq_max, rmax_eq_max, max_comm]
theorem le_rmax_right (a b : Rat) : b ≤ rmax a b := rmax_eq_max a b ▸ le_max_right a b
theorem rabs_nonneg (a : Rat) : 0 ≤ rabs a := by rw [rabs_eq_abs]; exact abs_nonneg a
theorem rabs_of_nonneg {a : Rat} (h : 0 ≤ a) : rabs a = a := if_pos h
theorem rabs_neg (a : Rat) : rabs (-a) = rabs a := by rw [rabs_eq_abs, rabs_eq_abs, abs_neg]

/-! ## overlap of two intervals -/

theorem overlap_eq (a la b lb : Rat) : overlap a la b lb = max 0 (min (a + la) (b + lb) - max a b) := by
  unfold overlap; rw [rmax_eq_max, rmin_eq_min, rmax_eq_max]

theorem overlap_symm (a la b lb : Rat) : overlap a la b lb = overlap b lb a la := by
  rw [overlap_eq, overlap_eq, min_comm, max_comm a b]

theorem overlap_self {a la : Rat} (hla : 0 ≤ la) : overlap a la a la = la := by
  rw [overlap_eq, min_self, max_self, add_sub_cancel_left, max_eq_right hla]

theorem overlap_disjoint {a la b lb : Rat} (h : a + la ≤ b ∨ b + lb ≤ a) :
    overlap a la b lb = 0 := by
  rcases h with h | h
  · exact max_eq_left (sub_nonpos.2 ((min_le_left _ _).trans (h.trans (le_max_right _ _))))
  · exact max_eq_left (sub_nonpos.2 ((min_le_right _ _).trans (h.trans (le_max_left _ _))))

theorem overlap_shift (a la b lb d : Rat) : overlap (a + d) la (b + d) lb = overlap a la b lb := by
  rw [overlap_eq, overlap_eq, add_right_comm a, add_right_comm b, min_add_add_right, max_add_add_right,
    add_sub_add_right_eq_sub]

/-! ## the area contract and IoU -/

/-- The EXTERNAL CONTRACT of an intersection area `I` of two regions of areas `A1`, `A2`
(shapely's `intersection(...).area`): `0 ≤ I ≤ min(A1, A2)`. -/
structure InterOK (I A1 A2 : Rat) : Prop where
  nonneg : 0 ≤ I
  le1 : I ≤ A1
  le2 : I ≤ A2

theorem InterOK.symm {I A1 A2 : Rat} (h : InterOK I A1 A2) : InterOK I A2 A1 := ⟨h.nonneg, h.le2, h.le1⟩

theorem union_pos {I A1 A2 : Rat} (h : InterOK I A1 A2) (h1 : 0 < A1) : 0 < A1 + A2 - I := by
  have := h.le2; linarith

/-- no positivity of the areas: for a union of 0 the quotient is Lean's `0 / 0 = 0` -/
theorem iou_unit {I A1 A2 : Rat} (h : InterOK I A1 A2) : 0 ≤ iou I A1 A2 ∧ iou I A1 A2 ≤ 1 := by
  have hu : I ≤ A1 + A2 - I := by linarith [h.le1, h.le2, h.nonneg]
  exact ⟨div_nonneg h.nonneg (h.nonneg.trans hu), div_le_one_of_le₀ hu (h.nonneg.trans hu)⟩

theorem iou_comm (I A1 A2 : Rat) : iou I A1 A2 = iou I A2 A1 := by
  unfold iou; rw [add_comm A1 A2]

theorem iou_self {A : Rat} (hA : 0 < A) : iou A A A = 1 := by
  unfold iou
  rw [add_sub_cancel_right]; exact div_self hA.ne'

theorem iou_zero (A1 A2 : Rat) : iou 0 A1 A2 = 0 := zero_div _

theorem iouCode_eq {I A1 A2 : Rat} (h : InterOK I A1 A2) (h1 : 0 < A1) :
    iouCode I A1 A2 = .ok (iou I A1 A2) :=
  if_neg (union_pos h h1).ne'

/-! ## height intersection -/

theorem bottom_add_height (z h : Rat) : z - h / 2 + h = z + h / 2 := by ring

theorem heightInter_eq_overlap (z1 h1 z2 h2 : Rat) :
    heightInter z1 h1 z2 h2 = overlap (z1 - h1 / 2) h1 (z2 - h2 / 2) h2 := by
  unfold heightInter overlap
  rw [bottom_add_height, bottom_add_height]

theorem InterOK.mul {I A1 A2 h H1 H2 : Rat} (hI : InterOK I A1 A2) (hh : InterOK h H1 H2) :
    InterOK (I * h) (A1 * H1) (A2 * H2) :=
  ⟨mul_nonneg hI.nonneg hh.nonneg,
    mul_le_mul hI.le1 hh.le1 hh.nonneg (le_trans hI.nonneg hI.le1),
    mul_le_mul hI.le2 hh.le2 hh.nonneg (le_trans hI.nonneg hI.le2)⟩

theorem overlap_ok {a la b lb : Rat} (hla : 0 ≤ la) (hlb : 0 ≤ lb) : InterOK (overlap a la b lb) la lb := by
  rw [overlap_eq]
  exact ⟨le_max_left _ _, max_le hla (by linarith [min_le_left (a + la) (b + lb), le_max_left a b]),
    max_le hlb (by linarith [min_le_right (a + la) (b + lb), le_max_right a b])⟩

theorem heightInter_ok {z1 h1 z2 h2 : Rat} (p1 : 0 ≤ h1) (p2 : 0 ≤ h2) :
    InterOK (heightInter z1 h1 z2 h2) h1 h2 := by
  rw [heightInter_eq_overlap]; exact overlap_ok p1 p2

/-- the 3-D IoU never exceeds the BEV IoU: both denominators are positive, and after cross-multiplying
the difference of the two sides is `I · (A1·(H1 − h) + A2·(H2 − h)) ≥ 0` -/
theorem iou3d_le_iou {I A1 A2 H1 H2 h : Rat} (hI : InterOK I A1 A2) (hh : InterOK h H1 H2)
    (hA1 : 0 < A1) (hA2 : 0 < A2) (hH2 : 0 < H2) :
    iou3d I A1 A2 H1 H2 h ≤ iou I A1 A2 := by
  unfold iou3d iou
  have d2 : 0 < A1 * H1 + A2 * H2 - I * h := by
    linarith [(hI.mul hh).le1, mul_pos hA2 hH2]
  rw [div_le_div_iff₀ d2 (union_pos hI hA1)]
  linarith [mul_nonneg hI.nonneg (add_nonneg (mul_nonneg hA1.le (sub_nonneg.2 hh.le1))
    (mul_nonneg hA2.le (sub_nonneg.2 hh.le2)))]

theorem iou3d_unit {I A1 A2 H1 H2 h : Rat} (hI : InterOK I A1 A2) (hh : InterOK h H1 H2) :
    0 ≤ iou3d I A1 A2 H1 H2 h ∧ iou3d I A1 A2 H1 H2 h ≤ 1 :=
  iou_unit (hI.mul hh)

theorem iou3d_symm (I A1 A2 z1 H1 z2 H2 : Rat) :
    iou3d I A1 A2 H1 H2 (heightInter z1 H1 z2 H2) = iou3d I A2 A1 H2 H1 (heightInter z2 H2 z1 H1) := by
  unfold iou3d; rw [heightInter_eq_overlap, heightInter_eq_overlap, overlap_symm, iou_comm]

theorem heightInter_shift (z1 h1 z2 h2 d : Rat) :
    heightInter (z1 + d) h1 (z2 + d) h2 = heightInter z1 h1 z2 h2 := by
  rw [heightInter_eq_overlap, heightInter_eq_overlap, add_sub_right_comm, add_sub_right_comm z2, overlap_shift]

/-! ## ROIs are rectangles with integer data -/

theorem roi_area_cast (a : Roi) : ((a.area : Int) : Rat) = a.toRect.area := by
  simp [Roi.area, Roi.toRect, Rect.area]

theorem roi_posSize {a : Roi} (h : a.PosSize) : a.toRect.PosSize :=
  ⟨Int.cast_pos.2 h.1, Int.cast_pos.2 h.2⟩

theorem roi_area_pos {a : Roi} (h : a.PosSize) : 0 < a.toRect.area :=
  mul_pos (roi_posSize h).1 (roi_posSize h).2

theorem roi_disjoint {a b : Roi} (h : a.Disjoint b) : a.toRect.Disjoint b.toRect := by
  unfold Roi.Disjoint at h
  unfold Rect.Disjoint Roi.toRect
  dsimp only
  exact_mod_cast h

theorem roiIoU_eq_rect (a b : Roi) : roiIoU a b = rectIoU a.toRect b.toRect := by
  unfold roiIoU rectIoU roiInter; rw [roi_area_cast, roi_area_cast]

theorem roiInter_shift (dx dy : Int) (a b : Roi) : roiInter (a.shift dx dy) (b.shift dx dy) = roiInter a b := by
  unfold roiInter rectInter Roi.toRect Roi.shift
  simp only [Int.cast_add]
  rw [overlap_shift, overlap_shift]

/-! ## area of a box footprint -/

theorem signed2_localCorners (b : Box) : signed2 (localCorners b) = 2 * (b.w * b.l) := by
  simp only [localCorners, signed2, fan2, cross]; ring

theorem areaBev_eq_mul {b : Box} (hw : 0 ≤ b.w) (hl : 0 ≤ b.l) : areaBev b = b.w * b.l := by
  unfold areaBev polyArea
  rw [signed2_localCorners, rabs_of_nonneg (by positivity)]
  ring

theorem areaBev_pos {b : Box} (hb : b.PosSize) : 0 < areaBev b := by
  rw [areaBev_eq_mul hb.1.le hb.2.1.le]; exact mul_pos hb.1 hb.2.1

/-! ## the two box IoUs for an intersection area `I`: what each clause of the contract gives -/

theorem boxHeightInter_ok {e g : Box} (he : e.PosSize) (hg : g.PosSize) : InterOK (boxHeightInter e g) e.h g.h :=
  heightInter_ok he.2.2.le hg.2.2.le

theorem boxIou_bounds {I : Rat} {e g : Box} (he : e.PosSize) (hg : g.PosSize)
    (hok : InterOK I (areaBev e) (areaBev g)) :
    (0 ≤ boxIou2d I e g ∧ boxIou2d I e g ≤ 1) ∧ (0 ≤ boxIou3d I e g ∧ boxIou3d I e g ≤ 1) ∧
      boxIou3d I e g ≤ boxIou2d I e g :=
  have hh := boxHeightInter_ok he hg
  ⟨iou_unit hok, iou3d_unit hok hh, iou3d_le_iou hok hh (areaBev_pos he) (areaBev_pos hg) hg.2.2⟩

theorem boxIou_zero (e g : Box) : boxIou2d 0 e g = 0 ∧ boxIou3d 0 e g = 0 :=
  ⟨iou_zero _ _, by unfold boxIou3d iou3d; rw [zero_mul]; exact iou_zero _ _⟩

theorem boxIou_self {b : Box} (hb : b.PosSize) :
    boxIou2d (areaBev b) b b = 1 ∧ boxIou3d (areaBev b) b b = 1 := by
  refine ⟨iou_self (areaBev_pos hb), ?_⟩
  unfold boxIou3d boxHeightInter iou3d
  rw [heightInter_eq_overlap, overlap_self hb.2.2.le]
  exact iou_self (mul_pos (areaBev_pos hb) hb.2.2)

/-- BEV and 3-D IoU of one intersection value `I` are unchanged by a common rotation about the ego + translation: the
areas and heights are those of the boxes, the two height ranges are shifted together -/
theorem boxIou_move_invariant (m : Motion) (a b : Box) (I : Rat) :
    boxIou2d I (a.move m) (b.move m) = boxIou2d I a b ∧ boxIou3d I (a.move m) (b.move m) = boxIou3d I a b := by
  refine ⟨rfl, ?_⟩
  unfold boxIou3d boxHeightInter
  simp only [Box.move, Motion.apply3, heightInter_shift]
  rfl

end PEval.Geometry
