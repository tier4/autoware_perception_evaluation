import Mathlib.Tactic.Ring
import Mathlib.Tactic.Linarith
import PEval.Lemmas.AP
import PEval.Lemmas.APDT
import PEval.Lemmas.APSort
/-!
Bridges from the normal forms of `PEval/Model/APDT.lean` to the model `PEval/Model/AP.lean`, for ALL inputs
(any number of points): the area normal form of an ordering, read at concrete precisions / recalls that are ordered
that way, is `calculateAp`; the precision / recall normal forms read at a concrete tp list are `t i / (i+1)`, `recallOf`.

Variable names of the normal forms, as the generator `harness/dt_c04.py` writes them: `("P", i)`, `("R", i)` = precision /
recall `i` (read by `envPR`); `("t", i)`, `("g", 0)` = entry `i` of a tp list, the ground-truth count (`envT`); `("w", j)` = TP
weight of result `j` (`envW`, `Lemmas/APDTRank.lean`); `("ap", i)`, `("aph", i)` = AP / APH of label `i` (`envMap`,
`Lemmas/APDTMap.lean`).
-/
namespace PEval.APDT
open PEval.AP PEval.ClearDT

theorem evalNF_cons (env : Var → Rat) (m : Mono) (c : Coef) (r : NF) :
    evalNF env ((m, c) :: r) = (c.1 : Rat) / (c.2 : Rat) * evalMono env m + evalNF env r := rfl

theorem evalMono_one (env : Var → Rat) (v : Var) (r : Mono) :
    evalMono env ((v, 1) :: r) = env v * evalMono env r := by
  simp [evalMono, npow]

theorem evalMono_neg_one (env : Var → Rat) (v : Var) (r : Mono) :
    evalMono env ((v, -1) :: r) = 1 / env v * evalMono env r := by
  simp [evalMono, npow]

/-- variables `P i`, `R i` read in two lists -/
def envPR (ps rs : List Rat) : Var → Rat := fun v =>
  if v.1 = "P" then ps.getD v.2 0 else if v.1 = "R" then rs.getD v.2 0 else 0

def evalTerms (ps rs : List Rat) : List ((Nat × Nat) × Int) → Rat
  | [] => 0
  | t :: r => (t.2 : Rat) * (ps.getD t.1.1 0 * rs.getD t.1.2 0) + evalTerms ps rs r

theorem evalNF_biNF (ps rs : List Rat) (l : List ((Nat × Nat) × Int)) :
    evalNF (envPR ps rs) (biNF l) = evalTerms ps rs l := by
  induction l with
  | nil => rfl
  | cons t r ih =>
    have : biNF (t :: r) = ([(("P", t.1.1), 1), (("R", t.1.2), 1)], (t.2, 1)) :: biNF r := rfl
    rw [this, evalNF_cons, evalMono_one, evalMono_one, ih, evalTerms, Nat.cast_one, div_one]
    simp [evalMono, envPR]

theorem evalTerms_insTerm (ps rs : List Rat) (key : Nat × Nat) (c : Int) (l : List ((Nat × Nat) × Int)) :
    evalTerms ps rs (insTerm key c l) = (c : Rat) * (ps.getD key.1 0 * rs.getD key.2 0) + evalTerms ps rs l := by
  fun_induction insTerm key c l with
  | case1 => simp [evalTerms]
  | case2 c' r => simp only [evalTerms]; push_cast; ring
  | case3 k' c' r h1 h2 => simp [evalTerms]
  | case4 k' c' r h1 h2 ih => simp only [evalTerms, ih]; ring

theorem evalTerms_filter (ps rs : List Rat) (l : List ((Nat × Nat) × Int)) :
    evalTerms ps rs (l.filter fun t => t.2 != 0) = evalTerms ps rs l := by
  induction l with
  | nil => rfl
  | cons t r ih =>
    by_cases h : t.2 = 0
    · simp [h, evalTerms, ih]
    · simp [h, evalTerms, ih]

theorem evalTerms_normTerms (ps rs : List Rat) (l : List ((Nat × Nat) × Int)) :
    evalTerms ps rs (normTerms l) = evalTerms ps rs l := by
  unfold normTerms
  rw [evalTerms_filter]
  induction l with
  | nil => rfl
  | cons t r ih => simp only [List.foldr_cons, evalTerms_insTerm, ih, evalTerms]

/-- point `i` of the precision / recall lists -/
def pt (ps rs : List Rat) (i : Nat) : Pt := (ps.getD i 0, rs.getD i 0)

theorem partialArea_map (ps rs : List Rat) :
    ∀ st : List Nat, partialArea (st.map (pt ps rs)) = evalTerms ps rs (partTerms st)
  | [] => rfl
  | [_] => rfl
  | k :: k' :: r => by
    have ih := partialArea_map ps rs (k' :: r)
    simp only [List.map_cons] at ih ⊢
    simp only [pt, partialArea, partTerms, evalTerms] at ih ⊢
    rw [ih]
    push_cast
    ring

theorem stackArea_map (ps rs : List Rat) (st : List Nat) :
    stackArea (st.map (pt ps rs)) = evalTerms ps rs (stackTerms st) := by
  cases st with
  | nil => rfl
  | cons k st =>
    have h := partialArea_map ps rs (k :: st)
    simp only [List.map_cons] at h ⊢
    simp only [pt, stackArea, stackTerms, evalTerms] at h ⊢
    rw [h]
    push_cast
    ring

/-- `AP.scan` on the points of an index list = `scanIdx` under a pattern ordered like the precisions -/
theorem scan_map (ps rs : List Rat) (pat : List Nat) (n : Nat)
    (hiso : ∀ i j, i < n → j < n → (pat.getD i 0 > pat.getD j 0 ↔ ps.getD i 0 > ps.getD j 0))
    (idxs st : List Nat) (hi : ∀ i ∈ idxs, i < n) (hs : ∀ i ∈ st, i < n) :
    scan (idxs.map (pt ps rs)) (st.map (pt ps rs)) = (scanIdx pat idxs st).map (pt ps rs) := by
  -- along the arms of `scanIdx`; `scan` takes the same arm since the pattern compares like the precisions
  fun_induction scanIdx pat idxs st with
  | case1 st => cases st <;> rfl
  | case2 i rest ih => exact ih (List.forall_mem_cons.1 hi).2 (List.forall_mem_singleton.2 (List.forall_mem_cons.1 hi).1)
  | case3 i rest m st h ih =>
    rw [List.forall_mem_cons] at hi
    have hp : ps.getD i 0 > ps.getD m 0 := (hiso i m hi.1 (hs m List.mem_cons_self)).1 h
    exact ((scan.eq_3 ..).trans (if_pos hp)).trans (ih hi.2 (List.forall_mem_cons.2 ⟨hi.1, hs⟩))
  | case4 i rest m st h ih =>
    rw [List.forall_mem_cons] at hi
    have hp : ¬ ps.getD i 0 > ps.getD m 0 := mt (hiso i m hi.1 (hs m List.mem_cons_self)).2 h
    exact ((scan.eq_3 ..).trans (if_neg hp)).trans (ih hi.2 hs)

theorem zip_eq_map_range (ps rs : List Rat) (h : rs.length = ps.length) :
    ps.zip rs = (List.range ps.length).map (pt ps rs) := by
  apply List.ext_getElem
  · simp [h]
  · intro i h1 h2
    have hp : i < ps.length := by simp at h1; omega
    have hr : i < rs.length := by omega
    simp [pt, List.getD_eq_getElem?_getD, List.getElem?_eq_getElem hp, List.getElem?_eq_getElem hr]

theorem repIdx_val (ps : List Rat) (pat : List Nat) (hp : pat.length = ps.length)
    (hiso : ∀ i j, i < ps.length → j < ps.length → (pat.getD i 0 > pat.getD j 0 ↔ ps.getD i 0 > ps.getD j 0)) (k : Nat) :
    ps.getD (repIdx pat k) 0 = ps.getD k 0 := by
  unfold repIdx
  split
  · next hk =>
    cases hf : (List.range k).find? (fun j => pat.getD j 0 == pat.getD k 0) with
    | none => rfl
    | some j =>
      have hj : j < k := by simpa using List.mem_of_find?_eq_some hf
      have he : pat.getD j 0 = pat.getD k 0 := by simpa using List.find?_some hf
      have hkn : k < ps.length := hp ▸ hk
      have hjn : j < ps.length := by omega
      -- equal pattern entries are ordered neither way, so neither are the precisions
      exact le_antisymm (not_lt.1 fun hh => absurd ((hiso j k hjn hkn).2 hh) (by omega))
        (not_lt.1 fun hh => absurd ((hiso k j hkn hjn).2 hh) (by omega))
  · rfl

theorem evalTerms_repTerms (ps rs : List Rat) (pat : List Nat) (hp : pat.length = ps.length)
    (hiso : ∀ i j, i < ps.length → j < ps.length → (pat.getD i 0 > pat.getD j 0 ↔ ps.getD i 0 > ps.getD j 0))
    (l : List ((Nat × Nat) × Int)) : evalTerms ps rs (repTerms pat l) = evalTerms ps rs l := by
  induction l with
  | nil => rfl
  | cons t r ih =>
    have : repTerms pat (t :: r) = ((repIdx pat t.1.1, t.1.2), t.2) :: repTerms pat r := rfl
    rw [this]
    simp only [evalTerms, ih, repIdx_val ps pat hp hiso]

/-- the bridge of the area rows: the area normal form of a pattern, read at precisions ordered like the pattern, is the
model's `calculateAp` — for lists of any length -/
theorem areaModel_eval (ps rs : List Rat) (pat : List Nat) (hp : pat.length = ps.length) (hr : rs.length = ps.length)
    (hiso : ∀ i j, i < ps.length → j < ps.length → (pat.getD i 0 > pat.getD j 0 ↔ ps.getD i 0 > ps.getD j 0)) :
    evalNF (envPR ps rs) (areaModel pat) = calculateAp ps rs := by
  unfold areaModel calculateAp stackOf
  rw [evalNF_biNF, evalTerms_normTerms, evalTerms_repTerms ps rs pat hp hiso, zip_eq_map_range ps rs hr,
    ← List.map_reverse, hp]
  cases hrev : (List.range ps.length).reverse with
  | nil => rfl
  | cons i rest =>
    have hmem : ∀ x ∈ i :: rest, x < ps.length := fun x hx => by
      rw [← hrev] at hx
      simpa using hx
    rw [List.forall_mem_cons] at hmem
    simp only [List.map_cons]
    have := scan_map ps rs pat ps.length hiso rest [i] hmem.2 (List.forall_mem_singleton.2 hmem.1)
    simp only [List.map_cons, List.map_nil] at this
    rw [this, stackArea_map]

/-- variables `t i` read in a list, `g` = the ground-truth count -/
def envT (ts : List Rat) (g : Rat) : Var → Rat := fun v =>
  if v.1 = "t" then ts.getD v.2 0 else if v.1 = "g" then g else 0

theorem precNF_eval (ts : List Rat) (g : Rat) (i : Nat) :
    evalNF (envT ts g) (precNF i) = ts.getD i 0 / ((i : Rat) + 1) := by
  rw [precNF, evalNF_cons, evalMono_one]
  simp only [evalNF, evalMono, envT, if_true]
  push_cast
  ring

theorem recallNF_eval (ts : List Rat) (G : Nat) (i : Nat) :
    evalNF (envT ts (G : Rat)) (recallNF (decide (0 < G)) i) = recallOf G (ts.getD i 0) := by
  unfold recallNF recallOf
  by_cases h : 0 < G
  · rw [decide_eq_true h, if_pos rfl, if_pos h, evalNF_cons, evalMono_neg_one, evalMono_one]
    simp [evalNF, evalMono, envT]
    ring
  · simp [h, evalNF]

theorem evalNF_mean (env : Var → Rat) (kind : String) (m : Nat) (d : List Nat) :
    evalNF env (d.map fun i => ([((kind, i), (1 : Int))], ((1 : Int), m))) = (d.map fun i => env (kind, i)).sum / (m : Rat) := by
  induction d with
  | nil => simp [evalNF]
  | cons i d ih =>
    rw [List.map_cons, evalNF_cons, evalMono_one, ih, List.map_cons, List.sum_cons]
    simp only [evalMono, Int.cast_one]
    ring

/-- mAP as the code's table spells it, read at per-label values, is the mean of the values of the labels with a result -/
theorem meanNF_eval (env : Var → Rat) (kind : String) (d : List Nat) :
    (meanNF kind d).map (evalNF env) =
      if d.isEmpty then none else some ((d.map fun i => env (kind, i)).sum / (d.length : Rat)) := by
  unfold meanNF
  split
  · rfl
  · simp only [Option.map_some, evalNF_mean]

end PEval.APDT
