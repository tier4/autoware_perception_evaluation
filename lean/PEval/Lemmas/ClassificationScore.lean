import PEval.Lemmas.ClassificationMax
import PEval.Lemmas.ListBasics
import Mathlib.Algebra.Order.Field.Basic
import Mathlib.Algebra.Order.Ring.Rat
import Mathlib.Tactic.Linarith
/-!
Ranges of the scores of `ClassificationAccuracy` and `_summarize`, the all-correct case, and the sums over the per-label
buckets (the counting definitions themselves are `C11.metrics_def`, `C11.summarize_def`).
-/
namespace PEval.Classification

/-- a defined (finite) score lies in [0,1]; `inf` / `nan` are "undefined" -/
def Score.inUnit : Score → Prop
  | .val r => 0 ≤ r ∧ r ≤ 1
  | _ => True

theorem ratio_inUnit {a b : Nat} (h : a ≤ b) : (ratio a b).inUnit := by
  unfold ratio
  split
  · trivial
  · rename_i hb
    have hb' : (0 : Rat) < b := Nat.cast_pos.2 (Nat.pos_of_ne_zero hb)
    exact ⟨div_nonneg (Nat.cast_nonneg a) hb'.le, (div_le_one hb').2 (Nat.cast_le.2 h)⟩

/-- the F1 expression both `calculate_f1score` and `_summarize` use on defined precision and recall -/
theorem f1_val_inUnit {p r : Rat} (hp : 0 ≤ p ∧ p ≤ 1) (hr : 0 ≤ r ∧ r ≤ 1) :
    (if p + r = 0 then Score.inf else .val (2 * p * r / (p + r))).inUnit := by
  split
  · trivial
  · rename_i h
    have hpos : 0 < p + r := lt_of_le_of_ne (add_nonneg hp.1 hr.1) (Ne.symm h)
    -- `2pr = pr + pr ≤ p + r`, each factor being at most 1
    have h2 : 2 * p * r ≤ p + r := by
      rw [mul_assoc, two_mul]
      exact add_le_add (mul_le_of_le_one_right hp.1 hr.2) (mul_le_of_le_one_left hr.1 hp.2)
    exact ⟨div_nonneg (mul_nonneg (mul_nonneg zero_le_two hp.1) hr.1) hpos.le, (div_le_one hpos).2 h2⟩

theorem f1_inUnit {p r : Score} (hp : p.inUnit) (hr : r.inUnit) : (f1Acc p r).inUnit ∧ (f1Sum p r).inUnit := by
  cases p <;> cases r <;> try exact ⟨trivial, trivial⟩
  exact ⟨f1_val_inUnit hp hr, f1_val_inUnit hp hr⟩

theorem countTp_le_length (rs : List Res) : countTp rs ≤ rs.length := List.countP_le_length

theorem ratio_self {n : Nat} (h : 0 < n) : ratio n n = .val 1 := by
  unfold ratio
  have hn : n ≠ 0 := Nat.pos_iff_ne_zero.1 h
  simp [hn]

theorem f1_one : f1Acc (.val 1) (.val 1) = .val 1 ∧ f1Sum (.val 1) (.val 1) = .val 1 := by
  constructor <;> simp only [f1Acc, f1Sum] <;> norm_num

theorem countTp_all {rs : List Res} (h : ∀ r ∈ rs, labelCorrect r = true) : countTp rs = rs.length := by
  unfold countTp
  rw [List.countP_eq_length]
  exact h

/-- a GT-less result is never label-correct, so the label-correct results are at most the pairs -/
theorem countTp_results (ps : List (Obj × Obj)) (tail : List Obj) :
    countTp (paired ps ++ fpResults tail) ≤ ps.length := by
  have h2 : (fpResults tail).countP labelCorrect = 0 :=
    List.countP_eq_zero.2 (List.forall_mem_map.2 fun _ _ => Bool.false_ne_true)
  rw [countTp, List.countP_append, h2, Nat.add_zero]
  exact List.countP_le_length.trans (List.length_map _).le

/-- the per-label accuracies a `ClassificationMetricsScore` holds: one `(frames, num_gt)` per target label -/
def bucketAccs (bs : List (List (List Res) × Nat)) : List Acc := bs.map fun b => accuracyNested b.1 b.2

theorem sums_buckets (bs : List (List (List Res) × Nat)) :
    ((bucketAccs bs).map (·.tp)).sum ≤ ((bucketAccs bs).map (·.num)).sum ∧
    ((∀ b ∈ bs, countTp b.1.flatten ≤ b.2) →
      ((bucketAccs bs).map (·.tp)).sum ≤ ((bucketAccs bs).map (·.numGT)).sum) := by
  simp only [bucketAccs, List.map_map]
  exact ⟨sum_map_le fun b _ => countTp_le_length b.1.flatten, sum_map_le⟩

theorem sums_all_one {bs : List (List (List Res) × Nat)}
    (hall : ∀ b ∈ bs, (∀ r ∈ b.1.flatten, labelCorrect r = true) ∧ b.1.flatten.length = b.2) :
    ((bucketAccs bs).map (·.tp)).sum = (bs.map (·.2)).sum ∧ ((bucketAccs bs).map (·.num)).sum = (bs.map (·.2)).sum ∧
    ((bucketAccs bs).map (·.numGT)).sum = (bs.map (·.2)).sum ∧ ((bucketAccs bs).map (·.fp)).sum = 0 := by
  have htp : ∀ b ∈ bs, countTp b.1.flatten = b.2 := fun b hb => (countTp_all (hall b hb).1).trans (hall b hb).2
  simp only [bucketAccs, List.map_map]
  refine ⟨congrArg List.sum (List.map_congr_left htp), congrArg List.sum (List.map_congr_left fun b hb => (hall b hb).2),
    rfl, List.sum_eq_zero_iff_forall_eq_nat.2 (List.forall_mem_map.2 fun b hb => ?_)⟩
  show b.1.flatten.length - countTp b.1.flatten = 0
  rw [htp b hb, (hall b hb).2, Nat.sub_self]

end PEval.Classification
