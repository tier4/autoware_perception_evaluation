import PEval.Lemmas.AnalyzerTable
import PEval.Lemmas.FrameChange
import PEval.Lemmas.Heading
/-!
# C19 lemmas: rows are tabulated in the ego frame, whatever frame the objects are given in

* `addAllRaw_eq`: the table built from raw objects (`format2dict` + `get_area_idx` with their own
  `transform(… BASE_LINK)` steps) is the table `addAll` builds from the ego-frame view `RawFrame.toFrame`;
  so every theorem about `addAll` transfers.
* `toRow_renderMap`: the map rendering of a physical object tabulates to the same row as its base_link rendering:
  the ego-frame `x`, `y`, `yaw` (unit ego rotation, object yaw in `(-1, 1]` half-turns, any ego yaw), whatever the heights.
-/

namespace PEval.Analyzer
open PEval.Geometry PEval.FrameChange

theorem areaOfRaw_eq (a : Areas) (e : Pose) (o : RawObj) :
    areaOfRaw a e o = areaOf a (o.toRow e).x (o.toRow e).y := rfl

theorem addFrameRaw_eq (a : Areas) (k : Nat) (t : Table) (f : RawFrame) :
    addFrameRaw a k t f = addFrame (areaOf a) k t f.toFrame := by
  have h1 : ∀ st, resultCellsRaw a f.ego k f.frameNum st =
      fun p => resultCells (areaOf a) k f.frameNum st (RawPair.toPair f.ego p) :=
    fun st => funext fun p => by cases p with | mk est gt => cases gt <;> rfl
  have h2 : ∀ st, objectCellsRaw a f.ego k f.frameNum st =
      fun o => objectCells (areaOf a) k f.frameNum st (RawObj.toRow f.ego o) :=
    fun st => rfl
  unfold addFrameRaw addFrame RawFrame.toFrame
  simp only [h1, h2, ← format2df_map]

theorem addRaw_eq (a : Areas) (an : Analyzer) (fs : List RawFrame) :
    Analyzer.addRaw a an fs = Analyzer.add (areaOf a) an (fs.map RawFrame.toFrame) := by
  have h : addFrameRaw a an.numScene = fun t f => addFrame (areaOf a) an.numScene t f.toFrame :=
    funext fun t => funext fun f => addFrameRaw_eq a _ t f
  simp only [Analyzer.addRaw, Analyzer.add, List.length_map, List.foldl_map, h]

theorem addAllRaw_eq (a : Areas) (scenes : List (List RawFrame)) :
    addAllRaw a scenes = addAll (areaOf a) (scenes.map (·.map RawFrame.toFrame)) := by
  have h : Analyzer.addRaw a = fun an fs => Analyzer.add (areaOf a) an (fs.map RawFrame.toFrame) :=
    funext fun an => funext fun fs => addRaw_eq a an fs
  simp only [addAllRaw, addAll, List.foldl_map, h]

theorem toRow_renderMap (e : Pose) (o : RawObj) (hu : e.rot.IsUnit) (ho : Heading.InDom o.yaw) :
    (o.renderMap e).toRow e =
      { uuid := o.uuid, label := o.label, x := o.pos.x, y := o.pos.y, yaw := o.yaw, width := o.width,
        length := o.length, vx := o.vx, vy := o.vy } := by
  have hp : egoPosition e (o.renderMap e) = o.pos := by
    simp only [egoPosition, RawObj.renderMap]
    exact toEgo3_apply3 e hu o.pos
  have hy : egoYaw e (o.renderMap e) = o.yaw := by
    simp only [egoYaw, RawObj.renderMap]
    exact Heading.toEgoYaw_wrapYaw _ ho
  simp only [RawObj.toRow, hp, hy]
  rfl

theorem toRow_baseLink (e : Pose) (o : RawObj) (hf : o.frame = .baseLink) :
    o.toRow e =
      { uuid := o.uuid, label := o.label, x := o.pos.x, y := o.pos.y, yaw := o.yaw, width := o.width,
        length := o.length, vx := o.vx, vy := o.vy } := by
  simp [RawObj.toRow, egoPosition, egoYaw, hf]

theorem toRow_renderMap_eq (e : Pose) (o : RawObj) (hu : e.rot.IsUnit)
    (ho : o.frame = .baseLink ∧ Heading.InDom o.yaw) : (o.renderMap e).toRow e = o.toRow e :=
  (toRow_renderMap e o hu ho.2).trans (toRow_baseLink e o ho.1).symm

/-- a frame whose objects are all given in `base_link` with yaws in `(-1, 1]` -/
def RawFrame.EgoGiven (f : RawFrame) : Prop :=
  (∀ p ∈ f.tp ++ f.fp, (p.est.frame = .baseLink ∧ Heading.InDom p.est.yaw) ∧
      ∀ g, p.gt = some g → g.frame = .baseLink ∧ Heading.InDom g.yaw) ∧
  (∀ o ∈ f.tn ++ f.fn ++ f.critical, o.frame = .baseLink ∧ Heading.InDom o.yaw)

theorem toPair_renderMap (e : Pose) (p : RawPair) (hu : e.rot.IsUnit)
    (hp : (p.est.frame = .baseLink ∧ Heading.InDom p.est.yaw) ∧
      ∀ g, p.gt = some g → g.frame = .baseLink ∧ Heading.InDom g.yaw) :
    (p.renderMap e).toPair e = p.toPair e := by
  cases p with
  | mk est gt =>
    simp only [RawPair.renderMap, RawPair.toPair, toRow_renderMap_eq e est hu hp.1]
    cases gt with
    | none => rfl
    | some g => simp only [Option.map_some, toRow_renderMap_eq e g hu (hp.2 g rfl)]

theorem toFrame_renderMap (f : RawFrame) (hu : f.ego.rot.IsUnit) (hf : f.EgoGiven) :
    f.renderMap.toFrame = f.toFrame := by
  obtain ⟨hp, ho⟩ := hf
  simp only [RawFrame.toFrame, RawFrame.renderMap, List.map_map]
  congr 1
  · exact List.map_congr_left fun p h => toPair_renderMap _ p hu (hp p (List.mem_append_left _ h))
  · exact List.map_congr_left fun p h => toPair_renderMap _ p hu (hp p (List.mem_append_right _ h))
  · exact List.map_congr_left fun o h =>
      toRow_renderMap_eq _ o hu (ho o (List.mem_append_left _ (List.mem_append_left _ h)))
  · exact List.map_congr_left fun o h =>
      toRow_renderMap_eq _ o hu (ho o (List.mem_append_left _ (List.mem_append_right _ h)))
  · exact List.map_congr_left fun o h => toRow_renderMap_eq _ o hu (ho o (List.mem_append_right _ h))

end PEval.Analyzer
