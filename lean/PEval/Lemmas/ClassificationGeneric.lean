import PEval.Lemmas.ClassificationTlr
/-!
`_get_object_results_with_id` (`pairById`, the matcher for generic, i.e. non-traffic-light, labels): structure of the
result, totality and completeness under unique keys; and the common shape of every `get_object_results` answer for ROI-less objects.
-/
namespace PEval.Classification

theorem pairById_ok {ests gts : List Obj} {rs : List Res} (h : pairById ests gts = .ok rs) :
    ∃ s, outer (stepU sameKey) gts ests (initSt ests gts) = .ok s ∧
      rs = paired s.res ++ fpResults (fpTail s.es) := by
  revert h
  fun_cases pairById ests gts with
  | case2 s hs => rintro ⟨⟩; exact ⟨s, hs, rfl⟩
  | _ => nofun

/-- what is known about the final state of the generic loop -/
structure GenFacts (ests gts : List Obj) (s : St) : Prop where
  wf : WF ests gts s
  res : ∀ p ∈ s.res, sameKey p.1 p.2 = true ∧ p.1 ∈ ests ∧ p.2 ∈ gts
  complete : ∀ e ∈ ests, ∀ g ∈ gts, sameKey e g = true → (e, g) ∈ s.res

theorem pairById_inv {ests gts : List Obj} {rs : List Res} (h : pairById ests gts = .ok rs) :
    ∃ s, rs = paired s.res ++ fpResults (fpTail s.es) ∧ GenFacts ests gts s := by
  obtain ⟨s, hs, hrs⟩ := pairById_ok h
  have S := outer_ok_init (fun _ _ _ _ h => (stepU_ok h).1) hs
  exact ⟨s, hrs, S.wf (wf_init ests gts), fun p hp => let ⟨hm, hc, _⟩ := S.new p hp; ⟨hc, mem_pairs.1 hm⟩,
    fun e he g hg => loop_stepU_complete _ _ _ (outer_eq_loop _ gts ests _ ▸ hs) (e, g) (mem_pairs.2 ⟨he, hg⟩)⟩

theorem GenFacts.mem_res {ests gts : List Obj} {s : St} (F : GenFacts ests gts s) (e g : Obj) :
    (e, g) ∈ s.res ↔ e ∈ ests ∧ g ∈ gts ∧ sameKey e g = true :=
  ⟨fun h => let r := F.res _ h; ⟨r.2.1, r.2.2, r.1⟩, fun h => F.complete e h.1 g h.2.1 h.2.2⟩

theorem GenFacts.mem_es {ests gts : List Obj} {s : St} (F : GenFacts ests gts s) (hnd : ests.Nodup) (e : Obj) :
    e ∈ s.es ↔ e ∈ ests ∧ ∀ g ∈ gts, sameKey e g = false := by
  rw [F.wf.es_iff hnd]
  refine and_congr_right fun he => ⟨fun hr g hg => ?_, fun hno hr => ?_⟩
  · exact Bool.eq_false_iff.2 fun hk => hr (List.mem_map.2 ⟨(e, g), F.complete e he g hg hk, rfl⟩)
  · obtain ⟨⟨_, g⟩, hp, rfl⟩ := List.mem_map.1 hr
    have := F.res _ hp
    exact Bool.false_ne_true ((hno g this.2.2).symm.trans this.1)

theorem generic_loop_total {ests gts : List Obj} (hn : ∀ o ∈ ests ++ gts, o.uuid ≠ none)
    (hke : (ests.map key).Nodup) (hkg : (gts.map key).Nodup) :
    ∃ s, outer (stepU sameKey) gts ests (initSt ests gts) = .ok s := by
  rw [outer_eq_loop]
  refine loop_stepU_total _ _ (List.Nodup.product (List.Nodup.of_map _ hke) (List.Nodup.of_map _ hkg))
    (fun p hp => ?_) (fun p hp q hq hcp hcq h => ?_) fun p hp _ => mem_pairs.1 hp
  · exact Bool.eq_false_iff.2 fun h => Bool.eq_false_iff.1 (nulls_false hn) (List.any_eq_true.2 ⟨p, hp, h⟩)
  · -- two matching pairs that share a member have the same key on the other side as well
    obtain ⟨hp1, hp2⟩ := mem_pairs.1 hp
    obtain ⟨hq1, hq2⟩ := mem_pairs.1 hq
    have kp := sameKey_iff.1 hcp
    have kq := sameKey_iff.1 hcq
    rcases h with h | h
    · exact Prod.ext h (List.inj_on_of_nodup_map hkg hp2 hq2 (kp.symm.trans ((congrArg key h).trans kq)))
    · exact Prod.ext (List.inj_on_of_nodup_map hke hp1 hq1 (kp.trans ((congrArg key h).trans kq.symm))) h

theorem mem_results_some {ps : List (Obj × Obj)} {tail : List Obj} {e g : Obj} :
    ({ est := e, gt := some g } : Res) ∈ paired ps ++ fpResults tail ↔ (e, g) ∈ ps := by
  rw [List.mem_append, mem_paired]
  exact or_iff_left fun h => by simp [fpResults] at h

theorem mem_results_none {ps : List (Obj × Obj)} {tail : List Obj} {e : Obj} :
    ({ est := e, gt := none } : Res) ∈ paired ps ++ fpResults tail ↔ e ∈ tail := by
  rw [List.mem_append, or_iff_right fun h => let ⟨_, _, hp⟩ := paired_gt_some h; nomatch congrArg Res.gt hp]
  simp [fpResults]

theorem mem_fpTail {es : List Obj} {e : Obj} :
    e ∈ fpTail es ↔ e ∈ es ∧ ∀ x ∈ es, x.frame ≠ camTrafficLight := by
  unfold fpTail
  split <;> rename_i h <;>
    simp only [Bool.and_eq_true, Bool.not_eq_eq_eq_not, Bool.not_true, List.any_eq_false, beq_iff_eq, not_and] at h
  · exact ⟨fun he => ⟨he, h.2⟩, And.left⟩
  · -- a member makes the list non-empty, so it is the camera test that failed
    exact ⟨nofun, fun ⟨he, hall⟩ => (h (List.isEmpty_eq_false_iff.2 (List.ne_nil_of_mem he)) hall).elim⟩

theorem fpTail_cases (es : List Obj) : fpTail es = es ∨ fpTail es = [] := by
  unfold fpTail; split <;> simp

/-- every answer consists of the pairs of a state `s` that splits the inputs (`s.es`, `s.gs`: the unused objects), each
within one camera, followed by the GT-less estimates `tail`: the unused estimates or none of them -/
theorem objectResults_shape {fpv uf : Bool} {ests gts : List Obj} {rs : List Res}
    (h : objectResults fpv uf ests gts = .ok rs) :
    ∃ s tail, rs = paired s.res ++ fpResults tail ∧ WF ests gts s ∧ (tail = s.es ∨ tail = []) ∧
      ∀ p ∈ s.res, p.1.frame = p.2.frame := by
  revert h
  fun_cases objectResults fpv uf ests gts with
  | case1 gts => rintro ⟨⟩; exact ⟨initSt [] gts, [], rfl, wf_init _ _, .inl rfl, fun _ hp => nomatch hp⟩
  | case2 e0 et =>
    rintro ⟨⟩
    refine ⟨initSt (e0 :: et) [], if fpv then [] else e0 :: et, ?_, wf_init _ _, (ite_eq_or_eq _ _ _).symm,
      fun _ hp => nomatch hp⟩
    cases fpv <;> rfl
  | case3 =>
    intro h
    obtain ⟨s1, s2, p2, _, _, hrs, S1, S2⟩ := pairTlr_inv h
    exact ⟨s2, [], by rw [hrs, S2.res]; exact (List.append_nil _).symm, S2.wf (S1.wf (wf_init _ _)), .inr rfl, S1.cam2 S2⟩
  | case4 =>
    intro h
    obtain ⟨s, hrs, F⟩ := pairById_inv h
    exact ⟨s, fpTail s.es, hrs, F.wf, fpTail_cases _, fun p hp => (sameKey_def.1 (F.res p hp).1).2⟩

end PEval.Classification
