import Mathlib.Data.List.Forall2
import PEval.Lemmas.ExceptLoop
import PEval.Lemmas.ListBasics
import PEval.Model.Dataset
import PEval.Lemmas.Transform
/-!
Helper lemmas for C16: the `Except` loops `mapE` and `loadFrom` as `List.mapM` (`Lemmas/ExceptLoop`; `loadFrom` runs
over the enumerated samples), inversion of the loader's `do` pipelines through `bind_eq_ok`, the identities of the
quaternion algebra (the bridge `toT` to the copy in `Model/Transform`, and what `Lemmas/Transform` has carried over
through it), token lookup, the `prev`-chain walk.
-/
namespace PEval.Dataset
open PEval

theorem map_eq_ok {α β} {x : Except Err α} {f : α → β} {b : β} :
    x.map f = .ok b ↔ ∃ a, x = .ok a ∧ f a = b := by
  cases x <;> simp [Except.map]

/-- the model's raising `for` loop is core's `List.mapM` in `Except`; what is known of it is in `Lemmas/ExceptLoop` -/
theorem mapE_eq_mapM {α β : Type} (f : α → Except Err β) : ∀ l, mapE f l = l.mapM f
  | [] => rfl
  | a :: l => by
    rw [mapE, mapM_cons_eq, mapE_eq_mapM f l]
    cases f a with
    | error e => rfl
    | ok b => cases l.mapM f <;> rfl

theorem mapE_forall₂ {α β : Type} {f : α → Except Err β} {l : List α} {r : List β} (h : mapE f l = .ok r) :
    List.Forall₂ (fun a b => f a = .ok b) l r :=
  mapM_ok_iff.1 (mapE_eq_mapM f l ▸ h)

theorem mapE_ok_of_forall {α β : Type} {f : α → Except Err β} {l : List α} (h : ∀ a ∈ l, ∃ b, f a = .ok b) :
    ∃ r, mapE f l = .ok r :=
  mapE_eq_mapM f l ▸ mapM_ok_of_forall h

/-- a list related elementwise to `enumerate(l, n)`, read by position -/
theorem forall₂_zipIdx {α β : Type} {R : α × Nat → β → Prop} {l : List α} {n : Nat} {r : List β}
    (h : List.Forall₂ R (l.zipIdx n) r) :
    r.length = l.length ∧ ∀ i (hi : i < l.length), ∃ b, r[i]? = some b ∧ R (l[i], n + i) b := by
  have hlen : r.length = l.length := by rw [← forall₂_length h, List.length_zipIdx]
  refine ⟨hlen, fun i hi => ?_⟩
  have hr : i < r.length := hlen ▸ hi
  have := forall₂_getElem h i (by rwa [List.length_zipIdx]) hr
  rw [List.getElem_zipIdx] at this
  exact ⟨r[i], List.getElem?_eq_getElem hr, this⟩

/-- `for n, sample_token in enumerate(sample_tokens)` is the loop over the enumerated samples -/
theorem loadFrom_eq_mapM (T : Tables) (cfg : Config) : ∀ (l : List Sample) (n : Nat),
    loadFrom T cfg n l = (l.zipIdx n).mapM fun p => sampleToFrame T cfg p.2 p.1
  | [], _ => rfl
  | s :: l, n => by
    rw [loadFrom, List.zipIdx_cons, mapM_cons_eq, loadFrom_eq_mapM T cfg l]
    cases sampleToFrame T cfg n s with
    | error e => rfl
    | ok f => cases List.mapM (fun p => sampleToFrame T cfg p.2 p.1) (l.zipIdx (n + 1)) <;> rfl

theorem loadDataset_ok {T : Tables} {cfg : Config} {fs : List Frame} (h : loadDataset T cfg = .ok fs) :
    List.Forall₂ (fun p f => sampleToFrame T cfg p.2 p.1 = .ok f) T.samples.zipIdx fs := by
  unfold loadDataset at h
  split at h
  · cases h
  · exact mapM_ok_iff.1 (loadFrom_eq_mapM T cfg _ _ ▸ h)

theorem boxPose_base_link (ego : EgoPose) (cs : CalibratedSensor) (a : Annotation) :
    boxPose "BASE_LINK" ego cs a =
      .ok (moveInv cs.translation cs.rotation (moveInv ego.translation ego.rotation (annPose a))) :=
  if_pos rfl

theorem boxPose_map (ego : EgoPose) (cs : CalibratedSensor) (a : Annotation) :
    boxPose "MAP" ego cs a = .ok (annPose a) :=
  (if_neg (by simp)).trans (if_pos rfl)

/-- what the loop body of `_sample_to_frame` read to build the object `o` from the annotation `a` -/
structure ObjectOf (T : Tables) (cfg : Config) (t : Nat) (ego : EgoPose) (cs : CalibratedSensor)
    (a : Annotation) (o : Obj) : Prop where
  pose : boxPose cfg.frame ego cs a = .ok o.pose
  visibility : visibilityOf T a = .ok o.visibility
  attributes : attributeNamesOf T a = .ok o.attributes
  name : categoryNameOf T a = .ok o.name
  fp : fpCheck cfg o.label = .ok ()
  velocity : velocityOf T true a = .ok o.velocity
  tracked : trackedOf T cfg a = .ok o.tracked
  uuid : o.uuid = a.instanceToken
  label : o.label = convertLabel cfg.merge o.name
  size : o.size = a.size
  points : o.points = a.numLidarPts
  frame : o.frame = cfg.frame
  time : o.time = t

theorem objectOf_ok {T : Tables} {cfg : Config} {t : Nat} {ego : EgoPose} {cs : CalibratedSensor}
    {a : Annotation} {o : Obj} (h : objectOf T cfg t ego cs a = .ok o) : ObjectOf T cfg t ego cs a o := by
  simp only [objectOf, bind_eq_ok, pure, Except.pure, Except.ok.injEq] at h
  obtain ⟨_, hpose, _, hvis, _, hattrs, _, hname, _, hfp, _, hvel, _, htr, rfl⟩ := h
  exact ⟨hpose, hvis, hattrs, hname, hfp, hvel, htr, rfl, rfl, rfl, rfl, rfl, rfl⟩

/-- what `_sample_to_frame` read to build the frame `f`: the lidar key frame `sd` it picked, its ego pose and
calibration; `_get_transforms` succeeded; the objects are, one per annotation of the sample and in order, the loop
body's results -/
structure FrameOf (T : Tables) (cfg : Config) (n : Nat) (s : Sample) (f : Frame)
    (sd : SampleData) (ego : EgoPose) (cs : CalibratedSensor) : Prop where
  lidar : lidarOf T s.token = .ok sd
  egoPose : lookup EgoPose.token T.egoPoses sd.egoPoseToken = .ok ego
  calib : lookup CalibratedSensor.token T.calibratedSensors sd.calibratedSensorToken = .ok cs
  transforms : ∃ frs, sensorFrames T = .ok frs
  ego2map : f.ego2map = ⟨ego.translation, ego.rotation⟩
  unixTime : f.unixTime = s.timestamp
  frameName : f.frameName = toString n
  objects : List.Forall₂ (fun a o => objectOf T cfg s.timestamp ego cs a = .ok o) (annsOf T s.token) f.objects

theorem sampleToFrame_ok {T : Tables} {cfg : Config} {n : Nat} {s : Sample} {f : Frame}
    (h : sampleToFrame T cfg n s = .ok f) : ∃ sd ego cs, FrameOf T cfg n s f sd ego cs := by
  simp only [sampleToFrame, bind_eq_ok] at h
  obtain ⟨sd, hsd, h⟩ := h
  split at h
  · simp only [bind_eq_ok, pure, Except.pure, Except.ok.injEq] at h
    obtain ⟨ego, hego, cs, hcs, frs, hfrs, objs, hobjs, rfl⟩ := h
    exact ⟨sd, ego, cs, hsd, hego, hcs, ⟨frs, hfrs⟩, rfl, rfl, rfl, mapE_forall₂ hobjs⟩
  · cases h

theorem sampleToFrame_forall₂ {T : Tables} {cfg : Config} {n : Nat} {s : Sample} {f : Frame}
    {P : Annotation → Obj → Prop} (h : sampleToFrame T cfg n s = .ok f)
    (hP : ∀ ego cs a o, a ∈ annsOf T s.token → objectOf T cfg s.timestamp ego cs a = .ok o → P a o) :
    List.Forall₂ P (annsOf T s.token) f.objects := by
  obtain ⟨_, ego, cs, hf⟩ := sampleToFrame_ok h
  exact forall₂_imp hf.objects (hP ego cs)

theorem sampleToFrame_mem {T : Tables} {cfg : Config} {n : Nat} {s : Sample} {f : Frame} {o : Obj}
    (h : sampleToFrame T cfg n s = .ok f) (ho : o ∈ f.objects) :
    ∃ ego cs a, ObjectOf T cfg s.timestamp ego cs a o := by
  obtain ⟨_, ego, cs, hf⟩ := sampleToFrame_ok h
  obtain ⟨a, -, hao⟩ := forall₂_mem_right hf.objects ho
  exact ⟨ego, cs, a, objectOf_ok hao⟩

/-! ## the two quaternion algebras

`PEval.Dataset` (loader model, C16) and `PEval.Transform` (`HomogeneousMatrix` / `TransformDict`, C18) each carry a copy
of the rational quaternion algebra. `toT` maps the former into the latter and the copies are the same functions, so
that the C16 statement "the ego→map transform stored with the frame maps the loaded pose onto the annotated one" is a
statement about the C18 `HomogeneousMatrix (BASE_LINK → MAP)` applied with `transformPose`, and the identities of
`Lemmas/Transform` carry over to the loader's algebra. -/

def Vec3.toT (v : Vec3) : Transform.V3 := ⟨v.x, v.y, v.z⟩
def Quat.toT (q : Quat) : Transform.Quat := ⟨q.w, q.x, q.y, q.z⟩

/-- the frame's stored ego→map pose as the C18 transform object with the key `(BASE_LINK, MAP)` -/
def Pose.toHM (t : Pose) : Transform.HM := ⟨t.pos.toT, t.rot.toT, "BASE_LINK", "MAP"⟩

theorem Vec3.toT_inj {a b : Vec3} (h : a.toT = b.toT) : a = b := by
  cases a; cases b; simpa [Vec3.toT] using h

theorem rotate_toT (q : Quat) (v : Vec3) : (rotate q v).toT = Transform.rotate q.toT v.toT := by
  simp only [rotate, Vec3.toT, Quat.toT, Transform.rotate, Transform.rotMat, Transform.Mat3.mulVec, Transform.V3.dot]

theorem mul_toT (p q : Quat) : (p.mul q).toT = p.toT * q.toT := rfl

theorem conj_toT (q : Quat) : q.conj.toT = q.toT.conj := rfl

theorem normSq_toT (q : Quat) : q.toT.normSq = q.normSq := rfl

/-- `Dataset.applyPose` IS `HomogeneousMatrix.transform(position, rotation)` of the C18 model -/
theorem applyPose_toT (t p : Pose) :
    Transform.transformPose t.toHM (p.pos.toT, p.rot.toT) = ((applyPose t p).pos.toT, (applyPose t p).rot.toT) := by
  simp only [Transform.transformPose, Transform.transformPos, Pose.toHM, applyPose, ← rotate_toT, mul_toT]
  rfl

/-- the non-unit form of `Transform.rotate_rotate_conj` (`q` after `q̄`): `q q̄ = |q|²`, and a real quaternion `s`
rotates by `s²` -/
theorem rotate_conj_rotate (q : Quat) (v : Vec3) :
    rotate q (rotate q.conj v) = ⟨q.normSq * q.normSq * v.x, q.normSq * q.normSq * v.y, q.normSq * q.normSq * v.z⟩ := by
  apply Vec3.toT_inj
  rw [rotate_toT, rotate_toT]
  exact Transform.rotate_rotate_conj_normSq q.toT v.toT

theorem mul_conj_mul (q r : Quat) :
    q.mul (q.conj.mul r) = ⟨q.normSq * r.w, q.normSq * r.x, q.normSq * r.y, q.normSq * r.z⟩ := by
  simp only [Quat.mul, Quat.conj, Quat.normSq, Quat.mk.injEq]
  refine ⟨?_, ?_, ?_, ?_⟩ <;> ring

theorem applyPose_moveInv (t : Vec3) (q : Quat) (hq : q.normSq = 1) (p : Pose) :
    applyPose ⟨t, q⟩ (moveInv t q p) = p := by
  simp [applyPose, moveInv, rotate_conj_rotate, mul_conj_mul, hq, Vec3.add, Vec3.sub]

/-- a sensor calibrated at the origin of the ego frame does not move anything -/
theorem moveInv_identity (p : Pose) : moveInv Vec3.zero Quat.one p = p := by
  simp [moveInv, rotate, Quat.conj, Quat.one, Quat.mul, Vec3.zero, Vec3.sub]

theorem normSq_mul (p q : Quat) : (p.mul q).normSq = p.normSq * q.normSq :=
  Transform.Quat.normSq_mul p.toT q.toT

theorem normSq_conj (q : Quat) : q.conj.normSq = q.normSq :=
  Transform.Quat.normSq_conj q.toT

theorem lookup_ok_mem {α} {tok : α → String} {tbl : List α} {t : String} {r : α}
    (h : lookup tok tbl t = .ok r) : r ∈ tbl ∧ tok r = t := by
  unfold lookup at h
  split at h
  · rename_i r' hf
    cases h
    exact ⟨by simpa using List.mem_of_find?_eq_some hf, by simpa using List.find?_some hf⟩
  · cases h

theorem lookup_ok_of_mem {α} {tok : α → String} {tbl : List α} {t : String}
    (h : ∃ r ∈ tbl, tok r = t) : ∃ r, lookup tok tbl t = .ok r := by
  unfold lookup
  cases hf : tbl.reverse.find? (fun r => tok r == t) with
  | some r => exact ⟨r, rfl⟩
  | none =>
    obtain ⟨r, hr, ht⟩ := h
    simpa [ht] using List.find?_eq_none.1 hf r (by simpa using hr)

theorem lookup_error {α} {tok : α → String} {tbl : List α} {t : String} {e : Err}
    (h : lookup tok tbl t = .error e) : e = "KeyError" := by
  unfold lookup at h
  split at h <;> cases h
  rfl

/-- in a table whose tokens are unique, `lookup` finds THE record carrying the token -/
theorem lookup_of_unique {α} {tok : α → String} {tbl : List α} {r : α} (hr : r ∈ tbl)
    (huniq : ∀ x ∈ tbl, tok x = tok r → x = r) : lookup tok tbl (tok r) = .ok r := by
  obtain ⟨x, hx⟩ := lookup_ok_of_mem (tok := tok) (tbl := tbl) (t := tok r) ⟨r, hr, rfl⟩
  obtain ⟨hm, ht⟩ := lookup_ok_mem hx
  rw [hx, huniq x hm ht]

/-- Induction along the `while` loop of `_iterate`: a relation `I` between the cursor and the records collected so
far that every round of the loop preserves holds, for some cursor, of the records returned. -/
theorem iterate_induct {T : Tables} {start : Nat} (I : Annotation → List Annotation → Prop)
    (step : ∀ cur acc nxt t, I cur acc → acc.length < maxPast →
      lookup Annotation.token T.annotations cur.prev = .ok nxt → timeOf T nxt.sampleToken = .ok t →
      I nxt (if absDiff t start < windowUs then acc ++ [nxt] else acc))
    (fuel : Nat) (cur : Annotation) (elapsed : Nat) (acc recs : List Annotation)
    (hi : I cur acc) (h : iterate T start fuel cur elapsed acc = .ok recs) : ∃ last, I last recs := by
  fun_induction iterate T start fuel cur elapsed acc with
  | case1 | case2 | case6 => cases h; exact ⟨_, hi⟩
  | case3 | case4 => cases h
  | case5 _ cur _ acc hc _ nxt hn t ht _ ih => exact ih (step cur acc nxt t hi hc.2 hn ht) h

/-- an invariant `Q` of the cursor and a property `P` of everything appended -/
theorem iterate_inv {T : Tables} {start : Nat} (P Q : Annotation → Prop)
    (step : ∀ cur nxt t, Q cur → lookup Annotation.token T.annotations cur.prev = .ok nxt →
      timeOf T nxt.sampleToken = .ok t → Q nxt ∧ (absDiff t start < windowUs → P nxt))
    (fuel : Nat) (cur : Annotation) (elapsed : Nat) (acc recs : List Annotation)
    (hq : Q cur) (hacc : ∀ r ∈ acc, P r) (h : iterate T start fuel cur elapsed acc = .ok recs) : ∀ r ∈ recs, P r := by
  obtain ⟨_, -, hp⟩ := iterate_induct (fun cur acc => Q cur ∧ ∀ r ∈ acc, P r)
    (fun cur acc nxt t hi _ hn ht => by
      obtain ⟨hq', hp'⟩ := step cur nxt t hi.1 hn ht
      refine ⟨hq', ?_⟩
      split
      · rename_i hlt
        simpa [or_imp, forall_and] using ⟨hi.2, hp' hlt⟩
      · exact hi.2) fuel cur elapsed acc recs ⟨hq, hacc⟩ h
  exact hp

theorem iterate_length {T : Tables} {start : Nat} (fuel : Nat) (cur : Annotation) (elapsed : Nat)
    (acc recs : List Annotation) (hacc : acc.length ≤ maxPast)
    (h : iterate T start fuel cur elapsed acc = .ok recs) : recs.length ≤ maxPast := by
  obtain ⟨_, hl⟩ := iterate_induct (fun _ acc => acc.length ≤ maxPast)
    (fun cur acc nxt t hi hlt _ _ => by
      split
      · rw [List.length_append, List.length_singleton]; exact hlt
      · exact hi) fuel cur elapsed acc recs hacc h
  exact hl

theorem iterate_ok {T : Tables} {start : Nat} (Q : Annotation → Prop)
    (step : ∀ cur, Q cur → cur.prev ≠ "" →
      ∃ nxt t, lookup Annotation.token T.annotations cur.prev = .ok nxt ∧
        timeOf T nxt.sampleToken = .ok t ∧ Q nxt) :
    ∀ (fuel : Nat) (cur : Annotation) (elapsed : Nat) (acc : List Annotation),
      Q cur → ∃ recs, iterate T start fuel cur elapsed acc = .ok recs
  | 0, cur, elapsed, acc, _ => ⟨acc, rfl⟩
  | fuel + 1, cur, elapsed, acc, hq => by
    rw [iterate]
    split
    · split
      · exact ⟨acc, rfl⟩
      · rename_i hprev
        obtain ⟨nxt, t, hn, ht, hq'⟩ := step cur hq (by simpa using hprev)
        simp only [hn, ht]
        exact iterate_ok Q step fuel nxt _ _ hq'
    · exact ⟨acc, rfl⟩

end PEval.Dataset
