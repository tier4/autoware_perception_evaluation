import PEval.Model.SensingDT
/-!
The C12 decision skeleton (`Model/SensingDT.lean`) evaluated: the tree `frameSkel` is the function `frameAtoms` of the
valuation (`eval_frameSkel`), and at the atoms `valuationOf` of a concrete input that function is the number `modelCode`
computed from the model's per-object results (`frameAtoms_valuationOf`).  No Mathlib.
-/
namespace PEval.SensingDT
open PEval PEval.DT PEval.Sensing

theorem eval_ndSkel (v : Val) : ∀ m j acc, eval (ndSkel m j acc) v = .other (ndCode v m j acc)
  | 0, _, _ => rfl
  | m + 1, j, acc => by
    rw [ndSkel, eval_askB, ndCode]; exact eval_ndSkel v m (j + 1) _

theorem eval_objSkel (v : Val) : ∀ m i k acc, eval (objSkel m i k acc) v = .other (frameCode v m i k acc)
  | 0, _, k, acc => by rw [objSkel, frameCode]; exact eval_ndSkel v k 0 acc
  | m + 1, i, k, acc => by
    rw [objSkel, eval_askB, eval_askC, eval_askB, frameCode]
    exact eval_objSkel v m (i + 1) k _

theorem eval_frameSkel (n k : Nat) (v : Val) : eval (frameSkel n k) v = frameAtoms n k v :=
  eval_objSkel v n 0 k 0

theorem cmpI_ne_lt (a b : Int) : (cmpI a b != .lt) = decide (a ≥ b) := by
  unfold cmpI
  rcases Int.lt_trichotomy a b with h | rfl | h
  · simp [h]
  · simp
  · simp [Int.lt_asymm h, (Int.ne_of_lt h).symm, Int.le_of_lt h]

/-- `i < 50`: object `i` owns the atoms `2i`, `2i + 1` of `valuationOf`, which must stay below `cZeroThr = 99` and below
`100`, where the atoms of the non-detection clouds begin -/
theorem objDigitAtoms_valuationOf (cfg : Cfg) (cols : Nat) (cloud : List Pt) (objs : List Obj) (rest : List (List Pt))
    (i : Nat) (o : Obj) (hi : i < 50) (ho : objs[i]? = some o) :
    objDigitAtoms (valuationOf cfg cols cloud objs rest) i = objDigit (sresOf cfg cols cloud o) := by
  have h1 : ¬ (100 ≤ 2 * i) := by omega
  have h2 : ¬ (100 ≤ 2 * i + 1) := by omega
  have h3 : 2 * i / 2 = i := Nat.mul_div_cancel_left i (by decide)
  have h4 : (2 * i + 1) / 2 = i := Nat.mul_add_div (by decide) i 1
  have h5 : 2 * i % 2 = 0 := Nat.mul_mod_right 2 i
  have h6 : ¬ ((2 * i + 1) % 2 = 0) := by rw [Nat.mul_add_mod]; decide
  have h7 : ¬ (2 * i = 99) := by omega
  unfold objDigitAtoms objDigit sresOf
  simp only [valuationOf, bEmpty, bVisNone, cNumThr, cZeroThr, h1, h2, h3, h4, h5, h6, ho, if_true, if_false]
  by_cases he : (insideOf cfg cols cloud o).length = 0
  · simp [he, cmpI_ne_lt]
  · simp [he, h7, h3, ho, cmpI_ne_lt] <;> rfl

/-- the skeleton's counters `(m, i)` run over a split `objs = pre ++ suf` of the input (`m = suf.length`, `i = pre.length`),
so that the object at position `i` can be read with `objs[i]?`, as `valuationOf` does; induction on `suf` -/
theorem frameCode_objs (cfg : Cfg) (cols : Nat) (cloud : List Pt) (objs : List Obj) (rest : List (List Pt)) (k : Nat) :
    ∀ (suf pre : List Obj) (acc : Nat), objs = pre ++ suf → objs.length ≤ 50 →
      frameCode (valuationOf cfg cols cloud objs rest) suf.length pre.length k acc =
        ndCode (valuationOf cfg cols cloud objs rest) k 0
          (digitsCode (suf.map fun o => objDigit (sresOf cfg cols cloud o)) pre.length acc)
  | [], pre, acc, _, _ => rfl
  | o :: suf, pre, acc, h, hl => by
    have hlen : pre.length < 50 := by
      have := congrArg List.length h
      simp at this; omega
    have ho : objs[pre.length]? = some o := by rw [h]; simp
    simp only [List.length_cons, frameCode, List.map_cons, digitsCode]
    rw [objDigitAtoms_valuationOf cfg cols cloud objs rest pre.length o hlen ho]
    have := frameCode_objs cfg cols cloud objs rest k suf (pre ++ [o]) (acc + (objDigit (sresOf cfg cols cloud o) + 1) * 13 ^ pre.length)
      (by rw [h]; simp) hl
    simpa using this

/-- the same for the non-detection clouds, `rest = pre ++ suf` -/
theorem ndCode_rest (cfg : Cfg) (cols : Nat) (cloud : List Pt) (objs : List Obj) (rest : List (List Pt)) :
    ∀ (suf pre : List (List Pt)) (acc : Nat), rest = pre ++ suf →
      ndCode (valuationOf cfg cols cloud objs rest) suf.length pre.length acc =
        flagsCode (suf.map fun c => c.length == 0) pre.length acc
  | [], _, _, _ => rfl
  | c :: suf, pre, acc, h => by
    have hc : rest[pre.length]? = some c := by rw [h]; simp
    have hb : (valuationOf cfg cols cloud objs rest).b (bNdEmpty pre.length) = (c.length == 0) := by
      simp [valuationOf, bNdEmpty, hc]
    simp only [List.length_cons, ndCode, List.map_cons, flagsCode, hb]
    have := ndCode_rest cfg cols cloud objs rest suf (pre ++ [c]) (acc + ndWeight (c.length == 0) pre.length) (by rw [h]; simp)
    simpa using this

/-- THE BRIDGE (all inputs with at most 50 objects): the skeleton on the atoms of an input = the model's number -/
theorem frameAtoms_valuationOf (cfg : Cfg) (cols : Nat) (cloud : List Pt) (objs : List Obj) (rest : List (List Pt))
    (hl : objs.length ≤ 50) :
    frameAtoms objs.length rest.length (valuationOf cfg cols cloud objs rest) =
      .other (modelCode cfg cols cloud objs rest) := by
  unfold frameAtoms modelCode
  have h1 := frameCode_objs cfg cols cloud objs rest rest.length objs [] 0 (by simp) hl
  have h2 := ndCode_rest cfg cols cloud objs rest rest [] (digitsCode (objs.map fun o => objDigit (sresOf cfg cols cloud o)) 0 0) (by simp)
  simp only [List.length_nil] at h1 h2
  rw [h1, h2]

end PEval.SensingDT
