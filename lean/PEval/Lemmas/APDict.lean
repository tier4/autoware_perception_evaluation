import PEval.Lemmas.APExt
/-!
The per-label dicts of `Map` (AP model and its extension by `float("inf")` thresholds).

`Map.__init__` reads `object_results_dict` and `num_ground_truth_dict` by key, once per target label
(`mapLoop`: `lookupKey`). Hence (i) only the entries of the target labels matter, and of a nested entry only its
concatenation (`mapOf_congr_flatten`), (ii) the insertion order of the keys does not (`lookupKey_perm`), and (iii) at
frame level, where `evaluate_frame` keys the dicts by the label list of the critical-object filter, the order (and
multiplicity) of that list does not matter either. What the two dicts hold under a label is said in closed form:
`lookupKey_divideObjectsToNum` (the number of ground truths of the label, `cnt`) and `lookupKey_divideObjects` (the
results filed under the label, in input order: `bucket`); at scene level `get_scene_result` gathers the buckets of all
frames and adds up the counts (`frameBuckets_eq`, `sceneBucketsAux_eq`, `scene_apCall`). With the frame-level lookups in
closed form the `…_runs` chain of `APMono` reaches the frame (`frameMap_runs`).
-/

namespace PEval.AP

theorem lookupKey_perm {β : Type} {L L' : List (Label × β)} (h : L.Perm L')
    (nd : (L.map Prod.fst).Nodup) (l : Label) : lookupKey l L = lookupKey l L' := by
  induction h with
  | nil => rfl
  | cons x _ ih =>
    obtain ⟨k, v⟩ := x
    unfold lookupKey
    rw [ih (List.nodup_cons.1 nd).2]
  | swap x y t =>
    obtain ⟨k, v⟩ := x
    obtain ⟨k', v'⟩ := y
    -- the two orders differ only for a key equal to both `k` and `k'`
    simp only [lookupKey]
    cases h1 : k == l with
    | false => rfl
    | true =>
      have h2 : (k' == l) = false := beq_false_of_ne fun e => by
        simp only [List.map_cons, List.nodup_cons, List.mem_cons] at nd
        exact nd.1 (Or.inl (e.trans (eq_of_beq h1).symm))
      rw [h2]
      rfl
  | trans h1 _ ih1 ih2 =>
    rw [ih1 nd]
    exact ih2 ((h1.map Prod.fst).nodup_iff.1 nd)

/-- the per-label `Ap` reads the result dict only through the concatenation of the label's entry -/
theorem apCall_flatten (tm : TpMetric) (m : Mode) (b : List (Label × List (List Res))) (n : List (Label × Nat))
    (l : Label) (t : Rat) :
    apCall tm m b n l t = match (lookupKey l b).map List.flatten with
      | .error e => .error e
      | .ok rs =>
        match lookupKey l n with
        | .error e => .error e
        | .ok G => apOf tm m [l] [t] G rs := by
  unfold apCall
  cases lookupKey l b <;> rfl

theorem mapLoop_congr_flatten {m : Mode} {is2d : Bool} {b b' : List (Label × List (List Res))}
    {n n' : List (Label × Nat)} : ∀ (tz : List (Label × Rat)),
    (∀ p ∈ tz, (lookupKey p.1 b).map List.flatten = (lookupKey p.1 b').map List.flatten) →
    (∀ p ∈ tz, lookupKey p.1 n = lookupKey p.1 n') →
    mapLoop m is2d b n tz = mapLoop m is2d b' n' tz
  | [], _, _ => rfl
  | (l, t) :: rest, hb, hn => by
    rw [List.forall_mem_cons] at hb hn
    simp only [mapLoop_cons, apCall_flatten, hb.1, hn.1, mapLoop_congr_flatten (m := m) (is2d := is2d) rest hb.2 hn.2]

/-- two nested result dicts whose entries under the target labels have the same concatenation
(and two count dicts with the same entries under the target labels) give the same `Map` -/
theorem mapOf_congr_flatten {m : Mode} {is2d : Bool} {T : List Label} {th : List Rat}
    {b b' : List (Label × List (List Res))} {n n' : List (Label × Nat)}
    (hb : ∀ l ∈ T, (lookupKey l b).map List.flatten = (lookupKey l b').map List.flatten)
    (hn : ∀ l ∈ T, lookupKey l n = lookupKey l n') :
    mapOf m is2d T th b n = mapOf m is2d T th b' n' := by
  unfold mapOf
  rw [mapLoop_congr_flatten (T.zip th) (fun p hp => hb p.1 (List.of_mem_zip hp).1)
    (fun p hp => hn p.1 (List.of_mem_zip hp).1)]

theorem mapLoopE_congr {m : Mode} {is2d : Bool} {b b' : List (Label × List (List Res))}
    {n n' : List (Label × Nat)} : ∀ (tz : List (Label × EThr)),
    (∀ p ∈ tz, lookupKey p.1 b = lookupKey p.1 b') → (∀ p ∈ tz, lookupKey p.1 n = lookupKey p.1 n') →
    mapLoopE m is2d b n tz = mapLoopE m is2d b' n' tz
  | [], _, _ => rfl
  | (l, t) :: rest, hb, hn => by
    rw [List.forall_mem_cons] at hb hn
    unfold mapLoopE
    rw [hb.1, hn.1, mapLoopE_congr rest hb.2 hn.2]

theorem mapOf_congr {m : Mode} {is2d : Bool} {T : List Label} {th : List Rat}
    {b b' : List (Label × List (List Res))} {n n' : List (Label × Nat)}
    (hb : ∀ l ∈ T, lookupKey l b = lookupKey l b') (hn : ∀ l ∈ T, lookupKey l n = lookupKey l n') :
    mapOf m is2d T th b n = mapOf m is2d T th b' n' :=
  mapOf_congr_flatten (fun l hl => congrArg _ (hb l hl)) hn

theorem mapOfE_congr {m : Mode} {is2d : Bool} {T : List Label} {th : List EThr}
    {b b' : List (Label × List (List Res))} {n n' : List (Label × Nat)}
    (hb : ∀ l ∈ T, lookupKey l b = lookupKey l b') (hn : ∀ l ∈ T, lookupKey l n = lookupKey l n') :
    mapOfE m is2d T th b n = mapOfE m is2d T th b' n' := by
  unfold mapOfE
  rw [mapLoopE_congr (T.zip th) (fun p hp => hb p.1 (List.of_mem_zip hp).1)
    (fun p hp => hn p.1 (List.of_mem_zip hp).1)]

theorem lookupKey_countAdd_self {l : Label} {acc : List (Label × Nat)} {n : Nat}
    (h : lookupKey l acc = .ok n) : lookupKey l (countAdd l acc) = .ok (n + 1) := by
  fun_induction countAdd l acc with
  | case1 => cases h
  | case2 k v rest hk => rw [lookupKey, if_pos hk] at h ⊢; cases h; rfl
  | case3 k v rest hk ih => rw [lookupKey, if_neg hk] at h ⊢; exact ih h

theorem lookupKey_countAdd_ne {l l' : Label} (hne : l' ≠ l) (acc : List (Label × Nat)) :
    lookupKey l (countAdd l' acc) = lookupKey l acc := by
  fun_induction countAdd l' acc with
  | case1 => simp [lookupKey, hne]
  | case2 k v rest hk =>
    -- the changed entry has key `l'`, not `l`
    have hkl : (k == l) = false := beq_false_of_ne fun e => hne ((eq_of_beq hk).symm.trans e)
    rw [lookupKey, lookupKey, hkl]; rfl
  | case3 k v rest hk ih => rw [lookupKey, lookupKey, ih]

/-- a dict built by tabulating `f` over the key list `ts` (duplicate keys allowed) -/
theorem lookupKey_tabulate {β : Type} (f : Label → β) (l : Label) (ts : List Label) :
    lookupKey l (ts.map (fun k => (k, f k))) = if ts.contains l then .ok (f l) else .error "KeyError" := by
  induction ts with
  | nil => rfl
  | cons k t ih =>
    rw [List.map_cons, lookupKey, List.contains_cons, ih, BEq.comm (a := l)]
    cases hk : k == l with
    | false => rfl
    | true => rw [eq_of_beq hk]; rfl

/-- the initial dicts of `divide_objects` / `divide_objects_to_num`: every target label with the same value -/
theorem lookupKey_init {β : Type} (l : Label) (ts : List Label) (b : β) :
    lookupKey l (ts.map (fun k => (k, b))) = if ts.contains l then .ok b else .error "KeyError" :=
  lookupKey_tabulate (fun _ => b) l ts

/-- one round of `divide_objects_to_num`, seen through the lookup under a label `l` that has an entry: the entry
grows by one if the round files a target `l`, and is untouched otherwise -/
theorem lookupKey_countStep {ts : List Label} {l x : Label} {acc : List (Label × Nat)} {n : Nat}
    (hl : ts.contains l = true) (hn : lookupKey l acc = .ok n) :
    lookupKey l (if ts.contains x then countAdd x acc else acc) = .ok (n + if x == l then 1 else 0) := by
  by_cases hx : x = l
  · rw [hx, if_pos hl, if_pos (beq_self_eq_true l)]
    exact lookupKey_countAdd_self hn
  · rw [beq_false_of_ne hx, if_neg Bool.false_ne_true, Nat.add_zero]
    split
    · rw [lookupKey_countAdd_ne hx]; exact hn
    · exact hn

/-- the number of ground truths (given by their labels) of label `l`: the entry of `l` in `divide_objects_to_num` -/
abbrev cnt (l : Label) (gl : List Label) : Nat := (gl.filter (fun k => k == l)).length

/-- `divide_objects_to_num(ground truths, target_labels)` read under a label: a target's entry counts the ground
truths carrying it; a label that is no target has no entry at the start and never gets one -/
theorem lookupKey_divideObjectsToNum (ts ls : List Label) (l : Label) :
    lookupKey l (divideObjectsToNum (some ts) ls) =
      if ts.contains l then .ok (cnt l ls) else .error "KeyError" := by
  have gen : ∀ (xs : List Label) (acc : List (Label × Nat)) (n : Nat),
      lookupKey l acc = (if ts.contains l then .ok n else .error "KeyError") →
      lookupKey l (xs.foldl (fun acc l' => if ts.contains l' then countAdd l' acc else acc) acc)
        = if ts.contains l then .ok (n + (xs.filter (fun k => k == l)).length) else .error "KeyError" := by
    intro xs
    induction xs with
    | nil => exact fun acc n hn => hn
    | cons x t ih =>
      intro acc n hn
      rw [List.foldl_cons, ih _ (n + if x == l then 1 else 0) ?_, List.filter_cons]
      · cases x == l with
        | false => rfl
        | true =>
          show (if _ then Except.ok (n + 1 + _) else _) = if _ then Except.ok (n + (_ + 1)) else _
          rw [Nat.add_assoc, Nat.add_comm 1]
      · cases hl : ts.contains l with
        | true =>
          rw [hl, if_pos rfl] at hn
          rw [if_pos rfl]
          exact lookupKey_countStep hl hn
        | false =>
          rw [hl, if_neg Bool.false_ne_true] at hn
          rw [if_neg Bool.false_ne_true]
          split
          · next hc => rw [lookupKey_countAdd_ne (fun e => by rw [e, hl] at hc; cases hc)]; exact hn
          · exact hn
  exact (gen ls _ 0 (lookupKey_init l ts 0)).trans (by rw [Nat.zero_add])

theorem lookup_divideObjectsToNum_target {ts : List Label} (ls : List Label) {l : Label}
    (hl : ts.contains l = true) :
    lookupKey l (divideObjectsToNum (some ts) ls) = .ok (cnt l ls) := by
  rw [lookupKey_divideObjectsToNum, if_pos hl]

/-- filing `x` under `l` appends it to the entry of `l`, or makes the entry `[x]` when there was none -/
theorem lookupKey_bucketAdd_self {β : Type} (l : Label) (x : β) (acc : List (Label × List β)) :
    lookupKey l (bucketAdd l x acc) = .ok ((match lookupKey l acc with
      | .ok v => v
      | .error _ => []) ++ [x]) := by
  fun_induction bucketAdd l x acc with
  | case1 => simp [lookupKey]
  | case2 k v rest hk => simp [lookupKey, hk]
  | case3 k v rest hk ih => simp only [lookupKey, hk, Bool.false_eq_true, if_false, ih]

theorem lookupKey_bucketAdd_ne {β : Type} {l l' : Label} (hne : l' ≠ l) (x : β)
    (acc : List (Label × List β)) : lookupKey l (bucketAdd l' x acc) = lookupKey l acc := by
  fun_induction bucketAdd l' x acc with
  | case1 => simp [lookupKey, hne]
  | case2 k v rest hk =>
    have hkl : (k == l) = false := beq_false_of_ne fun e => hne ((eq_of_beq hk).symm.trans e)
    rw [lookupKey, lookupKey, hkl]; rfl
  | case3 k v rest hk ih => rw [lookupKey, lookupKey, ih]

/-- the object results of one frame that `divide_objects(·, T)` files under the label `l`, in input order -/
abbrev bucket (T : List Label) (l : Label) (rs : List Res) : List Res :=
  rs.filter (fun r => bucketLabel (some T) r == some l)

/-- `divide_objects(results, labels)` read under a label: a listed label, and a label some result is filed under, has
the results filed under it, in input order; any other label is no key -/
theorem lookupKey_divideObjects (ts : List Label) (rs : List Res) (l : Label) :
    lookupKey l (divideObjects (some ts) rs) =
      if ts.contains l || rs.any (fun r => bucketLabel (some ts) r == some l) then .ok (bucket ts l rs)
      else .error "KeyError" := by
  -- the loop seen through the lookup under `l`: an entry grows by the results filed under `l`, a missing key appears with
  -- the first of them; a result dropped or filed elsewhere changes neither side
  have gen : ∀ (xs : List Res) (acc : List (Label × List Res)),
      lookupKey l (xs.foldl (fun acc r =>
        match bucketLabel (some ts) r with
        | some l' => bucketAdd l' r acc
        | none => acc) acc)
        = match lookupKey l acc with
          | .ok v => .ok (v ++ bucket ts l xs)
          | .error e => if xs.any (fun r => bucketLabel (some ts) r == some l) then .ok (bucket ts l xs) else .error e := by
    intro xs
    induction xs with
    | nil =>
      intro acc
      cases h : lookupKey l acc <;>
        simp only [List.foldl_nil, h, List.any_nil, Bool.false_eq_true, if_false, List.filter_nil, List.append_nil]
    | cons x t ih =>
      intro acc
      rw [List.foldl_cons, ih]
      cases hb : bucketLabel (some ts) x with
      | none =>
        simp only [List.any_cons, hb, Option.none_beq_some, Bool.false_or, Bool.false_eq_true, not_false_eq_true,
          List.filter_cons_of_neg]
      | some l' =>
        by_cases e : l' = l
        · subst e
          simp only [lookupKey_bucketAdd_self]
          cases h : lookupKey l' acc <;>
            simp only [List.nil_append, List.cons_append, List.append_assoc, List.any_cons, hb, BEq.rfl, Bool.true_or,
              if_true, List.filter_cons_of_pos]
        · simp only [lookupKey_bucketAdd_ne e]
          have hbe : (l' == l) = false := beq_false_of_ne e
          simp only [List.any_cons, hb, Option.some_beq_some, hbe, Bool.false_or, Bool.false_eq_true,
            not_false_eq_true, List.filter_cons_of_neg]
  refine (gen rs _).trans ?_
  rw [Option.getD_some, lookupKey_init]
  cases ts.contains l <;> simp only [Bool.false_eq_true, if_false, if_true, Bool.false_or, Bool.true_or, List.nil_append]

theorem lookup_divideObjects_target {ts : List Label} (rs : List Res) {l : Label}
    (hl : ts.contains l = true) : lookupKey l (divideObjects (some ts) rs) = .ok (bucket ts l rs) := by
  rw [lookupKey_divideObjects, hl]
  rfl

theorem lookupKey_map {β γ : Type} (f : β → γ) (l : Label) (L : List (Label × β)) :
    lookupKey l (L.map (fun kv => (kv.1, f kv.2))) = (lookupKey l L).map f := by
  fun_induction lookupKey l L with
  | case1 => rfl
  | case2 k v rest hk => rw [List.map_cons, lookupKey, if_pos hk]; rfl
  | case3 k v rest hk ih => rw [List.map_cons, lookupKey, if_neg hk, ih]

/-- frame level: the nested entry `Map` finds under a label is that label's bucket of the frame's results -/
theorem frameBucket_eq {T : List Label} {rs : List Res} {l : Label} {rss : List (List Res)}
    (hl : lookupKey l ((divideObjects (some T) rs).map (fun kv => (kv.1, [kv.2]))) = .ok rss) :
    rss = [bucket T l rs] := by
  rw [lookupKey_map (fun v => [v]), lookupKey_divideObjects] at hl
  split at hl
  · cases hl; rfl
  · cases hl

theorem frameBucket_mem {T : List Label} {rs : List Res} {l : Label} {rss : List (List Res)}
    (hl : lookupKey l ((divideObjects (some T) rs).map (fun kv => (kv.1, [kv.2]))) = .ok rss) :
    ∀ r ∈ rss.flatten, r ∈ rs := by
  rw [frameBucket_eq hl, List.flatten_cons, List.flatten_nil, List.append_nil]
  exact fun r hr => (List.mem_filter.1 hr).1

theorem frameMap_runs {m : Mode} {T : List Label} {th th' : List Rat} {rs : List Res} {is2d : Bool} {gtLabels : List Label}
    (hth : List.Forall₂ (looser m) th th')
    (hfp : fpLabel ∉ T ∨ ∀ r ∈ rs, ∀ g, r.gt = some g → g.label ≠ fpLabel) (hw : ∀ r ∈ rs, 0 ≤ r.hw) :
    Runs (∀ t ∈ th', thrValid m t = true)
      (fun o o' => optLe o.map o'.map ∧ optLe o.maph o'.maph
        ∧ List.Forall₂ (fun a a' => optLe a.ap a'.ap) o.aps o'.aps
        ∧ List.Forall₂ (fun a a' => optLe a.ap a'.ap) o.aphs o'.aphs)
      (frameMap m is2d T th rs gtLabels) (frameMap m is2d T th' rs gtLabels) :=
  mapOf_runs hth (hfp.imp_right fun h _ _ hl r hr => h r (frameBucket_mem hl r hr)) fun _ _ hl r hr =>
    hw r (frameBucket_mem hl r hr)

/-- two label lists with the same members file every result under the same label -/
theorem bucketLabel_congr {ts ts' : List Label} (h : ∀ l, ts.contains l = ts'.contains l) (r : Res) :
    bucketLabel (some ts) r = bucketLabel (some ts') r := by
  unfold bucketLabel
  simp only [h]

/-- frame level: the dicts keyed by `divT`, another listing of the labels of `T`, give `Map` what the
dicts keyed by `T` give it -/
theorem frameMapE_label_order {m : Mode} {is2d : Bool} {divT T : List Label} (th : List EThr)
    (rs : List Res) (gtLabels : List Label) (h : ∀ l, divT.contains l = T.contains l) :
    frameMapE m is2d divT T th rs gtLabels = frameMapE m is2d T T th rs gtLabels := by
  unfold frameMapE
  have hc : ∀ l ∈ T, T.contains l = true ∧ divT.contains l = true := fun l hl =>
    have hT := List.contains_iff_mem.2 hl
    ⟨hT, (h l).trans hT⟩
  refine mapOfE_congr (fun l hl => ?_) fun l hl => ?_
  · rw [lookupKey_map (fun v => [v]), lookupKey_map (fun v => [v]), lookup_divideObjects_target rs (hc l hl).1,
      lookup_divideObjects_target rs (hc l hl).2]
    simp only [bucket, bucketLabel_congr h]
  · rw [lookup_divideObjectsToNum_target gtLabels (hc l hl).1, lookup_divideObjectsToNum_target gtLabels (hc l hl).2]

theorem lookupKey_tabulate_mem {β : Type} (f : Label → β) {l : Label} {ts : List Label} (hl : l ∈ ts) :
    lookupKey l (ts.map (fun k => (k, f k))) = .ok (f l) := by
  have hc : ts.contains l = true := by simpa using hl
  rw [lookupKey_tabulate, hc]
  rfl

/-- per label, `get_scene_result` gathers the label's bucket of every frame (in frame order) and adds
up the label's ground-truth counts -/
theorem frameBuckets_eq {l : Label} (hl : T.contains l = true) :
    ∀ frames : List (List Res × List Label),
      frameBuckets T l frames
        = .ok (frames.map (fun f => bucket T l f.1), (frames.map (fun f => cnt l f.2)).sum)
  | [] => rfl
  | fr :: rest => by
    unfold frameBuckets
    rw [lookup_divideObjects_target fr.1 hl, lookup_divideObjectsToNum_target fr.2 hl,
      frameBuckets_eq hl rest]
    rfl

theorem sceneBucketsAux_eq (frames : List (List Res × List Label)) :
    ∀ ls : List Label, (∀ l ∈ ls, T.contains l = true) →
      sceneBucketsAux T frames ls
        = .ok (ls.map (fun l => (l, [] :: frames.map (fun f => bucket T l f.1))),
               ls.map (fun l => (l, (frames.map (fun f => cnt l f.2)).sum)))
  | [], _ => rfl
  | l :: ls, h => by
    unfold sceneBucketsAux
    rw [frameBuckets_eq (h l List.mem_cons_self) frames,
      sceneBucketsAux_eq frames ls (fun k hk => h k (List.mem_cons_of_mem _ hk))]
    rfl

/-- the `Ap` call of target label `l` on the dicts `get_scene_result` builds: the label's buckets of all frames pooled,
its ground-truth counts added -/
theorem scene_apCall (tm : TpMetric) (m : Mode) {T : List Label} (frames : List (List Res × List Label)) {l : Label}
    (hl : l ∈ T) (t : Rat) :
    apCall tm m (T.map (fun l => (l, [] :: frames.map (fun f => bucket T l f.1))))
        (T.map (fun l => (l, (frames.map (fun f => cnt l f.2)).sum))) l t
      = apOf tm m [l] [t] ((frames.map (fun f => cnt l f.2)).sum) ((frames.map (fun f => bucket T l f.1)).flatten) := by
  unfold apCall
  rw [lookupKey_tabulate_mem (fun l => [] :: frames.map (fun f => bucket T l f.1)) hl,
    lookupKey_tabulate_mem (fun l => (frames.map (fun f => cnt l f.2)).sum) hl]
  simp only [apOfNested, List.flatten_cons, List.nil_append]

end PEval.AP
