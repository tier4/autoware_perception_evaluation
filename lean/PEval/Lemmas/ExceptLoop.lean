import PEval.Lemmas.ListBasics
/-!
Loops that may raise. The models write a Python `for` loop whose body may raise as a recursion with explicit matches.
A loop that collects one answer per element is `List.mapM` in the `Except` monad; where such a loop is inverted or two
runs of it are compared, one bridging lemma (`…_eq_mapM`, by `mapM_cons_eq`) ties it to `mapM`, and what is known about
`mapM` is said here once: it answers iff every element does (`mapM_ok_iff`), it raises what its first raising element
raises (`mapM_error`), and two runs related elementwise are related as wholes (`Runs.mapM`). Not bridged: the per-label
loop of `Map`, which fills two lists (`AP.mapLoop_ok_iff`), and loops that are only rewritten, by their own recursion, to
a closed form or to a twin (`AP.frameBuckets_eq`, `AP.mapLoopE_real`, `AP.gtStatusesE_real`).

`Runs V R x y`: the run `y` answers whenever the run `x` does, provided `V`, and what it answers is related to what `x`
answers by `R`.
-/
namespace PEval

variable {ε α β γ δ : Type _}

theorem bind_eq_ok {x : Except ε α} {f : α → Except ε β} {b : β} :
    (x >>= f) = .ok b ↔ ∃ a, x = .ok a ∧ f a = .ok b := by
  cases x <;> simp [bind, Except.bind]

theorem ok_bind (a : α) (f : α → Except ε β) : (Except.ok a >>= f) = f a := rfl

theorem mapM_cons_eq (f : α → Except ε β) (a : α) (l : List α) :
    (a :: l).mapM f = match f a with
      | .error e => .error e
      | .ok b =>
        match l.mapM f with
        | .error e => .error e
        | .ok bs => .ok (b :: bs) := by
  rw [List.mapM_cons]
  cases f a with
  | error e => rfl
  | ok b => cases l.mapM f <;> rfl

theorem mapM_ok_iff {f : α → Except ε β} {l : List α} {bs : List β} :
    l.mapM f = .ok bs ↔ List.Forall₂ (fun a b => f a = .ok b) l bs := by
  induction l generalizing bs with
  | nil => exact ⟨fun h => by cases h; exact .nil, fun h => by cases h; rfl⟩
  | cons a t ih =>
    simp only [List.mapM_cons, bind_eq_ok, ih]
    constructor
    · rintro ⟨b, ha, bs', ht, h⟩
      cases h
      exact .cons ha ht
    · rintro (_ | ⟨ha, ht⟩)
      exact ⟨_, ha, _, ht, rfl⟩

theorem mapM_ok_of_forall {f : α → Except ε β} {l : List α} (h : ∀ a ∈ l, ∃ b, f a = .ok b) :
    ∃ bs, l.mapM f = .ok bs := by
  induction l with
  | nil => exact ⟨[], rfl⟩
  | cons a t ih =>
    obtain ⟨b, hb⟩ := h a List.mem_cons_self
    obtain ⟨bs, hbs⟩ := ih fun x hx => h x (List.mem_cons_of_mem _ hx)
    exact ⟨b :: bs, by rw [mapM_cons_eq, hb, hbs]⟩

theorem mapM_ok_forall {f : α → Except ε β} {l : List α} {bs : List β} (h : l.mapM f = .ok bs) :
    ∀ a ∈ l, ∃ b, f a = .ok b := by
  have hF := mapM_ok_iff.1 h
  clear h
  induction hF with
  | nil => exact fun _ h => nomatch h
  | cons ha _ ih => exact List.forall_mem_cons.2 ⟨⟨_, ha⟩, ih⟩

/-- a loop whose body, where it answers, answers `g a`, answers `l.map g` -/
theorem mapM_ok_eq_map {f : α → Except ε β} {g : α → β} {l : List α} {bs : List β}
    (h : l.mapM f = .ok bs) (H : ∀ a ∈ l, ∀ b, f a = .ok b → b = g a) : bs = l.map g :=
  (List.map_id bs).symm.trans (forall₂_map_eq (g := id) (forall₂_imp (mapM_ok_iff.1 h) fun a b ha => H a ha b))

/-- the loop raises what the first raising element raises: the elements before it answer -/
theorem mapM_error {f : α → Except ε β} {l : List α} {e : ε} (h : l.mapM f = .error e) :
    ∃ pre a post, l = pre ++ a :: post ∧ (∀ x ∈ pre, ∃ b, f x = .ok b) ∧ f a = .error e := by
  induction l with
  | nil => cases h
  | cons a t ih =>
    rw [mapM_cons_eq] at h
    split at h
    next e' ha => cases h; exact ⟨[], a, t, rfl, fun _ hx => (nomatch hx), ha⟩
    next b ha =>
      split at h
      next e' ht =>
        cases h
        obtain ⟨pre, x, post, rfl, hpre, hx⟩ := ih ht
        exact ⟨a :: pre, x, post, rfl, List.forall_mem_cons.2 ⟨⟨b, ha⟩, hpre⟩, hx⟩
      next => cases h

theorem mapM_congr {f g : α → Except ε β} {l : List α} (h : ∀ a ∈ l, f a = g a) : l.mapM f = l.mapM g := by
  induction l with
  | nil => rfl
  | cons a t ih =>
    rw [mapM_cons_eq, mapM_cons_eq, h a List.mem_cons_self, ih fun x hx => h x (List.mem_cons_of_mem _ hx)]

theorem mapM_map_congr {f : α → Except ε β} {g : γ → Except ε β} {r : α → γ} {l : List α}
    (h : ∀ a ∈ l, g (r a) = f a) : (l.map r).mapM g = l.mapM f := by
  rw [List.mapM_map]
  exact mapM_congr h

def Runs (V : Prop) (R : α → β → Prop) (x : Except ε α) (y : Except ε β) : Prop :=
  ∀ a, x = .ok a → (V → ∃ b, y = .ok b) ∧ ∀ b, y = .ok b → R a b

variable {V : Prop}

theorem Runs.rel {R : α → β → Prop} {x : Except ε α} {y : Except ε β} (h : Runs V R x y) {a : α} {b : β}
    (ha : x = .ok a) (hb : y = .ok b) : R a b := (h a ha).2 b hb

theorem Runs.total {R : α → β → Prop} {x : Except ε α} {y : Except ε β} (h : Runs V R x y) (v : V) {a : α}
    (ha : x = .ok a) : ∃ b, y = .ok b ∧ R a b :=
  let ⟨b, hb⟩ := (h a ha).1 v
  ⟨b, hb, (h a ha).2 b hb⟩

theorem Runs.map {R : α → β → Prop} {S : γ → δ → Prop} {x : Except ε α} {y : Except ε β} {f : α → γ} {g : β → δ}
    (h : Runs V R x y) (hf : ∀ a b, R a b → S (f a) (g b)) : Runs V S (x.map f) (y.map g) := by
  intro c hc
  cases x with
  | error e => cases hc
  | ok a =>
    cases hc
    obtain ⟨h1, h2⟩ := h a rfl
    refine ⟨fun v => ?_, fun d hd => ?_⟩
    · obtain ⟨b, hb⟩ := h1 v
      exact ⟨g b, by rw [hb]; rfl⟩
    · cases y with
      | error e => cases hd
      | ok b => cases hd; exact hf a b (h2 b rfl)

/-- elementwise related runs over elementwise related lists, in the form the loops' inversions give -/
theorem Runs.forall₂ {S : α → γ → Prop} {R : β → δ → Prop} {f : α → Except ε β} {g : γ → Except ε δ}
    {l : List α} {l' : List γ} {bs : List β} (hs : List.Forall₂ S l l')
    (H : ∀ a ∈ l, ∀ c ∈ l', S a c → Runs V R (f a) (g c)) (hp : List.Forall₂ (fun a b => f a = .ok b) l bs) :
    (V → ∃ ds, List.Forall₂ (fun c d => g c = .ok d) l' ds) ∧
      ∀ ds, List.Forall₂ (fun c d => g c = .ok d) l' ds → List.Forall₂ R bs ds := by
  induction hs generalizing bs with
  | nil => cases hp; exact ⟨fun _ => ⟨[], .nil⟩, fun ds hd => by cases hd; exact .nil⟩
  | cons hac _ ih =>
    cases hp with
    | cons hb hp' =>
      obtain ⟨e1, r1⟩ := H _ List.mem_cons_self _ List.mem_cons_self hac _ hb
      obtain ⟨e2, r2⟩ := ih (fun a ha c hc => H a (List.mem_cons_of_mem _ ha) c (List.mem_cons_of_mem _ hc)) hp'
      refine ⟨fun v => ?_, fun ds hd => ?_⟩
      · obtain ⟨d, hd⟩ := e1 v
        obtain ⟨ds, hds⟩ := e2 v
        exact ⟨d :: ds, .cons hd hds⟩
      · cases hd with
        | cons hd hds => exact .cons (r1 _ hd) (r2 _ hds)

theorem Runs.mapM {S : α → γ → Prop} {R : β → δ → Prop} {f : α → Except ε β} {g : γ → Except ε δ}
    {l : List α} {l' : List γ} (hs : List.Forall₂ S l l') (H : ∀ a ∈ l, ∀ c ∈ l', S a c → Runs V R (f a) (g c)) :
    Runs V (List.Forall₂ R) (l.mapM f) (l'.mapM g) := fun _ hbs =>
  let ⟨e, r⟩ := Runs.forall₂ hs H (mapM_ok_iff.1 hbs)
  ⟨fun v => let ⟨ds, hd⟩ := e v; ⟨ds, mapM_ok_iff.2 hd⟩, fun ds hd => r ds (mapM_ok_iff.1 hd)⟩

end PEval
