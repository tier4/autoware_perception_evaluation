import PEval.Lemmas.AnalyzerTable
/-!
# C19 lemmas: counts read off the table = sums over the frames' pass/fail lists

Counts over a selected sub-table (`selection_numTP` …: for every pair predicate that does not look at the index, the
counts of the selected items of the frames' lists); the counts of the whole table are the selection that keeps everything.
Includes the well-formedness predicate `Frame.WF` (what `PassFailResult.evaluate` guarantees) and the
exact ground-truth count that characterises finding F11 (DESIGN §7).  Core Lean only.
-/


namespace PEval.Analyzer

@[simp] theorem Cell.matches_empty (c : Cell) : c.matches {} = true := by
  simp [Cell.matches, keyMatch]

theorem Cell.matches_label (L : String) (c : Cell) :
    c.matches { labels := some [L] } = decide (c.obj.label = L) := by
  simp [Cell.matches, keyMatch]

theorem Status.beq_decide (a b : Status) : (a == b) = decide (a = b) := by
  cases a <;> cases b <;> rfl

theorem getGroundTruth_empty (t : Table) : getGroundTruth t {} = t.filterMap (·.gt) := by
  simp [getGroundTruth]

theorem getEstimation_empty (t : Table) : getEstimation t {} = t.filterMap (·.est) := by
  simp [getEstimation]

/-- ground truths of the TP results -/
def Frame.tpGts (f : Frame) : List Obj := f.tp.filterMap (·.gt)
/-- ground truths carried by FP results -/
def Frame.fpGts (f : Frame) : List Obj := f.fp.filterMap (·.gt)
/-- ORDINARY (not FP-labelled) ground truths carried by FP results: the objects finding F11 counts twice -/
def Frame.fpOrd (f : Frame) : List Obj := f.fpGts.filter fun g => !g.isFp
/-- FP-labelled ground truths carried by FP results (status `(FP, FP)`): tabulated once -/
def Frame.fpFpl (f : Frame) : List Obj := f.fpGts.filter (·.isFp)

/-- number of ground-truth rows a frame contributes -/
def Frame.gtRows (f : Frame) : Nat := f.tpGts.length + f.fpGts.length + f.tn.length + f.fn.length

/-- what `PassFailResult.evaluate` guarantees about its four lists (proved for the model of
`evaluate` in `Lemmas/AnalyzerPassFail`, checked on the real lists by the harness oracle):
TP results carry a ground truth; the critical ground truths are, up to order, the TP ground truths, the
FP-labelled ground truths kept in FP results, the TN and the FN objects; and every ordinary ground truth
kept in an FP result is also an FN object. -/
structure Frame.WF (f : Frame) : Prop where
  tp_has_gt : ∀ p ∈ f.tp, p.gt.isSome = true
  partition : f.critical.Perm (f.tpGts ++ f.fpFpl ++ f.tn ++ f.fn)
  fpOrd_sub_fn : ∀ g ∈ f.fpOrd, g ∈ f.fn

theorem Frame.fpGts_length (f : Frame) : f.fpGts.length = f.fpFpl.length + f.fpOrd.length := by
  simpa [Frame.fpFpl, Frame.fpOrd] using List.countP_eq_countP_filter_add f.fpGts (fun _ => true) (·.isFp)

theorem Frame.WF.critical_length {f : Frame} (h : f.WF) :
    f.critical.length = f.tpGts.length + f.fpFpl.length + f.tn.length + f.fn.length := by
  simpa only [List.length_append] using h.partition.length_eq

/-- F11 in one statement: the ground-truth rows of a well-formed frame are its critical ground truths and, once more, the
ordinary ground truths carried by FP results -/
theorem Frame.WF.gtRows_perm {f : Frame} (h : f.WF) :
    (f.tpGts ++ f.fpGts ++ f.tn ++ f.fn).Perm (f.critical ++ f.fpOrd) := by
  refine List.perm_iff_count.mpr fun a => ?_
  have hc := h.partition.count_eq a
  have hf := List.countP_eq_countP_filter_add f.fpGts (· == a) (·.isFp)
  simp only [Frame.fpFpl, Frame.fpOrd, List.count_eq_countP, List.countP_append] at hc hf ⊢
  omega

theorem Frame.WF.gtRows_eq {f : Frame} (h : f.WF) : f.gtRows = f.critical.length + f.fpOrd.length := by
  simpa [Frame.gtRows, Nat.add_assoc] using h.gtRows_perm.length_eq

theorem sumN_map_add {α : Type} (l : List α) (f g : α → Nat) :
    sumN (l.map fun a => f a + g a) = sumN (l.map f) + sumN (l.map g) := by
  induction l with
  | nil => rfl
  | cons a l ih => simp [ih]; omega

theorem sumN_map_congr {α : Type} (l : List α) (f g : α → Nat) (h : ∀ a ∈ l, f a = g a) :
    sumN (l.map f) = sumN (l.map g) := congrArg sumN (List.map_congr_left h)

theorem sumN_map_zero {α : Type} (l : List α) (f : α → Nat) (h : ∀ a ∈ l, f a = 0) : sumN (l.map f) = 0 :=
  List.sum_eq_zero_iff_forall_eq_nat.mpr (List.forall_mem_map.mpr h)

theorem countP_filterMap_any {α β : Type} (f : α → Option β) (q : β → Bool) (l : List α) :
    (l.filterMap f).countP q = l.countP fun a => (f a).any q := by
  induction l with
  | nil => rfl
  | cons a l ih => cases h : f a <;> simp [List.countP_cons, h, ih]

theorem Frame.tpGts_length {f : Frame} (h : ∀ p ∈ f.tp, p.gt.isSome = true) : f.tpGts.length = f.tp.length := by
  rw [Frame.tpGts, List.length_filterMap_eq_countP, List.countP_eq_length.mpr h]

/-- the selected items of one frame, list by list -/
def tpSel (area : Rat → Rat → Option Nat) (p : Item → Bool) (k : Nat) (f : Frame) : Nat :=
  f.tp.countP fun pr => p (resultCells area k f.frameNum .TP pr)
def fpSel (area : Rat → Rat → Option Nat) (p : Item → Bool) (k : Nat) (f : Frame) : Nat :=
  f.fp.countP fun pr => p (resultCells area k f.frameNum .FP pr)
def tnSel (area : Rat → Rat → Option Nat) (p : Item → Bool) (k : Nat) (f : Frame) : Nat :=
  f.tn.countP fun o => p (objectCells area k f.frameNum .TN o)
def fnSel (area : Rat → Rat → Option Nat) (p : Item → Bool) (k : Nat) (f : Frame) : Nat :=
  f.fn.countP fun o => p (objectCells area k f.frameNum .FN o)
/-- selected TP / FP results that carry a ground truth (the paired rows of the selection) -/
def pairedSel (area : Rat → Rat → Option Nat) (p : Item → Bool) (k : Nat) (f : Frame) : Nat :=
  (f.tp.countP fun pr => pr.gt.isSome && p (resultCells area k f.frameNum .TP pr)) +
  (f.fp.countP fun pr => pr.gt.isSome && p (resultCells area k f.frameNum .FP pr))

theorem sumN_map_eq_add {α : Type} (l : List α) {f g h : α → Nat} (H : ∀ a ∈ l, f a = g a + h a) :
    sumN (l.map f) = sumN (l.map g) + sumN (l.map h) := by
  rw [← sumN_map_add]
  exact sumN_map_congr _ _ _ H

theorem sumN_gtRows {frames : List Frame} (hwf : ∀ f ∈ frames, f.WF) :
    sumN (frames.map Frame.gtRows) =
      sumN (frames.map fun f => f.critical.length) + sumN (frames.map fun f => f.fpOrd.length) :=
  sumN_map_eq_add frames fun f hf => (hwf f hf).gtRows_eq

section
variable (area : Rat → Rat → Option Nat) (scenes : List (List Frame)) (p : Item → Bool)

/-- whatever is read off the selected row pairs (`side`: the ground-truth row, the estimate row, both of them …) and
counted: the sum over the frames of the count over their items -/
theorem countP_side {β : Type} (side : Item → Option β) (Q : β → Bool) :
    (((addAll area scenes).table.filter fun r => p r.strip).filterMap fun r => side r.strip).countP Q =
      sumScenesFrom (fun k f => (frameItems area k f).countP fun it => (side it).any Q && p it) 0 scenes := by
  rw [countP_filterMap_any]
  exact countP_table area scenes p fun it => (side it).any Q

/-! In each count below `simp` evaluates the predicate on the four blocks of a frame (`countP_frameItems`): only the block of
the status asked for (resp. the two result blocks, which alone have an estimate row) contributes, the other counts are 0. -/

theorem selection_numTP :
    getNumTP ((addAll area scenes).table.filter fun r => p r.strip) = sumScenesFrom (tpSel area p) 0 scenes := by
  rw [getNumTP, countStatus, getEstimation, List.countP_filter]
  exact (countP_side area scenes p (·.2) _).trans (by
    simp [countP_frameItems, resultCells, objectCells, Status.beq_decide]; rfl)

theorem selection_numFP :
    getNumFP ((addAll area scenes).table.filter fun r => p r.strip) = sumScenesFrom (fpSel area p) 0 scenes := by
  rw [getNumFP, countStatus, getEstimation, List.countP_filter]
  exact (countP_side area scenes p (·.2) _).trans (by
    simp [countP_frameItems, resultCells, objectCells, Status.beq_decide]; rfl)

theorem selection_numTN :
    getNumTN ((addAll area scenes).table.filter fun r => p r.strip) = sumScenesFrom (tnSel area p) 0 scenes := by
  rw [getNumTN, countStatus, getGroundTruth, List.countP_filter]
  exact (countP_side area scenes p (·.1) _).trans (by
    simp [countP_frameItems, resultCells, objectCells, Status.beq_decide, Option.any_map]; rfl)

theorem selection_numFN :
    getNumFN ((addAll area scenes).table.filter fun r => p r.strip) = sumScenesFrom (fnSel area p) 0 scenes := by
  rw [getNumFN, countStatus, getGroundTruth, List.countP_filter]
  exact (countP_side area scenes p (·.1) _).trans (by
    simp [countP_frameItems, resultCells, objectCells, Status.beq_decide, Option.any_map]; rfl)

theorem selection_numEstimation :
    getNumEstimation ((addAll area scenes).table.filter fun r => p r.strip) =
      sumScenesFrom (fun k f => tpSel area p k f + fpSel area p k f) 0 scenes := by
  rw [getNumEstimation, getEstimation, ← List.countP_eq_length_filter]
  exact (countP_side area scenes p (·.2) _).trans (by
    simp [countP_frameItems, resultCells, objectCells]; rfl)

theorem selection_paired :
    (getPairResults ((addAll area scenes).table.filter fun r => p r.strip)).length =
      sumScenesFrom (pairedSel area p) 0 scenes := by
  rw [getPairResults_eq, ← List.countP_true]
  exact (countP_side area scenes p bothSides _).trans (by
    simp [countP_frameItems, resultCells, objectCells, bothSides_isSome]; rfl)

end

section
variable (area : Rat → Rat → Option Nat) (scenes : List (List Frame))

/-- the whole table is the selection that keeps everything -/
theorem countP_side_all {β : Type} (side : Item → Option β) (Q : β → Bool) :
    ((addAll area scenes).table.filterMap fun r => side r.strip).countP Q =
      sumScenesFrom (fun k f => (frameItems area k f).countP fun it => (side it).any Q) 0 scenes := by
  simpa [List.filter_eq_self.mpr] using countP_side area scenes (fun _ => true) side Q

theorem getNumGroundTruth_table :
    getNumGroundTruth (addAll area scenes).table = sumN (scenes.flatten.map Frame.gtRows) := by
  rw [getNumGroundTruth, getGroundTruth, ← List.countP_eq_length_filter, ← sumScenesFrom_const _ 0]
  exact (countP_side_all area scenes (·.1) _).trans (by
    unfold Frame.gtRows
    simp [countP_frameItems, resultCells, objectCells, Frame.tpGts, Frame.fpGts, List.length_filterMap_eq_countP])

theorem tpSel_true : tpSel area (fun _ => true) = fun _ f => f.tp.length := by funext k f; simp [tpSel]
theorem fpSel_true : fpSel area (fun _ => true) = fun _ f => f.fp.length := by funext k f; simp [fpSel]
theorem tnSel_true : tnSel area (fun _ => true) = fun _ f => f.tn.length := by funext k f; simp [tnSel]
theorem fnSel_true : fnSel area (fun _ => true) = fun _ f => f.fn.length := by funext k f; simp [fnSel]

theorem getNumTP_table : getNumTP (addAll area scenes).table = sumN (scenes.flatten.map fun f => f.tp.length) := by
  have h := selection_numTP area scenes fun _ => true
  rwa [List.filter_eq_self.mpr fun _ _ => rfl, tpSel_true, sumScenesFrom_const] at h

theorem getNumFP_table : getNumFP (addAll area scenes).table = sumN (scenes.flatten.map fun f => f.fp.length) := by
  have h := selection_numFP area scenes fun _ => true
  rwa [List.filter_eq_self.mpr fun _ _ => rfl, fpSel_true, sumScenesFrom_const] at h

theorem getNumTN_table : getNumTN (addAll area scenes).table = sumN (scenes.flatten.map fun f => f.tn.length) := by
  have h := selection_numTN area scenes fun _ => true
  rwa [List.filter_eq_self.mpr fun _ _ => rfl, tnSel_true, sumScenesFrom_const] at h

theorem getNumFN_table : getNumFN (addAll area scenes).table = sumN (scenes.flatten.map fun f => f.fn.length) := by
  have h := selection_numFN area scenes fun _ => true
  rwa [List.filter_eq_self.mpr fun _ _ => rfl, fnSel_true, sumScenesFrom_const] at h

theorem getNumEstimation_table :
    getNumEstimation (addAll area scenes).table = sumN (scenes.flatten.map fun f => f.tp.length + f.fp.length) := by
  have h := selection_numEstimation area scenes fun _ => true
  rwa [List.filter_eq_self.mpr fun _ _ => rfl, tpSel_true, fpSel_true, sumScenesFrom_const] at h

end

theorem table_isEmpty_iff (area : Rat → Rat → Option Nat) (scenes : List (List Frame)) :
    (addAll area scenes).table.isEmpty = true ↔ sumN (scenes.flatten.map Frame.items) = 0 := by
  rw [← table_length]
  cases (addAll area scenes).table <;> simp

end PEval.Analyzer
