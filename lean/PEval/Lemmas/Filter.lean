import PEval.Lemmas.FilterSpec
import Mathlib.Tactic.Linarith
import Mathlib.Tactic.FieldSimp
import Mathlib.Algebra.Order.Field.Basic
import Mathlib.Algebra.Order.Ring.Rat
/-!
# C10 — the transcribed filter decides the declarative criteria

Stage by stage: each `if is_target and <list> is not None: …` block of `_is_target_object`
(`stage`, `stagePts`, `stageUuid`, `stageLabel`, `stageAttr`, `position`) is shown equivalent to the
corresponding conjunct of `Criteria` (`FilterSpec.lean`), whenever the code returns at all.
-/
namespace PEval.Filter

theorem isFP_iff (l : String) : isFP l = true ↔ IsFP l := by
  simp [isFP, commonFP, IsFP]

theorem isUnknown_iff (l : String) : isUnknown l = true ↔ IsUnknown l := by
  simp [isUnknown, commonUnknown, IsUnknown]

theorem truthy_eq_false {α} (l? : Option (List α)) : truthy l? = false ↔ ∀ l, l? = some l → l = [] := by
  rcases l? with _ | _ | _ <;> simp [truthy]

theorem isInfix_iff (k s : List Char) : isInfix k s = true ↔ Occurs k s := by
  have hO : ∀ s, Occurs k s ↔ k <:+: s := fun s => by simp [Occurs, List.IsInfix, eq_comm]
  rw [hO]
  induction s with
  | nil => simp [isInfix]
  | cons c cs ih => simp [isInfix, ih, List.infix_cons_iff]

theorem indexOf?_eq_findIdx? (a : String) (ts : List String) : indexOf? a ts = ts.findIdx? (· == a) := by
  induction ts with
  | nil => rfl
  | cons b bs ih => simp [indexOf?, List.findIdx?_cons, ih]

theorem indexOf?_eq_some {a : String} {ts : List String} {i : Nat} :
    indexOf? a ts = some i ↔ ts[i]? = some a ∧ ∀ j, j < i → ts[j]? ≠ some a := by
  -- both sides: in bounds, the entry is `a`, no earlier entry is; they differ in where the bound sits
  simp only [indexOf?_eq_findIdx?, List.findIdx?_eq_some_iff_getElem, List.getElem?_eq_some_iff, beq_iff_eq, ne_eq]
  exact ⟨fun ⟨h, ha, hmin⟩ => ⟨⟨h, ha⟩, fun j hj ⟨_, e⟩ => hmin j hj e⟩,
    fun ⟨⟨h, ha⟩, hmin⟩ => ⟨h, ha, fun j hj e => hmin j hj ⟨hj.trans h, e⟩⟩⟩

theorem indexOf?_eq_none {a : String} {ts : List String} : indexOf? a ts = none ↔ a ∉ ts := by
  rw [indexOf?_eq_findIdx?, List.findIdx?_eq_none_iff]
  simp only [beq_eq_false_iff_ne]
  exact ⟨fun h hm => h a hm rfl, fun h x hx e => h (e ▸ hx)⟩

theorem getLabelThreshold_eq {α} (targets : Option (List String)) (label : String) (l : List α) :
    getLabelThreshold targets label l =
      match targets.bind (indexOf? label) with
      | none => .ok none
      | some i =>
        match l[i]? with
        | some v => .ok (some v)
        | none => .error "IndexError" := by
  unfold getLabelThreshold
  cases targets with
  | none => rfl
  | some ts => simp only [Option.bind_some]; cases indexOf? label ts <;> rfl

theorem labelBound_iff {α} {P : Params} {o : Obj} {l : List α} {t : α} :
    LabelBound P o l t ↔ ∃ i, P.targets.bind (indexOf? o.label) = some i ∧ l[i]? = some t := by
  simp only [LabelBound, Option.bind_eq_some_iff, indexOf?_eq_some]
  exact ⟨fun ⟨ts, i, hT, hi, hmin, hl⟩ => ⟨i, ⟨ts, hT, hi, hmin⟩, hl⟩,
    fun ⟨i, ⟨ts, hT, hi, hmin⟩, hl⟩ => ⟨ts, i, hT, hi, hmin, hl⟩⟩

theorem getLabelThreshold_eq_some {α} {P : Params} {o : Obj} {l : List α} {t : α} :
    getLabelThreshold P.targets o.label l = .ok (some t) ↔ LabelBound P o l t := by
  rw [getLabelThreshold_eq, labelBound_iff]
  cases P.targets.bind (indexOf? o.label) with
  | none => simp
  | some i => cases hl : l[i]? <;> simp [hl]

theorem useUnknown_iff (P : Params) (o : Obj) : useUnknown P o = true ↔ Relaxed P o := by
  unfold useUnknown Relaxed
  cases hT : P.targets with
  | none => simp [isUnknown_iff]
  | some ts =>
    have : (¬ ts.any isUnknown = true) ↔ ∀ t ∈ ts, ¬ IsUnknown t := by
      simp [List.any_eq_true, isUnknown_iff]
    simp only [Bool.and_eq_true, Bool.not_eq_true', isUnknown_iff, Option.some.injEq, forall_eq',
      ← Bool.not_eq_true, and_assoc, this]

theorem useUnknown_eq_false {P : Params} {o : Obj} (hG : P.isGt = true) : useUnknown P o = false := by
  rw [← Bool.not_eq_true, useUnknown_iff]
  intro hR
  rw [hR.2.1] at hG
  cases hG

theorem mean_eq_some (l : List Rat) (m : Rat) : mean l = some m ↔ IsMean l m := by
  unfold mean IsMean
  cases l with
  | nil => simp
  | cons a as =>
    have hne : ((a :: as).length : Rat) ≠ 0 := Nat.cast_ne_zero.2 (Nat.succ_ne_zero _)
    simp only [List.isEmpty_cons, Bool.false_eq_true, if_false, Option.some.injEq, ne_eq,
      reduceCtorEq, not_false_eq_true, true_and]
    rw [div_eq_iff hne]
    exact eq_comm

theorem bound_ok {P : Params} {o : Obj} {unk : Option Rat} {l : List Rat} {r : Option Rat}
    (h : bound P (useUnknown P o) o unk l = .ok r) (t : Rat) :
    r = some t ↔ (Relaxed P o ∧ unk = some t) ∨ (¬ Relaxed P o ∧ LabelBound P o l t) := by
  revert h
  rw [← useUnknown_iff, ← getLabelThreshold_eq_some]
  fun_cases bound P (useUnknown P o) o unk l
  case case1 hu => rintro ⟨⟩; simp [hu]
  case case3 hu t' hg => rintro ⟨⟩; simp [hu, hg]
  all_goals nofun

theorem cmpB_eq_true (f : Rat → Bool) (r : Option Rat) : cmpB f r = true ↔ ∃ t, r = some t ∧ f t = true := by
  cases r <;> simp [cmpB]

theorem stage_ok {P : Params} {o : Obj} {ok b : Bool} {l? : Option (List Rat)}
    {unk : List Rat → Option Rat} {test : Rat → Bool}
    (h : stage P (useUnknown P o) o ok l? unk test = .ok b) :
    b = true ↔ ok = true ∧ ∀ l, l? = some l →
      ∃ t, ((Relaxed P o ∧ unk l = some t) ∨ (¬ Relaxed P o ∧ LabelBound P o l t)) ∧ test t = true := by
  revert h
  fun_cases stage P (useUnknown P o) o ok l? unk test
  case case2 l r hb => rintro ⟨⟩; simp only [cmpB_eq_true, bound_ok hb, true_and, Option.some.injEq, forall_eq']
  case case3 hno => rintro ⟨⟩; exact (and_iff_left_of_imp fun hb l hl => (hno l hb hl).elim).symm
  nofun

theorem absR_eq_abs (x : Rat) : absR x = |x| := by
  unfold absR
  split
  · exact (abs_of_neg ‹_›).symm
  · exact (abs_of_nonneg (not_lt.1 ‹_›)).symm

theorem distLt_iff (d2 t : Rat) : distLt d2 t = true ↔ 0 < t ∧ d2 < t * t := by
  simp [distLt]

theorem distGt_iff (d2 t : Rat) : distGt d2 t = true ↔ t < 0 ∨ t * t < d2 := by
  simp [distGt]

theorem stageLabel_iff (P : Params) (o : Obj) :
    stageLabel P (useUnknown P o) o = true ↔ LabelOK P o := by
  unfold LabelOK
  rw [← useUnknown_iff]
  fun_cases stageLabel P (useUnknown P o) o
  case case1 hu => simp [hu]
  case case2 t ts hT hu => simp [hu, hT]
  case case3 hno =>
    refine iff_of_true rfl (.inr fun ts hT hne => ?_)
    obtain ⟨t, ts, rfl⟩ := List.exists_cons_of_ne_nil hne
    exact (hno t ts hT).elim

theorem containsKey_iff (o : Obj) (k : String) : containsKey o k = true ↔ HasKey o k := by
  simp [containsKey, HasKey, isInfix_iff]

theorem stageAttr_iff (P : Params) (o : Obj) (ok : Bool) :
    stageAttr P (useUnknown P o) o ok = true ↔ ok = true ∧ AttrOK P o := by
  unfold AttrOK
  rw [← useUnknown_iff]
  fun_cases stageAttr P (useUnknown P o) o ok
  case case1 hu => simp [hu]
  case case2 ks hk hu => simp [hu, hk, containsAny, containsKey_iff]
  case case3 hk => simp [hk]

theorem stageConf_ok {P : Params} {o : Obj} {ok b : Bool}
    (h : stage P (useUnknown P o) o ok P.conf (fun _ => some 0) (fun t => decide (t < o.score)) = .ok b) :
    b = true ↔ ok = true ∧ ConfOK P o := by
  rw [stage_ok h]
  unfold ConfOK
  by_cases hR : Relaxed P o <;>
    simp only [hR, true_and, false_and, not_true_eq_false, not_false_eq_true, or_false, false_or, Option.some.injEq,
      decide_eq_true_eq, exists_eq_left']

theorem position_base {P : Params} {o : Obj} (hf : o.frame = "base_link") :
    position P o =
      match o.pos with
      | some p => .ok (some p)
      | none => if P.hasTransforms then .ok none else .error (if o.is2d then "AssertionError" else "TypeError") := by
  unfold position
  rw [hf]
  cases P.hasTransforms <;> cases o.pos <;> rfl

theorem position_other {P : Params} {o : Obj} (hf : o.frame ≠ "base_link") :
    position P o =
      if o.pos.isSome && P.hasTransforms then
        match o.egoPos with
        | some p => .ok (some p)
        | none => .error "KeyError"
      else .ok none := by
  unfold position
  simp only [beq_eq_false_iff_ne.2 hf, Bool.and_false, Bool.false_eq_true, if_false]
  rfl

theorem position_ok {P : Params} {o : Obj} {pos : Option Pos} (h : position P o = .ok pos) (p : Pos) :
    pos = some p ↔ EgoPos P o p := by
  unfold EgoPos
  by_cases hf : o.frame = "base_link"
  · rw [position_base hf] at h
    simp only [hf, true_and, ne_eq, not_true_eq_false, false_and, or_false]
    split at h
    · cases h; simp [*]
    · split at h <;> cases h
      simp [*]
  · rw [position_other hf] at h
    simp only [hf, false_and, ne_eq, not_false_eq_true, true_and, false_or]
    split at h
    · rename_i c
      simp only [Bool.and_eq_true, Option.isSome_iff_ne_none] at c
      split at h <;> cases h
      simp [*]
    · rename_i c
      cases h
      simp only [Bool.and_eq_true, Option.isSome_iff_ne_none, not_and] at c
      simpa using fun hT hp => absurd hT (c hp)

theorem stagePts_ok {P : Params} {o : Obj} {ok b : Bool}
    (h : stagePts P (useUnknown P o) o ok = .ok b) : b = true ↔ ok = true ∧ PtsOK P o := by
  revert h
  fun_cases stagePts P (useUnknown P o) o ok
  case case3 l hM hG _ c n hc hg =>
    rintro ⟨⟩
    rw [Bool.and_eq_true] at hG
    rw [useUnknown_eq_false hG.2, if_neg Bool.false_ne_true] at hg
    -- the label's bound is what the lookup returned (`hg`), the count what the object carries (`hc`)
    simp only [PtsOK, hG, hM, ← getLabelThreshold_eq_some, hg, hc, decide_eq_true_eq, true_and, Option.some.injEq,
      Except.ok.injEq, forall_eq', forall_const, exists_and_left, exists_eq_left']
  case case5 hno =>
    -- no list, not a ground truth or already rejected: `PtsOK` holds for want of a premise
    rintro ⟨⟩
    exact (and_iff_left_of_imp fun hb hG l hM => (hno l (by rw [hb, hG]; rfl) hM).elim).symm
  all_goals nofun  -- the other arms raise

theorem stageUuid_iff (P : Params) (o : Obj) (ok : Bool) :
    stageUuid P o ok = true ↔ ok = true ∧ UuidOK P o := by
  unfold UuidOK
  fun_cases stageUuid P o ok
  case case3 hno => exact (and_iff_left_of_imp fun hb hG us hU => (hno us (by rw [hb, hG]; rfl) hU).elim).symm
  -- a ground truth still in, and a uuid list: the arm's equations leave the membership test on both sides
  all_goals simp_all

theorem stageRange_ok {P : Params} {o : Obj} {pos : Option Pos} {ok b : Bool}
    (h : stageRange P (useUnknown P o) o pos ok = .ok b) :
    b = true ↔ ok = true ∧ ∀ p, pos = some p → RangeOK P o p := by
  revert h
  fun_cases stageRange P (useUnknown P o) o pos ok
  case case1 => rintro ⟨⟩; simp
  case case6 p ok1 h1 ok2 h2 ok3 h3 ok4 h4 =>
    intro h
    rw [stagePts_ok h, stage_ok h4, stage_ok h3, stage_ok h2, stage_ok h1]
    -- each `stage_ok` at `unk = mean` is the matching conjunct of `RangeOK` once the spec predicates are unfolded: the bound
    -- is `JudgedBy` (`mean_eq_some`), the tests are the interval and squared-distance forms
    simp only [Option.some.injEq, forall_eq', RangeOK, XOK, YOK, MaxDistOK, MinDistOK, JudgedBy, mean_eq_some,
      decide_eq_true_eq, absR_eq_abs, abs_lt, distLt_iff, distGt_iff, Pos.d2, and_assoc]
  all_goals nofun

/-- **the transcribed code decides exactly the declarative criteria** (whenever it returns) -/
theorem isTarget_ok_iff {P : Params} {o : Obj} {b : Bool} (h : isTarget P o = .ok b) :
    b = true ↔ Criteria P o := by
  revert h
  unfold Criteria
  fun_cases isTarget P o
  case case1 hfp => rintro ⟨⟩; simp [(isFP_iff _).1 hfp]
  case case5 hfp u ok1 ok2 h1 pos h2 ok3 h3 =>
    rintro ⟨⟩
    rw [stageUuid_iff, stageRange_ok h3, stageConf_ok h1, stageAttr_iff, stageLabel_iff]
    simp only [mt (isFP_iff _).2 hfp, false_or, position_ok h2, and_assoc]
  all_goals nofun

end PEval.Filter
