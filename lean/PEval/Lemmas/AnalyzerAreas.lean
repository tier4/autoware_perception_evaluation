import PEval.Model.Analyzer
import Mathlib.Algebra.Order.Ring.Rat
import Mathlib.Tactic.Linarith
/-!
# C19 lemmas: areas of `generate_area_points` are disjoint, so `get_area_idx` never raises
-/


namespace PEval.Analyzer

theorem generateAreaPoints_ok (n : Nat) (mx my : Rat) (a : Areas) (h : generateAreaPoints n mx my = .ok a) :
    n = 1 ∨ n = 3 ∨ n = 9 := by
  revert h
  fun_cases generateAreaPoints n mx my with
  | case1 => exact fun _ => .inl ‹_›
  | case2 => exact fun _ => .inr (.inl ‹_›)
  | case3 => exact fun _ => .inr (.inr ‹_›)
  | case4 => exact nofun

/-! ### at most one generated area contains a point

The 1/3/9 rectangles are the products of x-strips and y-strips between consecutive grid lines, so the mask
`is_x_inside * is_y_inside` is the product of a column mask and a row mask; two strips of one axis never hold the same
coordinate, and then the product mask has at most one cell set (a finite fact about the flags). -/

theorem and_flags_false {p q r s : Prop} [Decidable p] [Decidable q] [Decidable r] [Decidable s]
    (h : p → q → r → s → False) : ((decide p && decide q) && (decide r && decide s)) = false := by
  apply Bool.eq_false_iff.mpr
  intro hb
  simp only [Bool.and_eq_true, decide_eq_true_eq] at hb
  exact h hb.1.1 hb.1.2 hb.2.1 hb.2.2

theorem mask1 : ∀ b : Bool, (([b].zipIdx.filter (·.1)).map (·.2)).length ≤ 1 := by decide

theorem mask3 : ∀ c0 c1 c2 r : Bool, (c0 && c1) = false → (c0 && c2) = false → (c1 && c2) = false →
    (([c0 && r, c1 && r, c2 && r].zipIdx.filter (·.1)).map (·.2)).length ≤ 1 := by decide

theorem mask9 : ∀ c0 c1 c2 r0 r1 r2 : Bool, (c0 && c1) = false → (c0 && c2) = false → (c1 && c2) = false →
    (r0 && r1) = false → (r0 && r2) = false → (r1 && r2) = false →
    (([c0 && r0, c1 && r0, c2 && r0, c0 && r1, c1 && r1, c2 && r1, c0 && r2, c1 && r2, c2 && r2].zipIdx.filter
      (·.1)).map (·.2)).length ≤ 1 := by decide

theorem areaHits_le_one (n : Nat) (mx my x y : Rat) (a : Areas) (h : generateAreaPoints n mx my = .ok a) :
    (areaHits a x y).length ≤ 1 := by
  rcases generateAreaPoints_ok n mx my a h with rfl | rfl | rfl <;>
    simp only [generateAreaPoints, ↓reduceIte, Nat.reduceEqDiff, OfNat.ofNat_ne_one, Except.ok.injEq] at h <;> subst h <;>
    simp only [areaHits, List.flatMap_cons, List.flatMap_nil, List.cons_append, List.nil_append, List.append_nil,
      List.zip_cons_cons, List.zip_nil_right, List.map_cons, List.map_nil, insideArea]
  -- neighbouring strips share a boundary line; for the two outer strips the bound would be both negative and positive
  · exact mask1 _
  · exact mask3 _ _ _ _ (and_flags_false fun _ h2 h3 _ => lt_asymm h2 h3) (and_flags_false fun h1 h2 h3 h4 => by linarith)
      (and_flags_false fun _ h2 h3 _ => lt_asymm h2 h3)
  · exact mask9 _ _ _ _ _ _ (and_flags_false fun _ h2 h3 _ => lt_asymm h2 h3) (and_flags_false fun h1 h2 h3 h4 => by linarith)
      (and_flags_false fun _ h2 h3 _ => lt_asymm h2 h3) (and_flags_false fun h1 _ _ h4 => lt_asymm h1 h4)
      (and_flags_false fun h1 h2 h3 h4 => by linarith) (and_flags_false fun h1 _ _ h4 => lt_asymm h1 h4)

theorem getAreaIdx_generated (n : Nat) (mx my x y : Rat) (a : Areas) (h : generateAreaPoints n mx my = .ok a) :
    getAreaIdx a x y = .ok (areaOf a x y) := by
  have hl := areaHits_le_one n mx my x y a h
  unfold areaOf getAreaIdx
  match hh : areaHits a x y with
  | [] => rfl
  | [i] => rfl
  | i :: j :: rest => rw [hh] at hl; simp at hl

theorem mem_areaHits (a : Areas) (x y : Rat) (i : Nat) :
    i ∈ areaHits a x y ↔ ∃ ur bl, a.upperRights[i]? = some ur ∧ a.bottomLefts[i]? = some bl ∧ insideArea ur bl x y = true := by
  unfold areaHits
  simp only [List.mem_map, List.mem_filter, List.mem_zipIdx_iff_getElem?, List.getElem?_map, Option.map_eq_some_iff,
    List.getElem?_zip_eq_some, Prod.exists, exists_eq_right]
  simp only [and_assoc]

end PEval.Analyzer
