import Mathlib.Tactic.Linarith
import Mathlib.Tactic.Ring
import Mathlib.Tactic.LinearCombination
import Mathlib.Algebra.Order.Field.Basic
import Mathlib.Algebra.Order.Ring.Rat
/-!
The four edges of a parallelogram (C12): for EVERY point, the four edge lines included, the edge contributions add up
to `±[inside]` with the half-open convention of the scan (`paraSum_ccw`, `paraSum_cw`).  Algebra over `ℚ` only: an edge
contributes `kE3` of two heights and a cross product (that this is the code's edge test is `edgeK_eq_kE3` in
`Lemmas/SensingWinding.lean`).

The parallelogram is `c ± a ± b` in the corner order of the code, the point `c + u·a + v·b`; only `α = a.y`, `β = b.y`,
`u`, `v` and the sign of `det(a, b)` enter (`paraSum`).  A point on an edge line is counted inside iff an infinitesimal
step in the +x direction (and, when that step stays on the line, in the +y direction) takes it strictly inside: `stepU`,
`stepV` are the `u`- and `v`-components of that step up to a positive factor, `inHalf` the resulting membership
(in the basis `(a, b)` the unit vector `e_x` is `(b.y·a − a.y·b)/det` and `e_y` is `(−b.x·a + a.x·b)/det`; times
`det² > 0` the `u`-component of the step is `b.y·det`, or `−b.x·det` when `b.y = 0` and `e_x` stays on the line).

Proof: when `0 < α` and `0 ≤ β` the heights of the point over the corners are ordered, every edge can be crossed in one
direction only, and the sum regroups corner by corner into an inclusion–exclusion of four quadrants (`paraSum_base`).
The other sign patterns of `(α, β)` are quarter turns of this one (`paraSum_rot`), the clockwise orientation is the
reversed polygon (`paraSum_swap`).
-/
namespace PEval.Sensing

/-- contribution of an edge in terms of the heights `hs = p.y − a.y`, `he = p.y − b.y` of the point over the
end points and the cross product `c` of `b − a` and `p − a` (positive: the point is on the left of `a → b`) -/
def kE3 (hs he c : ℚ) : Int :=
  if 0 ≤ hs ∧ he < 0 ∧ 0 < c then 1 else if hs < 0 ∧ 0 ≤ he ∧ c < 0 then -1 else 0

theorem kE3_rev (hs he c : ℚ) : kE3 he hs (-c) = -kE3 hs he c := by
  have e1 : (0 ≤ he ∧ hs < 0 ∧ c < 0) ↔ (hs < 0 ∧ 0 ≤ he ∧ c < 0) := and_left_comm
  have e2 : (he < 0 ∧ 0 ≤ hs ∧ 0 < c) ↔ (0 ≤ hs ∧ he < 0 ∧ 0 < c) := and_left_comm
  simp only [kE3, neg_pos, neg_neg_iff_pos, e1, e2]
  by_cases h : 0 ≤ hs ∧ he < 0 ∧ 0 < c
  · rw [if_pos h, if_pos h, if_neg fun h' => absurd h'.1 (not_lt.mpr h.1)]
  · rw [if_neg h, if_neg h]
    split <;> rfl

def below (h : ℚ) : Int := if h < 0 then 1 else 0

theorem below_of_neg {h : ℚ} (hh : h < 0) : below h = 1 := if_pos hh
theorem below_of_nonneg {h : ℚ} (hh : 0 ≤ h) : below h = 0 := if_neg (not_lt.mpr hh)

theorem below_mul_pos {E : ℚ} (hE : 0 < E) (x : ℚ) : below (x * E) = below x :=
  if_congr (Rat.mul_neg_iff_of_pos_right hE) rfl rfl

/-- an edge along which the height of the point over the edge does not decrease can only be crossed downwards -/
theorem kE3_of_le {hs he : ℚ} (h : hs ≤ he) (c : ℚ) : kE3 hs he c = -((below hs - below he) * below c) := by
  unfold kE3
  rw [if_neg fun h' => absurd (lt_of_le_of_lt h'.1 (lt_of_le_of_lt h h'.2.1)) (lt_irrefl _)]
  rcases lt_or_ge he 0 with h2 | h2
  · rw [if_neg fun h' => absurd h2 (not_lt.mpr h'.2.1), below_of_neg h2, below_of_neg (lt_of_le_of_lt h h2),
      sub_self, zero_mul, neg_zero]
  · rcases lt_or_ge hs 0 with h1 | h1
    · have e : (hs < 0 ∧ 0 ≤ he ∧ c < 0) ↔ c < 0 := ⟨fun h' => h'.2.2, fun h' => ⟨h1, h2, h'⟩⟩
      rw [below_of_neg h1, below_of_nonneg h2, sub_zero, one_mul]
      simp only [e, below]
      split <;> rfl
    · rw [if_neg fun h' => absurd h1 (not_le.mpr h'.1), below_of_nonneg h1, below_of_nonneg h2,
        sub_self, zero_mul, neg_zero]

theorem kE3_of_ge {hs he : ℚ} (h : he ≤ hs) (c : ℚ) : kE3 hs he c = (below he - below hs) * below (-c) := by
  have := kE3_rev hs he c
  rw [kE3_of_le h] at this
  exact (neg_inj.mp this).symm

/-- a corner whose height over the point is `s·α + w·β` with `0 < α`, `0 ≤ β`: weighted with the difference of the side
tests of its two edges it counts the quadrant `s < 0`, `w ≤ 0` -/
theorem below_corner {α β : ℚ} (hα : 0 < α) (hβ : 0 ≤ β) (s w : ℚ) :
    below (s * α + w * β) * (below s - below (-w)) = below s * (1 - below (-w)) := by
  rcases lt_or_ge s 0 with h1 | h1 <;> rcases lt_or_ge (-w) 0 with h2 | h2
  · rw [below_of_neg h1, below_of_neg h2, sub_self, mul_zero, mul_zero]
  · rw [below_of_neg h1, below_of_nonneg h2, below_of_neg]
    linarith [mul_neg_of_neg_of_pos h1 hα, mul_nonpos_of_nonpos_of_nonneg (neg_nonneg.mp h2) hβ]
  · rw [below_of_nonneg h1, below_of_neg h2, below_of_nonneg, zero_mul, zero_mul]
    linarith [mul_nonneg h1 hα.le, mul_nonneg (neg_neg_iff_pos.mp h2).le hβ]
  · rw [below_of_nonneg h1, below_of_nonneg h2, sub_self, mul_zero, zero_mul]

/-- the four edge contributions for the point `c + u·a + v·b` and the corners `c+a+b, c−a+b, c−a−b, c+a−b`
(`α = a.y`, `β = b.y`): the heights over the corners are `(u∓1)·α + (v∓1)·β`, the cross products
`(1−v)·E, (u+1)·E, (v+1)·E, (1−u)·E` with `E = 2·det(a, b)` -/
def paraSum (α β u v E : ℚ) : Int :=
  kE3 ((u - 1) * α + (v - 1) * β) ((u + 1) * α + (v - 1) * β) ((1 - v) * E)
    + kE3 ((u + 1) * α + (v - 1) * β) ((u + 1) * α + (v + 1) * β) ((u + 1) * E)
    + kE3 ((u + 1) * α + (v + 1) * β) ((u - 1) * α + (v + 1) * β) ((v + 1) * E)
    + kE3 ((u - 1) * α + (v + 1) * β) ((u - 1) * α + (v - 1) * β) ((1 - u) * E)

/-- replacing `(a, b)` by `(b, −a)` describes the same parallelogram starting from the next corner -/
theorem paraSum_rot (α β u v E : ℚ) : paraSum β (-α) v (-u) E = paraSum α β u v E := by
  have h1 : (-u - 1) * -α = (u + 1) * α := by ring
  have h2 : (-u + 1) * -α = (u - 1) * α := by ring
  unfold paraSum
  rw [h1, h2, sub_neg_eq_add, neg_add_eq_sub, add_comm 1 u, add_comm ((v - 1) * β) ((u + 1) * α),
    add_comm ((v + 1) * β) ((u + 1) * α), add_comm ((v + 1) * β) ((u - 1) * α), add_comm ((v - 1) * β) ((u - 1) * α)]
  ring

/-- exchanging `a` and `b` describes the same parallelogram run through backwards -/
theorem paraSum_swap (α β u v E : ℚ) : paraSum β α v u (-E) = -paraSum α β u v E := by
  unfold paraSum
  rw [mul_neg, mul_neg, mul_neg, mul_neg, kE3_rev, kE3_rev, kE3_rev, kE3_rev, add_comm ((v - 1) * β) ((u - 1) * α),
    add_comm ((v + 1) * β) ((u - 1) * α), add_comm ((v + 1) * β) ((u + 1) * α), add_comm ((v - 1) * β) ((u + 1) * α)]
  ring

/-- `0 < a.y`, `0 ≤ b.y`, counter-clockwise: edges 0 and 1 do not descend, edges 2 and 3 do not ascend; summation by
parts turns the edge sum into a corner sum, and `below_corner` evaluates each corner -/
theorem paraSum_base {α β E : ℚ} (hα : 0 < α) (hβ : 0 ≤ β) (hE : 0 < E) (u v : ℚ) :
    paraSum α β u v E = (below (u - 1) - below (u + 1)) * (below (-(v + 1)) - below (1 - v)) := by
  unfold paraSum
  rw [kE3_of_le (by linarith), kE3_of_le (by linarith), kE3_of_ge (by linarith), kE3_of_ge (by linarith)]
  simp only [← neg_mul, below_mul_pos hE, neg_sub]
  have c0 := below_corner hα hβ (u - 1) (v - 1)
  have c1 := below_corner hα hβ (u + 1) (v - 1)
  have c2 := below_corner hα hβ (u + 1) (v + 1)
  have c3 := below_corner hα hβ (u - 1) (v + 1)
  rw [neg_sub] at c0 c1
  linear_combination c0 - c1 + c2 - c3

/-- sign of the `u`-component of the step "+x, then +y": negative = the step decreases `u` -/
def stepU (ax ay bx by_ : ℚ) : ℚ := if by_ ≠ 0 then by_ * (ax * by_ - ay * bx) else -bx * (ax * by_ - ay * bx)
/-- sign of the `v`-component of the step "+x, then +y" -/
def stepV (ax ay bx by_ : ℚ) : ℚ := if ay ≠ 0 then -ay * (ax * by_ - ay * bx) else ax * (ax * by_ - ay * bx)

/-- half-open membership of one parallelogram coordinate: strictly inside, or on the line `+1` when the step moves
inwards (decreases the coordinate), or on the line `−1` when the step increases it -/
@[reducible] def inHalf (u s : ℚ) : Prop := (-1 < u ∧ u < 1) ∨ (u = 1 ∧ s < 0) ∨ (u = -1 ∧ 0 < s)

/-- half-open membership of a box-frame coordinate `ξ` in `[-L, L]`: strictly inside, or on `+L` when the step
"+x, then +y" decreases the coordinate (`s < 0`), or on `−L` when it increases it -/
@[reducible] def inLen (ξ L s : ℚ) : Prop := (-L < ξ ∧ ξ < L) ∨ (ξ = L ∧ s < 0) ∨ (ξ = -L ∧ 0 < s)

theorem inHalf_iff_inLen (u s : ℚ) : inHalf u s ↔ inLen u 1 s := Iff.rfl

theorem inLen_of_ne {ξ L : ℚ} (s : ℚ) (h1 : ξ ≠ L) (h2 : ξ ≠ -L) : inLen ξ L s ↔ (-L < ξ ∧ ξ < L) :=
  ⟨fun h => h.elim id fun h => h.elim (fun h => absurd h.1 h1) fun h => absurd h.1 h2, Or.inl⟩

theorem inLen_of_pos {ξ L s : ℚ} (hL : 0 < L) (hs : 0 < s) : inLen ξ L s ↔ -L ≤ ξ ∧ ξ < L := by
  constructor
  · rintro (⟨h1, h2⟩ | ⟨_, h⟩ | ⟨h, _⟩)
    · exact ⟨h1.le, h2⟩
    · exact absurd h (not_lt.mpr hs.le)
    · rw [h]; exact ⟨le_rfl, by linarith⟩
  · rintro ⟨h1, h2⟩
    rcases h1.lt_or_eq with h | h
    · exact Or.inl ⟨h, h2⟩
    · exact Or.inr (Or.inr ⟨h.symm, hs⟩)

theorem stepU_rot (ax ay bx by_ : ℚ) : stepU bx by_ (-ax) (-ay) = stepV ax ay bx by_ := by
  simp only [stepU, stepV, neg_ne_zero]
  split <;> ring

theorem stepV_rot (ax ay bx by_ : ℚ) : stepV bx by_ (-ax) (-ay) = -stepU ax ay bx by_ := by
  simp only [stepU, stepV]
  split <;> ring

theorem stepU_swap (ax ay bx by_ : ℚ) : stepU bx by_ ax ay = stepV ax ay bx by_ := by
  simp only [stepU, stepV]
  split <;> ring

theorem inHalf_neg {u s : ℚ} : inHalf (-u) (-s) ↔ inHalf u s := by
  have key : ∀ u s : ℚ, inHalf u s → inHalf (-u) (-s) := by
    rintro u s (⟨h1, h2⟩ | ⟨rfl, h⟩ | ⟨rfl, h⟩)
    · exact Or.inl ⟨neg_lt_neg h2, neg_lt.mp h1⟩
    · exact Or.inr (Or.inr ⟨rfl, neg_pos.mpr h⟩)
    · exact Or.inr (Or.inl ⟨neg_neg 1, neg_neg_iff_pos.mpr h⟩)
  exact ⟨fun h => by simpa only [neg_neg] using key _ _ h, key u s⟩

theorem below_sub_below {u s : ℚ} (hs : 0 < s) : below (u - 1) - below (u + 1) = if inHalf u s then 1 else 0 := by
  rw [if_congr (inLen_of_pos one_pos hs) rfl rfl]
  rcases lt_or_ge u (-1) with h | h
  · rw [below_of_neg (by linarith), below_of_neg (by linarith), if_neg fun h' => absurd h'.1 (not_le.mpr h), sub_self]
  · rcases lt_or_ge u 1 with h' | h'
    · rw [below_of_neg (by linarith), below_of_nonneg (by linarith), if_pos ⟨h, h'⟩, sub_zero]
    · rw [below_of_nonneg (by linarith), below_of_nonneg (by linarith), if_neg fun h'' => absurd h''.2 (not_lt.mpr h'),
        sub_self]

theorem below_sub_below' {v s : ℚ} (hs : s < 0) : below (-(v + 1)) - below (1 - v) = if inHalf v s then 1 else 0 := by
  have := below_sub_below (u := -v) (neg_pos.mpr hs)
  rw [← neg_add', neg_add_eq_sub] at this
  exact this.trans (if_congr inHalf_neg rfl rfl)

theorem quarter_turn_cases {x y : ℚ} (h : x ≠ 0 ∨ y ≠ 0) :
    (0 < x ∧ 0 ≤ y) ∨ (0 < y ∧ x ≤ 0) ∨ (x < 0 ∧ y ≤ 0) ∨ (y < 0 ∧ 0 ≤ x) := by
  rcases lt_trichotomy x 0 with hx | hx | hx
  · rcases le_or_gt y 0 with hy | hy
    · exact Or.inr (Or.inr (Or.inl ⟨hx, hy⟩))
    · exact Or.inr (Or.inl ⟨hy, hx.le⟩)
  · rcases lt_trichotomy y 0 with hy | hy | hy
    · exact Or.inr (Or.inr (Or.inr ⟨hy, hx.ge⟩))
    · exact absurd h (not_or.mpr ⟨not_not.mpr hx, not_not.mpr hy⟩)
    · exact Or.inr (Or.inl ⟨hy, hx.le⟩)
  · rcases le_or_gt 0 y with hy | hy
    · exact Or.inl ⟨hx, hy⟩
    · exact Or.inr (Or.inr (Or.inr ⟨hy, hx.le⟩))

/-- a property of two vectors that a quarter turn `(a, b) ↦ (b, −a)` carries back holds whenever `(a.y, b.y) ≠ 0`, once it
holds for `0 < a.y`, `0 ≤ b.y` -/
@[elab_as_elim] theorem quarter_turn_induction {P : ℚ → ℚ → ℚ → ℚ → Prop}
    (rot : ∀ ax ay bx by_, P bx by_ (-ax) (-ay) → P ax ay bx by_)
    (base : ∀ ax ay bx by_, 0 < ay → 0 ≤ by_ → P ax ay bx by_)
    (ax ay bx by_ : ℚ) (h : ay ≠ 0 ∨ by_ ≠ 0) : P ax ay bx by_ := by
  rcases quarter_turn_cases h with ⟨ha, hb⟩ | ⟨hb, ha⟩ | ⟨ha, hb⟩ | ⟨hb, ha⟩
  · exact base _ _ _ _ ha hb
  · exact rot _ _ _ _ (base _ _ _ _ hb (neg_nonneg.mpr ha))
  · exact rot _ _ _ _ (rot _ _ _ _ (base _ _ _ _ (neg_pos.mpr ha) (neg_nonneg.mpr hb)))
  · exact rot _ _ _ _ (rot _ _ _ _ (rot _ _ _ _ (base _ _ _ _ (neg_pos.mpr hb) (by rwa [neg_neg]))))

/-- **the four contributions, counter-clockwise** (`det(a, b) > 0`): `1` when both coordinates are half-open inside,
else `0`; all sign patterns of `(a.y, b.y)` -/
theorem paraSum_ccw {E : ℚ} (hE : 0 < E) (ax ay bx by_ u v : ℚ) (hD : 0 < ax * by_ - ay * bx) :
    paraSum ay by_ u v E = if inHalf u (stepU ax ay bx by_) ∧ inHalf v (stepV ax ay bx by_) then 1 else 0 := by
  have hab : ay ≠ 0 ∨ by_ ≠ 0 := not_and_or.mp fun h => by
    rw [h.1, h.2, mul_zero, zero_mul, sub_zero] at hD
    exact lt_irrefl 0 hD
  revert u v hD
  refine quarter_turn_induction ?_ ?_ ax ay bx by_ hab
  · -- the statement for `(b, −a, v, −u)` is the statement for `(a, b, u, v)`
    intro ax ay bx by_ h u v hD
    have h := h v (-u) (by linarith)
    rw [paraSum_rot, stepU_rot, stepV_rot] at h
    exact h.trans (if_congr (by rw [inHalf_neg, and_comm]) rfl rfl)
  · intro ax ay bx by_ ha hb u v hD
    have hV : stepV ax ay bx by_ < 0 := by
      rw [stepV, if_pos ha.ne', neg_mul, neg_neg_iff_pos]
      exact mul_pos ha hD
    have hU : 0 < stepU ax ay bx by_ := by
      unfold stepU
      split_ifs with h
      · exact mul_pos (lt_of_le_of_ne hb (Ne.symm h)) hD
      · -- `b.y = 0`: then `det = a.y·(−b.x) > 0` forces `−b.x > 0`
        have h' := hD
        rw [not_not.mp h, mul_zero, zero_sub, ← mul_neg] at h'
        exact mul_pos ((pos_iff_pos_of_mul_pos h').mp ha) hD
    rw [paraSum_base ha hb hE, below_sub_below hU, below_sub_below' hV, ite_and]
    split <;> simp only [one_mul, zero_mul]

/-- **the four contributions, clockwise** (`det(a, b) < 0`): the reversed counter-clockwise parallelogram `(b, a)` -/
theorem paraSum_cw {E : ℚ} (hE : E < 0) (ax ay bx by_ u v : ℚ) (hD : ax * by_ - ay * bx < 0) :
    paraSum ay by_ u v E = if inHalf u (stepU ax ay bx by_) ∧ inHalf v (stepV ax ay bx by_) then -1 else 0 := by
  have h := paraSum_ccw (neg_pos.mpr hE) bx by_ ax ay v u (by linarith)
  rw [paraSum_swap, stepU_swap ax ay, ← stepU_swap bx by_] at h
  rw [← neg_neg (paraSum ay by_ u v E), h]
  exact (apply_ite Neg.neg _ _ _).trans (if_congr and_comm rfl rfl)

end PEval.Sensing
