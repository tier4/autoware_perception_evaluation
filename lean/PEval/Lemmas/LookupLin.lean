import PEval.Model.LookupLin
import PEval.Lemmas.LookupTable
import Mathlib.Tactic.Linarith
import Mathlib.Tactic.Ring
/-!
Soundness of the semantic table check of C17 (`PEval/Model/LookupLin.lean`):

* `refute_sound`: a successful Fourier-Motzkin refutation means that no integer point satisfies the constraints;
* `nowRow_sound`: a row accepted by `nowRowOk` answers, on every non-decreasing list of stamps, every
  `q ≤ 10^17` and every tolerance, with SOME frame of minimal `|q - t|` within the tolerance, or with nothing when every
  frame is farther than the tolerance (`NowSpec`);
* `getNowAtoms_spec`: the model's skeleton meets `NowSpec` for every number of frames, so a row equal to it needs no
  arithmetic; `nowTable_sound` (what C17 evaluates: `nowTableAccepted`, either way per row) and `nowTableOk_sound` (the
  arithmetic check alone) put the rows together;
* `eqTableOk_sound`: a table accepted by `eqTableOk` reaches the skeleton's leaf on every strictly increasing list.
-/
namespace PEval.LookupDT
open PEval PEval.Lookup

theorem dot_nil_left (x : List Int) : dot [] x = 0 := by cases x <;> rfl
theorem dot_nil_right (a : List Int) : dot a [] = 0 := by cases a <;> rfl

theorem dot_addL (a b x : List Int) : dot (addL a b) x = dot a x + dot b x := by
  fun_induction addL a b generalizing x with
  | case1 a as b bs ih =>
    cases x with
    | nil => simp [dot_nil_right]
    | cons x xs => simp only [dot, ih]; ring
  | case2 | case3 => simp [dot_nil_left]

theorem dot_map_mul (m : Int) (a : List Int) : ∀ x : List Int, dot (a.map (fun c => m * c)) x = m * dot a x := by
  induction a with
  | nil => intro x; simp [dot_nil_left]
  | cons a as ih =>
    intro x
    cases x with
    | nil => simp [dot_nil_right]
    | cons x xs => simp only [List.map_cons, dot, ih]; ring

theorem eval_add (x : List Int) (f g : Aff) : (f.add g).eval x = f.eval x + g.eval x := by
  simp only [Aff.eval, Aff.add, dot_addL]; ring

theorem eval_smul (x : List Int) (a : Int) (f : Aff) : (f.smul a).eval x = a * f.eval x := by
  simp only [Aff.eval, Aff.smul, dot_map_mul]; ring

theorem eval_neg (x : List Int) (f : Aff) : f.neg.eval x = - f.eval x := by
  simp only [Aff.neg, eval_smul]; ring

theorem eval_addConst (x : List Int) (f : Aff) (d : Int) : (f.addConst d).eval x = f.eval x + d := by
  simp only [Aff.eval, Aff.addConst]; ring

theorem dot_unit (i : Nat) : ∀ x : List Int, dot (List.replicate i 0 ++ [1]) x = x.getD i 0 := by
  induction i with
  | zero => intro x; cases x <;> simp [dot]
  | succ i ih =>
    intro x
    cases x with
    | nil => exact dot_nil_right _
    | cons x xs =>
      rw [List.replicate_succ, List.cons_append, dot, ih, Int.zero_mul, Int.zero_add, List.getD_cons_succ]

theorem eval_varA (i : Nat) (x : List Int) : (varA i).eval x = x.getD i 0 := by
  simp [Aff.eval, varA, dot_unit]

/-- the variable vector of a concrete input -/
def env (q tol : Int) (ts : List Int) : List Int := q :: tol :: ts

theorem eval_affQ (q tol : Int) (ts : List Int) : affQ.eval (env q tol ts) = q := by
  simp [affQ, eval_varA, env]

theorem eval_affTol (q tol : Int) (ts : List Int) : affTol.eval (env q tol ts) = tol := by
  simp [affTol, eval_varA, env]

theorem eval_affT (q tol : Int) (ts : List Int) (i : Nat) : (affT i).eval (env q tol ts) = ts.getD i 0 := by
  simp [affT, eval_varA, env]

theorem eval_affD (q tol : Int) (ts : List Int) (i : Nat) : (affD i).eval (env q tol ts) = q - ts.getD i 0 := by
  simp only [affD, eval_add, eval_neg, eval_affQ, eval_affT]; ring

/-- `sg` names the actual sign of every `q - t i`, `i < |ts|` -/
def SgOk (sg : List Bool) (ts : List Int) (q : Int) : Prop :=
  ∀ i, i < ts.length → (sg.getD i true = true → 0 ≤ q - ts.getD i 0) ∧ (sg.getD i true = false → q - ts.getD i 0 ≤ 0)

theorem eval_affAbs {sg : List Bool} {ts : List Int} {q : Int} (h : SgOk sg ts q) (tol : Int) {i : Nat}
    (hi : i < ts.length) : (affAbs sg i).eval (env q tol ts) = absI ts q i := by
  unfold affAbs absI
  cases hb : sg.getD i true
  · have := (h i hi).2 hb
    simp only [Bool.false_eq_true, if_false, eval_neg, eval_affD]; omega
  · have := (h i hi).1 hb
    simp only [if_true, eval_affD]; omega

theorem eval_leafAff {sg : List Bool} {ts : List Int} {q : Int} (h : SgOk sg ts q) (tol : Int) (l : Leaf)
    (hl : l.inRange ts.length = true) : (l.aff sg).eval (env q tol ts) = l.eval ts q tol := by
  cases l with
  | q => exact eval_affQ q tol ts
  | tol => exact eval_affTol q tol ts
  | t i => exact eval_affT q tol ts i
  | absd i =>
    simp only [Leaf.inRange, decide_eq_true_eq] at hl
    simp only [Leaf.aff, Leaf.eval]
    exact eval_affAbs h tol hl

theorem eval_termsAff {sg : List Bool} {ts : List Int} {q : Int} (h : SgOk sg ts q) (tol : Int)
    (l : List (Int × Leaf)) (hok : termsOk ts.length l = true) :
    (termsAff sg l).eval (env q tol ts) = evalTerms ts q tol l := by
  induction l with
  | nil => simp [termsAff, evalTerms, Aff.eval, dot_nil_left]
  | cons p r ih =>
    obtain ⟨c, lf⟩ := p
    simp only [termsOk, Bool.and_eq_true] at hok
    simp only [termsAff, evalTerms, eval_add, eval_smul, eval_leafAff h tol lf hok.1, ih hok.2]

def Sat (x : List Int) (cs : List Aff) : Prop := ∀ c ∈ cs, c.eval x ≤ 0

theorem sat_append {x : List Int} {a b : List Aff} (ha : Sat x a) (hb : Sat x b) : Sat x (a ++ b) :=
  List.forall_mem_append.2 ⟨ha, hb⟩

theorem sat_signCs (x : List Int) (f : Aff) (s : Sign) (h : signOf (f.eval x) = s) : Sat x (signCs f s) := by
  intro c hc
  cases s with
  | lt =>
    have := signOf_lt.1 h
    simp only [signCs, List.mem_singleton] at hc
    subst hc; rw [eval_addConst]; omega
  | eq =>
    have := signOf_eq.1 h
    simp only [signCs, List.mem_cons, List.not_mem_nil, or_false] at hc
    rcases hc with rfl | rfl
    · omega
    · rw [eval_neg]; omega
  | gt =>
    have := signOf_gt.1 h
    simp only [signCs, List.mem_singleton] at hc
    subst hc; rw [eval_addConst, eval_neg]; omega

theorem dot_all_zero (c : List Int) (h : c.all (fun c => c == 0) = true) : ∀ x : List Int, dot c x = 0 := by
  induction c with
  | nil => intro x; exact dot_nil_left x
  | cons a as ih =>
    intro x
    simp only [List.all_cons, Bool.and_eq_true, beq_iff_eq] at h
    cases x with
    | nil => rfl
    | cons x xs => simp [dot, h.1, ih h.2]

theorem isContra_not_sat {f : Aff} (h : isContra f = true) (x : List Int) : ¬ f.eval x ≤ 0 := by
  simp only [isContra, Bool.and_eq_true, decide_eq_true_eq] at h
  simp only [Aff.eval, dot_all_zero f.c h.1 x]
  omega

theorem elim_sat (j : Nat) (cs : List Aff) (x : List Int) (h : Sat x cs) : Sat x (elim j cs) := by
  intro c hc
  simp only [elim, List.mem_append, List.mem_filter, List.mem_flatMap, List.mem_map, decide_eq_true_eq] at hc
  rcases hc with hz | ⟨p, ⟨hp, hpp⟩, n, ⟨hn, hnn⟩, rfl⟩
  · exact h c hz.1
  · simp only [combine, eval_add, eval_smul]
    exact add_nonpos (mul_nonpos_of_nonneg_of_nonpos (by omega) (h p hp))
      (mul_nonpos_of_nonneg_of_nonpos (by omega) (h n hn))

theorem refute_sound (vars : List Nat) (cs : List Aff) (h : refute vars cs = true) (x : List Int) : ¬ Sat x cs := by
  have contra : ∀ {cs}, cs.any isContra = true → ¬ Sat x cs := fun h hs =>
    have ⟨f, hf, hc⟩ := List.any_eq_true.1 h
    isContra_not_sat hc x (hs f hf)
  fun_induction refute vars cs with
  | case1 cs => exact contra h
  | case2 j js cs ih => exact fun hs => (Bool.or_eq_true _ _ ▸ h).elim (contra · hs) (ih · (elim_sat j cs x hs))

/-- the sign case a concrete input is in -/
def sgOf (ts : List Int) (q : Int) : List Bool := ts.map (fun t => decide (0 ≤ q - t))

theorem sgOf_mem (q : Int) (ts : List Int) : sgOf ts q ∈ allSg ts.length := by
  induction ts with
  | nil => simp [sgOf, allSg]
  | cons t ts ih =>
    simp only [List.length_cons, allSg, List.mem_flatMap]
    refine ⟨sgOf ts q, ih, ?_⟩
    simp only [sgOf, List.map_cons]
    cases decide (0 ≤ q - t) <;> simp

theorem sgOk_sgOf (ts : List Int) (q : Int) : SgOk (sgOf ts q) ts q := by
  intro i hi
  have hg : (sgOf ts q).getD i true = decide (0 ≤ q - ts.getD i 0) := by
    simp [sgOf, List.getD, List.getElem?_map, List.getElem?_eq_getElem hi]
  rw [hg]
  exact ⟨of_decide_eq_true, fun h => Int.le_of_lt (Int.not_le.1 (of_decide_eq_false h))⟩

theorem sat_map_range {x : List Int} {f : Nat → Aff} {n : Nat} (h : ∀ i < n, (f i).eval x ≤ 0) :
    Sat x ((List.range n).map f) :=
  List.forall_mem_map.2 fun i hi => h i (List.mem_range.1 hi)

theorem sat_sgCs {sg : List Bool} {ts : List Int} {q : Int} (h : SgOk sg ts q) (tol : Int) :
    Sat (env q tol ts) (sgCs sg ts.length) := by
  refine sat_map_range fun i hi => ?_
  cases hb : sg.getD i true
  · have := (h i hi).2 hb
    simp only [Bool.false_eq_true, if_false, eval_affD]; exact this
  · have := (h i hi).1 hb
    simp only [if_true, eval_neg, eval_affD]; omega

theorem pairwise_succ {R : Int → Int → Prop} {ts : List Int} (hs : ts.Pairwise R) {i : Nat}
    (hi : i < ts.length - 1) : R (ts.getD i 0) (ts.getD (i + 1) 0) := by
  have h1 : i < ts.length := by omega
  have h2 : i + 1 < ts.length := by omega
  simpa [List.getD, h1, h2] using List.pairwise_iff_getElem.1 hs i (i + 1) h1 h2 (by omega)

theorem sat_sortedCs (ts : List Int) (q tol : Int) (hs : ts.Pairwise (fun a b => a ≤ b)) :
    Sat (env q tol ts) (sortedCs ts.length) := by
  refine sat_map_range fun i hi => ?_
  have := pairwise_succ hs hi
  rw [eval_add, eval_neg, eval_affT, eval_affT]
  omega

theorem sat_strictCs (ts : List Int) (q tol : Int) (hs : ts.Pairwise (fun a b => a < b)) :
    Sat (env q tol ts) (strictCs ts.length) := by
  refine sat_map_range fun i hi => ?_
  have := pairwise_succ hs hi
  rw [eval_addConst, eval_add, eval_neg, eval_affT, eval_affT]
  omega

theorem valuationOf_sat {sg : List Bool} {ts : List Int} {q : Int} (h : SgOk sg ts q) (tol : Int) (a : Atom)
    (ha : a.ok ts.length = true) (s : Sign) (hv : valuationOf ts q tol a = s) :
    Sat (env q tol ts) (signCs (a.aff sg) s) := by
  apply sat_signCs
  rw [Atom.aff, eval_addConst, eval_termsAff h tol a.terms ha]
  exact hv

/-- what the property says about the answer of `get_now_frame` on the stamps `ts`: `frame k` = a frame of minimal distance
that lies within the tolerance (ANY of them when several are equidistant); `none` = every frame is farther than the
tolerance; no other answer -/
def NowSpec (ts : List Int) (q tol : Int) : Res → Prop
  | .frame k => k < ts.length ∧ (∀ j, j < ts.length → absI ts q k ≤ absI ts q j) ∧ absI ts q k ≤ tol
  | .none => ∀ j, j < ts.length → tol < absI ts q j
  | .interp _ _ => False
  | .err _ => False

theorem nowSpec_decode {fs : List Frame} {q tol : Int} {r : Res} :
    NowSpec (times fs) q tol r ↔ NowFrameSpec fs q tol (decodeNow fs r) := by
  cases r with
  | none => simp [NowSpec, NowFrameSpec, decodeNow, times_length, forall_absI_times (P := (tol < ·))]
  | frame k =>
    by_cases hk : k < fs.length
    · simp [NowSpec, NowFrameSpec, decodeNow, hk, times_length, absI_times (List.getElem?_eq_getElem hk),
        forall_absI_times (P := ((absDt q fs[k] : Int) ≤ ·))]
    · simp [NowSpec, NowFrameSpec, decodeNow, hk, times_length]
  | interp | err => exact ⟨False.elim, fun h => by rcases h with ⟨_, h, _⟩ | ⟨h, _⟩ <;> cases h⟩

/-- the model's skeleton meets the specification for EVERY number of frames (time-ordered or not): the stamps are those of
some frame list, on which the skeleton is the model (`getNowFrame_eq_atoms`), and the model returns an arg-min within the
tolerance by induction on its loop (`getNowFrame_spec`) -/
theorem getNowAtoms_spec {ts : List Int} (q tol : Int) (hne : ts ≠ []) (hq : q ≤ maxTime) :
    NowSpec ts q tol (getNowAtoms ts.length (valuationOf ts q tol)) := by
  obtain ⟨fs, rfl⟩ : ∃ fs, times fs = ts := ⟨ts.map fun t => ⟨0, t, none, []⟩, by simp [times, Function.comp_def]⟩
  rw [times_length, nowSpec_decode, ← getNowFrame_eq_atoms]
  exact getNowFrame_spec tol hq fun h => hne (by rw [h]; rfl)

theorem not_sat_singleton {x : List Int} {f : Aff} : ¬ Sat x [f] ↔ 0 < f.eval x := by
  simp [Sat]

theorem checkNow_leaf {sg : List Bool} {ts : List Int} {q : Int} (hsg : SgOk sg ts q) (tol : Int) (r : Res)
    (cs : List Aff) (hcs : Sat (env q tol ts) cs)
    (h : (nowGoals ts.length sg r).all (fun g => refute (elimOrder ts.length) (g ++ cs)) = true) :
    NowSpec ts q tol r := by
  -- every entry of `nowGoals` negates one clause of the specification, and is refuted
  have hno : ∀ g ∈ nowGoals ts.length sg r, ¬ Sat (env q tol ts) g :=
    fun g hg hs => refute_sound _ _ (List.all_eq_true.1 h g hg) _ (sat_append hs hcs)
  have hnil : ([] : List Aff) ∉ nowGoals ts.length sg r := fun hm => hno _ hm (fun c hc => nomatch hc)
  cases r with
  | none =>
    intro j hj
    have := not_sat_singleton.1 (hno _ (List.mem_map.2 ⟨j, List.mem_range.2 hj, rfl⟩))
    rw [eval_add, eval_neg, eval_affTol, eval_affAbs hsg tol hj] at this
    omega
  | frame k =>
    by_cases hk : k < ts.length
    · simp only [nowGoals, if_pos hk] at hno
      refine ⟨hk, fun j hj => ?_, ?_⟩
      · have := not_sat_singleton.1
          (hno _ (List.mem_append_left _ (List.mem_map.2 ⟨j, List.mem_range.2 hj, rfl⟩)))
        rw [eval_addConst, eval_add, eval_neg, eval_affAbs hsg tol hj, eval_affAbs hsg tol hk] at this
        omega
      · have := not_sat_singleton.1 (hno _ (List.mem_append_right _ (List.mem_singleton.2 rfl)))
        rw [eval_addConst, eval_add, eval_neg, eval_affTol, eval_affAbs hsg tol hk] at this
        omega
    · exact (hnil (by simp [nowGoals, hk])).elim
  | interp i j => exact (hnil (by simp [nowGoals])).elim
  | err k => exact (hnil (by simp [nowGoals])).elim

theorem checkNow_sound {sg : List Bool} {ts : List Int} {q : Int} (hsg : SgOk sg ts q) (tol : Int) (t : DTree)
    (cs : List Aff) (hcs : Sat (env q tol ts) cs) (h : checkNow ts.length sg cs t = true) :
    NowSpec ts q tol (evalTree t (valuationOf ts q tol)) := by
  refine evalTree_of_check (chk := checkNow ts.length sg) (Good := Sat (env q tol ts)) (P := NowSpec ts q tol)
    (fun cs r hcs h => checkNow_leaf hsg tol r cs hcs (by simpa [checkNow] using h)) ?_ t cs hcs h
  intro cs a l e g hcs h
  simp only [checkNow, Bool.and_eq_true] at h
  obtain ⟨⟨⟨hok, hl⟩, he⟩, hg⟩ := h
  refine ⟨_, sat_append (valuationOf_sat hsg tol a hok _ rfl) hcs, ?_⟩
  cases valuationOf ts q tol a
  · exact hl
  · exact he
  · exact hg

/-- a row that is the model's skeleton atom for atom meets the specification without any arithmetic
(`getNowAtoms_spec`); any other row is held to `nowRowOk` -/
theorem nowRow_sound {n : Nat} {t : DTree} (h : (equiv [] t (getNowSkel n) || nowRowOk n t) = true) {ts : List Int}
    (hn : ts.length = n) (q tol : Int) (hne : ts ≠ []) (hq : q ≤ maxTime) (hs : ts.Pairwise (fun a b => a ≤ b)) :
    NowSpec ts q tol (evalTree t (valuationOf ts q tol)) := by
  subst hn
  rcases Bool.or_eq_true_iff.1 h with h | h
  · rw [equiv_sound h, evalTree_getNowSkel]
    exact getNowAtoms_spec q tol hne hq
  · simp only [nowRowOk, Bool.or_eq_true, beq_iff_eq] at h
    have hsg := sgOk_sgOf ts q
    refine checkNow_sound hsg tol t _ ?_
      (List.all_eq_true.1 (h.resolve_left (mt List.length_eq_zero_iff.1 hne)) _ (sgOf_mem q ts))
    -- the constraints the check starts from hold of the input: the unit guard, its sign case, the time order
    refine List.forall_mem_cons.2 ⟨?_, sat_append (sat_sgCs hsg tol) (sat_sortedCs ts q tol hs)⟩
    rw [guardC, eval_addConst, eval_affQ]
    simp only [maxTime] at hq
    omega

/-- what is evaluated for the `get_now_frame` table: a row is accepted when it is the skeleton atom for atom, or else
by the arithmetic check -/
def nowTableAccepted (rows : List (Nat × DTree)) : Bool :=
  rows.all (fun p => equiv [] p.2 (getNowSkel p.1) || nowRowOk p.1 p.2)

theorem nowTable_sound {rows : List (Nat × DTree)} (h : nowTableAccepted rows = true) :
    ∀ p ∈ rows, ∀ (ts : List Int) (q tol : Int), ts.length = p.1 → ts ≠ [] → q ≤ maxTime →
      ts.Pairwise (fun a b => a ≤ b) → NowSpec ts q tol (evalTree p.2 (valuationOf ts q tol)) :=
  fun p hp _ q tol hn => nowRow_sound (List.all_eq_true.1 h p hp) hn q tol

theorem nowTableOk_sound {rows : List (Nat × DTree)} (h : nowTableOk rows = true) :
    ∀ p ∈ rows, ∀ (ts : List Int) (q tol : Int), ts.length = p.1 → ts ≠ [] → q ≤ maxTime →
      ts.Pairwise (fun a b => a ≤ b) → NowSpec ts q tol (evalTree p.2 (valuationOf ts q tol)) :=
  fun p hp _ q tol hn => nowRow_sound (by rw [List.all_eq_true.1 h p hp, Bool.or_true]) hn q tol

/-- `agrees_step` for the checks whose state also carries the decisions as constraints: the branch taken has been
checked under decisions the valuation agrees with and constraints the input satisfies -/
theorem sat_step {sg : List Bool} {ts : List Int} {q : Int} (hsg : SgOk sg ts q) (tol : Int)
    {st : List (Atom × Sign) × List Aff} (hst : Agrees (valuationOf ts q tol) st.1 ∧ Sat (env q tol ts) st.2) (a : Atom)
    {chk : List (Atom × Sign) × List Aff → DTree → Bool} {l e g : DTree}
    (h : (match lookupA a st.1 with
          | some s => s.pick (chk st l) (chk st e) (chk st g)
          | none =>
            a.ok ts.length && chk ((a, .lt) :: st.1, signCs (a.aff sg) .lt ++ st.2) l
              && chk ((a, .eq) :: st.1, signCs (a.aff sg) .eq ++ st.2) e
              && chk ((a, .gt) :: st.1, signCs (a.aff sg) .gt ++ st.2) g) = true) :
    ∃ st' : List (Atom × Sign) × List Aff, (Agrees (valuationOf ts q tol) st'.1 ∧ Sat (env q tol ts) st'.2) ∧
      (valuationOf ts q tol a).pick (chk st' l) (chk st' e) (chk st' g) = true := by
  split at h
  · next s hs => exact ⟨st, hst, lookupA_agrees hst.1 hs ▸ h⟩
  · simp only [Bool.and_eq_true] at h
    obtain ⟨⟨⟨hok, hl⟩, he⟩, hg⟩ := h
    refine ⟨(_, _), ⟨agrees_cons hst.1 a, sat_append (valuationOf_sat hsg tol a hok _ rfl) hst.2⟩, ?_⟩
    cases valuationOf ts q tol a
    · exact hl
    · exact he
    · exact hg

theorem checkLeafSem_sound {sg : List Bool} {ts : List Int} {q : Int} (hsg : SgOk sg ts q) (tol : Int) (r : Res)
    (t : DTree) (st : List (Atom × Sign) × List Aff)
    (hst : Agrees (valuationOf ts q tol) st.1 ∧ Sat (env q tol ts) st.2)
    (h : checkLeafSem ts.length sg r st.1 st.2 t = true) : evalTree t (valuationOf ts q tol) = r := by
  refine evalTree_of_check (chk := fun st t => checkLeafSem ts.length sg r st.1 st.2 t) (P := (· = r)) ?_
    (fun st a _ _ _ hst h => by unfold checkLeafSem at h; exact sat_step hsg tol hst a h) t st hst h
  intro st r' hst h
  simp only [checkLeafSem, Bool.or_eq_true, beq_iff_eq] at h
  rcases h with h | h
  · exact h.symm
  · exact absurd hst.2 (refute_sound _ _ h _)

theorem checkEq_sound {sg : List Bool} {ts : List Int} {q : Int} (hsg : SgOk sg ts q) (tol : Int) (t2 t : DTree)
    (st : List (Atom × Sign) × List Aff)
    (hst : Agrees (valuationOf ts q tol) st.1 ∧ Sat (env q tol ts) st.2)
    (h : checkEq ts.length sg t2 st.1 st.2 t = true) :
    evalTree t (valuationOf ts q tol) = evalTree t2 (valuationOf ts q tol) :=
  evalTree_of_check (chk := fun st t => checkEq ts.length sg t2 st.1 st.2 t)
    (P := (· = evalTree t2 (valuationOf ts q tol)))
    (fun st r hst h => (checkLeafSem_sound hsg tol r t2 st hst (by simpa only [checkEq] using h)).symm)
    (fun st a _ _ _ hst h => by unfold checkEq at h; exact sat_step hsg tol hst a h) t st hst h

theorem eqTableOk_sound {rows : List (Nat × DTree)} {skel : Nat → DTree} (h : eqTableOk rows skel = true) :
    ∀ p ∈ rows, ∀ (ts : List Int) (q tol : Int), ts.length = p.1 → ts.Pairwise (fun a b => a < b) →
      evalTree p.2 (valuationOf ts q tol) = evalTree (skel p.1) (valuationOf ts q tol) := by
  intro p hp ts q tol hn hs
  obtain ⟨n, t⟩ := p
  have := List.all_eq_true.1 h _ hp
  simp only [Bool.or_eq_true] at this hn ⊢
  rcases this with h1 | h2
  · exact equiv_sound h1 _
  · subst hn
    have hsg := sgOk_sgOf ts q
    exact checkEq_sound hsg tol _ t ([], _)
      ⟨agrees_nil _, sat_append (sat_sgCs hsg tol) (sat_strictCs ts q tol hs)⟩ (List.all_eq_true.1 h2 _ (sgOf_mem q ts))

section Examples

/-- the arithmetic check accepts the skeleton itself (which keeps the FIRST of two equidistant frames) -/
example : nowRowOk 2 (getNowSkel 2) = true := by decide +kernel

/-- `<=` instead of `<`: the LAST of two equidistant frames; differs from the skeleton atom by atom, same property -/
def lastTie2 : DTree :=
  let body : DTree := .node (aCmp 0 1) (nowTailSkel 0) (nowTailSkel 1) (nowTailSkel 1)
  .node aGuard body body (.leaf (.err "DatasetLoadingError"))

example : equiv [] lastTie2 (getNowSkel 2) = false := by decide +kernel
example : nowRowOk 2 lastTie2 = true := by decide +kernel

/-- a bisection on two frames: compares `q` with the stamps, then `q - t 0` with `t 1 - q`, then one signed distance with
the tolerance (no `|q - t i|` anywhere); correct on time-ordered stamps only -/
def bisect2 : DTree :=
  let none' : DTree := .leaf .none
  let f0 : DTree := .leaf (.frame 0)
  let f1 : DTree := .leaf (.frame 1)
  let at0after : DTree := .node (aAfter 0) none' f0 f0          -- t0 - q ≤ tol ?
  let at0before : DTree := .node (aBefore 0) f0 f0 none'        -- q - t0 ≤ tol ?
  let at1after : DTree := .node (aAfter 1) none' f1 f1
  let at1before : DTree := .node (aBefore 1) f1 f1 none'
  let mid : DTree := .node ⟨[(2, .q), (-1, .t 0), (-1, .t 1)], 0⟩ at0before at0before at1after
  let inner : DTree := .node (aGe 1) mid mid at1before          -- q ≤ t1 ?
  let body : DTree := .node (aGe 0) at0after at0after inner       -- q ≤ t0 ?
  .node aGuard body body (.leaf (.err "DatasetLoadingError"))

example : nowRowOk 2 bisect2 = true := by decide +kernel

/-- the empty list is outside the obligation: `[] ↦ None`, `IndexError`, anything -/
example : nowRowOk 0 (.leaf .none) = true := by decide +kernel
example : nowRowOk 0 (.leaf (.err "ValueError")) = true := by decide +kernel

/-- rejected: no tolerance test -/
example : nowRowOk 1 (.node aGuard (.leaf (.frame 0)) (.leaf (.frame 0)) (.leaf (.err "DatasetLoadingError"))) = false := by
  decide +kernel
/-- rejected: always the first frame -/
example : nowRowOk 2 (.node aGuard (nowTailSkel 0) (nowTailSkel 0) (.leaf (.err "DatasetLoadingError"))) = false := by
  decide +kernel
/-- rejected: an exception when two frames are equidistant (seeded change C17_F) -/
example : nowRowOk 2
    (let body : DTree := .node (aCmp 0 1) (nowTailSkel 0) (.leaf (.err "TypeError")) (nowTailSkel 1)
     .node aGuard body body (.leaf (.err "DatasetLoadingError"))) = false := by decide +kernel
/-- rejected: tolerance exclusive (`≥` instead of `>`) -/
example : nowRowOk 1
    (let body : DTree := .node (aTolAbs 0) (.leaf .none) (.leaf .none) (.leaf (.frame 0))
     .node aGuard body body (.leaf (.err "DatasetLoadingError"))) = false := by decide +kernel

/-- the interpolated lookup: the skeleton agrees with itself semantically, not with the skeleton for another length -/
example : eqRowOk 2 (getInterpSkel 2) (getInterpSkel 2) = true := by decide +kernel
example : eqRowOk 2 (getInterpSkel 1) (getInterpSkel 2) = false := by decide +kernel

end Examples

end PEval.LookupDT
