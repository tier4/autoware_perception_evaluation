import PEval.Model.Sensing
import PEval.Lemmas.ExceptLoop
import PEval.Lemmas.ListBasics
/-!
Lemmas for C12 that need no geometry: the inside/outside masks are complementary; every loop of the frame evaluation
is given by one equation "raise `RuntimeError` if a crop is attempted on a cloud with fewer than two columns, else
return the pure value" (`evaluateDetection_eq`, `cropOutsideAll_eq`, …, `evaluateFrame_eq`), from which both the value
of a successful run and the fact that nothing raises for `2 ≤ cols` are read off.  The exception is `managerCropAreas`,
whose failure also depends on `ValidArea` of every area: it is the `List.mapM` of `crop` over the areas
(`managerCropAreas_eq_mapM`, so `Lemmas/ExceptLoop` applies) and has `managerCropAreas_ok` and `managerCropAreas_total`.
Near the end `wnNext`: the scan with `area[next_idx]` where the code reads `area[i + 1]`, a variant the model is compared
with (`C12.index_quirk_unobservable`), not a model of the code.
-/

namespace PEval.Sensing

theorem keepInside_iff (cols : Nat) (area : List Corner) (p : Pt) :
    keepInside cols area p = true ↔ 0 < wn area p ∧ (cols < 3 ∨ zMin area ≤ p.z ∧ p.z ≤ zMax area) := by
  unfold keepInside
  by_cases hc : cols < 3 <;> simp [hc]

theorem keepOutside_eq_not (cols : Nat) (area : List Corner) (p : Pt) :
    keepOutside cols area p = !keepInside cols area p := by
  unfold keepOutside keepInside
  split <;> simp only [Bool.not_and, ← decide_not, Nat.not_lt, Rat.not_le]

def ValidArea (a : List Corner) : Prop := 3 ≤ a.length / 2 ∧ a.length % 2 = 0

theorem crop_ok_iff {cols : Nat} {cloud : List Pt} {area : List Corner} {inside : Bool} {r : List Pt} :
    crop cols cloud area inside = .ok r ↔
      2 ≤ cols ∧ ValidArea area ∧ r = if inside then cropInside cols cloud area else cropOutside cols cloud area := by
  unfold ValidArea
  fun_cases crop cols cloud area inside with
  | case1 h1 => exact ⟨(fun h => nomatch h), fun h => absurd h1 (Nat.not_lt.mpr h.1)⟩
  | case2 _ h2 => exact ⟨(fun h => nomatch h), fun h => absurd h2 (not_or.mpr ⟨Nat.not_lt.mpr h.2.1.1, Decidable.not_not.mpr h.2.1.2⟩)⟩
  | case3 h1 h2 =>
    have h2 := not_or.mp h2
    exact ⟨fun h => ⟨Nat.not_lt.mp h1, ⟨Nat.not_lt.mp h2.1, Decidable.not_not.mp h2.2⟩, (Except.ok.inj h).symm⟩,
      fun h => h.2.2 ▸ rfl⟩

theorem boxCorners_length (b : Box) (k : Rat) : (boxCorners b k).length = 8 := rfl

theorem cropBox_eq (cols : Nat) (cloud : List Pt) (b : Box) (k : Rat) (inside : Bool) :
    cropBox cols cloud b k inside =
      if cols < 2 then .error "RuntimeError"
      else .ok (if inside then cropInside cols cloud (boxCorners b k) else cropOutside cols cloud (boxCorners b k)) := by
  unfold cropBox crop
  simp [boxCorners_length]

theorem ok_of_ite {α : Type} {c : Prop} [Decidable c] {e : Err} {x r : α}
    (h : (if c then Except.error e else Except.ok x) = Except.ok r) : r = x := by
  split at h
  · cases h
  · injection h with h
    exact h.symm

/-- the per-object result when the cloud has at least two columns (the same record as `SensingDT.sresOf` of the
decision-table bridge, see `C12.sresOf_eq_sres`) -/
def sres (cfg : Cfg) (cols : Nat) (cloud : List Pt) (o : Obj) : SRes :=
  let ins := cropInside cols cloud (boxCorners o.box (scaleFactor cfg o.dist))
  { gt := o.id, inside := ins, num := ins.length,
    isDetected := decide ((ins.length : Int) ≥ cfg.minPoints),
    isOccluded := isNone o.visibility }

theorem sensingResult_eq (cfg : Cfg) (cols : Nat) (cloud : List Pt) (o : Obj) :
    sensingResult cfg cols cloud o = if cols < 2 then .error "RuntimeError" else .ok (sres cfg cols cloud o) := by
  unfold sensingResult
  rw [cropBox_eq]
  split <;> rfl

def pushAll (fr : FrameRes) (rs : List SRes) : FrameRes := rs.foldl FrameRes.push fr

theorem evaluateDetection_eq (cfg : Cfg) (cols : Nat) (cloud : List Pt) : ∀ (objs : List Obj) (fr : FrameRes),
    evaluateDetection cfg cols cloud objs fr
      = if cols < 2 ∧ objs ≠ [] then .error "RuntimeError" else .ok (pushAll fr (objs.map (sres cfg cols cloud)))
  | [], fr => by rw [if_neg fun h => h.2 rfl]; rfl
  | o :: os, fr => by
    unfold evaluateDetection
    rw [sensingResult_eq]
    by_cases hc : cols < 2
    · rw [if_pos hc, if_pos ⟨hc, List.cons_ne_nil _ _⟩]; rfl
    · have hn : ∀ l : List Obj, ¬(cols < 2 ∧ l ≠ []) := fun _ h => hc h.1
      rw [if_neg hc, if_neg (hn _), ok_bind, evaluateDetection_eq, if_neg (hn _)]; rfl

theorem pushAll_lists (rs : List SRes) : ∀ (fr : FrameRes),
    (pushAll fr rs).warning = fr.warning ++ rs.filter (fun r => classify r = .warning) ∧
    (pushAll fr rs).success = fr.success ++ rs.filter (fun r => classify r = .success) ∧
    (pushAll fr rs).fail = fr.fail ++ rs.filter (fun r => classify r = .fail) ∧
    (pushAll fr rs).nonDetection = fr.nonDetection := by
  induction rs with
  | nil => intro fr; simp [pushAll]
  | cons r rs ih =>
    intro fr
    obtain ⟨h1, h2, h3, h4⟩ := ih (fr.push r)
    simp only [pushAll, List.foldl_cons] at h1 h2 h3 h4 ⊢
    rw [h1, h2, h3, h4]
    cases hc : classify r <;> simp [FrameRes.push, hc]

/-- a point survives the removal of every object's scaled box -/
def outsideAll (cfg : Cfg) (cols : Nat) (objs : List Obj) (p : Pt) : Bool :=
  objs.all (fun o => keepOutside cols (boxCorners o.box (scaleFactor cfg o.dist)) p)

theorem cropOutsideAll_eq (cfg : Cfg) (cols : Nat) : ∀ (objs : List Obj) (pts : List Pt),
    cropOutsideAll cfg cols objs pts
      = if cols < 2 ∧ objs ≠ [] then .error "RuntimeError" else .ok (pts.filter (outsideAll cfg cols objs))
  | [], pts => by
    rw [if_neg fun h => h.2 rfl]
    exact congrArg Except.ok (List.filter_eq_self.mpr fun _ _ => rfl).symm
  | o :: os, pts => by
    unfold cropOutsideAll
    rw [cropBox_eq]
    by_cases hc : cols < 2
    · rw [if_pos hc, if_pos ⟨hc, List.cons_ne_nil _ _⟩]; rfl
    · have hn : ∀ l : List Obj, ¬(cols < 2 ∧ l ≠ []) := fun _ h => hc h.1
      rw [if_neg hc, if_neg (hn _), ok_bind, cropOutsideAll_eq, if_neg (hn _)]
      simp only [cropOutside, Bool.false_eq_true, if_false, List.filter_filter]
      congr 2
      funext p
      simp [outsideAll, Bool.and_comm]

/-- the clouds reported by `_evaluate_pointcloud_for_non_detection` -/
def reported (cfg : Cfg) (cols : Nat) (objs : List Obj) (cs : List (List Pt)) : List (List Pt) :=
  (cs.map (fun c => c.filter (outsideAll cfg cols objs))).filter (fun c => c.length ≠ 0)

theorem evaluateNonDetection_eq (cfg : Cfg) (cols : Nat) (objs : List Obj) : ∀ (cs : List (List Pt)) (fr : FrameRes),
    evaluateNonDetection cfg cols objs cs fr
      = if (cols < 2 ∧ objs ≠ []) ∧ cs ≠ [] then .error "RuntimeError"
        else .ok { fr with nonDetection := fr.nonDetection ++ reported cfg cols objs cs }
  | [], fr => by
    rw [if_neg fun h => h.2 rfl]
    simp [evaluateNonDetection, reported, pure, Except.pure]
  | c :: cs, fr => by
    unfold evaluateNonDetection
    rw [cropOutsideAll_eq]
    by_cases hc : cols < 2 ∧ objs ≠ []
    · rw [if_pos hc, if_pos ⟨hc, List.cons_ne_nil _ _⟩]; rfl
    · have hn : ∀ l : List (List Pt), ¬((cols < 2 ∧ objs ≠ []) ∧ l ≠ []) := fun _ h => hc h.1
      rw [if_neg hc, if_neg (hn _), ok_bind, evaluateNonDetection_eq, if_neg (hn _)]
      by_cases hl : List.filter (outsideAll cfg cols objs) c = [] <;> simp [reported, hl]

theorem managerCropAreas_eq_mapM (cols : Nat) (cloud : List Pt) : ∀ areas : List (List Corner),
    managerCropAreas cols cloud areas = areas.mapM fun a => crop cols cloud a true
  | [] => rfl
  | a :: as => by rw [managerCropAreas, managerCropAreas_eq_mapM cols cloud as, List.mapM_cons]

theorem managerCropAreas_ok {cols : Nat} {cloud : List Pt} {areas : List (List Corner)} {r : List (List Pt)}
    (h : managerCropAreas cols cloud areas = .ok r) : r = areas.map (fun a => cloud.filter (keepInside cols a)) :=
  mapM_ok_eq_map ((managerCropAreas_eq_mapM cols cloud areas).symm.trans h) fun _ _ _ ha => (crop_ok_iff.mp ha).2.2

theorem managerCropAreas_total {cols : Nat} (hc : 2 ≤ cols) (cloud : List Pt) (areas : List (List Corner))
    (h : ∀ a ∈ areas, ValidArea a) : ∃ cs, managerCropAreas cols cloud areas = .ok cs :=
  managerCropAreas_eq_mapM cols cloud areas ▸ mapM_ok_of_forall fun a ha => ⟨_, crop_ok_iff.mpr ⟨hc, h a ha, rfl⟩⟩

theorem managerCropObjects_eq (mcfg : Cfg) (cols : Nat) (objs : List Obj) : ∀ cs : List (List Pt),
    managerCropObjects mcfg cols objs cs
      = if (cols < 2 ∧ objs ≠ []) ∧ cs ≠ [] then .error "RuntimeError"
        else .ok (cs.map (fun c => c.filter (outsideAll mcfg cols objs)))
  | [] => by rw [if_neg fun h => h.2 rfl]; rfl
  | c :: cs => by
    unfold managerCropObjects
    rw [cropOutsideAll_eq]
    by_cases hc : cols < 2 ∧ objs ≠ []
    · rw [if_pos hc, if_pos ⟨hc, List.cons_ne_nil _ _⟩]; rfl
    · have hn : ∀ l : List (List Pt), ¬((cols < 2 ∧ objs ≠ []) ∧ l ≠ []) := fun _ h => hc h.1
      rw [if_neg hc, if_neg (hn _), ok_bind, managerCropObjects_eq, if_neg (hn _)]; rfl

theorem evaluateFrame_eq (cfg : Cfg) (cols : Nat) (objs : List Obj) (cloud : List Pt) (nds : List (List Pt)) :
    evaluateFrame cfg cols objs cloud nds
      = if cols < 2 ∧ objs ≠ [] then .error "RuntimeError"
        else .ok { pushAll {} (objs.map (sres cfg cols cloud)) with nonDetection := reported cfg cols objs nds } := by
  unfold evaluateFrame
  rw [evaluateDetection_eq]
  by_cases hc : cols < 2 ∧ objs ≠ []
  · rw [if_pos hc, if_pos hc]; rfl
  · rw [if_neg hc, if_neg hc, ok_bind, evaluateNonDetection_eq, if_neg fun h => hc h.1, (pushAll_lists _ _).2.2.2]
    rfl

/-- the edge step with `area[next_idx]` in place of the code's `area[i + 1]`: a variant to compare the model with
(`C12.index_quirk_unobservable`), not a model of the code -/
def edgeStepNext (area : List Corner) (n : Nat) (p : Pt) (cnt : Nat) (i : Nat) : Nat :=
  let a := cornerAt area i
  let b := cornerAt area ((i + 1) % n)
  let vt : Rat := if b.y ≠ a.y then (p.y - a.y) / (b.y - a.y) else p.x
  let valid : Bool := decide (p.x < a.x + vt * (b.x - a.x))
  let inc : Bool := decide (a.y ≤ p.y) && decide (b.y > p.y) && valid
  let dec : Bool := decide (a.y > p.y) && decide (b.y ≤ p.y) && valid
  let cnt := if inc then u8inc cnt else cnt
  if dec then u8dec cnt else cnt

def wnNext (area : List Corner) (p : Pt) : Nat :=
  (List.range (area.length / 2)).foldl (edgeStepNext area (area.length / 2) p) 0

theorem three_way_perm (rs : List SRes) :
    (rs.filter (fun r => classify r = .warning) ++ rs.filter (fun r => classify r = .success)
      ++ rs.filter (fun r => classify r = .fail)).Perm rs := by
  induction rs with
  | nil => exact .nil
  | cons r rs ih =>
    cases hc : classify r <;> simp only [List.filter_cons, hc, decide_true, if_true, reduceCtorEq, decide_false,
      Bool.false_eq_true, if_false, List.cons_append]
    · exact ih.cons r
    · rw [List.append_assoc, List.cons_append]
      exact List.perm_middle.trans ((List.append_assoc .. ▸ ih).cons r)
    · exact List.perm_middle.trans (ih.cons r)

end PEval.Sensing
