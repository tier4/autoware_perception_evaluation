import PEval.Lemmas.AnalyzerCounts
import Mathlib.Algebra.Order.Ring.Rat
import Mathlib.Tactic.Linarith
/-!
# C19 lemmas: selections (`get` / `filter`, `filter_by_distance`, `analyze(**kwargs, distance=…)`)

* `selectTable_ok` / `selectTable_err` / `analyze_eq_selectTable`: the table `analyze` computes on is the
  full table filtered by ONE pair predicate, `RowPair.selected` (order and indices kept);
* `keyKeep_iff`, `keep_iff`, `inDistance_iff`, `selected_iff`: what that predicate says in words — every
  given keyword is matched by some row of the pair, some row of the pair lies in `[d0, d1)`;

Counts over a selection: `Lemmas/AnalyzerCounts` (`selection_numTP` …), for every index-blind pair predicate.
-/


namespace PEval.Analyzer

theorem selectTable_ok (full : Table) (s : Sel) (d : Option (Rat × Rat))
    (hd : ∀ dd, d = some dd → dd.1 < dd.2) :
    selectTable full s d = .ok (full.filter (RowPair.selected s d)) := by
  cases d with
  | none => exact congrArg Except.ok (List.filter_congr fun r _ => (Bool.and_true _).symm)
  | some dd =>
    simp only [selectTable, filterByDistance, hd dd rfl, if_true, Table.select, List.filter_filter]
    exact congrArg Except.ok (List.filter_congr fun r _ => Bool.and_comm _ _)

theorem selectTable_err (full : Table) (s : Sel) (dd : Rat × Rat) (hd : ¬ dd.1 < dd.2) :
    selectTable full s (some dd) = .error "AssertionError" := by
  simp [selectTable, filterByDistance, hd]

theorem selectTable_error {full : Table} {s : Sel} {d : Option (Rat × Rat)} {e : Err}
    (h : selectTable full s d = .error e) : e = "AssertionError" ∧ ∃ dd, d = some dd ∧ ¬ dd.1 < dd.2 := by
  revert h
  fun_cases selectTable full s d with
  | case1 => exact nofun
  | case2 dd =>
    fun_cases filterByDistance dd (full.select s) with
    | case1 => exact nofun
    | case2 hd => exact fun h => ⟨(Except.error.inj h).symm, dd, rfl, hd⟩

/-- `analyze` with the confusion-matrix function left open: `analyze` and the pre-fix `analyzeOld` are its two instances -/
def analyzeWith (cf : Table → Except Err (Option (List (List Nat)))) (labels : List String) (full : Table) (s : Sel)
    (d : Option (Rat × Rat)) : Except Err (Option Analysis) :=
  match selectTable full s d with
  | .error e => .error e
  | .ok df =>
    if df.isEmpty then .ok none else
    match cf df with
    | .error e => .error e
    | .ok cm => .ok (some ⟨summarizeRatio labels df, summarizeError labels full df, cm⟩)

theorem analyze_eq_selectTable (labels : List String) (full : Table) (s : Sel) (d : Option (Rat × Rat)) :
    analyze labels full s d = analyzeWith (getConfusionMatrix labels) labels full s d := by
  cases d <;> rfl

theorem analyzeOld_eq (labels : List String) (full : Table) (s : Sel) (d : Option (Rat × Rat)) :
    analyzeOld labels full s d = analyzeWith (getConfusionMatrixOld labels) labels full s d := rfl

section
variable {cf : Table → Except Err (Option (List (List Nat)))} {labels : List String} {full : Table} {s : Sel}
  {d : Option (Rat × Rat)}

theorem analyzeWith_ok_iff {r : Option Analysis} :
    analyzeWith cf labels full s d = .ok r ↔ ∃ df, selectTable full s d = .ok df ∧
      if df = [] then r = none
      else ∃ cm, cf df = .ok cm ∧ r = some ⟨summarizeRatio labels df, summarizeError labels full df, cm⟩ := by
  unfold analyzeWith
  cases selectTable full s d with
  | error e => simp
  | ok df =>
    simp only [List.isEmpty_iff, Except.ok.injEq, exists_eq_left']
    split
    · simp [eq_comm]
    · cases cf df <;> simp [eq_comm]

theorem analyzeWith_error_iff {e : Err} :
    analyzeWith cf labels full s d = .error e ↔ selectTable full s d = .error e ∨
      ∃ df, selectTable full s d = .ok df ∧ df ≠ [] ∧ cf df = .error e := by
  unfold analyzeWith
  cases selectTable full s d with
  | error e => simp
  | ok df =>
    simp only [List.isEmpty_iff, Except.ok.injEq, exists_eq_left', reduceCtorEq, false_or]
    split
    · simp [*]
    · cases cf df <;> simp [*]

end

theorem selectTable_eq_ok {full : Table} {s : Sel} {d : Option (Rat × Rat)} {df : Table}
    (h : selectTable full s d = .ok df) :
    (∀ dd, d = some dd → dd.1 < dd.2) ∧ df = full.filter (RowPair.selected s d) := by
  have hd : ∀ dd, d = some dd → dd.1 < dd.2 := by
    intro dd hdd
    by_contra hn
    rw [hdd, selectTable_err full s dd hn] at h
    cases h
  exact ⟨hd, Except.ok.inj (h.symm.trans (selectTable_ok full s d hd))⟩

theorem selectTable_subset {full : Table} {s : Sel} {d : Option (Rat × Rat)} {df : Table}
    (h : selectTable full s d = .ok df) : ∀ r ∈ df, r ∈ full := by
  obtain ⟨_, rfl⟩ := selectTable_eq_ok h
  exact fun r hr => (List.mem_filter.mp hr).1

theorem analyze_some_iff (labels : List String) (full : Table) (s : Sel) (d : Option (Rat × Rat)) (A : Analysis) :
    analyze labels full s d = .ok (some A) ↔
      ∃ df, selectTable full s d = .ok df ∧ df ≠ [] ∧ ∃ cm, getConfusionMatrix labels df = .ok cm ∧
        A = ⟨summarizeRatio labels df, summarizeError labels full df, cm⟩ := by
  rw [analyze_eq_selectTable, analyzeWith_ok_iff]
  refine exists_congr fun df => and_congr_right fun _ => ?_
  split <;> simp [*]

/-- the rows of a pair -/
def RowPair.HasRow (r : RowPair) (c : Cell) : Prop := r.gt = some c ∨ r.est = some c

theorem anySide_iff (r : RowPair) (p : Cell → Bool) :
    r.anySide p = true ↔ ∃ c, r.HasRow c ∧ p c = true := by
  simp only [RowPair.anySide, RowPair.HasRow, Bool.or_eq_true, Option.any_eq_true, or_and_right, exists_or]

theorem keyKeep_iff {β : Type} [BEq β] [LawfulBEq β] (sel : Option (List β)) (get : Cell → Option β) (r : RowPair) :
    r.keyKeep sel get = true ↔ ∀ l, sel = some l → ∃ c, r.HasRow c ∧ ∃ b, get c = some b ∧ b ∈ l := by
  cases sel with
  | none => simp [RowPair.keyKeep]
  | some l =>
    have hm : ∀ v : Option β, keyMatch (some l) v = true ↔ ∃ b, v = some b ∧ b ∈ l := fun v => by
      cases v <;> simp [keyMatch]
    simp only [RowPair.keyKeep, Option.isNone_some, Bool.false_or, anySide_iff, hm, Option.some.injEq, forall_eq']

/-- `get(**kwargs)` keeps a pair iff every given keyword is matched by some row of the pair (different
keywords may be matched by different rows) -/
theorem keep_iff (s : Sel) (r : RowPair) :
    r.keep s = true ↔
      (∀ l, s.labels = some l → ∃ c, r.HasRow c ∧ c.obj.label ∈ l) ∧
      (∀ l, s.scenes = some l → ∃ c, r.HasRow c ∧ c.scene ∈ l) ∧
      (∀ l, s.frames = some l → ∃ c, r.HasRow c ∧ c.frame ∈ l) ∧
      (∀ l, s.areas = some l → ∃ c, r.HasRow c ∧ ∃ a, c.area = some a ∧ a ∈ l) ∧
      (∀ l, s.statuses = some l → ∃ c, r.HasRow c ∧ c.status ∈ l) ∧
      (∀ l, s.uuids = some l → ∃ c, r.HasRow c ∧ c.obj.uuid ∈ l) := by
  simp only [RowPair.keep, Bool.and_eq_true, keyKeep_iff, Option.some.injEq, exists_eq_left', and_assoc]

/-- `d0 ≤ ‖(x, y)‖ < d1`, stated with the distance `ρ` itself -/
theorem inDistance_iff (d : Rat × Rat) (c : Cell) (ρ : Rat) (h0 : 0 ≤ ρ)
    (hρ : ρ * ρ = c.obj.x * c.obj.x + c.obj.y * c.obj.y) :
    inDistance d c = true ↔ d.1 ≤ ρ ∧ ρ < d.2 := by
  have lower : d.1 ≤ 0 ∨ d.1 * d.1 ≤ ρ * ρ ↔ d.1 ≤ ρ := by
    rcases le_or_gt d.1 0 with hd | hd
    · exact ⟨fun _ => hd.trans h0, fun _ => Or.inl hd⟩
    · rw [← mul_self_le_mul_self_iff hd.le h0]
      exact ⟨fun h => h.resolve_left (not_le.mpr hd), Or.inr⟩
  have upper : 0 < d.2 ∧ ρ * ρ < d.2 * d.2 ↔ ρ < d.2 :=
    ⟨fun h => (mul_self_lt_mul_self_iff h0 h.1.le).mpr h.2,
     fun h => ⟨h0.trans_lt h, (mul_self_lt_mul_self_iff h0 (h0.trans h.le)).mp h⟩⟩
  simp only [inDistance, Bool.and_eq_true, Bool.or_eq_true, decide_eq_true_eq, ← hρ, lower, upper]

theorem selected_iff (s : Sel) (d : Option (Rat × Rat)) (r : RowPair) :
    r.selected s d = true ↔
      r.keep s = true ∧ ∀ dd, d = some dd → ∃ c, r.HasRow c ∧ inDistance dd c = true := by
  cases d with
  | none => simp [RowPair.selected]
  | some dd => simp [RowPair.selected, anySide_iff]

/-- the selection predicate on the two cells of a pair -/
def Item.selected (s : Sel) (d : Option (Rat × Rat)) (it : Item) : Bool :=
  (⟨0, it.1, it.2⟩ : RowPair).selected s d

theorem selected_strip (s : Sel) (d : Option (Rat × Rat)) (r : RowPair) :
    r.selected s d = Item.selected s d r.strip := rfl

end PEval.Analyzer
