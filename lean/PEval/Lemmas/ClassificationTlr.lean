import PEval.Lemmas.ClassificationPair
/-!
The two stages of `_get_object_results_for_tlr`.  WHEN the matcher answers is read off its closed form
(`pairTlr_eq_stages`: totality, the null-uuid error); WHAT an answer consists of is `pairTlr_inv`, a successful run as two
`Stage`s (`pairTlr_ok` is only its first step, the two `match`es inverted).  At the end what the result lists `paired ps`
and `fpResults es` contain (used for both matchers).
-/
namespace PEval.Classification

theorem pairTlr_eq_stages (uf : Bool) (ests gts : List Obj) :
    pairTlr uf ests gts =
      if nulls ests gts then .error "RuntimeError"
      else .ok (paired (stage sameKey (stage (cond1 uf) (initSt ests gts))).res) := by
  have h1 : tlrStage1 uf ests gts =
      if nulls ests gts then .error "RuntimeError" else .ok (stage (cond1 uf) (initSt ests gts)) :=
    outer_stepG (cond1 uf) (initSt ests gts)
  have h2 : tlrStage2 _ = _ := outer_stepG sameKey (stage (cond1 uf) (initSt ests gts))
  obtain ⟨t, S⟩ : ∃ t, Stage _ _ _ (stage (cond1 uf) (initSt ests gts)) t := stage_foldl _ _ _
  unfold pairTlr
  by_cases hn : nulls ests gts = true
  · simp only [h1, if_pos hn]
  · have hn2 := fun h => hn (nulls_mono S.es.subset S.gs.subset h)
    simp only [h1, h2, if_neg hn, if_neg hn2]

theorem pairTlr_total {uf : Bool} {ests gts : List Obj} (hn : ∀ o ∈ ests ++ gts, o.uuid ≠ none) :
    ∃ rs, pairTlr uf ests gts = .ok rs :=
  ⟨_, (pairTlr_eq_stages uf ests gts).trans (if_neg (Bool.eq_false_iff.1 (nulls_false hn)))⟩

theorem pairTlr_null_uuid_error {uf : Bool} {ests gts : List Obj} (he : ests ≠ []) (hg : gts ≠ [])
    (hnull : ∃ o ∈ ests ++ gts, o.uuid = none) : pairTlr uf ests gts = .error "RuntimeError" :=
  (pairTlr_eq_stages uf ests gts).trans (if_pos ((nulls_iff he hg).2 hnull))

theorem pairTlr_ok {uf : Bool} {ests gts : List Obj} {rs : List Res} (h : pairTlr uf ests gts = .ok rs) :
    ∃ s1 s2, tlrStage1 uf ests gts = .ok s1 ∧ tlrStage2 s1 = .ok s2 ∧ rs = paired s2.res := by
  revert h
  fun_cases pairTlr uf ests gts with
  | case3 s1 h1 s2 h2 => rintro ⟨⟩; exact ⟨s1, s2, h1, h2, rfl⟩
  | _ => nofun

theorem tlrStage1_ok {uf : Bool} {ests gts : List Obj} {s1 : St} (h1 : tlrStage1 uf ests gts = .ok s1) :
    Stage (cond1 uf) (pairs ests gts) (initSt ests gts) s1 s1.res :=
  outer_ok_init (fun _ _ _ _ h => h) h1

/-- a successful run of the traffic-light matcher, taken apart: `s1`, `s2` the states after stage 1 and stage 2, `p2` the
pairs added by stage 2 -/
theorem pairTlr_inv {uf : Bool} {ests gts : List Obj} {rs : List Res} (h : pairTlr uf ests gts = .ok rs) :
    ∃ s1 s2 p2, tlrStage1 uf ests gts = .ok s1 ∧ tlrStage2 s1 = .ok s2 ∧ rs = paired (s1.res ++ p2) ∧
      Stage (cond1 uf) (pairs ests gts) (initSt ests gts) s1 s1.res ∧ Stage sameKey (pairs s1.es s1.gs) s1 s2 p2 := by
  obtain ⟨s1, s2, h1, h2, hrs⟩ := pairTlr_ok h
  obtain ⟨_, p2, S2⟩ := outer_ok (fun _ _ _ _ h => h) h2
  exact ⟨s1, s2, p2, h1, h2, S2.res ▸ hrs, tlrStage1_ok h1, S2⟩

theorem Stage.key2 {ps p2 : List (Obj × Obj)} {s1 s2 : St} (S : Stage sameKey ps s1 s2 p2) :
    ∀ p ∈ p2, p.1 ∈ s1.es ∧ p.2 ∈ s1.gs ∧ p.1.uuid = p.2.uuid ∧ p.1.frame = p.2.frame := fun p hp =>
  let ⟨_, hk, he, hg⟩ := S.new p hp
  ⟨he, hg, sameKey_def.1 hk⟩

theorem Stage.cam2 {uf : Bool} {ps1 ps2 p2 : List (Obj × Obj)} {s0 s1 s2 : St} (S1 : Stage (cond1 uf) ps1 s0 s1 s1.res)
    (S2 : Stage sameKey ps2 s1 s2 p2) : ∀ p ∈ s2.res, p.1.frame = p.2.frame := fun p hp =>
  (List.mem_append.1 (S2.res ▸ hp)).elim (fun hp => (cond1_iff.1 (S1.new p hp).2.1).2.2) fun hp => (S2.key2 p hp).2.2.2

theorem tlr_max1 {uf : Bool} {ests gts : List Obj} {s1 : St} (hnd : ests.Nodup)
    (h1 : tlrStage1 uf ests gts = .ok s1) : ∀ e ∈ s1.es, ∀ g ∈ s1.gs, cond1 uf e g = false := by
  have S := tlrStage1_ok h1
  intro e he g hg
  by_contra hc
  exact S.max hnd (e, g) (mem_pairs.2 ⟨S.es.subset he, S.gs.subset hg⟩) ⟨by simpa using hc, he, hg⟩

/-- label-first: a stage-2 pair disagrees in label, else stage 1 would have taken it -/
theorem tlr_stage2_label_ne {ests gts : List Obj} {s1 s2 : St} {ps p2 : List (Obj × Obj)} (hE : ests.Nodup)
    (h1 : tlrStage1 false ests gts = .ok s1) (S2 : Stage sameKey ps s1 s2 p2) : ∀ p ∈ p2, p.1.label ≠ p.2.label :=
  fun p hp hl =>
    let ⟨he, hg, _, hf⟩ := S2.key2 p hp
    Bool.false_ne_true ((tlr_max1 hE h1 p.1 he p.2 hg).symm.trans (cond1_iff.2 ⟨hl, nofun, hf⟩))

/-- label-first stage 1 pairs within (camera, label) classes and leaves no class with both an estimate and a ground
truth unused -/
theorem tlr_stage1_classes {ests gts : List Obj} {s1 : St} (hE : ests.Nodup)
    (h1 : tlrStage1 false ests gts = .ok s1) :
    WF ests gts s1 ∧ (∀ p ∈ s1.res, cls p.1 = cls p.2) ∧ ∀ e ∈ s1.es, ∀ g ∈ s1.gs, cls e ≠ cls g := by
  have S := tlrStage1_ok h1
  exact ⟨S.wf (wf_init ests gts), fun p hp => cond1_false_iff.1 (S.new p hp).2.1, fun e he g hg hc =>
    Bool.false_ne_true ((tlr_max1 hE h1 e he g hg).symm.trans (cond1_false_iff.2 hc))⟩

theorem mem_paired {ps : List (Obj × Obj)} {e g : Obj} :
    ({ est := e, gt := some g } : Res) ∈ paired ps ↔ (e, g) ∈ ps := by
  simp only [paired, List.mem_map]
  refine ⟨?_, fun h => ⟨(e, g), h, rfl⟩⟩
  rintro ⟨⟨_, _⟩, hp, ⟨⟩⟩
  exact hp

theorem paired_gt_some {ps : List (Obj × Obj)} {r : Res} (h : r ∈ paired ps) :
    ∃ p ∈ ps, r = { est := p.1, gt := some p.2 } := by
  simp only [paired, List.mem_map] at h
  obtain ⟨p, hp, rfl⟩ := h
  exact ⟨p, hp, rfl⟩

theorem paired_map_est (ps : List (Obj × Obj)) : (paired ps).map Res.est = ps.map Prod.fst := by
  simp [paired, Function.comp_def]

theorem paired_filterMap_gt (ps : List (Obj × Obj)) : (paired ps).filterMap Res.gt = ps.map Prod.snd := by
  rw [paired, List.filterMap_map]
  exact congrFun List.filterMap_eq_map ps

theorem fpResults_map_est (es : List Obj) : (fpResults es).map Res.est = es := by
  simp [fpResults, Function.comp_def]

theorem fpResults_filterMap_gt (es : List Obj) : (fpResults es).filterMap Res.gt = [] := by
  rw [fpResults, List.filterMap_map]
  exact List.filterMap_eq_nil_iff.2 fun _ _ => rfl

end PEval.Classification
