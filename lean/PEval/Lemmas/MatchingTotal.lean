import PEval.Lemmas.MatchingResults
/-!
Totality and error characterisation of the geometric matcher:
when does `getObjectResults` return, when does it raise, and which Python exception does each error exit mirror.

Error exits of the model (all inside `_get_score_table`, in this order for one cell, cells visited row-major):
* `"IndexError"`  = `matchable_thresholds[index]` in `get_label_threshold` (`common/threshold.py`): the ground truth's label
  is the `k`-th target label and the threshold list has at most `k` entries;
* `"AssertionError"` = `assert 0.0 <= threshold_value <= 1.0` in `IOU2dMatching / IOU3dMatching.is_better_than`.
Both are only reached for a pair in the SAME frame (the code tests `frame_id` first).
-/
namespace PEval.Matching

/-! ## `findSome?` over `List.range` = the first index -/

theorem findSome?_range_eq_none_iff {α} (f : Nat → Option α) (n : Nat) :
    (List.range n).findSome? f = none ↔ ∀ i, i < n → f i = none := by
  simp only [List.findSome?_eq_none_iff, List.mem_range]

theorem findSome?_range_eq_some_iff {α} (f : Nat → Option α) (n : Nat) (b : α) :
    (List.range n).findSome? f = some b ↔ ∃ i, i < n ∧ f i = some b ∧ ∀ k, k < i → f k = none := by
  induction n with
  | zero => simp
  | succ n ih =>
    rw [List.range_succ, List.findSome?_append, Option.or_eq_some_iff, ih, findSome?_range_eq_none_iff,
      List.findSome?_singleton]
    constructor
    · rintro (⟨i, hi, h⟩ | ⟨hnone, hn⟩)
      · exact ⟨i, Nat.lt_succ_of_lt hi, h⟩
      · exact ⟨n, Nat.lt_succ_self n, hn, hnone⟩
    · rintro ⟨i, hi, hf, hk⟩
      rcases Nat.lt_succ_iff_lt_or_eq.1 hi with hin | rfl
      · exact .inl ⟨i, hin, hf, hk⟩
      · exact .inr ⟨hk, hf⟩

/-- the exception of a computation, if it raised -/
def errorOf {ε α} : Except ε α → Option ε
  | .error e => some e
  | .ok _ => none

theorem errorOf_eq_some_iff {ε α} {x : Except ε α} {e : ε} : errorOf x = some e ↔ x = .error e := by
  cases x <;> simp [errorOf]

theorem errorOf_eq_none_iff {ε α} {x : Except ε α} : errorOf x = none ↔ ∃ a, x = .ok a := by
  cases x <;> simp [errorOf]

/-- a table `f i j` filled row by row stops at its first exception: the `for i … for j …` of `_get_score_table` -/
theorem firstError_eq_some_iff {ε α} (f : Nat → Nat → Except ε α) (n m : Nat) (err : ε) :
    ((List.range n).findSome? fun i => (List.range m).findSome? fun j => errorOf (f i j)) = some err ↔
      ∃ i j, i < n ∧ j < m ∧ f i j = .error err ∧
        ∀ i' j', i' < n → j' < m → (i' < i ∨ (i' = i ∧ j' < j)) → ∃ x, f i' j' = .ok x := by
  simp only [findSome?_range_eq_some_iff, findSome?_range_eq_none_iff, errorOf_eq_some_iff, errorOf_eq_none_iff]
  constructor
  · rintro ⟨i, hi, ⟨j, hj, hc, hjb⟩, hib⟩
    exact ⟨i, j, hi, hj, hc, fun i' j' _ hj' hlt => hlt.elim (fun h => hib i' h j' hj') fun ⟨e, h⟩ => e ▸ hjb j' h⟩
  · rintro ⟨i, j, hi, hj, hc, hb⟩
    exact ⟨i, hi, ⟨j, hj, hc, fun k hk => hb i k hi (by omega) (.inr ⟨rfl, hk⟩)⟩,
      fun k hk j' hj' => hb k j' (by omega) hj' (.inl hk)⟩

theorem firstError_eq_none_iff {ε α} (f : Nat → Nat → Except ε α) (n m : Nat) :
    ((List.range n).findSome? fun i => (List.range m).findSome? fun j => errorOf (f i j)) = none ↔
      ∀ i j, i < n → j < m → ∃ x, f i j = .ok x := by
  simp only [findSome?_range_eq_none_iff, errorOf_eq_none_iff]
  exact ⟨fun h i j hi hj => h i hi j hj, fun h i hi j hj => h i j hi hj⟩

/-! ## the error exits of one cell -/

/-- `get_label_threshold` in one case analysis: what each kind of answer says about the configuration -/
theorem labelThreshold_spec (ts : Option (List String)) (th : Option (List Rat)) (l : String) :
    match labelThreshold ts th l with
    | .ok none => True
    | .ok (some r) => ∃ T H, ts = some T ∧ th = some H ∧ r ∈ H
    | .error err =>
      err = "IndexError" ∧ ∃ T H k, ts = some T ∧ th = some H ∧ T.findIdx? (· == l) = some k ∧ H.length ≤ k := by
  fun_cases labelThreshold ts th l
  -- the two arms that found an index `k` for the label: `H[k]?` is some `r`, or `k` is past the end of `H`
  case case4 hk _ hH => exact ⟨_, _, rfl, rfl, List.mem_of_getElem? hH⟩
  case case5 hk hH => exact ⟨rfl, _, _, _, rfl, rfl, hk, List.getElem?_eq_none_iff.1 hH⟩
  all_goals trivial

theorem labelThreshold_error_iff {ts : Option (List String)} {th : Option (List Rat)} {l : String} {err : Err} :
    labelThreshold ts th l = .error err ↔
      err = "IndexError" ∧ ∃ T H k, ts = some T ∧ th = some H ∧ T.findIdx? (· == l) = some k ∧ H.length ≤ k := by
  refine ⟨fun h => ?_, ?_⟩
  · have := labelThreshold_spec ts th l
    rw [h] at this
    exact this
  · rintro ⟨rfl, T, H, k, rfl, rfl, hk, hle⟩
    unfold labelThreshold
    simp only [hk, List.getElem?_eq_none hle]

theorem isBetterThan_error_iff {m : Mode} {v r : Rat} {err : Err} :
    isBetterThan m v r = .error err ↔ err = "AssertionError" ∧ m.maximize = true ∧ ¬ (0 ≤ r ∧ r ≤ 1) := by
  unfold isBetterThan
  cases hm : m.maximize with
  | false => simp
  | true =>
    by_cases hr : 0 ≤ r ∧ r ≤ 1
    · simp [hr]
    · simp only [if_true, hr, if_false, Except.error.injEq, not_false_eq_true, and_true]
      exact ⟨fun h => h.symm, fun h => h.symm⟩

theorem cell_error_iff {c : Cfg} {e g : Obj} {v : Rat} {err : Err} :
    cell c e g v = .error err ↔
      e.frame = g.frame ∧
        (labelThreshold c.targets c.thresholds g.label = .error err ∨
          ∃ r, labelThreshold c.targets c.thresholds g.label = .ok (some r) ∧
            isBetterThan c.mode v r = .error err) := by
  cases hf : e.frame == g.frame with
  | false => simp [cell_of_frame_ne hf, ne_of_beq_false hf]
  | true =>
    cases hl : labelThreshold c.targets c.thresholds g.label with
    | error e' => simp [cell_of_lookup_error hf hl, eq_of_beq hf]
    | ok thr =>
      cases thr with
      | none => simp [cell_of_no_threshold hf hl]
      | some r =>
        rw [cell_of_threshold hf hl]
        cases hb : isBetterThan c.mode v r <;> simp [eq_of_beq hf, Except.map, hb]

theorem cellAt_ok_or_error (c : Cfg) (sc : Scene) (i j : Nat) :
    (∃ x, cellAt c sc i j = .ok x) ∨ ∃ err, cellAt c sc i j = .error err := by
  cases h : cellAt c sc i j with
  | ok x => exact Or.inl ⟨x, rfl⟩
  | error e => exact Or.inr ⟨e, rfl⟩

theorem cellAt_error_kind {c : Cfg} {sc : Scene} {i j : Nat} {err : Err} (h : cellAt c sc i j = .error err) :
    err = "IndexError" ∨ err = "AssertionError" := by
  unfold cellAt at h
  split at h
  · rcases (cell_error_iff.1 h).2 with hl | ⟨r, _, hb⟩
    · exact Or.inl (labelThreshold_error_iff.1 hl).1
    · exact Or.inr (isBetterThan_error_iff.1 hb).1
  · cases h

/-! ## the first exception of the table construction (`= some err`: `C01.raises_first_failing_cell`) -/

theorem tableError_eq (c : Cfg) (sc : Scene) :
    tableError c sc =
      (List.range sc.ests.length).findSome? fun i => (List.range sc.gts.length).findSome? fun j =>
        errorOf (cellAt c sc i j) := by
  unfold tableError
  congr; funext i; congr; funext j
  cases cellAt c sc i j <;> rfl

theorem tableError_eq_none_iff {c : Cfg} {sc : Scene} :
    tableError c sc = none ↔ ∀ i j, i < sc.ests.length → j < sc.gts.length → ∃ x, cellAt c sc i j = .ok x :=
  tableError_eq c sc ▸ firstError_eq_none_iff (cellAt c sc) _ _

/-! ## when `getObjectResults` returns, when it raises -/

theorem getObjectResults_error_iff {c : Cfg} {sc : Scene} {err : Err} :
    getObjectResults c sc = .error err ↔ sc.ests ≠ [] ∧ sc.gts ≠ [] ∧ tableError c sc = some err := by
  rw [getObjectResults_eq]
  cases ht : tableError c sc with
  | none => exact ⟨nofun, fun h => nomatch h.2.2⟩
  | some e =>
    have hne : ¬ (sc.ests = [] ∨ sc.gts = []) := fun h => nomatch (tableError_of_nil h).symm.trans ht
    exact ⟨fun h => by cases h; exact ⟨fun e => hne (.inl e), fun e => hne (.inr e), rfl⟩, fun h => by cases h.2.2; rfl⟩

theorem getObjectResults_ok_iff {c : Cfg} {sc : Scene} :
    (∃ rs, getObjectResults c sc = .ok rs) ↔ tableError c sc = none := by
  rw [getObjectResults_eq]
  cases tableError c sc with
  | none => exact ⟨fun _ => rfl, fun _ => ⟨_, rfl⟩⟩
  | some e => exact ⟨nofun, nofun⟩

/-! ## well-formed configurations never raise -/

/-- the configuration is well-formed for the matcher: when target labels and matchable thresholds are both given there
is a threshold for every target label, and in the IoU modes every threshold lies in `[0, 1]` -/
def WFCfg (c : Cfg) : Prop :=
  ∀ T H, c.targets = some T → c.thresholds = some H →
    T.length ≤ H.length ∧ (c.mode.maximize = true → ∀ r ∈ H, 0 ≤ r ∧ r ≤ 1)

theorem labelThreshold_ok_some {ts : Option (List String)} {th : Option (List Rat)} {l : String} {r : Rat}
    (h : labelThreshold ts th l = .ok (some r)) : ∃ T H, ts = some T ∧ th = some H ∧ r ∈ H := by
  have := labelThreshold_spec ts th l
  rw [h] at this
  exact this

theorem cell_ok_of_wf {c : Cfg} (hwf : WFCfg c) (e g : Obj) (v : Rat) : ∃ x, cell c e g v = .ok x := by
  cases hc : cell c e g v with
  | ok x => exact ⟨x, rfl⟩
  | error err =>
    exfalso
    obtain ⟨_, hcase⟩ := cell_error_iff.1 hc
    rcases hcase with hl | ⟨r, hl, hb⟩
    · obtain ⟨_, T, H, k, hT, hH, hk, hle⟩ := labelThreshold_error_iff.1 hl
      have := (hwf T H hT hH).1
      have hk' := (List.findIdx?_eq_some_iff_findIdx_eq.1 hk).1
      omega
    · obtain ⟨_, hm, hr⟩ := isBetterThan_error_iff.1 hb
      obtain ⟨T, H, hT, hH, hmem⟩ := labelThreshold_ok_some hl
      exact hr ((hwf T H hT hH).2 hm r hmem)

theorem getObjectResults_total {c : Cfg} (hwf : WFCfg c) (sc : Scene) : ∃ rs, getObjectResults c sc = .ok rs := by
  rw [getObjectResults_ok_iff, tableError_eq_none_iff]
  intro i j _ _
  unfold cellAt
  split
  · exact cell_ok_of_wf hwf _ _ _
  · exact ⟨_, rfl⟩

theorem wfCfg_of_no_thresholds {c : Cfg} (h : c.thresholds = none ∨ c.targets = none) : WFCfg c := by
  intro T H hT hH
  rcases h with h | h
  · rw [h] at hH; cases hH
  · rw [h] at hT; cases hT

end PEval.Matching
