import PEval.Lemmas.MatchingUnique
/-!
The tie-breaking of the greedy matcher, and the full functional characterisation of its result WITH ties.

`np.nanargmin / np.nanargmax` return the FIRST occurrence of the optimum in the flattened (row-major) array and the
array is the table that REMAINS after the `np.delete`s, so the rule of the code is

  "take the first best cell in row-major order of the remaining table: the remaining estimate that is listed first
   wins, among its cells the remaining ground truth that is listed first".

This file states that rule *without* mentioning `cands` or `argBest` (predicates `Avail` of Lemmas/Matching.lean, `RowMajorLe`, `SpecPick`,
relation `RowMajorRun`), proves that every step of the implementation is such a pick and conversely
(`argBest_cands_iff_specPick`), that the relation is FUNCTIONAL whatever ties the table has (`rowMajorRun_unique`) and
that the implementation is its unique run (`Picks.rowMajorRun`, `matchFrom_refines_rowMajor`).  No input is outside
these statements (no `NoTies` hypothesis).
-/
namespace PEval.Matching

/-! ## the candidate list is the row-major enumeration of the remaining table -/

/-- strict position order of the remaining table (rows `es`, columns `gs`): row first, then column -/
def RowMajorLt (es gs : List Nat) (x y : Nat × Nat × Rat) : Prop :=
  es.idxOf x.1 < es.idxOf y.1 ∨ (x.1 = y.1 ∧ gs.idxOf x.2.1 < gs.idxOf y.2.1)

theorem pairwise_idxOf {l : List Nat} (h : l.Nodup) : l.Pairwise (fun a b => l.idxOf a < l.idxOf b) :=
  List.pairwise_iff_getElem.2 fun i j hi hj hij => by rwa [h.idxOf_getElem, h.idxOf_getElem]

theorem eq_of_idxOf_eq {l : List Nat} {a b : Nat} (ha : a ∈ l) (hb : b ∈ l) (h : l.idxOf a = l.idxOf b) : a = b := by
  rw [← List.getElem_idxOf (List.idxOf_lt_length_of_mem ha), ← List.getElem_idxOf (List.idxOf_lt_length_of_mem hb)]
  simp only [h]

theorem cands_pairwise (t : Tbl) (s1 : Bool) {es gs : List Nat} (hE : es.Nodup) (hG : gs.Nodup) :
    (cands t s1 es gs).Pairwise (RowMajorLt es gs) := by
  rw [cands_eq, List.pairwise_flatMap]
  constructor
  · refine fun i _ => (pairwise_idxOf hG).filterMap _ fun j j' hjj x hx y hy => ?_
    rw [(candAt_eq_some_iff.1 hx).1, (candAt_eq_some_iff.1 hy).1]
    exact Or.inr ⟨rfl, hjj⟩
  · refine (pairwise_idxOf hE).imp fun {i i'} hii x hx y hy => ?_
    obtain ⟨j, _, hx⟩ := List.mem_filterMap.1 hx
    obtain ⟨j', _, hy⟩ := List.mem_filterMap.1 hy
    rw [(candAt_eq_some_iff.1 hx).1, (candAt_eq_some_iff.1 hy).1]
    exact Or.inl hii

/-! ## the rule of the code, stated on the table alone -/

/-- `(i, j)` is not after `(i', j')` in the row-major order of the remaining table -/
def RowMajorLe (es gs : List Nat) (i j i' j' : Nat) : Prop :=
  es.idxOf i < es.idxOf i' ∨ (i = i' ∧ gs.idxOf j ≤ gs.idxOf j')

/-- THE pick of one step: an available cell that no available cell beats, and that is first in row-major order among the
available cells scoring as well as it -/
def SpecPick (t : Tbl) (s1 : Bool) (es gs : List Nat) (i j : Nat) (s : Rat) : Prop :=
  Avail t s1 es gs i j s ∧
    ∀ i' j' s', Avail t s1 es gs i' j' s' →
      better t.maximize s' s = false ∧ (better t.maximize s s' = false → RowMajorLe es gs i j i' j')

theorem RowMajorLt.le {es gs : List Nat} {i j i' j' : Nat} {s s' : Rat} (h : RowMajorLt es gs (i, j, s) (i', j', s')) :
    RowMajorLe es gs i j i' j' :=
  h.imp id fun h => ⟨h.1, Nat.le_of_lt h.2⟩

theorem specPick_unique {t : Tbl} {s1 : Bool} {es gs : List Nat} {i j i' j' : Nat} {s s' : Rat}
    (h : SpecPick t s1 es gs i j s) (h' : SpecPick t s1 es gs i' j' s') : i = i' ∧ j = j' ∧ s = s' := by
  obtain ⟨ha, hall⟩ := h
  obtain ⟨ha', hall'⟩ := h'
  -- neither beats the other, so each is not after the other: same row, then same position in the row
  have l1 := (hall i' j' s' ha').2 (hall' i j s ha).1
  have l2 := (hall' i j s ha).2 (hall i' j' s' ha').1
  unfold RowMajorLe at l1 l2
  obtain rfl : i = i' := by omega
  obtain rfl : j = j' := eq_of_idxOf_eq ha.2.1 ha'.2.1 (by omega)
  exact ⟨rfl, rfl, Option.some.inj (ha.2.2.1.symm.trans ha'.2.2.1)⟩

theorem specPick_of_isFirstBest {t : Tbl} {s1 : Bool} {es gs : List Nat} (hE : es.Nodup) (hG : gs.Nodup)
    {i j : Nat} {s : Rat} (h : IsFirstBest t.maximize (cands t s1 es gs) (i, j, s)) :
    SpecPick t s1 es gs i j s := by
  refine ⟨mem_cands_iff_avail.1 h.mem, fun i' j' s' ha' => ⟨h.opt (i', j', s') (mem_cands_iff_avail.2 ha'), fun hn => ?_⟩⟩
  obtain ⟨l1, l2, hl, h1, -⟩ := h
  have hpw := cands_pairwise t s1 hE hG
  rw [hl, List.pairwise_append, List.pairwise_cons] at hpw
  rcases List.mem_append.1 (hl ▸ mem_cands_iff_avail.2 ha') with hx | hx
  · -- listed before the pick: strictly worse
    exact absurd ((h1 _ hx).symm.trans hn) Bool.noConfusion
  · -- the pick itself, or listed after it: later in row-major order
    rcases List.mem_cons.1 hx with hx | hx
    · cases hx; exact .inr ⟨rfl, Nat.le_refl _⟩
    · exact (hpw.2.1.1 _ hx).le

/-- **the tie-breaking rule of the code.** A step picks `(i, j)` with score `s` exactly when the cell is available, no
available cell is strictly better, and every available cell scoring as well comes later in the row-major order of the
remaining table. -/
theorem argBest_cands_iff_specPick {t : Tbl} {s1 : Bool} {es gs : List Nat} (hE : es.Nodup) (hG : gs.Nodup)
    {i j : Nat} {s : Rat} :
    argBest t.maximize (cands t s1 es gs) = some (i, j, s) ↔ SpecPick t s1 es gs i j s := by
  refine ⟨fun h => specPick_of_isFirstBest hE hG (argBest_isFirstBest _ _ _ h), fun h => ?_⟩
  cases hb : argBest t.maximize (cands t s1 es gs) with
  | none => exact absurd (argBest_none _ _ hb ▸ mem_cands_iff_avail.2 h.1) List.not_mem_nil
  | some c =>
    obtain ⟨i', j', s'⟩ := c
    obtain ⟨rfl, rfl, rfl⟩ := specPick_unique h (specPick_of_isFirstBest hE hG (argBest_isFirstBest _ _ _ hb))
    rfl

/-! ## the documented loop as a relation that does not mention the implementation's candidate list -/

/-- "repeatedly take the first best available cell in row-major order of the remaining table, until no cell is
available" -/
inductive RowMajorRun (t : Tbl) (s1 : Bool) : St → St → Prop where
  | done (st : St) : (∀ i j s, ¬ Avail t s1 st.es st.gs i j s) → RowMajorRun t s1 st st
  | pick (st st' : St) (i j : Nat) (s : Rat) :
      SpecPick t s1 st.es st.gs i j s →
      RowMajorRun t s1 { es := st.es.erase i, gs := st.gs.erase j, pairs := st.pairs ++ [(i, j)] } st' →
      RowMajorRun t s1 st st'

theorem Picks.rowMajorRun {t : Tbl} {s1 : Bool} {st st' : St} (h : Picks t s1 st st') (hE : st.es.Nodup)
    (hG : st.gs.Nodup) (hd : cands t s1 st'.es st'.gs = []) : RowMajorRun t s1 st st' := by
  induction h with
  | refl st => exact .done st (cands_eq_nil_iff.1 hd)
  | @step st st' i j s hb _ ih =>
    exact .pick st st' i j s ((argBest_cands_iff_specPick hE hG).1 hb) (ih (hE.erase i) (hG.erase j) hd)

/-- **the rule determines the result, ties or not**: the relation has at most one run from every state -/
theorem rowMajorRun_unique {t : Tbl} {s1 : Bool} {st a b : St}
    (ha : RowMajorRun t s1 st a) (hb : RowMajorRun t s1 st b) : a = b := by
  induction ha generalizing b with
  | done st hnone =>
    cases hb with
    | done _ _ => rfl
    | pick _ _ i j s hp _ => exact absurd hp.1 (hnone i j s)
  | pick st st' i j s hp _ ih =>
    cases hb with
    | done _ hnone => exact absurd hp.1 (hnone i j s)
    | pick _ _ i' j' s' hp' hrun' =>
      obtain ⟨rfl, rfl, rfl⟩ := specPick_unique hp hp'
      exact ih hrun'

theorem rowMajorRun_greedyRun {t : Tbl} {s1 : Bool} {st a : St} (h : RowMajorRun t s1 st a) :
    GreedyRun t s1 st a := by
  induction h with
  | done st hnone => exact .done st (cands_eq_nil_iff.2 hnone)
  | pick st st' i j s hp _ ih =>
    exact .pick st st' i j s (mem_cands_iff_avail.2 hp.1) (fun ⟨i', j', s'⟩ hx => (hp.2 i' j' s' (mem_cands_iff_avail.1 hx)).1) ih

/-- the documented assignment WITH its tie-breaking: the compatible-only loop followed by the label-blind loop -/
def TwoStageRowMajor (t : Tbl) (es gs : List Nat) (st : St) : Prop :=
  ∃ s1, RowMajorRun t true { es := es, gs := gs, pairs := [] } s1 ∧ RowMajorRun t false s1 st

theorem matchFrom_refines_rowMajor (t : Tbl) {es gs : List Nat} (hE : es.Nodup) (hG : gs.Nodup) :
    TwoStageRowMajor t es gs (matchFrom t es gs) := by
  have hsub := (stage_picks t true es.length { es := es, gs := gs, pairs := [] }).sublist
  exact ⟨stage1State t es gs,
    (stage_picks t true es.length _).rowMajorRun hE hG (stage_done t true _ _ (Nat.le_refl _)),
    (stage_picks t false _ _).rowMajorRun (hE.sublist hsub.1) (hG.sublist hsub.2) (stage_done t false _ _ (Nat.le_refl _))⟩

/-! ## row-major order of the remaining table = order of the caller's indices

On increasing index lists (`List.range n`, and what one loop leaves of an increasing list:
`C02.remaining_lists_increasing`) "listed first" means "smaller index in the caller's list". -/

theorem sorted_idxOf_lt_iff {l : List Nat} (h : l.Pairwise (· < ·)) {a b : Nat} (ha : a ∈ l) (hb : b ∈ l) :
    l.idxOf a < l.idxOf b ↔ a < b := by
  have key : ∀ {x y}, x ∈ l → y ∈ l → l.idxOf x < l.idxOf y → x < y := fun hx hy hlt => by
    have := List.pairwise_iff_getElem.1 h _ _ (List.idxOf_lt_length_of_mem hx) (List.idxOf_lt_length_of_mem hy) hlt
    rwa [List.getElem_idxOf, List.getElem_idxOf] at this
  refine ⟨key ha hb, fun hab => ?_⟩
  rcases Nat.lt_trichotomy (l.idxOf a) (l.idxOf b) with h1 | h1 | h1
  · exact h1
  · have := eq_of_idxOf_eq ha hb h1; omega
  · have := key hb ha h1; omega

theorem rowMajorLe_iff_lex {es gs : List Nat} (hE : es.Pairwise (· < ·)) (hG : gs.Pairwise (· < ·))
    {i j i' j' : Nat} (hi : i ∈ es) (hi' : i' ∈ es) (hj : j ∈ gs) (hj' : j' ∈ gs) :
    RowMajorLe es gs i j i' j' ↔ (i < i' ∨ (i = i' ∧ j ≤ j')) := by
  unfold RowMajorLe
  rw [sorted_idxOf_lt_iff hE hi hi', ← Nat.not_lt, sorted_idxOf_lt_iff hG hj' hj, Nat.not_lt]

end PEval.Matching
