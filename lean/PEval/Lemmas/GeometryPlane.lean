import PEval.Lemmas.Geometry
/-!
Geometry, planar part (C06; the frame-change lemmas of C07 build on it).  A rigid motion acts on differences of
points by its rotation, and `dist2` / `cross` are `norm2` / `cross0` of differences: so both are preserved.
`cross` is cyclic, and affine in each argument (`lerp`).  A box footprint is the image of the local corners under
the motion that places the box, and moving the box composes the motions; its four corner triples have orientation
`w · l` (`footprint_quad`).  The stable argsort returns the positions ordered by key, ties by position.  Unfolding
of the plane distance; what makes the two ground-truth corners it selects a side of the box: four keys with equal
diagonal sums (`first_two_adjacent`), which the corners of a footprint have (`footprint_british_flag`).
-/
namespace PEval.Geometry

/-! ## rotations and rigid motions -/

theorem norm2_rot {r : Rot2} (h : r.IsUnit) (p : V2) : (r.apply p).norm2 = p.norm2 := by
  unfold Rot2.IsUnit at h
  simp only [Rot2.apply, V2.norm2]
  linear_combination (p.x * p.x + p.y * p.y) * h

theorem cross0_rot {r : Rot2} (h : r.IsUnit) (p q : V2) : cross0 (r.apply p) (r.apply q) = cross0 p q := by
  unfold Rot2.IsUnit at h
  simp only [Rot2.apply, cross0]
  linear_combination (p.x * q.y - p.y * q.x) * h

theorem apply2_sub (m : Motion) (p q : V2) : (m.apply2 p).sub (m.apply2 q) = m.rot.apply (p.sub q) := by
  simp only [Motion.apply2, Rot2.apply, V2.add, V2.sub, V2.mk.injEq]
  constructor <;> ring

theorem dist2_motion {m : Motion} (h : m.rot.IsUnit) (p q : V2) :
    dist2 (m.apply2 p) (m.apply2 q) = dist2 p q := by
  show ((m.apply2 p).sub (m.apply2 q)).norm2 = _
  rw [apply2_sub, norm2_rot h]; rfl

theorem cross_motion {m : Motion} (h : m.rot.IsUnit) (a b p : V2) :
    cross (m.apply2 a) (m.apply2 b) (m.apply2 p) = cross a b p := by
  show cross0 ((m.apply2 b).sub (m.apply2 a)) ((m.apply2 p).sub (m.apply2 a)) = _
  rw [apply2_sub, apply2_sub, cross0_rot h]; rfl

theorem rotation_apply2 (r : Rot2) (p : V2) : (Motion.rotation r).apply2 p = r.apply p := by
  simp [Motion.rotation, Motion.apply2, V2.add]

theorem dist2_nonneg (p q : V2) : 0 ≤ dist2 p q :=
  add_nonneg (mul_self_nonneg _) (mul_self_nonneg _)

theorem dist2_self (p : V2) : dist2 p p = 0 := by unfold dist2; ring

theorem dist2_comm (p q : V2) : dist2 p q = dist2 q p := by unfold dist2; ring

theorem dist2_eq_zero {p q : V2} (h : dist2 p q = 0) : p = q := by
  obtain ⟨h1, h2⟩ := (add_eq_zero_iff_of_nonneg (mul_self_nonneg _) (mul_self_nonneg _)).1 h
  cases p; cases q
  rw [V2.mk.injEq]
  exact ⟨sub_eq_zero.1 (mul_self_eq_zero.1 h1), sub_eq_zero.1 (mul_self_eq_zero.1 h2)⟩

theorem apply2_inj {m : Motion} (h : m.rot.IsUnit) {p q : V2} (e : m.apply2 p = m.apply2 q) : p = q :=
  dist2_eq_zero (by rw [← dist2_motion h, e, dist2_self])

/-! ## algebra of `cross` -/

theorem cross_cyc (a b c : V2) : cross a b c = cross b c a := by unfold cross; ring
theorem cross_swap (a b p : V2) : cross b a p = -cross a b p := by unfold cross; ring
theorem cross_self_left (a c : V2) : cross a a c = 0 := by unfold cross; ring
theorem cross_self_right (a b : V2) : cross a b b = 0 := by unfold cross; ring
theorem cross_self_outer (a b : V2) : cross a b a = 0 := by unfold cross; ring

/-- adding the vertex `x` between `u` and `v` changes the fan from `o` by the triangle `u x v` -/
theorem cross_split (o u x v : V2) : cross o u x + cross o x v = cross o u v + cross u x v := by
  unfold cross; ring

def lerp (u v : V2) (t : Rat) : V2 := ⟨u.x + t * (v.x - u.x), u.y + t * (v.y - u.y)⟩

theorem cross_lerp1 (u v b c : V2) (t : Rat) :
    cross (lerp u v t) b c = (1 - t) * cross u b c + t * cross v b c := by
  unfold cross lerp; ring
theorem cross_lerp2 (a u v c : V2) (t : Rat) :
    cross a (lerp u v t) c = (1 - t) * cross a u c + t * cross a v c := by
  unfold cross lerp; ring
theorem cross_lerp3 (a b u v : V2) (t : Rat) :
    cross a b (lerp u v t) = (1 - t) * cross a b u + t * cross a b v := by
  unfold cross lerp; ring

theorem isect_eq_lerp (p q : V2) (dp dq : Rat) : isect p q dp dq = lerp p q (dp / (dp - dq)) := rfl

/-! ## footprints -/

/-- the rigid motion that places a box: its orientation, then its position -/
def Box.placement (b : Box) : Motion := ⟨b.rot, b.center⟩

theorem footprint_eq_map_local (b : Box) : footprint b = (localCorners b).map b.placement.apply2 := rfl

theorem placement_move (m : Motion) (b : Box) (p : V2) :
    (b.move m).placement.apply2 p = m.apply2 (b.placement.apply2 p) := by
  simp only [Box.placement, Box.move, Motion.apply2, Motion.apply3, Rot2.apply, Rot2.mul, V2.add, V2.mk.injEq]
  constructor <;> ring

theorem footprint_move (m : Motion) (b : Box) : footprint (b.move m) = (footprint b).map m.apply2 := by
  rw [footprint_eq_map_local, footprint_eq_map_local, List.map_map]
  exact List.map_congr_left (fun p _ => placement_move m b p)

theorem footprint_length (b : Box) : (footprint b).length = 4 := rfl

/-- the shape of a footprint: a quadrilateral each of whose four corner triples, in list order, has orientation
`w · l` (convex position, area, non-degenerate edges all come from this) -/
theorem footprint_quad {b : Box} (hr : b.rot.IsUnit) : ∃ c0 c1 c2 c3, footprint b = [c0, c1, c2, c3] ∧
    cross c0 c1 c2 = b.w * b.l ∧ cross c0 c1 c3 = b.w * b.l ∧ cross c0 c2 c3 = b.w * b.l ∧
    cross c1 c2 c3 = b.w * b.l := by
  refine ⟨_, _, _, _, rfl, ?_, ?_, ?_, ?_⟩ <;>
  · refine (cross_motion (m := b.placement) hr _ _ _).trans ?_
    simp only [cross]; ring

/-! ## the stable argsort -/

/-- `a` comes before `b` in a stable sort by `key`: smaller key, or the same key and the earlier position -/
def Before (key : Nat → Rat) (a b : Nat) : Prop := key a ≤ key b ∧ (key b ≤ key a → a < b)

theorem insertBy_perm (key : Nat → Rat) (i : Nat) (l : List Nat) : (insertBy key i l).Perm (i :: l) := by
  fun_induction insertBy key i l with
  | case1 | case2 => exact .refl _
  | case3 j js _ ih => exact (ih.cons j).trans (.swap i j js)

theorem insertBy_before (key : Nat → Rat) (i : Nat) (l : List Nat) (hl : l.Pairwise (Before key))
    (hi : ∀ j ∈ l, j < i) : (insertBy key i l).Pairwise (Before key) := by
  fun_induction insertBy key i l with
  | case1 => exact List.pairwise_singleton _ _
  | case2 j js hlt =>
    refine List.pairwise_cons.2 ⟨fun b hb => ?_, hl⟩
    have hjb : key j ≤ key b := by
      rcases List.mem_cons.1 hb with rfl | hb
      · exact le_refl _
      · exact ((List.pairwise_cons.1 hl).1 b hb).1
    exact ⟨by linarith, fun h => absurd h (by linarith)⟩
  | case3 j js hge ih =>
    rw [List.pairwise_cons] at hl
    refine List.pairwise_cons.2 ⟨fun b hb => ?_, ih hl.2 (fun k hk => hi k (List.mem_cons_of_mem _ hk))⟩
    rcases List.mem_cons.1 ((insertBy_perm key i js).mem_iff.1 hb) with rfl | hb
    · exact ⟨not_lt.1 hge, fun _ => hi j List.mem_cons_self⟩
    · exact hl.1 b hb

theorem foldl_insertBy (key : Nat → Rat) : ∀ n,
    ((List.range n).foldl (fun acc i => insertBy key i acc) []).Perm (List.range n) ∧
    ((List.range n).foldl (fun acc i => insertBy key i acc) []).Pairwise (Before key)
  | 0 => ⟨List.Perm.refl _, List.Pairwise.nil⟩
  | n + 1 => by
    obtain ⟨hp, hs⟩ := foldl_insertBy key n
    rw [List.range_succ, List.foldl_append, List.foldl_cons, List.foldl_nil]
    exact ⟨((insertBy_perm key n _).trans (hp.cons n)).trans (List.perm_append_singleton n _).symm,
      insertBy_before key n _ hs (fun j hj => List.mem_range.1 (hp.mem_iff.1 hj))⟩

/-- the model's `argsort` (the code calls `np.argsort(gt_distances)` with the default kind, which on four keys is a
stable insertion sort): a permutation of the positions, ordered by key, equal keys by position -/
theorem argsort_spec (keys : List Rat) : (argsort keys).Perm (List.range keys.length) ∧
    (argsort keys).Pairwise (Before (fun k => keys.getD k 0)) :=
  foldl_insertBy _ _

theorem argsort_first_two (keys : List Rat) (hn : 2 ≤ keys.length) :
    ∃ i j rest, argsort keys = i :: j :: rest ∧ i < keys.length ∧ j < keys.length ∧ i ≠ j ∧
      Before (fun k => keys.getD k 0) i j ∧
      ∀ k, k < keys.length → k ≠ i → k ≠ j → Before (fun k => keys.getD k 0) j k := by
  obtain ⟨hp, hs⟩ := argsort_spec keys
  have hnd : (argsort keys).Nodup := hp.nodup_iff.2 List.nodup_range
  have hmem : ∀ k, k ∈ argsort keys ↔ k < keys.length := fun k => by rw [hp.mem_iff, List.mem_range]
  match h : argsort keys, hp.length_eq with
  | [], hl => simp at hl; omega
  | [_], hl => simp at hl; omega
  | i :: j :: rest, _ =>
    rw [h] at hs hnd hmem
    rw [List.pairwise_cons, List.pairwise_cons] at hs
    rw [List.nodup_cons] at hnd
    refine ⟨i, j, rest, rfl, (hmem i).1 (by simp), (hmem j).1 (by simp), ?_, hs.1 j (by simp), ?_⟩
    · intro e; exact hnd.1 (by simp [e])
    · exact fun k hk hki hkj => hs.2.1 k
        ((List.mem_cons.1 ((List.mem_cons.1 ((hmem k).2 hk)).resolve_left hki)).resolve_left hkj)

/-! ## plane distance -/

/-- the code names the two selected corners left / right by the sign of a cross product and pairs left with
left, right with right: either way every corner is paired with the one of the same index -/
theorem leftRight_mean (e0 e1 g0 g1 : V2) :
    (dist2 ([e0, e1].getD (leftRightIndex g0 g1).1 V2.zero) ([g0, g1].getD (leftRightIndex g0 g1).1 V2.zero)
      + dist2 ([e0, e1].getD (leftRightIndex g0 g1).2 V2.zero) ([g0, g1].getD (leftRightIndex g0 g1).2 V2.zero)) / 2
      = (dist2 e0 g0 + dist2 e1 g1) / 2 := by
  unfold leftRightIndex
  split
  · rfl
  · exact congrArg (· / 2) (add_comm _ _)

theorem planeDist2Of_eq (est gt : List V2) :
    planeDist2Of est gt =
      (dist2 (est.getD (nearestTwo gt).1 V2.zero) (gt.getD (nearestTwo gt).1 V2.zero)
        + dist2 (est.getD (nearestTwo gt).2 V2.zero) (gt.getD (nearestTwo gt).2 V2.zero)) / 2 :=
  leftRight_mean _ _ _ _

theorem nearestTwo_spec (gt : List V2) (hn : 2 ≤ gt.length) :
    ∃ i j, nearestTwo gt = (i, j) ∧ i < gt.length ∧ j < gt.length ∧ i ≠ j ∧
      Before (fun k => (gt.getD k V2.zero).norm2) i j ∧
      ∀ k, k < gt.length → k ≠ i → k ≠ j → Before (fun k => (gt.getD k V2.zero).norm2) j k := by
  have key : (fun k => (gt.map V2.norm2).getD k 0) = fun k => (gt.getD k V2.zero).norm2 := by
    funext k
    simp only [List.getD_eq_getElem?_getD, List.getElem?_map]
    cases gt[k]? <;> simp [V2.norm2, V2.zero]
  obtain ⟨i, j, rest, h, hi, hj, hij, hb, hk⟩ := argsort_first_two (gt.map V2.norm2) (by simpa using hn)
  rw [List.length_map] at hi hj hk
  rw [key] at hb hk
  exact ⟨i, j, by unfold nearestTwo; rw [h]; rfl, hi, hj, hij, hb, hk⟩

/-! ## the two corners selected by the plane distance are a side of the box -/

/-- four keys with equal diagonal sums, `i` before `j` before the other two in the stable order: `i`, `j` are
not a diagonal.  On a diagonal the sum condition would make the key of a third corner at most that of `j`
(resp. the key of `j` at most that of `i`), and the positions contradict the tie rule. -/
theorem first_two_adjacent (key : Nat → Rat) (hb : key 0 + key 2 = key 1 + key 3) {i j : Nat}
    (hi : i < 4) (hj : j < 4) (hij : i ≠ j) (h1 : Before key i j)
    (h2 : ∀ k, k < 4 → k ≠ i → k ≠ j → Before key j k) :
    (i, j) ∈ [(0, 1), (1, 0), (1, 2), (2, 1), (2, 3), (3, 2), (3, 0), (0, 3)] := by
  have side : ∀ i j : Fin 4, i ≠ j → j.val ≠ i.val + 2 → i.val ≠ j.val + 2 →
      (i.val, j.val) ∈ [(0, 1), (1, 0), (1, 2), (2, 1), (2, 3), (3, 2), (3, 0), (0, 3)] := by decide
  suffices h : j ≠ i + 2 ∧ i ≠ j + 2 from side ⟨i, hi⟩ ⟨j, hj⟩ (fun e => hij (congrArg Fin.val e)) h.1 h.2
  constructor <;> rintro rfl
  · rcases (by omega : i = 0 ∨ i = 1) with rfl | rfl
    · have a := h2 1 (by decide) (by decide) (by decide)
      have b := h2 3 (by decide) (by decide) (by decide)
      exact absurd (a.2 (by linarith [h1.1, b.1])) (by decide)
    · have a := h2 2 (by decide) (by decide) (by decide)
      have b := h2 0 (by decide) (by decide) (by decide)
      exact absurd (a.2 (by linarith [h1.1, b.1])) (by decide)
  · rcases (by omega : j = 0 ∨ j = 1) with rfl | rfl
    · have a := h2 1 (by decide) (by decide) (by decide)
      have b := h2 3 (by decide) (by decide) (by decide)
      exact absurd (h1.2 (by linarith [a.1, b.1])) (by decide)
    · have a := h2 2 (by decide) (by decide) (by decide)
      have b := h2 0 (by decide) (by decide) (by decide)
      exact absurd (h1.2 (by linarith [a.1, b.1])) (by decide)

/-- British flag theorem for the footprint: opposite corners have equal sums of squared distances from
any point (here: the ego origin) -/
theorem footprint_british_flag (b : Box) :
    ((footprint b).getD 0 V2.zero).norm2 + ((footprint b).getD 2 V2.zero).norm2
      = ((footprint b).getD 1 V2.zero).norm2 + ((footprint b).getD 3 V2.zero).norm2 := by
  simp only [footprint, localCorners, List.map_cons, List.map_nil, List.getD_cons_zero, List.getD_cons_succ,
    V2.norm2, V2.add, Rot2.apply, Box.center2]
  ring

end PEval.Geometry
