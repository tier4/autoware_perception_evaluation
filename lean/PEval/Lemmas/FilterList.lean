import PEval.Lemmas.Filter
import Mathlib.Tactic.LinearCombination
/-!
# C10 — the filtering loop (`filterE`), totality on well-formed inputs, frame invariance

The loop returns exactly when the predicate returns on every element, and is then `List.filter` (`filterE_ok`,
read as `filterE_sublist` / `mem_filterE`; `filterE_of_forall_ok`); for a predicate that decides `C` whenever it returns it is `List.filter C`
(`filterE_eq_filter`), which is all the list-level theorems of the property use.
-/
namespace PEval.Filter

theorem filterE_ok {α} {f : α → Except Err Bool} {as ks : List α} (h : filterE f as = .ok ks) :
    (∀ a ∈ as, ∃ b, f a = .ok b) ∧ ks = as.filter (fun a => decide (f a = .ok true)) := by
  revert h
  fun_induction filterE f as generalizing ks
  case case1 => rintro ⟨⟩; simp
  case case4 a as b hf ks' hr ih =>
    rintro ⟨⟩
    obtain ⟨h1, rfl⟩ := ih hr
    exact ⟨List.forall_mem_cons.2 ⟨⟨b, hf⟩, h1⟩, by cases b <;> simp [hf]⟩
  all_goals nofun

theorem filterE_sublist {α} {f : α → Except Err Bool} {as ks : List α} (h : filterE f as = .ok ks) : ks.Sublist as :=
  (filterE_ok h).2 ▸ List.filter_sublist

theorem mem_filterE {α} {f : α → Except Err Bool} {as ks : List α} (h : filterE f as = .ok ks) {a : α} :
    a ∈ ks ↔ a ∈ as ∧ f a = .ok true := by
  rw [(filterE_ok h).2, List.mem_filter, decide_eq_true_iff]

open Classical in
theorem filterE_eq_filter {α} {f : α → Except Err Bool} {C : α → Prop}
    (hC : ∀ {a b}, f a = .ok b → (b = true ↔ C a)) {as ks : List α} (h : filterE f as = .ok ks) :
    ks = as.filter (fun a => decide (C a)) := by
  obtain ⟨hall, rfl⟩ := filterE_ok h
  refine List.filter_congr fun a ha => ?_
  obtain ⟨b, hb⟩ := hall a ha
  rw [hb, ← hC hb]
  cases b <;> simp

theorem filterE_of_forall_ok {α} {f : α → Except Err Bool} {l : List α} (h : ∀ a ∈ l, ∃ b, f a = .ok b) :
    filterE f l = .ok (l.filter fun a => decide (f a = .ok true)) := by
  induction l with
  | nil => rfl
  | cons a as ih =>
    obtain ⟨b, hb⟩ := h a List.mem_cons_self
    unfold filterE
    rw [hb, ih fun x hx => h x (List.mem_cons_of_mem _ hx)]
    cases b <;> simp [hb]

theorem filterE_total {α} {f : α → Except Err Bool} {l : List α} (h : ∀ a ∈ l, ∃ b, f a = .ok b) :
    ∃ ks, filterE f l = .ok ks :=
  ⟨_, filterE_of_forall_ok h⟩

theorem filterE_idem {α} {f : α → Except Err Bool} {as ks : List α} (h : filterE f as = .ok ks) :
    filterE f ks = .ok ks := by
  obtain ⟨hall, rfl⟩ := filterE_ok h
  rw [filterE_of_forall_ok fun a ha => hall a (List.mem_filter.1 ha).1, List.filter_filter]
  simp only [Bool.and_self]

theorem filterE_map {α β} {f : α → Except Err Bool} {g : β → Except Err Bool} {r : α → β} {l : List α}
    (h : ∀ a ∈ l, g (r a) = f a) : filterE g (l.map r) = (filterE f l).map (List.map r) := by
  induction l with
  | nil => rfl
  | cons a as ih =>
    simp only [List.map_cons]
    unfold filterE
    rw [h a (List.mem_cons_self), ih (fun x hx => h x (List.mem_cons_of_mem _ hx))]
    cases f a with
    | error e => rfl
    | ok b =>
      cases filterE f as with
      | error e => rfl
      | ok ks => cases b <;> rfl

theorem filterE_error_of_head {α} {f : α → Except Err Bool} {a : α} {as : List α} {e : Err}
    (h : f a = .error e) : filterE f (a :: as) = .error e := by
  unfold filterE; rw [h]

/-! ## no exception on well-formed inputs

Every per-label list has the length of the target list, so a label that is a target has an entry in each. A stage is
reached with `ok = true` by a non-relaxed object only if the label test passed: `Targeted ts ok` is carried from stage to
stage. -/

theorem getLabelThreshold_some {α} {P : Params} {o : Obj} {l : List α} {ts : List String}
    (hT : P.targets = some ts) (hlen : l.length = ts.length) (hmem : o.label ∈ ts) :
    ∃ v, getLabelThreshold P.targets o.label l = .ok (some v) := by
  rw [getLabelThreshold_eq, hT, Option.bind_some]
  cases hi : indexOf? o.label ts with
  | none => exact absurd hmem (indexOf?_eq_none.1 hi)
  | some i =>
    have hlt : i < l.length := hlen ▸ (List.getElem?_eq_some_iff.1 (indexOf?_eq_some.1 hi).1).1
    exact ⟨l[i], by simp only [List.getElem?_eq_getElem hlt]⟩

theorem getLabelThreshold_total {α} {P : Params} {o : Obj} {l : List α} {ts : List String}
    (hT : P.targets = some ts) (hlen : l.length = ts.length) :
    ∃ r, getLabelThreshold P.targets o.label l = .ok r := by
  by_cases hmem : o.label ∈ ts
  · obtain ⟨v, hv⟩ := getLabelThreshold_some hT hlen hmem
    exact ⟨_, hv⟩
  · rw [getLabelThreshold_eq, hT, Option.bind_some, indexOf?_eq_none.2 hmem]
    exact ⟨none, rfl⟩

/-- what the stages hand on: a non-relaxed object still in the race has a targeted label -/
def Targeted (P : Params) (o : Obj) (ts : List String) (ok : Bool) : Prop :=
  ok = true → useUnknown P o = false → o.label ∈ ts

theorem stage_total {P : Params} {o : Obj} {ok : Bool} {l? : Option (List Rat)}
    {unk : List Rat → Option Rat} {test : Rat → Bool} {ts : List String}
    (hT : P.targets = some ts) (hlen : ∀ l, l? = some l → l.length = ts.length) (hok : Targeted P o ts ok) :
    ∃ b, stage P (useUnknown P o) o ok l? unk test = .ok b ∧ Targeted P o ts b := by
  unfold stage
  cases ok with
  | false => cases l? <;> exact ⟨false, rfl, hok⟩
  | true =>
    cases l? with
    | none => exact ⟨true, rfl, hok⟩
    | some l =>
      simp only [bound]
      cases hu : useUnknown P o with
      | true => exact ⟨_, rfl, fun _ h => by rw [hu] at h; cases h⟩
      | false =>
        obtain ⟨v, hv⟩ := getLabelThreshold_some hT (hlen l rfl) (hok rfl hu)
        rw [hv]
        exact ⟨_, rfl, fun _ _ => hok rfl hu⟩

theorem stagePts_total {P : Params} {o : Obj} {ok : Bool} {ts : List String} (hT : P.targets = some ts)
    (hlen : ∀ l, P.minPts = some l → l.length = ts.length) (hO : WFObj P o) (hok : Targeted P o ts ok) :
    ∃ b, stagePts P (useUnknown P o) o ok = .ok b := by
  unfold stagePts
  cases ok with
  | false => cases P.minPts <;> exact ⟨_, rfl⟩
  | true =>
    cases hG : P.isGt with
    | false => cases P.minPts <;> exact ⟨_, rfl⟩
    | true =>
      cases hM : P.minPts with
      | none => exact ⟨_, rfl⟩
      | some l =>
        have hu := useUnknown_eq_false (o := o) hG
        obtain ⟨v, hv⟩ := getLabelThreshold_some hT (hlen l hM) (hok rfl hu)
        obtain ⟨h2d, hpc⟩ := hO.pts hG (by rw [hM]; simp)
        obtain ⟨c, hc⟩ := Option.ne_none_iff_exists'.1 hpc
        simp only [Bool.and_self, hu, Bool.false_eq_true, if_false, hv, h2d, hc]
        exact ⟨_, rfl⟩

theorem position_total {P : Params} {o : Obj} (hO : WFObj P o) : ∃ pos, position P o = .ok pos := by
  obtain ⟨q, hq⟩ := Option.ne_none_iff_exists'.1 hO.pos
  by_cases hf : o.frame = "base_link"
  · rw [position_base hf, hq]
    exact ⟨_, rfl⟩
  · rw [position_other hf, hq]
    cases hTr : P.hasTransforms with
    | false => exact ⟨_, rfl⟩
    | true =>
      obtain ⟨e, he⟩ := Option.ne_none_iff_exists'.1 (hO.ego hTr hf)
      rw [he]
      exact ⟨_, rfl⟩

theorem stageRange_total {P : Params} {o : Obj} {ok : Bool} {pos : Option Pos} (hP : WFParams P) (hO : WFObj P o)
    {ts : List String} (hT : P.targets = some ts) (hok : Targeted P o ts ok) :
    ∃ b, stageRange P (useUnknown P o) o pos ok = .ok b := by
  obtain ⟨ts', hT', _, hX, hY, hD, hd, _, hM⟩ := hP.targets
  cases hT.symm.trans hT'
  unfold stageRange
  cases pos with
  | none => exact ⟨_, rfl⟩
  | some p =>
    simp only
    obtain ⟨b1, h1, i1⟩ := stage_total (unk := mean) (test := fun t => decide (absR p.x < t)) hT hX hok
    obtain ⟨b2, h2, i2⟩ := stage_total (unk := mean) (test := fun t => decide (absR p.y < t)) hT hY i1
    obtain ⟨b3, h3, i3⟩ := stage_total (unk := mean) (test := fun t => distLt p.d2 t) hT hD i2
    obtain ⟨b4, h4, i4⟩ := stage_total (unk := mean) (test := fun t => distGt p.d2 t) hT hd i3
    simp only [h1, h2, h3, h4]
    exact stagePts_total hT hM hO i4

/-- **no exception is reachable inside the documented contract** -/
theorem isTarget_total {P : Params} {o : Obj} (hP : WFParams P) (hO : WFObj P o) :
    ∃ b, isTarget P o = .ok b := by
  obtain ⟨ts, hT, hne, _, _, _, _, hC, _⟩ := hP.targets
  unfold isTarget
  split
  · exact ⟨true, rfl⟩
  · have hlab : Targeted P o ts (stageAttr P (useUnknown P o) o (stageLabel P (useUnknown P o) o)) := fun h hu =>
      ((stageLabel_iff P o).1 ((stageAttr_iff P o _).1 h).1).resolve_left
        (fun hR => by rw [(useUnknown_iff P o).2 hR] at hu; cases hu) ts hT hne
    obtain ⟨b1, h1, i1⟩ := stage_total (unk := fun _ => some 0) (test := fun t => decide (t < o.score)) hT hC hlab
    obtain ⟨pos, hp⟩ := position_total (P := P) hO
    obtain ⟨b, hb⟩ := stageRange_total (pos := pos) hP hO hT i1
    simp only [h1, hp, hb]
    exact ⟨_, rfl⟩

theorem toEgo_toMap (e : Pose) (h : e.c * e.c + e.s * e.s = 1) (p : Pos) : toEgo e (toMap e p) = p := by
  cases p with
  | mk x y =>
    simp only [toEgo, toMap, Pos.mk.injEq]
    constructor
    · linear_combination (x) * h
    · linear_combination (y) * h

theorem position_renderMap {P : Params} {o : Obj} {e : Pose} (h : e.c * e.c + e.s * e.s = 1)
    (hf : o.frame = "base_link") (hp : o.pos ≠ none) :
    position { P with hasTransforms := true } (renderMap e o) = position P o := by
  obtain ⟨q, hq⟩ := Option.ne_none_iff_exists'.1 hp
  rw [position_base hf, position_other (by simp [renderMap])]
  simp [renderMap, hq, toEgo_toMap e h]

/-- a BASE_LINK object and its MAP rendering, filtered with the transform supplied, are judged alike: only `position`
reads the frame -/
theorem isTarget_renderMap (P : Params) (o : Obj) (e : Pose) (he : e.c * e.c + e.s * e.s = 1)
    (hf : o.frame = "base_link") (hp : o.pos ≠ none) :
    isTarget { P with hasTransforms := true } (renderMap e o) = isTarget P o := by
  unfold isTarget
  rw [position_renderMap (P := P) he hf hp]
  rfl

theorem filterObjects_renderMap (P : Params) (os : List Obj) (e : Pose) (he : e.c * e.c + e.s * e.s = 1)
    (h : ∀ o ∈ os, o.frame = "base_link" ∧ o.pos ≠ none) :
    filterObjects { P with hasTransforms := true } (os.map (renderMap e)) =
      (filterObjects P os).map (List.map (renderMap e)) :=
  filterE_map fun o ho => isTarget_renderMap P o e he (h o ho).1 (h o ho).2

end PEval.Filter
