import PEval.Lemmas.AnalyzerStatus
import Mathlib.Algebra.Order.Field.Basic
import Mathlib.Algebra.Order.Ring.Rat
import Mathlib.Tactic.Linarith
/-!
# C19 lemmas: the rates of `summarize_ratio` lie in [0,1] when TP rows are covered; the per-label counts behind N1
-/


namespace PEval.Analyzer

/-- every TP estimate row selected by `s` sits next to a ground-truth row selected by `s` -/
def TPCovered (s : Sel) (t : Table) : Prop :=
  ∀ r ∈ t, ∀ e, r.est = some e → e.matches s = true → e.status = .TP → ∃ g, r.gt = some g ∧ g.matches s = true

theorem numTP_le_numGT (s : Sel) (t : Table) (h : TPCovered s t) : getNumTP t s ≤ getNumGroundTruth t s := by
  unfold getNumTP getNumGroundTruth getEstimation getGroundTruth countStatus
  rw [List.countP_filter, countP_filterMap_any, ← List.countP_eq_length_filter, countP_filterMap_any]
  apply List.countP_mono_left
  intro r hr he
  cases hre : r.est with
  | none => simp [hre] at he
  | some e =>
    simp only [hre, Option.any_some, Bool.and_eq_true, beq_iff_eq] at he
    obtain ⟨g, hg, hgm⟩ := h r hr e hre he.2 he.1
    simp [hg, hgm]

def Ratio.inUnit (r : Ratio) : Prop :=
  0 ≤ r.tp ∧ r.tp ≤ 1 ∧ 0 ≤ r.fp ∧ r.fp ≤ 1 ∧ 0 ≤ r.tn ∧ r.tn ≤ 1 ∧ 0 ≤ r.fn ∧ r.fn ≤ 1

theorem nat_div_unit (a b : Nat) (h : a ≤ b) (hb : 0 < b) : 0 ≤ (a : Rat) / (b : Rat) ∧ (a : Rat) / (b : Rat) ≤ 1 := by
  have hb' : (0 : Rat) < (b : Rat) := by exact_mod_cast hb
  have ha : (0 : Rat) ≤ (a : Rat) := by exact_mod_cast Nat.zero_le a
  have hab : (a : Rat) ≤ (b : Rat) := by exact_mod_cast h
  exact ⟨div_nonneg ha hb'.le, (div_le_one hb').mpr hab⟩

theorem ratioOf_inUnit (s : Sel) (t : Table) (h : TPCovered s t) : (ratioOf t s).inUnit := by
  unfold ratioOf Ratio.inUnit
  dsimp only
  split
  · next hpos =>
    have h1 := nat_div_unit _ _ (numTP_le_numGT s t h) hpos
    have h3 := nat_div_unit (getNumTN t s) _ List.countP_le_length hpos
    have h4 := nat_div_unit (getNumFN t s) _ List.countP_le_length hpos
    split
    · have h2 := nat_div_unit (getNumFP t s) (getNumTP t s + getNumFP t s) (by omega) (by omega)
      exact ⟨h1.1, h1.2, h2.1, h2.2, h3.1, h3.2, h4⟩
    · exact ⟨h1.1, h1.2, le_refl _, zero_le_one, h3.1, h3.2, h4⟩
  · simp

theorem frameItems_tp_row (area : Rat → Rat → Option Nat) (k : Nat) (f : Frame) (it : Item) (e : Cell)
    (hit : it ∈ frameItems area k f) (he : it.2 = some e) (hst : e.status = .TP) :
    ∃ p ∈ f.tp, e = ⟨.TP, p.est, area p.est.x p.est.y, f.frameNum, k⟩ ∧
      it.1 = p.gt.map fun g => (⟨.TP, g, area p.est.x p.est.y, f.frameNum, k⟩ : Cell) := by
  simp only [frameItems, List.mem_append, List.mem_map] at hit
  rcases hit with ((⟨p, hp, rfl⟩ | ⟨p, hp, rfl⟩) | ⟨o, ho, rfl⟩) | ⟨o, ho, rfl⟩
  · exact ⟨p, hp, (Option.some.inj he).symm, rfl⟩
  · obtain rfl := Option.some.inj he
    cases hst
  · cases he
  · cases he

/-- a selection covers the TP rows of a table of frames whose TP results carry a ground truth that the selection keeps
whenever it keeps the estimate -/
theorem table_TPCovered (area : Rat → Rat → Option Nat) (scenes : List (List Frame)) (s : Sel)
    (h : ∀ f ∈ scenes.flatten, ∀ p ∈ f.tp, ∃ g, p.gt = some g ∧ ∀ a n k,
      (⟨.TP, p.est, a, n, k⟩ : Cell).matches s = true → (⟨.TP, g, a, n, k⟩ : Cell).matches s = true) (t : Table)
    (ht : ∀ r ∈ t, r ∈ (addAll area scenes).table) : TPCovered s t := by
  intro r hr e he hm hst
  obtain ⟨k, f, hf, hit⟩ := mem_table area scenes r (ht r hr)
  obtain ⟨p, hp, rfl, hgt⟩ := frameItems_tp_row area k f r.strip e hit he hst
  obtain ⟨g, hg, hkeep⟩ := h f hf p hp
  exact ⟨_, by simpa [RowPair.strip, hg] using hgt, hkeep _ _ _ hm⟩

theorem table_TPCovered_all (area : Rat → Rat → Option Nat) (scenes : List (List Frame))
    (h : ∀ f ∈ scenes.flatten, ∀ p ∈ f.tp, p.gt.isSome = true) (t : Table)
    (ht : ∀ r ∈ t, r ∈ (addAll area scenes).table) : TPCovered {} t :=
  table_TPCovered area scenes {} (fun f hf p hp => by
    obtain ⟨g, hg⟩ := Option.isSome_iff_exists.mp (h f hf p hp)
    exact ⟨g, hg, fun _ _ _ _ => Cell.matches_empty _⟩) t ht

theorem table_TPCovered_label (area : Rat → Rat → Option Nat) (scenes : List (List Frame))
    (h : ∀ f ∈ scenes.flatten, ∀ p ∈ f.tp, ∃ g, p.gt = some g ∧ g.label = p.est.label) (t : Table)
    (ht : ∀ r ∈ t, r ∈ (addAll area scenes).table) (L : String) : TPCovered { labels := some [L] } t :=
  table_TPCovered area scenes _ (fun f hf p hp => by
    obtain ⟨g, hg, hl⟩ := h f hf p hp
    exact ⟨g, hg, fun a n k hm => by simpa [Cell.matches_label, hl] using hm⟩) t ht

theorem getNumTP_label_table (area : Rat → Rat → Option Nat) (scenes : List (List Frame)) (L : String) :
    getNumTP (addAll area scenes).table { labels := some [L] } =
      sumN (scenes.flatten.map fun f => f.tp.countP fun p => decide (p.est.label = L)) := by
  rw [getNumTP, countStatus, getEstimation, List.countP_filter, ← sumScenesFrom_const _ 0]
  exact (countP_side_all area scenes (·.2) _).trans (by
    simp [countP_frameItems, resultCells, objectCells, Cell.matches_label, Status.beq_decide])

theorem getNumGT_label_table (area : Rat → Rat → Option Nat) (scenes : List (List Frame)) (L : String) :
    getNumGroundTruth (addAll area scenes).table { labels := some [L] } =
      sumN (scenes.flatten.map fun f => (f.tpGts ++ f.fpGts ++ f.tn ++ f.fn).countP fun g => decide (g.label = L)) := by
  rw [getNumGroundTruth, getGroundTruth, ← List.countP_eq_length_filter, ← sumScenesFrom_const _ 0]
  exact (countP_side_all area scenes (·.1) _).trans (by
    simp [countP_frameItems, resultCells, objectCells, Cell.matches_label, Option.any_map, Frame.tpGts, Frame.fpGts,
      countP_filterMap_any, Nat.add_assoc])

end PEval.Analyzer
