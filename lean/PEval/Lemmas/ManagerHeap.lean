import PEval.Model.ManagerHeap
import PEval.Lemmas.Manager
/-!
Helper lemmas for the heap model of the evaluation manager (`PEval/Model/ManagerHeap.lean`):
the closed form of `hadd`, the `add_frame_result` of /repo that copies the ground-truth frame before filtering it (it
only APPENDS one cell to the store, and its result is a function of the VALUES the two references hold), the frame condition over runs (`Ext`), and the
simulation of the state-free machine `PEval.Manager`.
-/

namespace PEval.ManagerHeap
open PEval.Manager PEval

variable {Est OR C T : Type}

theorem frame_append_last (l : List Frame) (e : List (List Est)) (f : Frame) :
    (Heap.mk (l ++ [f]) e).frame l.length = f := by
  simp [Heap.frame]

theorem setObjects_append_last (l : List Frame) (e : List (List Est)) (f : Frame) (objs : List Nat) :
    (Heap.mk (l ++ [f]) e).setObjects l.length objs = Heap.mk (l ++ [{ f with objects := objs }]) e := by
  simp [Heap.setObjects, Heap.frame]

theorem Ext.refl (h : Heap Est) : Ext h h := ⟨List.prefix_refl _, rfl⟩

theorem Ext.trans {a b c : Heap Est} (h1 : Ext a b) (h2 : Ext b c) : Ext a c :=
  ⟨h1.1.trans h2.1, h2.2.trans h1.2⟩

theorem Ext.lt {h h' : Heap Est} (hx : Ext h h') {r : Ref} (hr : r < h.frames.length) : r < h'.frames.length :=
  Nat.lt_of_lt_of_le hr hx.1.length_le

theorem Ext.getElem? {h h' : Heap Est} (hx : Ext h h') {r : Ref} (hr : r < h.frames.length) :
    h'.frames[r]? = h.frames[r]? := by
  obtain ⟨t, ht⟩ := hx.1
  rw [← ht, List.getElem?_append_left hr]

theorem Ext.frame {h h' : Heap Est} (hx : Ext h h') {r : Ref} (hr : r < h.frames.length) :
    h'.frame r = h.frame r := by
  unfold Heap.frame
  rw [List.getD_eq_getElem?_getD, List.getD_eq_getElem?_getD, hx.getElem? hr]

theorem Ext.est {h h' : Heap Est} (hx : Ext h h') (r : Ref) : h'.est r = h.est r := by
  unfold Heap.est; rw [hx.2]

theorem Ext.valid {h h' : Heap Est} (hx : Ext h h') {fr er : Ref}
    (hv : fr < h.frames.length ∧ er < h.ests.length) : fr < h'.frames.length ∧ er < h'.ests.length :=
  ⟨hx.lt hv.1, by rw [hx.2]; exact hv.2⟩

/-- the result record of `hadd`: a function of the VALUES `f`, `es` of the two references, of
the reference `cell` of the private copy and of the predecessor's object results -/
def addResult (sem : HSem Est OR C T) (c : C) (f : Frame) (es : List Est) (cell : Ref) (prev : Option (List OR)) :
    HResult OR T :=
  { frameName := f.name, frame := cell
    objectResults := pureORs sem c f es
    det := pureDet sem c f es
    track := sem.trackOf c (pureORs sem c f es) (pureGts sem c f) prev }

/-- the successor state of `hadd`: one new cell (the copy, holding the twice filtered ground
truths), one new stored result -/
def addState (sem : HSem Est OR C T) (s : HState Est OR T) (fr er : Ref) (c : C) : HState Est OR T :=
  { heap := { frames := s.heap.frames ++ [{ s.heap.frame fr with objects := pureGts sem c (s.heap.frame fr) }]
              ests := s.heap.ests }
    dataset := s.dataset
    frameResults := s.frameResults ++ [addResult sem c (s.heap.frame fr) (s.heap.est er) s.heap.frames.length
      (s.frameResults.getLast?.map (·.objectResults))] }

theorem hstep_add (sem : HSem Est OR C T) (s : HState Est OR T) (fr er : Ref) (c : C)
    (h : fr < s.heap.frames.length ∧ er < s.heap.ests.length) :
    hstep sem s (.add fr er c) = (addState sem s fr er c, .added (addResult sem c (s.heap.frame fr) (s.heap.est er)
      s.heap.frames.length (s.frameResults.getLast?.map (·.objectResults)))) := by
  obtain ⟨⟨fs, es⟩, ds, rs⟩ := s
  -- unfold the step for the variant that copies; the copy is the cell appended last, so both writes go into it and every
  -- later read of `g` sees it (`frame_append_last`, `setObjects_append_last`); what is left is the two records field by field
  simp only [hstep, hstepV, haddV, h, and_self, if_true, Heap.allocFrame, reduceCtorEq, if_false]
  simp only [frame_append_last, setObjects_append_last]
  simp [addState, addResult, pureORs, pureGts, pureDet, metaOf]

theorem hstep_add_invalid (v : Variant) (sem : HSem Est OR C T) (s : HState Est OR T) (fr er : Ref) (c : C)
    (h : ¬ (fr < s.heap.frames.length ∧ er < s.heap.ests.length)) :
    hstepV v sem s (.add fr er c) = (s, .rejected) := by
  simp only [hstepV, haddV, h, if_false]

theorem addState_ext (sem : HSem Est OR C T) (s : HState Est OR T) (fr er : Ref) (c : C) :
    Ext s.heap (addState sem s fr er c).heap :=
  ⟨List.prefix_append _ _, rfl⟩

theorem hrunV_eq (v : Variant) (sem : HSem Est OR C T) (s : HState Est OR T) (ops : List (HOp C)) :
    hrunV v sem s ops = runWith (hstepV v sem) s ops := by
  induction ops generalizing s with
  | nil => rfl
  | cons op ops ih => simp only [hrunV, runWith, ih]

/-- a step of `hstep` (the variant that copies the frame) only extends the store -/
theorem hstep_ext (sem : HSem Est OR C T) (s : HState Est OR T) (op : HOp C) :
    Ext s.heap (hstep sem s op).1.heap := by
  cases op with
  | add fr er c =>
    by_cases h : fr < s.heap.frames.length ∧ er < s.heap.ests.length
    · rw [hstep_add sem s fr er c h]; exact addState_ext sem s fr er c
    · rw [hstep, hstep_add_invalid _ sem s fr er c h]; exact Ext.refl _
  | scene => exact Ext.refl _
  | lookup t thr => exact Ext.refl _

theorem hrun_ext (sem : HSem Est OR C T) (s : HState Est OR T) (ops : List (HOp C)) :
    Ext s.heap (hrun sem s ops).1.heap := by
  rw [hrun, hrunV_eq]
  exact runWith_inv (fun s' => Ext s.heap s'.heap) (fun s' op _ h => h.trans (hstep_ext sem s' op)) (Ext.refl _)

/-- no variant assigns to `ground_truth_frames` -/
theorem hstepV_dataset (v : Variant) (sem : HSem Est OR C T) (s : HState Est OR T) (op : HOp C) :
    (hstepV v sem s op).1.dataset = s.dataset := by
  cases op with
  | add fr er c =>
    show (match haddV v sem s fr er c with
      | some (s', r) => (s', HOut.added r)
      | none => (s, HOut.rejected)).1.dataset = s.dataset
    unfold haddV
    by_cases h : fr < s.heap.frames.length ∧ er < s.heap.ests.length
    · rw [if_pos h]
    · rw [if_neg h]
  | scene => rfl
  | lookup t thr => rfl

theorem hrunV_dataset (v : Variant) (sem : HSem Est OR C T) (s : HState Est OR T) (ops : List (HOp C)) :
    (hrunV v sem s ops).1.dataset = s.dataset := by
  rw [hrunV_eq]
  exact runWith_inv (·.dataset = s.dataset) (fun s' op _ h => (hstepV_dataset v sem s' op).trans h) rfl

theorem hstepV_query (v : Variant) (sem : HSem Est OR C T) (s : HState Est OR T) (op : HOp C)
    (h : op.isQuery = true) : (hstepV v sem s op).1 = s := by
  cases op
  · cases h
  · rfl
  · rfl

theorem hrunV_queries (v : Variant) (sem : HSem Est OR C T) (s : HState Est OR T) (ops : List (HOp C))
    (h : ∀ op ∈ ops, op.isQuery = true) : (hrunV v sem s ops).1 = s := by
  rw [hrunV_eq]
  exact runWith_inv (· = s) (fun s' op ho hs => (hstepV_query v sem s' op (h op ho)).trans hs) rfl

theorem hlastOutV_append_one (v : Variant) (sem : HSem Est OR C T) (s : HState Est OR T) (pre : List (HOp C))
    (op : HOp C) : hlastOutV v sem s (pre ++ [op]) = some (hstepV v sem (hrunV v sem s pre).1 op).2 := by
  simp only [hlastOutV, hrunV_eq]; exact runWith_getLast? _ s pre op

theorem hlastOut_scene (sem : HSem Est OR C T) (s : HState Est OR T) (ops : List (HOp C)) :
    hlastOut sem s (ops ++ [.scene]) = some (.scene (hgetSceneResult sem (hrun sem s ops).1)) :=
  hlastOutV_append_one _ sem s ops .scene

theorem HOp.validIn_of_isQuery {op : HOp C} (h : Heap Est) (hq : op.isQuery = true) : op.validIn h := by
  cases op
  · cases hq
  · trivial
  · trivial

theorem absOp_queries (h : Heap Est) {qs : List (HOp C)} (hq : ∀ op ∈ qs, op.isQuery = true) :
    ∀ op ∈ qs.map (absOp h), op.isQuery = true := by
  intro op hop
  obtain ⟨o, ho, rfl⟩ := List.mem_map.mp hop
  have := hq o ho
  cases o <;> exact this

/-- an `add` issued after any run still names the VALUES its references held before the run: it leads to
`addState` of the reached state and answers with `addResult` of those values -/
theorem hstep_add_after_run (sem : HSem Est OR C T) (s : HState Est OR T) (pre : List (HOp C)) (fr er : Ref)
    (c : C) (h : fr < s.heap.frames.length ∧ er < s.heap.ests.length) :
    hstep sem (hrun sem s pre).1 (.add fr er c)
      = (addState sem (hrun sem s pre).1 fr er c,
         .added (addResult sem c (s.heap.frame fr) (s.heap.est er) (hrun sem s pre).1.heap.frames.length
          ((hrun sem s pre).1.frameResults.getLast?.map (·.objectResults)))) := by
  have hx := hrun_ext sem s pre
  rw [hstep_add sem _ fr er c (hx.valid h), hx.frame h.1, hx.est er]

theorem hlastOut_add (sem : HSem Est OR C T) (s : HState Est OR T) (pre : List (HOp C)) (fr er : Ref)
    (c : C) (h : fr < s.heap.frames.length ∧ er < s.heap.ests.length) :
    hlastOut sem s (pre ++ [.add fr er c])
      = some (.added (addResult sem c (s.heap.frame fr) (s.heap.est er) (hrun sem s pre).1.heap.frames.length
          ((hrun sem s pre).1.frameResults.getLast?.map (·.objectResults)))) := by
  rw [hlastOut, hlastOutV_append_one]
  exact congrArg (fun p => some p.2) (hstep_add_after_run sem s pre fr er c h)

theorem foldl_hsceneAdd (sem : HSem Est OR C T) (h : Heap Est) (rs : List (HResult OR T)) (sc : Scene)
    (hr : ∀ r ∈ rs, ResOK sem h r) : rs.foldl (hsceneAdd sem h) sc = (rs.map absRes).foldl sceneAdd sc := by
  induction rs generalizing sc with
  | nil => rfl
  | cons r rs ih =>
    simp only [List.foldl_cons, List.map_cons]
    have hs : hsceneAdd sem h sc r = sceneAdd sc (absRes r) := by
      simp only [hsceneAdd, sceneAdd, absRes, Det.bucket, Det.gt, (hr r List.mem_cons_self).2]
    rw [hs]
    exact ih _ (fun x hx => hr x (List.mem_cons_of_mem _ hx))

/-- in a good state the scene accumulators (ground truths dereferenced at query time) are those of the
state-free machine (ground-truth counts stored at add time) -/
theorem hscene_eq (sem : HSem Est OR C T) (s : HState Est OR T) (hg : Good sem s) :
    hgetSceneResult sem s = getSceneResult sem.nLabels (absState s) :=
  foldl_hsceneAdd sem s.heap s.frameResults _ hg

theorem hgetGT_eq (s : HState Est OR T) (t thr : Int) :
    hgetGT s t thr = if t > 10 ^ 17 then .error "DatasetLoadingError"
      else nearest (fun r => (t - (s.heap.frame r).time).natAbs) thr s.dataset := by
  unfold hgetGT nearest
  cases s.dataset <;> rfl

theorem hgetGT_mem {s : HState Est OR T} {t thr : Int} {r : Ref} (h : hgetGT s t thr = .ok (some r)) :
    r ∈ s.dataset := by
  rw [hgetGT_eq] at h
  split at h
  · cases h
  · exact nearest_mem h

theorem hgetGT_abs (s : HState Est OR T) (t thr : Int) :
    (hgetGT s t thr).map (Option.map s.heap.frame) = getGT (absState s) t thr := by
  rw [hgetGT_eq, getGT_eq]
  split
  · rfl
  · exact nearest_map s.heap.frame (fun f => (t - f.time).natAbs) thr s.dataset

theorem good_addState (sem : HSem Est OR C T) (hl : LabelsAgree sem) (s : HState Est OR T) (fr er : Ref) (c : C)
    (hg : Good sem s) : Good sem (addState sem s fr er c) := by
  have hx := addState_ext sem s fr er c
  refine List.forall_mem_append.2 ⟨fun r hr => ⟨hx.lt (hg r hr).1, by rw [hx.frame (hg r hr).1]; exact (hg r hr).2⟩,
    List.forall_mem_singleton.2 ⟨by simp [addState, addResult], ?_⟩⟩
  simp only [addState, addResult, frame_append_last, pureDet, hl c]

/-- every step keeps `Good`, whatever the operation and whatever its references: an `add` appends a cell and writes to no
other, a rejected `add` and the queries leave the state alone -/
theorem hstep_good (sem : HSem Est OR C T) (hl : LabelsAgree sem) (s : HState Est OR T) (op : HOp C)
    (hg : Good sem s) : Good sem (hstep sem s op).1 := by
  cases op with
  | add fr er c =>
    by_cases h : fr < s.heap.frames.length ∧ er < s.heap.ests.length
    · rw [hstep_add sem s fr er c h]; exact good_addState sem hl s fr er c hg
    · rw [hstep, hstep_add_invalid _ sem s fr er c h]; exact hg
  | scene => exact hg
  | lookup t thr => exact hg

theorem hrun_good (sem : HSem Est OR C T) (hl : LabelsAgree sem) (s : HState Est OR T) (ops : List (HOp C))
    (hg : Good sem s) : Good sem (hrun sem s ops).1 := by
  rw [hrun, hrunV_eq]
  exact runWith_inv (Good sem) (fun s' op _ h => hstep_good sem hl s' op h) hg

/-- one step of the heap machine on a good state is one step of the state-free machine on the
dereferenced state, for an operation whose references exist in the ORIGINAL store `h0` -/
theorem hstep_sim (sem : HSem Est OR C T) (h0 : Heap Est) (s : HState Est OR T)
    (op : HOp C) (hx : Ext h0 s.heap) (hg : Good sem s) (hv : DatasetValid h0 s.dataset)
    (hop : op.validIn h0) :
    absState (hstep sem s op).1 = (step (toSem sem) (absState s) (absOp h0 op)).1 ∧
    absOut h0 (hstep sem s op).2 = (step (toSem sem) (absState s) (absOp h0 op)).2 := by
  cases op with
  | add fr er c =>
    rw [hstep_add sem s fr er c (hx.valid hop)]
    simp only [absOp, step, ← hx.frame hop.1, ← hx.est er]
    refine ⟨?_, rfl⟩
    simp only [absState, addFrameResult, evalFrame, toSem]
    congr 1
    · -- the dataset cells are untouched by the new cell
      exact List.map_congr_left fun r hr => (addState_ext sem s fr er c).frame (hx.lt (hv r hr))
    · rw [addState, List.map_append]; rfl
  | scene => exact ⟨rfl, congrArg Out.scene (hscene_eq sem s hg)⟩
  | lookup t thr =>
    refine ⟨rfl, congrArg Out.frame ?_⟩
    rw [← hgetGT_abs]
    -- the reference found is one of the dataset's, and those hold in `s.heap` what they held in `h0`
    match hq : hgetGT s t thr with
    | .error _ | .ok none => rfl
    | .ok (some r) => exact congrArg (fun f => Except.ok (some f)) (hx.frame (hv r (hgetGT_mem hq))).symm

/-- the simulation over runs.  Kept along the run, relative to the ORIGINAL store `h0` in which the operations' references
are read: the heap state stands for the state-free one (`absState`), `h0` is still a prefix of the store with the same
estimate cells (`Ext`: so a reference means after any number of steps what it meant in `h0`), every stored result's cell
holds what it was scored with (`Good`: so the scene query, which dereferences at query time, counts what was counted at add
time), and the dataset references name cells of `h0` -/
theorem hrun_sim (sem : HSem Est OR C T) (hl : LabelsAgree sem) (h0 : Heap Est) (s : HState Est OR T)
    (ops : List (HOp C)) (hx : Ext h0 s.heap) (hg : Good sem s) (hv : DatasetValid h0 s.dataset)
    (hops : ∀ op ∈ ops, op.validIn h0) :
    absState (hrun sem s ops).1 = (run (toSem sem) (absState s) (ops.map (absOp h0))).1 ∧
    (hrun sem s ops).2.map (absOut h0) = (run (toSem sem) (absState s) (ops.map (absOp h0))).2 := by
  have := runWith_sim (step := hstep sem) (step' := step (toSem sem))
    (fun s t => absState s = t ∧ Ext h0 s.heap ∧ Good sem s ∧ DatasetValid h0 s.dataset) (absOp h0) (absOut h0) id
    (ops := ops) (s := s)
    (fun s _ op ho ⟨e, hx, hg, hv⟩ => by
      subst e
      obtain ⟨e1, e2⟩ := hstep_sim sem h0 s op hx hg hv (hops op ho)
      exact ⟨⟨e1, hx.trans (hstep_ext sem s op), hstep_good sem hl s op hg, by rw [hstep, hstepV_dataset]; exact hv⟩, e2⟩)
    ⟨rfl, hx, hg, hv⟩
  simp only [List.map_id, ← run_eq] at this
  rw [hrun, hrunV_eq]
  exact ⟨this.1.1, this.2⟩

end PEval.ManagerHeap
