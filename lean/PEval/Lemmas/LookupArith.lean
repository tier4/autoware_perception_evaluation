import PEval.Lemmas.Lookup
import Mathlib.Tactic.Linarith
import Mathlib.Tactic.Ring
import Mathlib.Algebra.Order.Field.Basic
import Mathlib.Algebra.Order.Field.Rat
import Mathlib.Algebra.Order.Ring.Abs
/-!
Arithmetic lemmas for C17: the weight `α = (t - t1)/(t2 - t1)`, linear interpolation at the end
points, and the shortest-arc wrap of headings in half-turns.
-/
namespace PEval.Lookup

theorem alpha_nonneg {t1 t2 t : Int} (h1 : t1 ≤ t) (h12 : t1 < t2) : 0 ≤ alpha t1 t2 t :=
  div_nonneg (Int.cast_nonneg (Int.sub_nonneg_of_le h1)) (Int.cast_nonneg (Int.sub_nonneg_of_le h12.le))

theorem alpha_le_one {t1 t2 t : Int} (h2 : t ≤ t2) (h12 : t1 < t2) : alpha t1 t2 t ≤ 1 := by
  have hpos : (0 : ℚ) < ((t2 - t1 : Int) : ℚ) := Int.cast_pos.2 (Int.sub_pos_of_lt h12)
  exact (div_le_one hpos).2 (Int.cast_le.2 (Int.sub_le_sub_right h2 t1))

theorem alpha_lt_one {t1 t2 t : Int} (h2 : t < t2) (h12 : t1 < t2) : alpha t1 t2 t < 1 := by
  have hpos : (0 : ℚ) < ((t2 - t1 : Int) : ℚ) := Int.cast_pos.2 (Int.sub_pos_of_lt h12)
  exact (div_lt_one hpos).2 (Int.cast_lt.2 (Int.sub_lt_sub_right h2 t1))

theorem alpha_mul {t1 t2 t : Int} (h12 : t1 ≠ t2) :
    alpha t1 t2 t * (((t2 : Int) : ℚ) - ((t1 : Int) : ℚ)) = ((t : Int) : ℚ) - ((t1 : Int) : ℚ) := by
  rw [alpha, Int.cast_sub, Int.cast_sub, div_mul_cancel₀ _ (sub_ne_zero.2 (Int.cast_injective.ne h12.symm))]

theorem alpha_self_left (t1 t2 : Int) : alpha t1 t2 t1 = 0 := by
  rw [alpha, sub_self, Int.cast_zero, zero_div]

theorem alpha_self_right {t1 t2 : Int} (h12 : t1 ≠ t2) : alpha t1 t2 t2 = 1 :=
  div_self (Int.cast_ne_zero.2 (sub_ne_zero.2 h12.symm))

theorem Vec3.ext' {a b : Vec3} (hx : a.x = b.x) (hy : a.y = b.y) (hz : a.z = b.z) : a = b := by
  cases a; cases b; simp_all

theorem Vec3.lerp_x (a b : Vec3) (α : ℚ) : (Vec3.lerp a b α).x = a.x + α * (b.x - a.x) := rfl
theorem Vec3.lerp_y (a b : Vec3) (α : ℚ) : (Vec3.lerp a b α).y = a.y + α * (b.y - a.y) := rfl
theorem Vec3.lerp_z (a b : Vec3) (α : ℚ) : (Vec3.lerp a b α).z = a.z + α * (b.z - a.z) := rfl

theorem Vec3.lerp_zero (a b : Vec3) : Vec3.lerp a b 0 = a := by
  apply Vec3.ext' <;> simp [Vec3.lerp_x, Vec3.lerp_y, Vec3.lerp_z]

theorem Vec3.lerp_one (a b : Vec3) : Vec3.lerp a b 1 = b := by
  apply Vec3.ext' <;> simp [Vec3.lerp_x, Vec3.lerp_y, Vec3.lerp_z]

theorem unit_mul_nonneg {α d : ℚ} (h0 : 0 ≤ α) (h1 : α ≤ 1) (hd : 0 ≤ d) : 0 ≤ α * d ∧ α * d ≤ d :=
  ⟨mul_nonneg h0 hd, mul_le_of_le_one_left hd h1⟩

theorem unit_mul_nonpos {α d : ℚ} (h0 : 0 ≤ α) (h1 : α ≤ 1) (hd : d ≤ 0) : d ≤ α * d ∧ α * d ≤ 0 :=
  ⟨le_mul_of_le_one_left hd h1, mul_nonpos_of_nonneg_of_nonpos h0 hd⟩

theorem abs_mul_le_of_unit {α d : ℚ} (h0 : 0 ≤ α) (h1 : α ≤ 1) : |α * d| ≤ |d| := by
  rw [abs_mul, abs_of_nonneg h0]
  exact mul_le_of_le_one_left (abs_nonneg d) h1

theorem lerp_between {p q α : ℚ} (h0 : 0 ≤ α) (h1 : α ≤ 1) :
    min p q ≤ p + α * (q - p) ∧ p + α * (q - p) ≤ max p q := by
  rcases le_total p q with h | h
  · obtain ⟨h2, h3⟩ := unit_mul_nonneg h0 h1 (sub_nonneg.2 h)
    rw [min_eq_left h, max_eq_right h]
    exact ⟨le_add_of_nonneg_right h2, le_sub_iff_add_le'.1 h3⟩
  · obtain ⟨h2, h3⟩ := unit_mul_nonpos h0 h1 (sub_nonpos.2 h)
    rw [min_eq_right h, max_eq_left h]
    exact ⟨sub_le_iff_le_add'.1 h2, add_le_of_nonpos_right h3⟩

theorem wrap_eq (x : ℚ) : wrap x = x - 2 * ((((x + 1) / 2).floor : Int) : ℚ) := rfl

theorem wrap_range (x : ℚ) : -1 ≤ wrap x ∧ wrap x < 1 := by
  have h1 := Rat.floor_le ((x + 1) / 2)
  have h2 := Rat.lt_floor_add_one ((x + 1) / 2)
  rw [wrap_eq]
  push_cast at h2
  constructor <;> linarith

theorem wrap_congr (x : ℚ) : ∃ k : Int, wrap x = x - 2 * (k : ℚ) := ⟨_, wrap_eq x⟩

theorem abs_wrap_le_one (x : ℚ) : |wrap x| ≤ 1 := by
  obtain ⟨h1, h2⟩ := wrap_range x
  exact abs_le.2 ⟨h1, le_of_lt h2⟩

/-- no representative of the same angle (mod a full turn = 2 half-turns) is shorter -/
theorem wrap_min (x : ℚ) (m : Int) : |wrap x| ≤ |x + 2 * (m : ℚ)| := by
  obtain ⟨k, hk⟩ := wrap_congr x
  have hx : x + 2 * (m : ℚ) = wrap x + 2 * ((k + m : Int) : ℚ) := by rw [hk, Int.cast_add]; ring
  rw [hx]
  rcases eq_or_ne (k + m) 0 with hj | hj
  · rw [hj, Int.cast_zero, mul_zero, add_zero]
  · -- a non-zero number of whole turns is at least 2, and `wrap x` can take back at most 1 of it
    have h1 : (1 : ℚ) ≤ |((k + m : Int) : ℚ)| := by exact_mod_cast Int.one_le_abs hj
    have h2 := abs_sub_abs_le_abs_sub (2 * ((k + m : Int) : ℚ)) (-wrap x)
    rw [abs_neg, sub_neg_eq_add, abs_mul, abs_two, add_comm _ (wrap x)] at h2
    have := abs_wrap_le_one x
    linarith

end PEval.Lookup
