import PEval.Model.ClearDT
import PEval.Lemmas.Clear
/-!
Lemmas about the decision tables of the CLEAR kernels (core Lean only):

* `agree_sound` / `table_eq_model`: the agreement check is sound — two trees that pass it evaluate alike on every
  consistent valuation (one induction along the arms of `agree`, `agree_sound_of`; `agreeLeaf` is `agree` against a leaf);
* the readings of the continuation-passing skeletons over a valuation (`eval_pairSk`, `eval_scanSk`, `eval_resStepSk`,
  `eval_frameStepSk`, `eval_scoreSkTree`, `eval_initSk`);
* the bridges to the model of `PEval/Model/Clear.lean`, for ALL inputs: `isIdSwitched_bridge`, `isSameMatch_bridge`,
  `frameStep_bridge` (any number of current and previous results; the scan by induction along the previous frame,
  `scan_bridge`, the outer loop as a fold over the positions of the current frame, `frameStepAtoms_eq_foldl`), `score_bridge`.
-/

namespace PEval.ClearDT
open PEval.Clear

/-- a decided atom has the value `v` gives it -/
theorem lookup_sat {β : Type} {l : List (Atom × β)} {f : Atom → β} (h : ∀ p ∈ l, f p.1 = p.2) {a : Atom} {x : β}
    (hg : (l.find? (fun p => p.1 == a)).map (·.2) = some x) : f a = x := by
  obtain ⟨p, hf, rfl⟩ := Option.map_eq_some_iff.1 hg
  have hpa := List.find?_some hf
  simp only [beq_iff_eq] at hpa
  rw [← hpa]
  exact h p (List.mem_of_find?_eq_some hf)

theorem sat_empty (v : Val) : v.sat PVal.empty :=
  ⟨fun _ h => (List.not_mem_nil h).elim, fun _ h => (List.not_mem_nil h).elim⟩

theorem ok_of_sat {v : Val} (hc : v.consistent) {π : PVal} (h : v.sat π) : π.ok = true := by
  unfold PVal.ok
  rw [Bool.and_eq_true, List.all_eq_true, List.all_eq_true]
  refine ⟨fun p hp => ?_, fun p hp => ?_⟩
  · split
    next r j s hp1 =>
      cases hp2 : p.2
      · rfl
      · -- `v` makes `isTp r …` true, hence `hasGt r`, so no decision `v` satisfies says `hasGt r = false`
        have h1 : v.b (.hasGt r) = true := hc.1 r j s (by rw [← hp1, h.1 p hp, hp2])
        rw [Bool.not_true, Bool.false_or, Bool.not_eq_true', List.any_eq_false]
        intro q hq hq'
        rw [Bool.and_eq_true, beq_iff_eq, ← h.1 q hq] at hq'
        rw [hq'.1, h1] at hq'
        exact Bool.false_ne_true hq'.2
    · rfl
  · rw [Bool.not_eq_true', ← Bool.not_eq_true, Bool.and_eq_true, beq_iff_eq, beq_iff_eq]
    exact fun hq => hc.2 (by rw [← hq.1, ← hq.2]; exact h.2 p hp)

/-- a branch whose partial valuation `v` satisfies is not pruned -/
theorem not_pruned {v : Val} (hc : v.consistent) {π : PVal} (hs : v.sat π) {x : Bool} (h : (!π.ok || x) = true) :
    x = true := by
  rwa [ok_of_sat hc hs] at h

/-- the walk of `agree` down its first tree, given what its leaf test establishes: a decided atom has the value `v` gives
it; an undecided one is decided the way `v` decides it, and `v` satisfies that extension -/
theorem agree_sound_of {α : Type} [DecidableEq α] (v : Val) (hc : v.consistent) (t1 t2 : DTree α) (π : PVal)
    (hleaf : ∀ r π, agreeLeaf r π t2 = true → v.sat π → t2.eval v = r) :
    agree π t1 t2 = true → v.sat π → t1.eval v = t2.eval v := by
  fun_induction agree π t1 t2 with
  | case1 π r t2 => exact fun h hs => (hleaf r π h hs).symm
  | case2 π a f t t2 hg ih | case3 π a f t t2 hg ih =>
    exact fun h hs => by rw [DTree.eval, lookup_sat hs.1 hg]; exact ih hleaf h hs
  | case4 π a f t t2 _ ihf iht =>
    intro h hs
    have hs' : v.sat (π.pushB a (v.b a)) := ⟨List.forall_mem_cons.2 ⟨rfl, hs.1⟩, hs.2⟩
    rw [Bool.and_eq_true] at h
    rw [DTree.eval]
    cases hx : v.b a <;> rw [hx] at hs'
    · exact ihf hleaf (not_pruned hc hs' h.1) hs'
    · exact iht hleaf (not_pruned hc hs' h.2) hs'
  | case5 π a l e g t2 hg ih | case6 π a l e g t2 hg ih | case7 π a l e g t2 hg ih =>
    exact fun h hs => by rw [DTree.eval, lookup_sat hs.2 hg]; exact ih hleaf h hs
  | case8 π a l e g t2 _ ihl ihe ihg =>
    intro h hs
    have hs' : v.sat (π.pushO a (v.o a)) := ⟨hs.1, List.forall_mem_cons.2 ⟨rfl, hs.2⟩⟩
    rw [Bool.and_eq_true, Bool.and_eq_true] at h
    rw [DTree.eval]
    cases hx : v.o a <;> rw [hx] at hs'
    · exact ihl hleaf (not_pruned hc hs' h.1.1) hs'
    · exact ihe hleaf (not_pruned hc hs' h.1.2) hs'
    · exact ihg hleaf (not_pruned hc hs' h.2) hs'

/-- `agreeLeaf` is `agree` against a leaf -/
theorem agree_leaf {α : Type} [DecidableEq α] (r : α) (π : PVal) (t : DTree α) : agree π t (.leaf r) = agreeLeaf r π t := by
  fun_induction agreeLeaf r π t <;> simp only [agree, agreeLeaf, eq_comm, *]

theorem agreeLeaf_sound {α : Type} [DecidableEq α] (r : α) (v : Val) (hc : v.consistent) (t : DTree α) (π : PVal) :
    agreeLeaf r π t = true → v.sat π → t.eval v = r :=
  agree_leaf r π t ▸ agree_sound_of v hc t (.leaf r) π fun r' _ h _ => (of_decide_eq_true (p := r' = r) h).symm

theorem agree_sound {α : Type} [DecidableEq α] (v : Val) (hc : v.consistent) (t2 t1 : DTree α) (π : PVal) :
    agree π t1 t2 = true → v.sat π → t1.eval v = t2.eval v :=
  agree_sound_of v hc t1 t2 π fun r π => agreeLeaf_sound r v hc t2 π

theorem table_eq_model {α : Type} [DecidableEq α] {gen : Option (DTree α)} {sk : DTree α}
    (h : tableOk gen sk = true) : ∀ t, gen = some t → ∀ v : Val, v.consistent → t.eval v = sk.eval v := by
  intro t ht v hc
  subst ht
  exact agree_sound v hc sk t PVal.empty h (sat_empty v)

theorem eval_askB {α : Type} (a : Atom) (k : Bool → DTree α) (v : Val) : (askB a k).eval v = (k (v.b a)).eval v := by
  unfold askB
  simp only [DTree.eval]
  cases v.b a <;> simp

theorem eval_askO {α : Type} (a : Atom) (k : Ordering → DTree α) (v : Val) : (askO a k).eval v = (k (v.o a)).eval v := by
  unfold askO
  simp only [DTree.eval]
  cases v.o a <;> simp

theorem eval_pairSk {α : Type} (f : Bool → Bool → Bool → Bool) (j i : Nat) (k : Bool → DTree α) (v : Val) :
    (pairSk f j i k).eval v = (k (pairAtoms f j i v)).eval v := by
  unfold pairSk pairAtoms
  rw [eval_askB]
  cases h1 : v.b (.hasGt (.cur j))
  · simp
  · simp only [Bool.not_true, Bool.false_eq_true, if_false]
    rw [eval_askB]
    cases h2 : v.b (.hasGt (.prev i))
    · simp
    · simp [eval_askB]

theorem eval_scanSk {α : Type} (v : Val) (j : Nat) (g : Bool) (n i : Nat) (k : ScanR → DTree α) :
    (scanSk j g i n k).eval v = (k (scanAtoms v j g i n)).eval v := by
  fun_induction scanAtoms v j g i n with
  | case1 => rfl
  | case2 i n h ih => rw [scanSk, eval_askB, if_pos h, ih]
  | case3 i n h hsw =>
    rw [isIdSwitchedAtoms] at hsw
    rw [scanSk, eval_askB, if_neg h, eval_pairSk, if_pos hsw]
  | case4 i n h hsw hsm =>
    rw [isIdSwitchedAtoms] at hsw; rw [isSameMatchAtoms] at hsm
    rw [scanSk, eval_askB, if_neg h, eval_pairSk, if_neg hsw, eval_pairSk, if_pos hsm]
  | case5 i n h hsw hsm ih =>
    rw [isIdSwitchedAtoms] at hsw; rw [isSameMatchAtoms] at hsm
    rw [scanSk, eval_askB, if_neg h, eval_pairSk, if_neg hsw, eval_pairSk, if_neg hsm, ih]

theorem eval_resStepSk {α : Type} (v : Val) (j np : Nat) (k : MOut → DTree α) :
    (resStepSk j np k).eval v = (k (resStepAtoms v j np)).eval v := by
  unfold resStepSk resStepAtoms
  simp only [eval_askB]
  cases h1 : v.b (.inTargets j (v.b (.hasGt (.cur j))))
  · simp
  · simp only [Bool.not_true, Bool.false_eq_true, if_false, eval_scanSk]
    cases h2 : scanAtoms v j (v.b (.hasGt (.cur j))) 0 np
    · simp [eval_askB]
    · simp [eval_askB]
    · simp [tailOut]

theorem eval_frameStepSk {α : Type} (v : Val) (np n j : Nat) (acc : MOut) (k : MOut → DTree α) :
    (frameStepSk np j n acc k).eval v = (k (frameStepAtoms v np j n acc)).eval v := by
  fun_induction frameStepAtoms v np j n acc with
  | case1 => rfl
  | case2 j n acc ih => rw [frameStepSk, eval_resStepSk, ih]

theorem eval_scoreSkTree (v : Val) : scoreSkTree.eval v = .ok (scoreAtoms v) := by
  unfold scoreSkTree scoreAtoms
  simp only [eval_askO]
  split <;> simp only [eval_askO, DTree.eval]

theorem eval_initSk {α : Type} (v : Val) (n i : Nat) (ps : List (Option Nat × Option Nat)) (c : Nat)
    (k : List (Option Nat × Option Nat) → Nat → DTree α) :
    (initSk i n ps c k).eval v = (k (initAtoms v i n ps c).1 (initAtoms v i n ps c).2).eval v := by
  fun_induction initAtoms v i n ps c with
  | case1 => rfl
  | case2 i n ps c h ih => rw [initSk, eval_askB, if_pos h, ih]
  | case3 i n ps c h ih => rw [initSk, eval_askB, if_neg h, ih]

/-- what the tail decision books, whatever the scan found: one TP weight or one FP; a switch only with a TP of the current
result; the score of the result whose weight is booked -/
theorem tailOut_accounting (j : Nat) (s : ScanR) (tp : Bool) :
    (tailOut j s tp).tp.length + (tailOut j s tp).fp = 1 ∧ ((tailOut j s tp).sw = 1 → (tailOut j s tp).tp = [.cur j]) ∧
      (tailOut j s tp).sw ≤ (tailOut j s tp).tp.length ∧ (tailOut j s tp).score = (tailOut j s tp).tp := by
  cases s <;> cases tp <;> simp [tailOut]

section
variable (cfg : Cfg) {prev cur : List Res}

theorem valOf_hasGt {r : Ref} {x : Res} (h : deref prev cur r = some x) :
    (valOf cfg prev cur).b (.hasGt r) = x.gt.isSome := by
  show (match deref prev cur r with | some x => x.gt.isSome | none => false) = _
  rw [h]

theorem valOf_isTp {r : Ref} {x : Res} {j : Nat} {s : Bool} {t : Rat} (h : deref prev cur r = some x)
    (ht : thrOf cfg cur j s = some t) : (valOf cfg prev cur).b (.isTp r j s) = isTp cfg t x := by
  show (match deref prev cur r, thrOf cfg cur j s with | some x, some t => isTp cfg t x | _, _ => false) = _
  rw [h, ht]

theorem valOf_consistent (cfg : Cfg) (prev cur : List Res) : (valOf cfg prev cur).consistent := by
  refine ⟨fun r j s h => ?_, show Ordering.eq ≠ .lt by decide⟩
  change (match deref prev cur r, thrOf cfg cur j s with | some x, some t => isTp cfg t x | _, _ => false) = true at h
  split at h
  · rename_i x t hd _
    rw [valOf_hasGt cfg hd]
    exact isTp_gt_isSome h
  · cases h

end

theorem pair_bridge (cfg : Cfg) (prev cur : List Res) (j i : Nat) (c p : Res)
    (hc : cur[j]? = some c) (hp : prev[i]? = some p) :
    isIdSwitched c p = isIdSwitchedAtoms j i (valOf cfg prev cur) ∧
    isSameMatch c p = isSameMatchAtoms j i (valOf cfg prev cur) := by
  unfold isIdSwitched isSameMatch isIdSwitchedAtoms isSameMatchAtoms pairAtoms
  simp only [valOf, deref, gtIdEq, hc, hp]
  cases c.gt <;> cases p.gt <;> exact ⟨rfl, rfl⟩

/-- `_is_id_switched` / `_is_same_match` of the model on any two results = the skeleton on their valuation -/
theorem isIdSwitched_bridge (cfg : Cfg) (c p : Res) :
    isIdSwitched c p = isIdSwitchedAtoms 0 0 (valOf cfg [p] [c]) :=
  (pair_bridge cfg [p] [c] 0 0 c p rfl rfl).1

theorem isSameMatch_bridge (cfg : Cfg) (c p : Res) :
    isSameMatch c p = isSameMatchAtoms 0 0 (valOf cfg [p] [c]) :=
  (pair_bridge cfg [p] [c] 0 0 c p rfl rfl).2

theorem thrOf_key (cfg : Cfg) (cur : List Res) (j : Nat) (c : Res) (hc : cur[j]? = some c) :
    thrOf cfg cur j c.gt.isSome = labelThreshold cfg (keyLabel c) := by
  unfold thrOf sideLabel keyLabel
  simp only [hc, Option.bind_some]
  cases c.gt <;> simp

theorem drop_cons_getElem? {α : Type} {l : List α} {i : Nat} {x : α} {xs : List α} (h : l.drop i = x :: xs) :
    l[i]? = some x ∧ l.drop (i + 1) = xs := by
  constructor
  · rw [← List.head?_drop, h]; rfl
  · rw [← List.tail_drop, h]; rfl

theorem scan_bridge (cfg : Cfg) (prev cur : List Res) (j : Nat) (c : Res) (t : Rat)
    (hc : cur[j]? = some c) (ht : labelThreshold cfg (keyLabel c) = some t) :
    ∀ (ps : List Res) (i : Nat), prev.drop i = ps →
      match scanAtoms (valOf cfg prev cur) j c.gt.isSome i ps.length with
      | .same i' => ∃ p, prev[i']? = some p ∧ scan cfg t c ps = .same p
      | .switched => scan cfg t c ps = .switched
      | .nothing => scan cfg t c ps = .nothing := by
  intro ps
  induction ps with
  | nil => intro i _; rfl
  | cons p ps ih =>
    intro i hd
    obtain ⟨hp, hd'⟩ := drop_cons_getElem? hd
    have hb := pair_bridge cfg prev cur j i c p hc hp
    have htp := valOf_isTp cfg (r := .prev i) hp ((thrOf_key cfg cur j c hc).trans ht)
    simp only [List.length_cons, scanAtoms, scan, htp, ← hb.1, ← hb.2]
    have ih' := ih (i + 1) hd'
    cases isTp cfg t p
    · exact ih'
    · cases isIdSwitched c p
      · cases isSameMatch c p
        · exact ih'
        · exact ⟨p, hp, rfl⟩
      · rfl

theorem sumOver_append (f : Res → Rat) (prev cur : List Res) (a b : List Ref) :
    sumOver f prev cur (a ++ b) = sumOver f prev cur a + sumOver f prev cur b := by
  induction a with
  | nil => simp [sumOver, Rat.zero_add]
  | cons r rs ih => simp only [List.cons_append, sumOver, ih, Rat.add_assoc]

theorem interp_add (prev cur : List Res) (a b : MOut) :
    interp prev cur (a.add b) = (interp prev cur a).add (interp prev cur b) := by
  simp [interp, MOut.add, Acc.add, sumOver_append]

theorem interp_single {prev cur : List Res} {r : Ref} {x : Res} (h : deref prev cur r = some x) (fp sw : Nat) :
    interp prev cur ⟨[r], fp, sw, [r]⟩ = ⟨x.w, fp, sw, x.value⟩ := by
  simp [interp, sumOver, h, Rat.add_zero]

theorem resStep_bridge (cfg : Cfg) (prev cur : List Res) (j : Nat) (c : Res) (hc : cur[j]? = some c) :
    resStep cfg prev c = interp prev cur (resStepAtoms (valOf cfg prev cur) j prev.length) := by
  have hd : deref prev cur (.cur j) = some c := hc
  have hin : (valOf cfg prev cur).b (.inTargets j c.gt.isSome) = (labelThreshold cfg (keyLabel c)).isSome :=
    congrArg Option.isSome (thrOf_key cfg cur j c hc)
  unfold resStep resStepAtoms
  simp only [valOf_hasGt cfg hd, hin]
  cases ht : labelThreshold cfg (keyLabel c) with
  | none => rfl
  | some t =>
    have hs := scan_bridge cfg prev cur j c t hc ht prev 0 rfl
    simp only [Option.isSome_some, Bool.not_true, Bool.false_eq_true, if_false,
      valOf_isTp cfg hd ((thrOf_key cfg cur j c hc).trans ht)]
    cases hsa : scanAtoms (valOf cfg prev cur) j c.gt.isSome 0 prev.length with
    | nothing | switched => rw [hsa] at hs; rw [hs]; cases isTp cfg t c <;> simp [tailOut, interp_single hd] <;> rfl
    | same i =>
      rw [hsa] at hs
      obtain ⟨p, hp, hsc⟩ := hs
      rw [hsc]
      exact (interp_single (r := .prev i) hp 0 0).symm

theorem frameStepAtoms_eq_foldl (v : Val) (np : Nat) : ∀ (n j : Nat) (acc : MOut),
    frameStepAtoms v np j n acc = (List.range' j n).foldl (fun a j => a.add (resStepAtoms v j np)) acc
  | 0, _, _ => rfl
  | n + 1, j, acc => by rw [frameStepAtoms, frameStepAtoms_eq_foldl v np n, List.range'_succ, List.foldl_cons]

/-- `_calculate_tp_fp` of the model on ANY two frames = the numbers the skeleton's symbolic outcome stands for, read at the
valuation of the input -/
theorem frameStep_bridge (cfg : Cfg) (prev cur : List Res) :
    frameStep cfg prev cur = interp prev cur (stepAtoms cur.length prev.length (valOf cfg prev cur)) := by
  rw [stepAtoms, frameStepAtoms_eq_foldl, ← List.foldl_hom (interp prev cur)
    (g₂ := fun a j => a.add (interp prev cur (resStepAtoms (valOf cfg prev cur) j prev.length)))
    fun a j => (interp_add prev cur a _).symm]
  exact foldl_eq_foldl_range' _ _ cur 0 _ fun i c hc a => by rw [Nat.zero_add, resStep_bridge cfg prev cur i c hc]

def cmpRat (a b : Rat) : Ordering := if a < b then .lt else if a = b then .eq else .gt

/-- the valuation of the three quantities `_calculate_score` compares with 0; the score table is the only one that asks
order atoms (`valOf`, for the pair and step tables, and `histVal`, for the `__init__` tables, answer `.eq` to all of them) -/
def scoreVal (g : Nat) (a : Acc) : Val where
  b := fun _ => false
  o := fun x =>
    if x = .ord "num_gt" "0" then cmpRat (g : Rat) 0
    else if x = .ord "tp" "0" then cmpRat a.tp 0
    else if x = .ord motaRatio "0" then cmpRat ((a.tp - (a.fp : Rat) - (a.sw : Rat)) / (g : Rat)) 0
    else .eq

/-- the number a formula name of the score table stands for (`none` = `inf`) -/
def scoreTerm (g : Nat) (a : Acc) (s : String) : Option Rat :=
  if s = "inf" then none
  else if s = "0" then some 0
  else if s = motaRatio then some ((a.tp - (a.fp : Rat) - (a.sw : Rat)) / (g : Rat))
  else if s = motpRatio then some (a.score / a.tp)
  else none

theorem cmpRat_eq_iff (x : Rat) : cmpRat x 0 = .eq ↔ x = 0 := by
  fun_cases cmpRat x 0 <;> simp [*, Rat.ne_of_lt]

theorem cmpRat_gt_iff (x : Rat) : cmpRat x 0 = .gt ↔ 0 < x := by
  fun_cases cmpRat x 0 with
  | case1 h => simp [Rat.not_lt.2 (Rat.le_of_lt h)]
  | case2 h h0 => simp [h0, Rat.lt_irrefl]
  | case3 h h0 => simp [Rat.lt_of_le_of_ne (Rat.not_lt.1 h) (Ne.symm h0)]

theorem scoreVal_numGt (g : Nat) (a : Acc) : (scoreVal g a).o (.ord "num_gt" "0") = cmpRat g 0 := by simp [scoreVal]
theorem scoreVal_tp (g : Nat) (a : Acc) : (scoreVal g a).o (.ord "tp" "0") = cmpRat a.tp 0 := by simp [scoreVal]
theorem scoreVal_ratio (g : Nat) (a : Acc) : (scoreVal g a).o (.ord motaRatio "0") =
    cmpRat ((a.tp - (a.fp : Rat) - (a.sw : Rat)) / (g : Rat)) 0 := by simp [scoreVal, motaRatio]

theorem scoreVal_consistent (g : Nat) (a : Acc) : (scoreVal g a).consistent := by
  refine ⟨fun r j s h => by simp [scoreVal] at h, ?_⟩
  rw [scoreVal_numGt, cmpRat, if_neg (Rat.not_lt.2 (Rat.natCast_nonneg))]
  split <;> simp
/-- `_calculate_score`: the formulas the skeleton selects, read on concrete totals, are the model's MOTA and MOTP -/
theorem score_bridge (g : Nat) (a : Acc) :
    scoreTerm g a (scoreAtoms (scoreVal g a)).1 = mota g a ∧ scoreTerm g a (scoreAtoms (scoreVal g a)).2 = motp a := by
  constructor
  · simp only [scoreAtoms, mota, scoreVal_numGt, scoreVal_ratio, cmpRat_eq_iff, cmpRat_gt_iff, Rat.natCast_eq_zero_iff]
    split
    · rfl
    · split
      · rename_i h; simp [scoreTerm, motaRatio, Rat.max_def, Rat.le_of_lt h]
      · rename_i h
        have hm : max 0 ((a.tp - (a.fp : Rat) - (a.sw : Rat)) / (g : Rat)) = 0 := by
          rw [Rat.max_def]
          split
          · exact Rat.le_antisymm (Rat.not_lt.1 h) ‹_›
          · rfl
        simp [scoreTerm, hm]
  · simp only [scoreAtoms, motp, scoreVal_tp, cmpRat_eq_iff]
    split
    · rfl
    · simp [scoreTerm, motpRatio, motaRatio]
end PEval.ClearDT
