import PEval.Model.MatchKernelsDT
import PEval.Lemmas.MatchingTable
/-!
# Bridges: the models of the matching / result-status kernels ARE their decision skeletons applied to the atoms of the input

For every input of the model functions (`PEval.Matching`, `PEval.AP`, `PEval.PassFail`) the skeleton of
`PEval/Model/MatchKernelsDT.lean`, evaluated under the valuation the input induces, gives the model's result (the ten
`*_bridge` lemmas).
Also the generic table check `tableOk` with its soundness (`tableOk_sound`, from `PEval.DT.agree_sound`).
-/
namespace PEval.MatchKernels
open PEval PEval.DT

/-- atoms whose decisions the checker records: those a skeleton may ask again further down a path (`gt.none`, `gt.fp`,
`matchable`) and those the clauses of `forbIoU` speak about (`mode.is(IOU2D)`, `mode.is(IOU3D)` = Boolean atoms 6, 7;
`cmp(0|thr)`, `cmp(1|thr)`, `cmp(0|thr[gt])`, `cmp(1|thr[gt])` = order atoms 4, 5, 10, 11), so that a leaf below them is
recognised as sitting under a forbidden conjunction also when code and skeleton asked the atom at the same moment.
(One numbering serves both kinds of atoms; recording more than needed is always sound.) -/
def sticky : List Nat := [0, 1, 2, 4, 5, 6, 7, 10, 11]

/-- the per-run check of one table: the complete agreement checker accepts (an untranslatable function has no table) -/
def tableOk (forb : List (List Lit)) (t : Option DTree) (m : DTree) : Bool :=
  match t with
  | some t => agree forb sticky t m PA.empty
  | none => true

theorem tableOk_sound {forb : List (List Lit)} {t? : Option DTree} {m : DTree} (h : tableOk forb t? m = true) :
    ∀ t, t? = some t → ∀ v : Val, consistent forb v = true → eval t v = eval m v := by
  intro t ht
  unfold tableOk at h
  rw [ht] at h
  exact agree_sound h

theorem consistent_nil (v : Val) : consistent [] v = true := by simp [consistent]

/-- the label atoms of any pair of labels avoid `forbidden`; a finite table over the five atoms the clauses read (the three
policy atoms are not read) -/
theorem polAtoms_consistent (a b c gf eu s ef gu : Bool) (h1 : s = true → eu = gu) (h2 : s = true → ef = gf)
    (h3 : (ef && eu) = false) (h4 : (gf && gu) = false) (h5 : (ef && gf) = true → s = true)
    (h6 : (eu && gu) = true → s = true) : consistent forbidden (polAtoms a b c gf eu s ef gu) = true := by
  revert a b c gf eu s ef gu
  decide +kernel

/-- the atoms "is the FP label", "is the unknown label", "same label" of two labels, for any type of labels with two
different distinguished members -/
theorem labelAtoms_consistent {α} [BEq α] [LawfulBEq α] {fp unk : α} (hne : fp ≠ unk) (a b c : Bool) (e g : α) :
    consistent forbidden (polAtoms a b c (g == fp) (e == unk) (e == g) (e == fp) (g == unk)) = true := by
  have excl : ∀ x : α, ((x == fp) && (x == unk)) = false := fun x => by
    cases h : x == fp
    · rfl
    · rw [eq_of_beq h]; exact beq_false_of_ne hne
  have same : ∀ l : α, ((e == l) && (g == l)) = true → (e == g) = true := fun l h => by
    rw [Bool.and_eq_true] at h
    rw [eq_of_beq h.1, eq_of_beq h.2]; exact beq_self_eq_true l
  exact polAtoms_consistent _ _ _ _ _ _ _ _ (fun h => by rw [eq_of_beq h]) (fun h => by rw [eq_of_beq h]) (excl e) (excl g)
    (same fp) (same unk)

theorem valMatchable_consistent (p : Matching.Policy) (e g : Matching.Obj) :
    consistent forbidden (valMatchable p e g) = true :=
  labelAtoms_consistent (fp := "false_positive") (unk := "unknown") (by decide) _ _ _ e.label g.label

theorem valMatchableAP_consistent (p : AP.Policy) (e g : AP.Label) :
    consistent forbidden (valMatchableAP p e g) = true :=
  labelAtoms_consistent (fp := AP.fpLabel) (unk := AP.unknownLabel) (by decide) _ _ _ e g

/-! ## order atoms

Every valuation below reads its order atoms through `valCmp cb k v t`: the comparison of the value at `cb + k`, of 0 and 1
with the threshold at `cb + 4`, `cb + 5`, and `eq` everywhere else. -/

theorem cmpR_lt (a b : Rat) : (cmpR a b == .lt) = decide (a < b) := by
  unfold cmpR
  by_cases h : a < b
  · simp [h]
  · by_cases h' : a = b <;> simp [h, h']

theorem cmpR_gt (a b : Rat) : (cmpR a b == .gt) = decide (b < a) := by
  unfold cmpR
  split
  · next h => simp [Rat.not_lt.2 (Rat.le_of_lt h)]
  · split
    · next h' => subst h'; simp
    · next h h' => simp [Rat.lt_of_le_of_ne (Rat.not_lt.1 h) (Ne.symm h')]

theorem cmpR_ne_gt {a b : Rat} (h : a ≤ b) : cmpR a b ≠ .gt := fun e => by
  have := cmpR_gt a b
  rw [e] at this
  exact absurd (of_decide_eq_true this.symm) (Rat.not_lt.2 h)

theorem cmpR_ne_lt {a b : Rat} (h : b ≤ a) : cmpR a b ≠ .lt := fun e => by
  have := cmpR_lt a b
  rw [e] at this
  exact absurd (of_decide_eq_true this.symm) (Rat.not_lt.2 h)

theorem modeIdx_lt (m : AP.Mode) : modeIdx m < 4 := by cases m <;> decide

theorem modeIdx_lt_two_iff (m : AP.Mode) : modeIdx m < 2 ↔ m.isDistance = true := by cases m <;> decide

theorem toAP_isDistance (m : Matching.Mode) : (toAP m).isDistance = !m.maximize := by cases m <;> rfl

theorem lt_four {j : Nat} (hj : j < 4) : j = 0 ∨ j = 1 ∨ j = 2 ∨ j = 3 := by omega

theorem valCmp_value (cb k : Nat) (v t : Rat) : valCmp cb k v t (cb + k) = cmpR v t := if_pos rfl

theorem valCmp_zero {cb k : Nat} (hk : k < 4) (v t : Rat) : valCmp cb k v t (cb + 4) = cmpR 0 t := by
  unfold valCmp; rw [if_neg (by omega), if_pos rfl]

theorem valCmp_one {cb k : Nat} (hk : k < 4) (v t : Rat) : valCmp cb k v t (cb + 5) = cmpR 1 t := by
  unfold valCmp; rw [if_neg (by omega), if_neg (by omega), if_pos rfl]

theorem valCmp_eq {cb k a : Nat} (hk : k < 4) (ha : a < cb ∨ cb + 5 < a) (v t : Rat) : valCmp cb k v t a = .eq := by
  unfold valCmp; rw [if_neg (by omega), if_neg (by omega), if_neg (by omega)]

/-! ## valuations of in-quantifier inputs avoid `forbIoU` (thresholds on the mode's scale) -/

theorem not_clause_holds {v : Val} {a a' : Nat} {o : Ordering} (h : v.b a = true → v.c a' ≠ o) :
    (![Lit.b a true, Lit.c a' o].all (Lit.holds v)) = true := by
  simp only [List.all_cons, List.all_nil, Lit.holds, Bool.and_true]
  cases hb : v.b a
  · rfl
  · simpa using h hb

theorem forbIoU_consistent (v : Val)
    (h : ∀ k, k = 2 ∨ k = 3 → v.b (aMode k) = true →
      v.c (cThr + 4) ≠ .gt ∧ v.c (cThr + 5) ≠ .lt ∧ v.c (cRadius + 4) ≠ .gt ∧ v.c (cRadius + 5) ≠ .lt) :
    consistent forbIoU v = true := by
  have h2 := h 2 (.inl rfl)
  have h3 := h 3 (.inr rfl)
  refine List.all_eq_true.2 fun cl hcl => ?_
  simp only [forbIoU, List.mem_cons, List.not_mem_nil, or_false] at hcl
  rcases hcl with rfl | rfl | rfl | rfl | rfl | rfl | rfl | rfl
  · exact not_clause_holds fun hm => (h2 hm).1
  · exact not_clause_holds fun hm => (h2 hm).2.1
  · exact not_clause_holds fun hm => (h3 hm).1
  · exact not_clause_holds fun hm => (h3 hm).2.1
  · exact not_clause_holds fun hm => (h2 hm).2.2.1
  · exact not_clause_holds fun hm => (h2 hm).2.2.2
  · exact not_clause_holds fun hm => (h3 hm).2.2.1
  · exact not_clause_holds fun hm => (h3 hm).2.2.2

/-- the one argument behind all `val*_consistent`: a valuation that names its mode by the mode atoms and reads its order
atoms through `valCmp` at the base `cThr` or `cRadius`, for a threshold on the mode's scale, avoids `forbIoU` -/
theorem forbIoU_consistent_of_valCmp (v : Val) (m : AP.Mode) {cb : Nat} (hcb : cb = cThr ∨ cb = cRadius) (x t : Rat)
    (hm : ∀ j, j < 4 → v.b (aMode j) = (j == modeIdx m)) (hc : ∀ a, v.c a = valCmp cb (modeIdx m) x t a)
    (ht : AP.thrValid m t = true) : consistent forbIoU v = true := by
  apply forbIoU_consistent
  intro k hk hmk
  have hidx : k = modeIdx m := by
    have := hm k (by omega)
    rw [hmk] at this
    exact of_decide_eq_true this.symm
  have hd : m.isDistance = false := by
    have : ¬ modeIdx m < 2 := by rcases hk with rfl | rfl <;> omega
    rwa [modeIdx_lt_two_iff, Bool.not_eq_true] at this
  simp only [AP.thrValid, hd, Bool.false_eq_true, if_false, Bool.and_eq_true, decide_eq_true_eq] at ht
  have hlt := modeIdx_lt m
  have h0 := cmpR_ne_gt ht.1
  have h1 := cmpR_ne_lt ht.2
  -- at the base the valuation does not read, `valCmp` answers `.eq`, and the clauses of `forbIoU` ask for `.gt` / `.lt` only
  rcases hcb with rfl | rfl
  · rw [hc, hc, hc, hc, valCmp_zero hlt, valCmp_one hlt, valCmp_eq hlt (.inr (by decide)), valCmp_eq hlt (.inr (by decide))]
    exact ⟨h0, h1, nofun, nofun⟩
  · rw [hc, hc, hc, hc, valCmp_zero hlt, valCmp_one hlt, valCmp_eq hlt (.inl (by decide)), valCmp_eq hlt (.inl (by decide))]
    exact ⟨nofun, nofun, h0, h1⟩

theorem thrOk_none (m : AP.Mode) : thrOk m none := fun _ h => by cases h
theorem thrOk_some {m : AP.Mode} {t : Rat} (h : AP.thrValid m t = true) : thrOk m (some t) :=
  fun t' h' => by cases h'; exact h
theorem thrOk_distance {m : AP.Mode} (hm : m.isDistance = true) (thr : Option Rat) : thrOk m thr :=
  fun t _ => by simp [AP.thrValid, hm]

/-- the threshold the valuations use when there is none (0) is on every scale -/
theorem thrValid_getD {m : AP.Mode} {thr : Option Rat} (h : thrOk m thr) : AP.thrValid m (thr.getD 0) = true := by
  cases thr with
  | none => cases m <;> decide
  | some t => exact h t rfl

/-! ## pieces of the skeletons -/

theorem eval_leaf (r : DT.Res) (v : Val) : eval (.leaf r) v = r := rfl

/-- 3 = `eAssert` = `EXC_CODE[Rejected]` of `harness/dt_match.py`: the translator records EVERY exception as this one code,
so of the kinds `errCode` numbers only this one can meet a table leaf; 99 (`errCode`, `statusCodeAP`, `statusCodePF`) marks
results no table contains -/
theorem errCode_assert : errCode "AssertionError" = 3 := by decide +kernel

def optBetter (m : AP.Mode) (x : Option Rat) (t : Rat) : Bool :=
  match x with
  | none => false
  | some y => AP.isBetter m y t

theorem isBetterThan_eq (m : AP.Mode) (x : Option Rat) (t : Rat) :
    AP.isBetterThan m x t = if AP.thrValid m t then .ok (optBetter m x t) else .error "AssertionError" := by
  unfold AP.isBetterThan optBetter
  cases x <;> rfl

theorem eval_tCompare (m : AP.Mode) (cb : Nat) (optV : Bool) (kk : Bool → DTree) (v : Val) (x : Option Rat) (t : Rat)
    (hn : optV = true → v.b (aVNone (modeIdx m)) = x.isNone) (hx : optV = false → x.isSome = true)
    (hc : v.c (cb + modeIdx m) = cmpR (x.getD 0) t) :
    eval (tCompare (modeIdx m) cb optV kk) v = eval (kk (optBetter m x t)) v := by
  have key : ∀ y, x = some y → eval (askC (cb + modeIdx m) fun o => kk (passOrd (modeIdx m) o)) v =
      eval (kk (optBetter m x t)) v := by
    rintro y rfl
    rw [eval_askC, hc]
    cases m <;> simp [passOrd, modeIdx, optBetter, AP.isBetter, AP.Mode.isDistance, cmpR_lt, cmpR_gt]
  unfold tCompare
  cases optV with
  | false =>
    cases x with
    | none => exact absurd (hx rfl) Bool.false_ne_true
    | some y => exact key y rfl
  | true =>
    rw [if_pos rfl, eval_askB, hn rfl]
    cases x with
    | none => rfl
    | some y => exact key y rfl

/-- continue on the returned Boolean, stop with the assertion's code otherwise -/
def bindB (x : Except Err Bool) (f : Bool → DT.Res) : DT.Res :=
  match x with
  | .ok b => f b
  | .error e => .raise (errCode e)

theorem ofBool_eq_bindB (x : Except Err Bool) : ofBool x = bindB x .ret := by cases x <;> rfl

/-! what an encoded result says about the model's result (for reading statements about a table back at the model) -/

theorem ofBool_eq_ret_iff {x : Except Err Bool} {b : Bool} : ofBool x = .ret b ↔ x = .ok b := by
  cases x with
  | error e => exact ⟨nofun, nofun⟩
  | ok c => exact ⟨fun h => congrArg _ (DT.Res.ret.inj h), fun h => congrArg _ (Except.ok.inj h)⟩

theorem eval_tBetter (m : AP.Mode) {k : Nat} (hk : k = modeIdx m) (cb : Nat) (optV : Bool) (kk : Bool → DTree) (v : Val)
    (x : Option Rat) (t : Rat) (hn : optV = true → v.b (aVNone k) = x.isNone) (hx : optV = false → x.isSome = true)
    (hc : ∀ a, v.c a = valCmp cb k (x.getD 0) t a) :
    eval (tBetter k cb optV kk) v = bindB (AP.isBetterThan m x t) fun b => eval (kk b) v := by
  subst hk
  have hcmp := eval_tCompare m cb optV kk v x t hn hx (by rw [hc, valCmp_value])
  have hlt := modeIdx_lt m
  rw [isBetterThan_eq]
  unfold tBetter AP.thrValid
  cases hd : m.isDistance with
  | true =>
    rw [if_pos ((modeIdx_lt_two_iff m).2 hd), if_pos rfl]
    exact hcmp
  | false =>
    rw [if_neg (by rw [modeIdx_lt_two_iff, hd]; exact Bool.false_ne_true), eval_askC, hc, valCmp_zero hlt, eval_ite, cmpR_gt, eval_askC, hc,
      valCmp_one hlt, eval_ite, cmpR_lt, hcmp]
    -- the two rejection leaves are the two ways of leaving [0, 1]
    by_cases c0 : t < 0 <;> by_cases c1 : 1 < t <;> simp [← Rat.not_lt, c0, c1, bindB, errCode_assert, eAssert, eval_leaf]

/-! ## `is_matchable` -/

/-- `is_matchable` as a formula of its atoms -/
theorem eval_matchableTree_polAtoms (a u d gf eu s ef gu : Bool) :
    eval matchableTree (polAtoms a u d gf eu s ef gu) =
      if a then .ret true else if u then .ret (gf || s || eu) else if d then .ret (gf || s) else .unreachable := by
  have h1 : (polAtoms a u d gf eu s ef gu).b aPolAny = a := rfl
  have h2 : (polAtoms a u d gf eu s ef gu).b aPolUnknown = u := rfl
  have h3 : (polAtoms a u d gf eu s ef gu).b aPolDefault = d := rfl
  have h4 : (polAtoms a u d gf eu s ef gu).b aGtFp = gf := rfl
  have h5 : (polAtoms a u d gf eu s ef gu).b aSameLabel = s := rfl
  have h6 : (polAtoms a u d gf eu s ef gu).b aEstUnknown = eu := rfl
  unfold matchableTree tPolicyBody
  simp only [eval_askB, eval_ite, eval_leaf, h1, h2, h3, h4, h5, h6]
  cases gf <;> cases s <;> rfl

theorem matchable_bridge (p : Matching.Policy) (e g : Matching.Obj) :
    eval matchableTree (valMatchable p e g) = .ret (Matching.isMatchable p e g) := by
  rw [valMatchable, eval_matchableTree_polAtoms, Matching.isMatchable]
  cases p <;> cases Matching.isFp g.label <;> rfl

theorem matchable_bridge_AP (p : AP.Policy) (e g : AP.Label) :
    eval matchableTree (valMatchableAP p e g) = .ret (AP.isMatchable p e g) := by
  rw [valMatchableAP, eval_matchableTree_polAtoms, AP.isMatchable]
  cases p <;> cases (g == AP.fpLabel) <;> rfl

/-! ## the mode chain -/

theorem eval_modeChain (f : Nat → DTree) (v : Val) (k : Nat) (hk : k < 4)
    (h : ∀ j, j < 4 → v.b (aMode j) = (j == k)) : eval (modeChain f) v = eval (f k) v := by
  unfold modeChain
  simp only [eval_askB, eval_ite, h 0 (by decide), h 1 (by decide), h 2 (by decide), h 3 (by decide)]
  rcases lt_four hk with rfl | rfl | rfl | rfl <;> rfl

/-! ## `is_better_than` -/

theorem valBetter_mode (m : AP.Mode) (x : Option Rat) (t : Rat) (j : Nat) (hj : j < 4) :
    (valBetter m x t).b (aMode j) = (j == modeIdx m) := by
  rcases lt_four hj with rfl | rfl | rfl | rfl <;> cases m <;> rfl

/-- the valuation of `is_better_than(t)` avoids `forbIoU` when `t` is on the mode's scale -/
theorem valBetter_consistent (m : AP.Mode) (x : Option Rat) (t : Rat) (hv : AP.thrValid m t = true) :
    consistent forbIoU (valBetter m x t) = true :=
  forbIoU_consistent_of_valCmp _ m (.inl rfl) _ t (valBetter_mode m x t) (fun _ => rfl) hv

theorem better_bridge (m : AP.Mode) (x : Option Rat) (t : Rat) :
    eval betterTree (valBetter m x t) = ofBool (AP.isBetterThan m x t) := by
  unfold betterTree
  rw [eval_modeChain _ _ (modeIdx m) (modeIdx_lt m) (valBetter_mode m x t),
    eval_tBetter m rfl cThr true _ (valBetter m x t) x t (fun _ => by cases m <;> rfl) nofun (fun _ => rfl),
    ofBool_eq_bindB]
  rfl

/-! ## `is_label_correct`, `is_result_correct`, `get_status` against the metrics model (`PEval.AP`) -/

theorem valAP_mode (m : AP.Mode) (thr : Option Rat) (r : AP.Res) (j : Nat) (hj : j < 4) :
    (valAP m thr r).b (aMode j) = (j == modeIdx m) := by
  rcases lt_four hj with rfl | rfl | rfl | rfl <;> cases m <;> rfl

/-- `is_result_correct(m, thr)` / `get_status(m, thr)`: no threshold, or one on the mode's scale -/
theorem valAP_consistent (m : AP.Mode) (thr : Option Rat) (r : AP.Res) (hv : thrOk m thr) :
    consistent forbIoU (valAP m thr r) = true :=
  forbIoU_consistent_of_valCmp _ m (.inl rfl) _ _ (valAP_mode m thr r) (fun _ => rfl) (thrValid_getD hv)

def scoreOpt : AP.Score → Option Rat
  | .val v => v
  | .noMethod => none

theorem valAP_gtFp {m : AP.Mode} {thr : Option Rat} {r : AP.Res} {g : AP.Gt} (hg : r.gt = some g) :
    (valAP m thr r).b aGtFp = (g.label == AP.fpLabel) := by
  show (match r.gt with | some g => g.label == AP.fpLabel | none => false) = _
  rw [hg]

theorem eval_tResultCorrectBody_AP (m : AP.Mode) (thr : Option Rat) (r : AP.Res) (g : AP.Gt) (hg : r.gt = some g)
    (kk : Bool → DTree) :
    eval (tResultCorrectBody (modeIdx m) kk) (valAP m thr r) =
      bindB (AP.isResultCorrect m thr r) fun b => eval (kk b) (valAP m thr r) := by
  -- what the valuation answers at the atoms the skeleton asks
  have h2 : (valAP m thr r).b aMatchable = AP.isLabelCorrect r := rfl
  have h3 : (valAP m thr r).b aThrNone = thr.isNone := rfl
  have h8 : (valAP m thr r).b (aMNone (modeIdx m)) = (r.score == .noMethod) := by cases m <;> rfl
  have h9 : (valAP m thr r).b (aVNone (modeIdx m)) = (r.score == .val none) := by cases m <;> rfl
  unfold tResultCorrectBody AP.isResultCorrect
  rw [hg, eval_askB, h3]
  cases thr with
  | none => simp only [Option.isNone_none, if_true, eval_askB, h2, bindB]
  | some t =>
    rw [Option.isNone_some, if_neg Bool.false_ne_true, eval_askB, h8]
    cases hs : r.score with
    | noMethod => simp only [beq_self_eq_true, if_true, eval_askB, h2, bindB]
    | val x =>
      rw [if_neg (by cases x <;> exact Bool.false_ne_true),
        eval_tBetter m rfl cThr true _ (valAP m (some t) r) x t (fun _ => by rw [h9, hs]; cases x <;> rfl) nofun
          (fun a => by show valCmp _ _ (scoreValue r.score) _ a = _; rw [hs]; cases x <;> rfl)]
      cases hb : AP.isBetterThan m x t with
      | error e => simp only [hb, bindB]
      | ok b =>
        simp only [hb, bindB, eval_askB, eval_ite, valAP_gtFp hg, h2]
        cases (g.label == AP.fpLabel) <;> cases b <;> rfl

theorem resultCorrect_bridge_AP (m : AP.Mode) (thr : Option Rat) (r : AP.Res) :
    eval resultCorrectTree (valAP m thr r) = ofBool (AP.isResultCorrect m thr r) := by
  have h0 : (valAP m thr r).b aGtNone = r.gt.isNone := rfl
  unfold resultCorrectTree
  rw [eval_modeChain _ _ (modeIdx m) (modeIdx_lt m) (valAP_mode m thr r)]
  unfold tResultCorrect
  rw [eval_askB, h0]
  cases hg : r.gt with
  | none => simp only [AP.isResultCorrect, hg, Option.isNone_none, if_true]; rfl
  | some g => rw [Option.isNone_some, if_neg Bool.false_ne_true, eval_tResultCorrectBody_AP m thr r g hg, ofBool_eq_bindB]; rfl

theorem labelCorrect_bridge_AP (m : AP.Mode) (thr : Option Rat) (r : AP.Res) :
    eval labelCorrectTree (valAP m thr r) = .ret (AP.isLabelCorrect r) := by
  have h0 : (valAP m thr r).b aGtNone = r.gt.isNone := rfl
  have h2 : (valAP m thr r).b aMatchable = AP.isLabelCorrect r := rfl
  unfold labelCorrectTree tLabelCorrect
  rw [eval_askB, h0]
  cases hg : r.gt with
  | none => simp only [AP.isLabelCorrect, hg, Option.isNone_none, if_true]; rfl
  | some g => rw [Option.isNone_some, if_neg Bool.false_ne_true, eval_askB, h2]; rfl

theorem status_bridge_AP (m : AP.Mode) (thr : Option Rat) (r : AP.Res) :
    eval statusTree (valAP m thr r) = ofStatusAP (AP.getStatus m thr r) := by
  have h0 : (valAP m thr r).b aGtNone = r.gt.isNone := rfl
  unfold statusTree
  rw [eval_modeChain _ _ (modeIdx m) (modeIdx_lt m) (valAP_mode m thr r)]
  unfold tStatus AP.getStatus
  rw [eval_askB, h0]
  cases hg : r.gt with
  | none => rfl
  | some g =>
    rw [Option.isNone_some, if_neg Bool.false_ne_true, eval_tResultCorrectBody_AP m thr r g hg]
    cases AP.isResultCorrect m thr r with
    | error e => rfl
    | ok b =>
      simp only [bindB, eval_askB, eval_leaf, valAP_gtFp hg]
      cases b <;> cases (g.label == AP.fpLabel) <;> rfl

/-! ## against the pass/fail model (`PEval.PassFail`: plane distance, method present) -/

theorem valPF_mode (r : PassFail.Res) (j : Nat) (hj : j < 4) : (valPF r).b (aMode j) = (j == 1) := by
  rcases lt_four hj with rfl | rfl | rfl | rfl <;> rfl

/-- the pass/fail model's results (plane distance): every threshold is on the scale -/
theorem valPF_consistent (r : PassFail.Res) : consistent forbIoU (valPF r) = true :=
  forbIoU_consistent_of_valCmp _ .planeDistance (.inl rfl) _ _ (valPF_mode r) (fun _ => rfl) rfl

theorem pf_isBetterThan (x : Option Rat) (t : Rat) :
    AP.isBetterThan .planeDistance x t = .ok (PassFail.isBetterThan x t) := by
  cases x <;> rfl

theorem valPF_gtFp {r : PassFail.Res} {g : PassFail.GT} (hg : r.gt = some g) : (valPF r).b aGtFp = g.isFP := by
  show (match r.gt with | some g => g.isFP | none => false) = _
  rw [hg]

theorem eval_tResultCorrectBody_PF (r : PassFail.Res) (g : PassFail.GT) (hg : r.gt = some g) (kk : Bool → DTree) :
    eval (tResultCorrectBody 1 kk) (valPF r) = eval (kk (PassFail.isResultCorrect r)) (valPF r) := by
  have h2 : (valPF r).b aMatchable = r.labelOk := rfl
  have h3 : (valPF r).b aThrNone = r.thr.isNone := rfl
  have h8 : (valPF r).b (aMNone 1) = false := rfl
  unfold tResultCorrectBody PassFail.isResultCorrect
  rw [hg, eval_askB, h3]
  cases ht : r.thr with
  | none => simp only [Option.isNone_none, if_true, eval_askB, h2]
  | some t =>
    rw [Option.isNone_some, if_neg Bool.false_ne_true, eval_askB, h8, if_neg Bool.false_ne_true,
      eval_tBetter .planeDistance (k := 1) rfl cThr true _ (valPF r) r.score t (fun _ => rfl) nofun
        (fun a => by show valCmp _ _ _ (r.thr.getD 0) a = _; rw [ht]; rfl),
      pf_isBetterThan]
    simp only [bindB, eval_askB, eval_ite, valPF_gtFp hg, h2]
    cases g.isFP <;> cases PassFail.isBetterThan r.score t <;> rfl

theorem resultCorrect_bridge_PF (r : PassFail.Res) :
    eval resultCorrectTree (valPF r) = .ret (PassFail.isResultCorrect r) := by
  have h0 : (valPF r).b aGtNone = r.gt.isNone := rfl
  unfold resultCorrectTree
  rw [eval_modeChain _ _ 1 (by decide) (valPF_mode r)]
  unfold tResultCorrect
  rw [eval_askB, h0]
  cases hg : r.gt with
  | none => simp only [PassFail.isResultCorrect, hg, Option.isNone_none, if_true]; rfl
  | some g => rw [Option.isNone_some, if_neg Bool.false_ne_true, eval_tResultCorrectBody_PF r g hg]; rfl

theorem status_bridge_PF (r : PassFail.Res) :
    eval statusTree (valPF r) = .other (statusCodePF (PassFail.getStatus r)) := by
  have h0 : (valPF r).b aGtNone = r.gt.isNone := rfl
  unfold statusTree
  rw [eval_modeChain _ _ 1 (by decide) (valPF_mode r)]
  unfold tStatus PassFail.getStatus
  rw [eval_askB, h0]
  cases hg : r.gt with
  | none => rfl
  | some g =>
    simp only [Option.isNone_some, Bool.false_eq_true, if_false, eval_tResultCorrectBody_PF r g hg, eval_askB, eval_leaf,
      valPF_gtFp hg]
    cases PassFail.isResultCorrect r <;> cases g.isFP <;> rfl

/-! ## against the matcher's model (`PEval.Matching`) -/

theorem matching_isBetterThan (m : Matching.Mode) (v t : Rat) :
    Matching.isBetterThan m v t = AP.isBetterThan (toAP m) (some v) t := by
  rw [isBetterThan_eq]
  cases m <;> simp [Matching.isBetterThan, Matching.Mode.maximize, Matching.better, toAP, AP.thrValid, AP.Mode.isDistance,
    optBetter, AP.isBetter]

theorem better_bridge_M (m : Matching.Mode) (v t : Rat) :
    eval betterTree (valBetter (toAP m) (some v) t) = ofBool (Matching.isBetterThan m v t) := by
  rw [matching_isBetterThan, better_bridge]

theorem valCell_mode (c : Matching.Cfg) (e g : Matching.Obj) (v : Rat) (rd : Option Rat) (j : Nat) (hj : j < 4) :
    (valCell c e g v rd).b (aMode j) = (j == modeIdx (toAP c.mode)) := by
  obtain ⟨p, m, ts, th, fp⟩ := c
  rcases lt_four hj with rfl | rfl | rfl | rfl <;> cases m <;> rfl

/-- one score-table cell: no radius for the ground truth's label, or one on the mode's scale -/
theorem valCell_consistent (c : Matching.Cfg) (e g : Matching.Obj) (v : Rat) (rd : Option Rat) (hv : thrOk (toAP c.mode) rd) :
    consistent forbIoU (valCell c e g v rd) = true :=
  forbIoU_consistent_of_valCmp _ (toAP c.mode) (.inr rfl) _ _ (valCell_mode c e g v rd) (fun _ => rfl) (thrValid_getD hv)

/-- another frame: the skeleton answers NaN before it asks for the radius, so `rd` need not be what the lookup gives -/
theorem cellTree_other_frame (c : Matching.Cfg) (e g : Matching.Obj) (v : Rat) (rd : Option Rat)
    (hf : (e.frame == g.frame) = false) : eval cellTree (valCell c e g v rd) = .other cellNan := by
  unfold cellTree
  rw [eval_modeChain _ _ (modeIdx (toAP c.mode)) (modeIdx_lt _) (valCell_mode c e g v rd)]
  unfold tCell
  rw [eval_askB, show (valCell c e g v rd).b aSameFrame = (e.frame == g.frame) from rfl, hf]
  rfl

theorem cell_bridge (c : Matching.Cfg) (e g : Matching.Obj) (v : Rat) (rd : Option Rat)
    (hr : Matching.labelThreshold c.targets c.thresholds g.label = .ok rd) :
    eval cellTree (valCell c e g v rd) = ofCell (Matching.cell c e g v) := by
  have h1 : (valCell c e g v rd).b aSameFrame = (e.frame == g.frame) := rfl
  have h2 : (valCell c e g v rd).b aRadiusNone = rd.isNone := rfl
  have h3 : (valCell c e g v rd).b aMatchable = Matching.isMatchable c.policy e g := rfl
  cases hf : (e.frame == g.frame) with
  | false => rw [cellTree_other_frame c e g v rd hf, Matching.cell_of_frame_ne hf]; rfl
  | true =>
    unfold cellTree
    rw [eval_modeChain _ _ (modeIdx (toAP c.mode)) (modeIdx_lt _) (valCell_mode c e g v rd)]
    unfold tCell
    rw [eval_askB, h1, hf, Bool.not_true, if_neg Bool.false_ne_true, eval_askB, h2]
    cases rd with
    | none =>
      rw [Matching.cell_of_no_threshold hf hr, Option.isNone_none, if_pos rfl, eval_askB, h3]
      cases Matching.isMatchable c.policy e g <;> rfl
    | some t =>
      rw [Matching.cell_of_threshold hf hr, Option.isNone_some, if_neg Bool.false_ne_true,
        eval_tBetter (toAP c.mode) rfl cRadius false _ (valCell c e g v (some t)) (some v) t nofun (fun _ => rfl)
          (fun _ => rfl),
        ← matching_isBetterThan]
      cases Matching.isBetterThan c.mode v t with
      | error err => rfl
      | ok b =>
        cases b
        · rfl
        · simp only [bindB, if_true, eval_askB, h3]
          cases Matching.isMatchable c.policy e g <;> rfl

end PEval.MatchKernels
