import PEval.Lemmas.Clear
/-!
The totals of `clear` as counts and sums over the events of the history: `total` of an event list is the normal form every
statement about a history is reduced to (`clear_eq_total`, then `total_fp` / `total_sw` / `total_tp_unit` / `total_score`,
`total_append`, `events_append_cons`).  The events themselves are the flat map over the consecutive frames `hist.zip hist.tail`
(`events_eq_flatMap`, the one recursion along `events`); membership, length, counts and `PrevOneToOne` (`prevOneToOne_iff`) are
read off that as list facts.
-/

namespace PEval.Clear

theorem events_eq_flatMap : ∀ hist : List (List Res),
    events hist = (hist.zip hist.tail).flatMap fun pc => pc.2.map fun c => (pc.1, c)
  | [] => rfl
  | [_] => rfl
  | p :: c :: rest => by rw [events, events_eq_flatMap (c :: rest)]; rfl

theorem mem_events {hist : List (List Res)} {e : List Res × Res} :
    e ∈ events hist ↔ ∃ c, (e.1, c) ∈ hist.zip hist.tail ∧ e.2 ∈ c := by
  rw [events_eq_flatMap, List.mem_flatMap]
  constructor
  · rintro ⟨⟨p, c⟩, hpc, he⟩
    obtain ⟨x, hx, rfl⟩ := List.mem_map.1 he
    exact ⟨c, hpc, hx⟩
  · rintro ⟨c, hpc, hx⟩
    exact ⟨(e.1, c), hpc, List.mem_map.2 ⟨e.2, hx, rfl⟩⟩

theorem events_mem {hist : List (List Res)} {e : List Res × Res} (h : e ∈ events hist) :
    e.1 ∈ hist ∧ ∃ f ∈ hist, e.2 ∈ f := by
  obtain ⟨c, hpc, hx⟩ := mem_events.1 h
  exact ⟨(List.of_mem_zip hpc).1, c, List.mem_of_mem_tail (List.of_mem_zip hpc).2, hx⟩

theorem events_length (hist : List (List Res)) : (events hist).length = resultCount hist := by
  rw [events_eq_flatMap, List.length_flatMap, resultCount, List.length_flatten, List.drop_one, ← map_zip_tail_snd]
  simp only [List.length_map]

theorem events_cons_cons (p c : List Res) (rest : List (List Res)) :
    events (p :: c :: rest) = c.map (fun x => (p, x)) ++ events (c :: rest) := rfl

theorem events_append_cons (pre : List (List Res)) (f : List Res) (post : List (List Res)) :
    events (pre ++ f :: post) = events (pre ++ [f]) ++ events (f :: post) := by
  fun_induction events pre with
  | case1 => rfl
  | case2 x => simp [events]
  | case3 p c rest ih => simp only [List.cons_append, events_cons_cons, List.append_assoc] at ih ⊢; rw [ih]

theorem resultCount_append_cons (pre : List (List Res)) (f : List Res) (post : List (List Res)) :
    resultCount (pre ++ f :: post) = resultCount (pre ++ [f]) + resultCount (f :: post) := by
  simp only [← events_length, events_append_cons pre f post, List.length_append]

theorem prevOneToOne_iff (cfg : Cfg) : ∀ hist : List (List Res),
    PrevOneToOne cfg hist ↔ ∀ pc ∈ hist.zip hist.tail, ∀ lt ∈ cfg.thresholds, OneToOne cfg lt.2 pc.1
  | [] => ⟨fun _ _ h => (List.not_mem_nil h).elim, fun _ => trivial⟩
  | [_] => ⟨fun _ _ h => (List.not_mem_nil h).elim, fun _ => trivial⟩
  | p :: c :: rest => by
    rw [PrevOneToOne, prevOneToOne_iff cfg (c :: rest)]
    exact (List.forall_mem_cons (p := fun pc => ∀ lt ∈ cfg.thresholds, OneToOne cfg lt.2 pc.1) (a := (p, c))).symm

theorem events_prev_oneToOne (cfg : Cfg) (hist : List (List Res)) (h : PrevOneToOne cfg hist) :
    ∀ e ∈ events hist, ∀ lt ∈ cfg.thresholds, OneToOne cfg lt.2 e.1 := fun _ he =>
  let ⟨_, hpc, _⟩ := mem_events.1 he
  (prevOneToOne_iff cfg hist).1 h _ hpc

theorem countP_events (f : Res → Bool) (hist : List (List Res)) :
    (events hist).countP (fun e => f e.2) = (hist.drop 1).flatten.countP f := by
  rw [events_eq_flatMap, List.countP_flatMap, List.countP_flatten, List.drop_one, ← map_zip_tail_snd]
  simp only [Function.comp_def, List.countP_map]

theorem predictNum_eq (hist : List (List Res)) : predictNum hist = resultCount hist := by
  rw [predictNum, resultCount, foldl_add List.length, Nat.zero_add, List.length_flatten]

theorem counts_iff (cfg : Cfg) (prev : List Res) (c : Res) :
    (countsTp cfg prev c = true ∨ countsFp cfg prev c = true ↔ evaluated cfg c = true) ∧
      ¬ (countsTp cfg prev c = true ∧ countsFp cfg prev c = true) := by
  have hs := outcome_skipped_iff cfg prev c
  unfold countsTp countsFp
  cases ho : outcome cfg prev c <;> cases he : evaluated cfg c <;> simp_all

theorem resStep_fp (cfg : Cfg) (prev : List Res) (c : Res) :
    (resStep cfg prev c).fp = if countsFp cfg prev c then 1 else 0 := by
  rw [resStep_eq_outcome]; unfold countsFp
  cases outcome cfg prev c <;> simp [Outcome.acc]

theorem resStep_sw (cfg : Cfg) (prev : List Res) (c : Res) :
    (resStep cfg prev c).sw = if countsSwitch cfg prev c then 1 else 0 := by
  rw [resStep_eq_outcome]; unfold countsSwitch
  cases outcome cfg prev c with
  | tp b => cases b <;> simp [Outcome.acc]
  | _ => simp [Outcome.acc]

theorem resStep_tp_unit (cfg : Cfg) (prev : List Res) (c : Res) (hc : c.w = 1) (hp : ∀ p ∈ prev, p.w = 1) :
    (resStep cfg prev c).tp = if countsTp cfg prev c then 1 else 0 := by
  rw [resStep_eq_outcome]; unfold countsTp
  cases ho : outcome cfg prev c with
  | carried p => simp [Outcome.acc, hp p (outcome_carried_mem cfg prev c p ho)]
  | tp b => simp [Outcome.acc, hc]
  | _ => simp [Outcome.acc]

theorem resStep_score (cfg : Cfg) (prev : List Res) (c : Res) :
    (resStep cfg prev c).score = (bookedScore cfg prev c).getD 0 := by
  rw [resStep_eq_outcome]; unfold bookedScore
  cases outcome cfg prev c <;> simp [Outcome.acc]

theorem countsTp_iff_booked (cfg : Cfg) (prev : List Res) (c : Res) :
    countsTp cfg prev c = (bookedScore cfg prev c).isSome := by
  unfold countsTp bookedScore
  cases outcome cfg prev c <;> rfl

theorem countsSwitch_imp_countsTp (cfg : Cfg) (prev : List Res) (c : Res)
    (h : countsSwitch cfg prev c = true) : countsTp cfg prev c = true := by
  unfold countsSwitch at h; unfold countsTp
  cases ho : outcome cfg prev c with
  | tp b => rfl
  | _ => simp [ho] at h

def total (cfg : Cfg) (l : List (List Res × Res)) : Acc := accSum (l.map (fun e => resStep cfg e.1 e.2))

@[simp] theorem total_nil (cfg : Cfg) : total cfg [] = Acc.zero := rfl
@[simp] theorem total_cons (cfg : Cfg) (e : List Res × Res) (l : List (List Res × Res)) :
    total cfg (e :: l) = (resStep cfg e.1 e.2).add (total cfg l) := rfl

theorem total_append (cfg : Cfg) (l₁ l₂ : List (List Res × Res)) :
    total cfg (l₁ ++ l₂) = (total cfg l₁).add (total cfg l₂) := by
  simp [total, accSum_append]

theorem clear_cons_cons (cfg : Cfg) (p c : List Res) (rest : List (List Res)) :
    clear cfg (p :: c :: rest) = (frameStep cfg p c).add (clear cfg (c :: rest)) := by
  rw [clear_cons, clear_cons]
  rfl

theorem clear_eq_total (cfg : Cfg) (hist : List (List Res)) : clear cfg hist = total cfg (events hist) := by
  fun_induction events hist with
  | case1 => rfl
  | case2 f => rfl
  | case3 prev cur rest ih => rw [clear_cons_cons, ih, total_append, frameStep_eq]; simp only [total, List.map_map]; rfl

theorem total_fp (cfg : Cfg) (l : List (List Res × Res)) :
    (total cfg l).fp = l.countP (fun e => countsFp cfg e.1 e.2) := by
  induction l with
  | nil => simp
  | cons e l ih =>
    rw [total_cons, Acc.add_fp, ih, resStep_fp, List.countP_cons]
    omega

theorem total_sw (cfg : Cfg) (l : List (List Res × Res)) :
    (total cfg l).sw = l.countP (fun e => countsSwitch cfg e.1 e.2) := by
  induction l with
  | nil => simp
  | cons e l ih =>
    rw [total_cons, Acc.add_sw, ih, resStep_sw, List.countP_cons]
    omega

def UnitEvents (l : List (List Res × Res)) : Prop := ∀ e ∈ l, e.2.w = 1 ∧ ∀ p ∈ e.1, p.w = 1

theorem unitEvents_of_unitWeights {hist : List (List Res)} (h : UnitWeights hist) : UnitEvents (events hist) := by
  intro e he
  obtain ⟨h1, f, hf, h2⟩ := events_mem he
  exact ⟨h f hf _ h2, fun p hp => h _ h1 p hp⟩

theorem total_tp_unit (cfg : Cfg) (l : List (List Res × Res)) (hu : UnitEvents l) :
    (total cfg l).tp = ((l.countP (fun e => countsTp cfg e.1 e.2) : Nat) : Rat) := by
  induction l with
  | nil => simp
  | cons e l ih =>
    have hu' : UnitEvents l := fun x hx => hu x (List.mem_cons_of_mem _ hx)
    have he := hu e (by simp)
    rw [total_cons, Acc.add_tp, ih hu', resStep_tp_unit cfg e.1 e.2 he.1 he.2, List.countP_cons, Rat.natCast_add,
      Rat.add_comm]
    cases countsTp cfg e.1 e.2 <;> rfl

/-- a predicate that holds exactly where one of two exclusive predicates holds counts their sum -/
theorem countP_add_countP {α : Type} {p q r : α → Bool} (l : List α)
    (h : ∀ x ∈ l, (p x = true ∨ q x = true ↔ r x = true) ∧ ¬ (p x = true ∧ q x = true)) :
    l.countP p + l.countP q = l.countP r := by
  induction l with
  | nil => rfl
  | cons x l ih =>
    obtain ⟨hx, hl⟩ := List.forall_mem_cons.1 h
    rw [List.countP_cons, List.countP_cons, List.countP_cons, ← ih hl, Nat.add_add_add_comm]
    congr 1
    revert hx
    cases p x <;> cases q x <;> cases r x <;> simp

theorem counts_sum (cfg : Cfg) (l : List (List Res × Res)) :
    l.countP (fun e => countsTp cfg e.1 e.2) + l.countP (fun e => countsFp cfg e.1 e.2)
      = l.countP (fun e => evaluated cfg e.2) :=
  countP_add_countP l fun e _ => counts_iff cfg e.1 e.2

theorem switch_le_counts (cfg : Cfg) (l : List (List Res × Res)) :
    l.countP (fun e => countsSwitch cfg e.1 e.2) ≤ l.countP (fun e => countsTp cfg e.1 e.2) :=
  List.countP_mono_left fun e _ => countsSwitch_imp_countsTp cfg e.1 e.2

/-- sum of a list of rationals, by recursion; the statements of C05 about scores are written with it -/
def ratSum : List Rat → Rat
  | [] => 0
  | x :: l => x + ratSum l

theorem ratSum_eq_sum (l : List Rat) : ratSum l = l.sum := by
  induction l with
  | nil => rfl
  | cons x l ih => rw [ratSum, ih, List.sum_cons]

theorem total_score (cfg : Cfg) (l : List (List Res × Res)) :
    (total cfg l).score = ratSum (l.filterMap (fun e => bookedScore cfg e.1 e.2)) := by
  induction l with
  | nil => simp [ratSum]
  | cons e l ih =>
    rw [total_cons, Acc.add_score, ih, resStep_score, List.filterMap_cons]
    cases bookedScore cfg e.1 e.2 with
    | none => simp [Rat.zero_add]
    | some v => simp [ratSum]

theorem booked_length (cfg : Cfg) (l : List (List Res × Res)) :
    (l.filterMap (fun e => bookedScore cfg e.1 e.2)).length = l.countP (fun e => countsTp cfg e.1 e.2) := by
  simp only [List.length_filterMap_eq_countP, countsTp_iff_booked]

end PEval.Clear
